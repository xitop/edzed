/-
C13 — interval specifications mean the same in every accepted notation.

Model: EdzedModel/Interval.lean (mirrors edzed/blocklib/timeinterval.py and the parse methods of
timedate.py; the driver executes exactly these definitions).  Endpoints are integer tuples; a
parsed interval is the sorted list of `(start, stop)` pairs that `as_list()` exports.

All statements are for every endpoint / every interval / every input (no bounds, no samples).
-/
import EdzedModel.Interval
import EdzedProofs.Interval
import EdzedProofs.IntervalText
import EdzedProofs.IntervalTables
import EdzedProofs.IntervalString
import EdzedProofs.IntervalNotations
import EdzedProofs.IntervalTie
import EdzedProofs.IntervalOrders
import EdzedProofs.IntervalTimeText
import EdzedProofs.IntervalWeekdays
import EdzedProofs.IntervalSummary
import EdzedModel.Gen.Constants
import EdzedModel.Gen.Translated

namespace Edzed.Interval

/-- time-of-day ranges are left-closed/right-open and cyclic: `x ∈ [a, b)` iff `a = b` (the whole
    day) or `x` comes, counted from `a` around the clock, strictly before `b` -/
theorem time_membership_cyclic {a x b : Ep} (ha : validTime a = true) (hx : validTime x = true)
    (hb : validTime b = true) :
    cmp .time a x b = true ↔
      (a = b ∨ (timeUs x + usPerDay - timeUs a) % usPerDay < (timeUs b + usPerDay - timeUs a) % usPerDay) := by
  show cmpOpen a x b = true ↔ _
  rw [cmpOpen_eq_inOpen ha hx hb,
    inOpen_cyclic usPerDay _ _ _ (timeUs_lt_day ha) (timeUs_lt_day hx) (timeUs_lt_day hb)]
  constructor
  · rintro (h | h)
    · exact Or.inl (timeUs_inj ha hb h)
    · exact Or.inr h
  · rintro (h | h)
    · exact Or.inl (by rw [h])
    · exact Or.inr h

/-- the same for a whole time interval (`x in interval` is `any` over its ranges) -/
theorem time_contains_cyclic (iv : List Range) {x : Ep} (hx : validTime x = true)
    (hv : ∀ r ∈ iv, validTime r.1 = true ∧ validTime r.2 = true) :
    contains .time iv x = true ↔
      ∃ r ∈ iv, r.1 = r.2 ∨
        (timeUs x + usPerDay - timeUs r.1) % usPerDay < (timeUs r.2 + usPerDay - timeUs r.1) % usPerDay := by
  exact contains_iff fun r hr => time_membership_cyclic (hv r hr).1 hx (hv r hr).2

/-- equal endpoints mean the whole day -/
theorem time_equal_endpoints_whole_day {a x : Ep} (ha : validTime a = true) (hx : validTime x = true) :
    cmp .time a x a = true :=
  cmpOpen_whole a x

/-- the start belongs to a time range, the stop does not (unless it is the whole day) -/
theorem time_left_closed_right_open {a b : Ep} (ha : validTime a = true) (hb : validTime b = true)
    (hne : a ≠ b) : cmp .time a a b = true ∧ cmp .time a b b = false :=
  ⟨cmpOpen_start a b, cmpOpen_stop hne⟩

/-- date ranges are inclusive and cyclic over the 366 days of the dummy leap year -/
theorem date_membership_cyclic_inclusive {a x b : Ep} (ha : validDate a = true) (hx : validDate x = true)
    (hb : validDate b = true) :
    cmp .date a x b = true ↔
      (dayIndex x + 366 - dayIndex a) % 366 ≤ (dayIndex b + 366 - dayIndex a) % 366 := by
  show cmpClosed a x b = true ↔ _
  rw [cmpClosed_eq_inClosed ha hx hb]
  exact inClosed_cyclic 366 _ _ _ (dayIndex_lt ha) (dayIndex_lt hx) (dayIndex_lt hb)

theorem date_contains_cyclic (iv : List Range) {x : Ep} (hx : validDate x = true)
    (hv : ∀ r ∈ iv, validDate r.1 = true ∧ validDate r.2 = true) :
    contains .date iv x = true ↔
      ∃ r ∈ iv, (dayIndex x + 366 - dayIndex r.1) % 366 ≤ (dayIndex r.2 + 366 - dayIndex r.1) % 366 := by
  exact contains_iff fun r hr => date_membership_cyclic_inclusive (hv r hr).1 hx (hv r hr).2

/-- both endpoints of a date range belong to it -/
theorem date_endpoints_inclusive {a b : Ep} (ha : validDate a = true) (hb : validDate b = true) :
    cmp .date a a b = true ∧ cmp .date a b b = true :=
  cmpClosed_ends a b

/-- a range from a date to itself is that one day -/
theorem date_single_day {a x : Ep} (ha : validDate a = true) (hx : validDate x = true) :
    cmp .date a x a = true ↔ x = a :=
  cmpClosed_single a x

/-- date-time ranges never wrap: membership is `start ≤ x < stop` in the tuple (= chronological) order -/
theorem datetime_no_wrap (iv : List Range) (x : Ep) :
    contains .datetime iv x = true ↔ ∃ r ∈ iv, le r.1 x = true ∧ lt x r.2 = true := by
  simp [contains, cmp, cmpNoWrap]

/-- … so a range whose stop is not after its start contains nothing -/
theorem datetime_empty_when_stop_not_after_start (a x b : Ep) (h : le b a = true) :
    cmp .datetime a x b = false := by
  rw [Bool.eq_false_iff]
  intro hc
  simp only [cmp, cmpNoWrap, Bool.and_eq_true] at hc
  have := lt_of_le_of_lt hc.1 hc.2
  simp [le, this] at h

/-! ### piecewise constancy between endpoints (`translated_interval_membership_changes_only_at_range_endpoints` rests
on it) -/

/-- membership in a time interval cannot change between two instants of one day unless an endpoint
    of some range lies in `(t1, t2]` -/
theorem time_contains_const (iv : List Range) {t1 t2 : Ep}
    (hv : ∀ r ∈ iv, validTime r.1 = true ∧ validTime r.2 = true)
    (h1 : validTime t1 = true) (h2 : validTime t2 = true) (h12 : timeUs t1 ≤ timeUs t2)
    (hb : ∀ r ∈ iv, ¬ (timeUs t1 < timeUs r.1 ∧ timeUs r.1 ≤ timeUs t2) ∧
                     ¬ (timeUs t1 < timeUs r.2 ∧ timeUs r.2 ≤ timeUs t2)) :
    contains .time iv t1 = contains .time iv t2 := by
  refine contains_congr fun r hr => ?_
  show cmpOpen r.1 t1 r.2 = cmpOpen r.1 t2 r.2
  rw [cmpOpen_eq_inOpen (hv r hr).1 h1 (hv r hr).2, cmpOpen_eq_inOpen (hv r hr).1 h2 (hv r hr).2,
    inOpen_const _ _ _ _ h12 (hb r hr).1 (hb r hr).2]

/-- membership in a date interval is the same for two days with no range start in `(d1, d2]` and no
    range stop in `[d1, d2)` -/
theorem date_contains_const (iv : List Range) {d1 d2 : Ep}
    (hv : ∀ r ∈ iv, validDate r.1 = true ∧ validDate r.2 = true)
    (h1 : validDate d1 = true) (h2 : validDate d2 = true) (h12 : dayIndex d1 ≤ dayIndex d2)
    (hb : ∀ r ∈ iv, ¬ (dayIndex d1 < dayIndex r.1 ∧ dayIndex r.1 ≤ dayIndex d2) ∧
                     ¬ (dayIndex d1 ≤ dayIndex r.2 ∧ dayIndex r.2 < dayIndex d2)) :
    contains .date iv d1 = contains .date iv d2 := by
  refine contains_congr fun r hr => ?_
  show cmpClosed r.1 d1 r.2 = cmpClosed r.1 d2 r.2
  rw [cmpClosed_eq_inClosed (hv r hr).1 h1 (hv r hr).2, cmpClosed_eq_inClosed (hv r hr).1 h2 (hv r hr).2,
    inClosed_const _ _ _ _ h12 (hb r hr).1 (hb r hr).2]

/-- whatever the notation (string, nested sequences, set), an accepted specification yields a
    sorted list of ranges whose endpoints are valid and have the full length (4 / 2 / 7 integers) -/
theorem normal_form_sorted_full {k : Kind} {spec : IvIn} {iv : List Range}
    (h : parseInterval k spec = .ok iv) :
    Sorted iv ∧ ∀ r ∈ iv, (validEp k r.1 = true ∧ validEp k r.2 = true) ∧
      r.1.length = epLen k ∧ r.2.length = epLen k := by
  obtain ⟨l, raw, hraw, rfl⟩ := parseInterval_eq_ok h
  refine ⟨sortR_sorted raw, ?_⟩
  intro r hr
  have hv := parseRanges_valid hraw r (mem_sortR.1 hr)
  exact ⟨hv, validEp_length hv.1, validEp_length hv.2⟩

/-- the normal form does not depend on the notation or on the order in which the ranges were
    written: two accepted specifications denoting the same collection of ranges give the same list -/
theorem normal_form_unique {k : Kind} {s1 s2 : IvIn} {iv1 iv2 : List Range}
    (h1 : parseInterval k s1 = .ok iv1) (h2 : parseInterval k s2 = .ok iv2) (hp : iv1.Perm iv2) :
    iv1 = iv2 :=
  sorted_perm_unique iv1 iv2 (normal_form_sorted_full h1).1 (normal_form_sorted_full h2).1 hp

/-- a sequence of ranges yields as many ranges as were written (none dropped, none merged) -/
theorem parse_keeps_all_ranges {k : Kind} {l : List RangeIn} {iv : List Range}
    (h : parseInterval k (.seq l) = .ok iv) : iv.length = l.length := by
  obtain ⟨raw, h1, h2⟩ := Res.map_eq_ok (show (parseRanges k l).map sortR = .ok iv from h)
  rw [← h2, (sortR_perm raw).length_eq, parseRanges_length h1]

/-- `as_list()` fed back as nested sequences yields the same interval -/
theorem asList_roundtrip {k : Kind} (iv : List Range) (hs : Sorted iv)
    (hv : ∀ r ∈ iv, validEp k r.1 = true ∧ validEp k r.2 = true) :
    parseInterval k (listInput (asList iv)) = .ok iv := by
  have key : ∀ (l : List Range), (∀ r ∈ l, validEp k r.1 = true ∧ validEp k r.2 = true) →
      parseRanges k ((asList l).map fun r => RangeIn.seq (r.map fun e => EpIn.ints (e.map Int.ofNat))) = .ok l := by
    intro l
    induction l with
    | nil => intro _; rfl
    | cons r rs ih =>
      intro hv
      have hr := hv r (by simp)
      have := ih (fun r' hr' => hv r' (by simp [hr']))
      simp only [asList, List.map_cons, List.map_nil, parseRanges, parseRange, convert,
        convertSeq_valid_id hr.1, convertSeq_valid_id hr.2, Res.bind_ok] at this ⊢
      rw [this]; rfl
  show (parseRanges k _).map sortR = .ok iv
  rw [key iv hv]
  simp [sortR_of_sorted iv hs]

/-- in particular: parsing, exporting and parsing again is the identity on every accepted input -/
theorem parse_asList_idempotent {k : Kind} {spec : IvIn} {iv : List Range}
    (h : parseInterval k spec = .ok iv) : parseInterval k (listInput (asList iv)) = .ok iv :=
  asList_roundtrip iv (normal_form_sorted_full h).1 (fun r hr => ((normal_form_sorted_full h).2 r hr).1)

/-- `as_string()` fed back yields the same interval: for every normal-form interval (sorted list of
    valid ranges) of every kind, the rendering – ranges `start / stop;` (a single date for a one-day
    date range) joined by blanks – is split by the delimiter and the separator into exactly the
    original endpoints -/
theorem asString_roundtrip {k : Kind} (iv : List Range) (hs : Sorted iv)
    (hv : ∀ r ∈ iv, validEp k r.1 = true ∧ validEp k r.2 = true) :
    parseInterval k (.str (asString k iv)) = .ok iv := by
  obtain ⟨ha, hp⟩ := parseRanges_asString k iv hv
  simp only [parseInterval, ha, Bool.not_true, Bool.false_eq_true, ↓reduceIte, hp, Res.map_ok,
    sortR_of_sorted iv hs]

/-- parsing any accepted specification, printing it and parsing the text again is the identity -/
theorem parse_asString_idempotent {k : Kind} {spec : IvIn} {iv : List Range}
    (h : parseInterval k spec = .ok iv) : parseInterval k (.str (asString k iv)) = .ok iv :=
  asString_roundtrip iv (normal_form_sorted_full h).1 (fun r hr => ((normal_form_sorted_full h).2 r hr).1)

/-- both exports denote the same interval -/
theorem asString_asList_agree {k : Kind} {spec : IvIn} {iv : List Range}
    (h : parseInterval k spec = .ok iv) :
    parseInterval k (.str (asString k iv)) = parseInterval k (listInput (asList iv)) := by
  rw [parse_asString_idempotent h, parse_asList_idempotent h]

/-! ### range separators, in the code's priority (`Gen.rangeSeparatorsC`); endpoints in canonical
notation, any number of blanks around them -/

/-- `/` (first priority): every kind, incl. date-times whose renderings contain hyphens -/
theorem range_separator_slash {k : Kind} {a b : Ep} (ha : validEp k a = true) (hb : validEp k b = true)
    (p1 q1 p2 q2 : List Char) (h1 : blanks p1) (h2 : blanks q1) (h3 : blanks p2) (h4 : blanks q2) :
    parseRange k (.str ((p1 ++ render k a ++ q1) ++ '/' :: (p2 ++ render k b ++ q2))) = .ok (a, b) :=
  parseRangeStr_slash (epText_padded ha p1 q1 h1 h2) (epText_padded hb p2 q2 h3 h4)

/-- ` - ` (second priority): times and dates (their renderings contain neither `/` nor `-`) -/
theorem range_separator_spaced_hyphen {k : Kind} (hk : k ≠ .datetime) {a b : Ep}
    (ha : validEp k a = true) (hb : validEp k b = true)
    (p1 q1 p2 q2 : List Char) (h1 : blanks p1) (h2 : blanks q1) (h3 : blanks p2) (h4 : blanks q2) :
    parseRange k (.str ((p1 ++ render k a ++ q1) ++ ' ' :: '-' :: ' ' :: (p2 ++ render k b ++ q2))) = .ok (a, b) :=
  parseRangeStr_spaced (epText_padded ha p1 q1 h1 h2) (epText_padded hb p2 q2 h3 h4)

/-- ` - ` between two date-times in canonical notation: their own hyphens are never preceded by a
    blank, so the separator is found (the bare `-` is ambiguous for date-times, see the docs) -/
theorem range_separator_spaced_hyphen_datetime {a b : Ep} (ha : validDateTime a = true)
    (hb : validDateTime b = true) (p1 q1 p2 q2 : List Char) (h1 : blanks p1) (h2 : blanks q1)
    (h3 : blanks p2) (h4 : blanks q2) :
    parseRange .datetime (.str ((p1 ++ renderDateTime a ++ q1) ++ ' ' :: '-' :: ' ' ::
      (p2 ++ renderDateTime b ++ q2))) = .ok (a, b) :=
  parseRangeStr_spaced (epText_padded (k := .datetime) ha p1 q1 h1 h2) (epText_padded (k := .datetime) hb p2 q2 h3 h4)

/-- `-` (lowest priority) directly after the first endpoint: times and dates -/
theorem range_separator_hyphen {k : Kind} (hk : k ≠ .datetime) {a b : Ep}
    (ha : validEp k a = true) (hb : validEp k b = true)
    (p1 p2 q2 : List Char) (h1 : blanks p1) (h3 : blanks p2) (h4 : blanks q2) :
    parseRange k (.str ((p1 ++ render k a) ++ '-' :: (p2 ++ render k b ++ q2))) = .ok (a, b) := by
  have hL := epText_padded ha p1 [] h1 (by simp [blanks])
  rw [List.append_nil] at hL
  exact parseRangeStr_hyphen hk hL (epText_padded hb p2 q2 h3 h4) (render_last_ne_blank ha p1)

/-- a single date stands for the one-day range -/
theorem single_date_is_one_day_range {a : Ep} (ha : validDate a = true) (p q : List Char)
    (h1 : blanks p) (h2 : blanks q) :
    parseRange .date (.str (p ++ renderDate a ++ q)) = .ok (a, a) :=
  parseRangeStr_single_date (epText_padded (k := .date) ha p q h1 h2)

/-- blanks around an endpoint in canonical notation are ignored -/
theorem endpoint_blanks_ignored {k : Kind} {e : Ep} (h : validEp k e = true) (pre post : List Char)
    (h1 : blanks pre) (h2 : blanks post) : convertStr k (pre ++ render k e ++ post) = .ok e :=
  ((cleanText_render h).padded h1 h2).trans (convertStr_render h)

/-- `HH:MM:SS[.ffffff]` (`str(dt.time)`) denotes the time it was rendered from -/
theorem parse_render_time {e : Ep} (h : validTime e = true) : convertStr .time (renderTime e) = .ok e :=
  convertStr_renderTime h

/-- `Mon D` (`date_to_string`) denotes the date it was rendered from – all 366 days -/
theorem parse_render_date {e : Ep} (h : validDate e = true) : convertStr .date (renderDate e) = .ok e :=
  convertStr_render (k := .date) h

/-- `YYYY-MM-DD HH:MM:SS[.ffffff]` (`str(dt.datetime)`) denotes the date-time it was rendered from,
    for every year 1..9999 -/
theorem parse_render_datetime {e : Ep} (h : validDateTime e = true) :
    convertStr .datetime (renderDateTime e) = .ok e :=
  convertStr_render (k := .datetime) h

/-- every day of the leap year in thirteen documented notations (full / abbreviated / upper / lower
    case month name, day first or last, with periods, without blank, with surrounding blanks,
    `--MMDD`, `--MM-DD`) denotes that day -/
theorem date_notations_agree {mo d : Nat} (h : validDate [mo, d] = true) :
    ∀ s ∈ dateNotations mo d, convertStr .date s = .ok [mo, d] :=
  date_notations h

/-- every abbreviation of every month name to three or more letters (as written, lower case,
    upper case) denotes that month -/
theorem month_abbreviations_accepted : ∀ mo, mo < 13 → 1 ≤ mo → monthAbbrevOk mo = true :=
  month_abbreviations_table

/-- a month "name" of fewer than three letters is not recognised by `_RE_MONTH` -/
theorem month_shorter_than_three_not_matched (s : List Char) (h : (s.takeWhile isAlpha).length < 3) :
    reMonth s = none := by
  simp only [reMonth]
  split
  · omega
  · rfl

/-- `H:M` (one or two digits each), `HH:MM`, `THH:MM`, `HHMM`, `THHMM` all denote h:m:00 -/
theorem time_notations_HM {h m : Nat} (hh : h < 24) (hm : m < 60) :
    ∀ s ∈ [tHM h m, tHMp h m, 'T' :: tHMp h m, tHMb h m, 'T' :: tHMb h m],
      convertStr .time s = .ok [h, m, 0, 0] := by
  intro s hs
  simp only [List.mem_cons, List.not_mem_nil, or_false] at hs
  rcases hs with rfl | rfl | rfl | rfl | rfl
  · exact (ColonTime.hm hh hm).convert
  · exact (IsoTime.hm hh hm).convert false
  · exact (IsoTime.hm hh hm).convert true
  · exact (IsoTime.hmBasic hh hm).convert false
  · exact (IsoTime.hmBasic hh hm).convert true

/-- `H:M:S` (one or two digits each), `HH:MM:SS`, `THH:MM:SS`, `HHMMSS`, `THHMMSS` all denote h:m:s -/
theorem time_notations_HMS {h m s : Nat} (hh : h < 24) (hm : m < 60) (hs : s < 60) :
    ∀ b ∈ timeBases h m s, convertStr .time b = .ok [h, m, s, 0] := by
  intro b hb
  simp only [timeBases, List.mem_cons, List.not_mem_nil, or_false] at hb
  rcases hb with rfl | rfl | rfl | rfl | rfl
  · exact (ColonTime.hms hh hm hs).convert
  · exact (IsoTime.hms hh hm hs).convert false
  · exact (IsoTime.hms hh hm hs).convert true
  · exact (IsoTime.hmsBasic hh hm hs).convert false
  · exact (IsoTime.hmsBasic hh hm hs).convert true

/-- each of these five followed by a decimal point or a decimal comma and 1 to 6 digits: the digits,
    right-padded with zeros, are the microseconds (`fracUs`) -/
theorem time_notations_fraction {h m s : Nat} (hh : h < 24) (hm : m < 60) (hs : s < 60)
    (c : Char) (hc : c = '.' ∨ c = ',') (q : List Char) (hq : q ≠ [])
    (hd : ∀ z ∈ q, isDigit z = true) (hl : q.length ≤ 6) :
    ∀ b ∈ timeBases h m s, convertStr .time (b ++ c :: q) = .ok [h, m, s, fracUs q] := by
  intro b hb
  have p := IsoTime.hmsFrac hh hm hs c hc q hq hd hl
  have pb := IsoTime.hmsBasicFrac hh hm hs c hc q hq hd hl
  simp only [timeBases, List.mem_cons, List.not_mem_nil, or_false] at hb
  rcases hb with rfl | rfl | rfl | rfl | rfl
  · exact (ColonTime.hmsFrac hh hm hs c hc q hq hd hl).convert
  · exact p.convert false
  · exact p.convert true
  · exact pb.convert false
  · exact pb.convert true

/-- `k` fraction digits writing the number `v` mean `v · 10^(6−k)` µs; a fraction is always below 1 s -/
theorem fraction_digits_value (k v : Nat) (hk : k ≤ 6) (hv : v < 10 ^ k) :
    fracUs (pad k v) = v * 10 ^ (6 - k) ∧ (pad k v).length = k ∧ ∀ z ∈ pad k v, isDigit z = true :=
  ⟨fracUs_pad k v hk hv, pad_length k v, pad_digits k v⟩

/-- ISO 8601 through `datetime.fromisoformat`: extended `YYYY-MM-DD` or basic `YYYYMMDD` date, `T`, and ANY ISO time
    (`HH`, `HH:MM`, `HHMM`, `HH:MM:SS`, `HHMMSS`, the last two with a fraction of 1..6 digits after `.` or `,`) -/
theorem datetime_notation_iso {y mo d : Nat} {tm : Ep} {t : List Char} (ht : IsoTime t tm)
    (hv : validDateTime ([y, mo, d] ++ tm) = true) :
    ∀ D ∈ [ymdNum y mo d, ymdBasic y mo d], convertStr .datetime (D ++ 'T' :: t) = .ok ([y, mo, d] ++ tm) := by
  intro D hD
  simp only [List.mem_cons, List.not_mem_nil, or_false] at hD
  have ht := ht.text
  obtain ⟨hy, hmo, hd⟩ := validDateTime_ymd hv
  refine convertStr_of_trimmed (k := .datetime) ?_ ?_ ?_
  · rw [asciiOk_append, asciiOk_cons, ht.ascii, (isoDate_clean hD).1]; rfl
  · exact trimmedB_append (isoDate_clean hD).2 (LastOk.append_left ['T'] ht.last)
  · have hT : (D ++ 'T' :: t).contains 'T' = true := by simp
    have hv' : validDateTime (y :: mo :: d :: tm) = true := hv
    simp only [convertDateTimeStripped, hT, ↓reduceIte, isoDateTime, isoDateTimeRaw_T y mo d t hD, ht.notz, ht.iso,
      Bool.false_eq_true, Nat.mod_eq_of_lt (show y < 10000 by omega), Nat.mod_eq_of_lt (show mo < 100 by omega),
      Nat.mod_eq_of_lt (show d < 100 by omega), List.cons_append, List.nil_append, hv']

/-- ISO 8601 extended `YYYY-MM-DDTHH:MM:SS[.ffffff]` (through `datetime.fromisoformat`) -/
theorem datetime_notation_iso_extended {e : Ep} (h : validDateTime e = true) :
    convertStr .datetime (isoExt e) = .ok e := by
  obtain ⟨y, mo, d, hh, mi, s, us, rfl, -, -, -, -, -, -, ht⟩ := validDateTime_shape h
  simpa [isoExt, ymdNum] using datetime_notation_iso (isoTime_renderTime ht) h _ (List.mem_cons_self ..)

/-- traditional `D. Mon YYYY HH:MM:SS[.ffffff]` with ANY three letters `a b c` (none a capital `T`) that
    `_name_to_month` maps to the month: one of the 24 orders, the day with a period -/
theorem datetime_notation_traditional_any_case (a b c : Char) (ha : isAlpha a = true) (hb : isAlpha b = true)
    (hc : isAlpha c = true) (hT : a ≠ 'T' ∧ b ≠ 'T' ∧ c ≠ 'T') {e : Ep} (h : validDateTime e = true)
    (hm : nameToMonth [a, b, c] = some (e.getD 1 0)) :
    convertStr .datetime (tradDMY a b c e) = .ok e := by
  obtain ⟨y, mo, d, hh, mi, s, us, rfl, -, -, -, -, -, h6, ht⟩ := validDateTime_shape h
  obtain ⟨hn, hnT⟩ := monthName_three ha hb hc hT (by simpa using hm)
  have hd := numOf_natStr (show d < 100 by omega)
  have ct := ColonTime.canonical ht
  have := datetime_any_order_tokens (y := y) hn hnT (Or.inl rfl)
    (dig12_natStr (show d < 100 by omega)) (Or.inr rfl) ct.timeText ct.convert (by rw [hd]; exact h)
    (List.reverse_perm _)  -- `D. Mon YYYY time` is the four parts in the reverse of the order of the statement
  simpa [tradDMY, joinSp, hd] using this

/-- the same with the month abbreviated to three letters as `as_string()` does, as written or in lower case
    (read through `_RE_TIME`, `_RE_YEAR`, `_RE_MONTH`, `_RE_DAY`) -/
theorem datetime_notation_traditional {e : Ep} (h : validDateTime e = true) (lower : Bool) :
    convertStr .datetime (tradCanon lower e) = .ok e := by
  obtain ⟨y, mo, d, hh, mi, s, us, rfl, -, -, h3, h4, -⟩ := validDateTime_shape h
  obtain ⟨a, b, c, hab, ⟨hn, hT⟩, hl, hlT⟩ := monthAbbr_spec h3 h4
  have ne : ∀ {x y z : Char}, 'T' ∉ [x, y, z] → x ≠ 'T' ∧ y ≠ 'T' ∧ z ≠ 'T' := fun h =>
    ⟨fun e => h (by simp [e]), fun e => h (by simp [e]), fun e => h (by simp [e])⟩
  unfold tradCanon
  simp only [List.getD_cons_succ, List.getD_cons_zero, hab]
  cases lower
  · exact datetime_notation_traditional_any_case a b c (hn.alpha a (by simp)) (hn.alpha b (by simp))
      (hn.alpha c (by simp)) (ne hT) h hn.month
  · exact datetime_notation_traditional_any_case _ _ _ (hl.alpha _ (by simp)) (hl.alpha _ (by simp))
      (hl.alpha _ (by simp)) (ne hlT) h hl.month

/-- the documented date-time notation "YYYY month day time-of-day … the listed parts may be given in any order",
    for ANY time text that `_RE_TIME` matches as a whole and
    `convert_time_str` accepts -/
theorem datetime_parts_in_any_order_any_time (a b c : Char) (ha : isAlpha a = true) (hb : isAlpha b = true)
    (hc : isAlpha c = true) (hT : a ≠ 'T' ∧ b ≠ 'T' ∧ c ≠ 'T') {y mo d : Nat} {tm : Ep} {tt : List Char}
    (ht : TimeText tt) (hct : convertStr .time tt = .ok tm) (hv : validDateTime ([y, mo, d] ++ tm) = true)
    (hm : nameToMonth [a, b, c] = some mo) (dtok : List Char) (hd : dtok ∈ dayTokens d) :
    ∀ ts ∈ perms [tt, pad 4 y, [a, b, c], dtok], convertStr .datetime (joinSp ts) = .ok ([y, mo, d] ++ tm) := by
  have hd100 : d < 100 := by have := (validDateTime_ymd hv).2.2; omega
  obtain ⟨hD, rfl⟩ := dayTokens_spec hd100 hd
  obtain ⟨hn, hnT⟩ := monthName_three ha hb hc hT hm
  exact fun ts hts => datetime_any_order_tokens hn hnT
    (Or.inl rfl) hD (Or.inl rfl) ht hct hv (by simpa only [List.append_nil] using perms_perm hts)

/-- the same for the colon notations of the time: the year (four digits), the
    month name (three letters `a b c` that `_name_to_month` maps to the month), the day of the month (`D` or `DD`)
    and the time of day in ANY colon notation (`H:M`, `HH:MM`, `H:M:S`, `HH:MM:SS`, with a fraction of 1..6 digits
    after `.` or `,`, or `str(time)`), separated by blanks, in every one of the 24 orders, denote that date-time -/
theorem datetime_parts_in_any_order (a b c : Char) (ha : isAlpha a = true) (hb : isAlpha b = true)
    (hc : isAlpha c = true) (hT : a ≠ 'T' ∧ b ≠ 'T' ∧ c ≠ 'T') {y mo d : Nat} {tm : Ep} {tt : List Char}
    (ht : ColonTime tt tm) (hv : validDateTime ([y, mo, d] ++ tm) = true)
    (hm : nameToMonth [a, b, c] = some mo) (dtok : List Char) (hd : dtok ∈ dayTokens d) :
    ∀ ts ∈ perms [tt, pad 4 y, [a, b, c], dtok], convertStr .datetime (joinSp ts) = .ok ([y, mo, d] ++ tm) :=
  datetime_parts_in_any_order_any_time a b c ha hb hc hT ht.timeText ht.convert hv hm dtok hd

/-- every time of day has a colon notation, the canonical one (so the theorems above are about all endpoints) -/
theorem colon_time_exists {e : Ep} (h : validTime e = true) : ColonTime (renderTime e) e := .canonical h

/-- `perms` lists every order: each permutation of the parts occurs in it -/
theorem perms_complete {α : Type} [DecidableEq α] (l ts : List α) (h : ts.Perm l) : ts ∈ perms l := by
  induction l generalizing ts with
  | nil => simp [List.perm_nil.mp h, perms]
  | cons x xs ih =>
    have hx : x ∈ ts := h.symm.subset (by simp)
    obtain ⟨pre, post, rfl⟩ := List.append_of_mem hx
    have hp : (pre ++ post).Perm xs := by
      have := (List.perm_middle (a := x) (l₁ := pre) (l₂ := post)).symm.trans h |>.symm
      exact (List.Perm.cons_inv (this.symm))
    simp only [perms, List.mem_flatMap]
    refine ⟨pre ++ post, ih _ hp, ?_⟩
    clear ih hp h hx
    induction pre with
    | nil => cases post <;> simp [insertAll]
    | cons p ps ihp => simp only [List.cons_append, insertAll, List.mem_cons, List.mem_map]; right; exact ⟨_, ihp, rfl⟩

/-- `YYYY-MM-DD` or `YYYY-mon-DD` (three letters) before or after the time of day (any colon notation) -/
theorem datetime_notation_dashed (a b c : Char) (ha : isAlpha a = true) (hb : isAlpha b = true)
    (hc : isAlpha c = true) (hT : a ≠ 'T' ∧ b ≠ 'T' ∧ c ≠ 'T') {y mo d : Nat} {tm : Ep} {tt : List Char}
    (ht : ColonTime tt tm) (hv : validDateTime ([y, mo, d] ++ tm) = true) (hm : nameToMonth [a, b, c] = some mo) :
    ∀ Z ∈ [ymdNum y mo d, ymdName a b c y d], ∀ ts ∈ [[tt, Z], [Z, tt]],
      convertStr .datetime (joinSp ts) = .ok ([y, mo, d] ++ tm) := by
  intro Z hZ ts hts
  simp only [List.mem_cons, List.not_mem_nil, or_false] at hZ
  rcases hZ with rfl | rfl
  · exact datetime_dashed_num ht.timeText ht.convert hv ts (by simpa [insertAll] using hts)
  · have hct := ht.convert
    have ht := ht.timeText
    refine (?_ : ∀ ts' ∈ insertAll tt [ymdName a b c y d], convertStr .datetime (joinSp ts') = _) ts
      (by simpa [insertAll] using hts)
    obtain ⟨a1, -, a3⟩ := isAlpha_props ha
    obtain ⟨-, -, b3⟩ := isAlpha_props hb
    obtain ⟨-, -, c3⟩ := isAlpha_props hc
    have a4 : a ≠ ':' := ne_of_class ha (by decide)
    have b4 : b ≠ ':' := ne_of_class hb (by decide)
    have c4 : c ≠ ':' := ne_of_class hc (by decide)
    refine datetime_dashed_of (mon := [a, b, c]) ht hct hv (fun B => ?_) (Or.inr ⟨by simp [a1], hm⟩) ?_ ?_
    · simpa [ymdName] using reYMD_name (name := [a, b, c]) (by simp [ha, hb, hc]) (Nat.le_refl 3) y d B
    · simp [CleanPart, ymdName, pad4, pad2, asciiOk, trimmedB, a3, b3, c3, hT.1.symm, hT.2.1.symm, hT.2.2.symm]
    · simp [ymdName, pad4, pad2, Ne.symm a4, Ne.symm b4, Ne.symm c4]

/-- the year, then `--MMDD` or `--MM-DD`, the time of day before, between or after them -/
theorem datetime_notation_year_isoMD {y mo d : Nat} {tm : Ep} {tt : List Char} (ht : ColonTime tt tm)
    (hv : validDateTime ([y, mo, d] ++ tm) = true) :
    ∀ Z ∈ [isoMD mo d, isoMDd mo d], ∀ ts ∈ [[tt, pad 4 y, Z], [pad 4 y, tt, Z], [pad 4 y, Z, tt]],
      convertStr .datetime (joinSp ts) = .ok ([y, mo, d] ++ tm) := by
  intro Z hZ ts hts
  simp only [List.mem_cons, List.not_mem_nil, or_false] at hZ
  obtain ⟨pre, post, hsplit, rfl⟩ := mem_insertAll (x := tt) (l := [pad 4 y, Z]) (by simpa [insertAll] using hts)
  obtain ⟨hy, hmo, hd⟩ := validDateTime_ymd hv
  refine datetime_of_pieces ht.timeText ht.convert (fun t h => ?_) hv fun s sp => ?_
  · rw [← hsplit] at h
    simp only [List.mem_cons, List.not_mem_nil, or_false] at h
    rcases h with rfl | rfl
    · exact year_token_clean y
    · have hsp : isSpace '-' = false := by decide
      rcases hZ with rfl | rfl <;> simp [CleanPart, isoMD, isoMDd, pad2, asciiOk, trimmedB, hsp]
  · rw [← hsplit] at sp
    exact afterTime_year_iso tm hy (by omega) (by omega) hZ sp

/-- a time given as the hour only: `HH` and `THH` mean that hour at :00:00, for all 24 hours; 24..99 and a single
    digit (`7`, `T7`) are rejected -/
theorem time_notation_hour_only :
    (∀ h, h < 24 → convertStr .time (pad 2 h) = .ok [h, 0, 0, 0] ∧ convertStr .time ('T' :: pad 2 h) = .ok [h, 0, 0, 0]) ∧
    (∀ h, 24 ≤ h → h < 100 → convertStr .time (pad 2 h) = .err .value ∧ convertStr .time ('T' :: pad 2 h) = .err .value) ∧
    (∀ x, isDigit x = true → convertStr .time [x] = .err .value ∧ convertStr .time ['T', x] = .err .value) := by
  refine ⟨fun h hh => ?_, fun h h24 h99 => ?_, fun x hx => ?_⟩
  · exact ⟨(IsoTime.hour hh).convert false, (IsoTime.hour hh).convert true⟩
  · have hi : ∀ e, isoHMSF (pad 2 h) = some e → validTime e = false := fun e he => by
      rw [pad2, isoHMSF, take2_digits h h99] at he
      cases he
      simp [validTime]; omega
    have r := convertStr_time_rejected (timeChar_digits (pad_digits 2 h)) ⟨_, _, pad2 h, isDigit_digitChar _⟩
      (dig12_pad2 h).firstLast.2 (fun hm => absurd (pad_digits 2 h _ hm) (by decide)) hi
    exact ⟨r false, r true⟩
  · have r := convertStr_time_rejected (t := [x]) (timeChar_digits (q := [x]) (by simpa using hx)) ⟨x, [], rfl, hx⟩
      (by simp [LastOk, (isDigit_props hx).1]) (by simpa using (isDigit_ne hx rfl).symm) (fun e he => by cases he)
    exact ⟨r false, r true⟩

/-- no notation whatsoever – string or integers – yields an endpoint with an out-of-range field
    (hour 24, minute 60, Feb 30, month 13, year 0, …): such input is an error -/
theorem out_of_range_never_accepted {k : Kind} {x : EpIn} {e : Ep} (h : convert k x = .ok e) :
    validEp k e = true := convert_valid h

/-- an integer sequence of the wrong length is a ValueError (time 1..4, date 2, date-time 5..7) -/
theorem seq_wrong_length_rejected (l : List Int) :
    ((l.length = 0 ∨ 4 < l.length) → convertSeq .time l = .err .value) ∧
    (l.length ≠ 2 → convertSeq .date l = .err .value) ∧
    ((l.length < 5 ∨ 7 < l.length) → convertSeq .datetime l = .err .value) := by
  refine ⟨fun h => ?_, fun h => ?_, fun h => ?_⟩ <;> simp only [convertSeq] <;> split <;> first | omega | rfl

/-- a negative field is a ValueError -/
theorem seq_negative_rejected (k : Kind) (l : List Int) (hneg : ∃ v ∈ l, v < 0)
    (hsmall : ∀ v ∈ l, -cIntLimit ≤ v ∧ v < cIntLimit) : convertSeq k l = .err .value := by
  have h1 : intsToNats l = .err .value := by
    unfold intsToNats
    have : l.any (fun v => decide (v ≥ cIntLimit) || decide (v < -cIntLimit)) = false := by
      rw [List.any_eq_false]
      intro v hv hc
      have := hsmall v hv
      rcases Bool.or_eq_true_iff.1 hc with h' | h' <;> (have h'' := of_decide_eq_true h'; omega)
    obtain ⟨v, hv, hlt⟩ := hneg
    have h2 : l.any (fun v => decide (v < 0)) = true := List.any_eq_true.2 ⟨v, hv, by simpa using hlt⟩
    simp [this, h2]
  cases k <;> simp only [convertSeq, h1, Res.bind_err] <;> split <;> rfl

/-- a range sequence with no or with three and more endpoints is a ValueError; a single value is
    accepted for dates only -/
theorem range_wrong_arity_rejected (k : Kind) (l : List EpIn) :
    ((l.length = 0 ∨ 3 ≤ l.length) → parseRange k (.seq l) = .err .value) ∧
    (l.length = 1 → k ≠ .date → parseRange k (.seq l) = .err .value) := by
  constructor
  · intro h
    match l, h with
    | [], _ => rfl
    | _ :: _ :: _ :: _, _ => rfl
  · intro h hk
    match l, h with
    | [a], _ => cases k <;> first | rfl | exact absurd rfl hk

/-- a time or date-time range string that no separator splits into exactly two parts is a ValueError -/
theorem range_string_without_two_parts_rejected (k : Kind) (hk : k ≠ .date) (s : List Char)
    (h : firstSplit2 Gen.rangeSeparatorsC s = none) : parseRangeStr k s = .err .value := by
  unfold parseRangeStr
  rw [h]
  cases k <;> first | rfl | exact absurd rfl hk

/-- objects of the wrong type are TypeErrors -/
theorem wrong_type_rejected (k : Kind) :
    parseInterval k .bad = .err .type ∧ parseRange k .bad = .err .type ∧ convert k .bad = .err .type :=
  ⟨rfl, rfl, rfl⟩

/-- one malformed range in a sequence of ranges makes the specification an error (the first one decides which) -/
theorem malformed_range_rejects_interval (k : Kind) (pre : List RangeIn) (x : RangeIn) (post : List RangeIn)
    (e : Err) (hpre : ∀ p ∈ pre, ∃ r, parseRange k p = .ok r) (hx : parseRange k x = .err e) :
    parseInterval k (.seq (pre ++ x :: post)) = .err e := by
  have : parseRanges k (pre ++ x :: post) = .err e := by
    induction pre with
    | nil => simp [parseRanges, hx]
    | cons p ps ih =>
      obtain ⟨r, hr⟩ := hpre p (by simp)
      simp only [List.cons_append, parseRanges, hr, Res.bind_ok,
        ih (fun q hq => hpre q (by simp [hq])), Res.bind_err]
  show (parseRanges k _).map sortR = _
  rw [this]; rfl

/-! ### `TimeDate.parse`: weekday normalisation -/

/-- weekday numbers outside 0..7 are a ValueError -/
theorem weekday_out_of_range_rejected (l : List Int) (h : ∃ x ∈ l, x < 0 ∨ 7 < x) :
    parseWeekdays (.ints l) = .err .value := by
  obtain ⟨x, hx, hr⟩ := h
  show weekdaysOfInts l = _
  rw [weekdaysOfInts_eq, if_neg]
  intro H
  have := H x hx
  omega

/-- accepted weekdays are exported sorted, without duplicates, as 1..7 with Sunday (0 or 7) as 7 -/
theorem weekdays_normal_form {l : List Int} {w : List Nat} (h : parseWeekdays (.ints l) = .ok w) :
    w.Pairwise (· < ·) ∧
    ∀ d, d ∈ w ↔ (1 ≤ d ∧ d ≤ 7 ∧ ((d : Int) ∈ l ∨ (d = 7 ∧ (0 : Int) ∈ l))) := by
  simp only [parseWeekdays, weekdaysOfInts_eq] at h
  split at h
  · cases h
    refine ⟨List.Pairwise.sublist List.filter_sublist (by decide), fun d => ?_⟩
    simp only [List.mem_filter, wdSel, Bool.or_eq_true, Bool.and_eq_true, decide_eq_true_eq, beq_iff_eq,
      List.mem_cons, List.not_mem_nil, or_false]
    constructor
    · rintro ⟨hd, hs⟩; exact ⟨by omega, by omega, hs⟩
    · rintro ⟨h1, h7, hs⟩; exact ⟨by omega, hs⟩
  · cases h

/-- a weekday STRING means the sequence of its digits (blanks and tabs skipped) -/
theorem weekday_string_is_digit_sequence {s : List Char} (ha : asciiOk s = true)
    (hd : ∀ c ∈ s, c = ' ' ∨ c = '\t' ∨ isDigit c = true) :
    parseWeekdays (.str s) = parseWeekdays (.ints (wdDigits s)) := parseWeekdays_str_digits ha hd

/-- … and any other character (ASCII) makes it a ValueError; so do the digits 8 and 9 -/
theorem weekday_string_rejected {s : List Char} (ha : asciiOk s = true) :
    ((∃ c ∈ s, c ≠ ' ' ∧ c ≠ '\t' ∧ isDigit c = false) → parseWeekdays (.str s) = .err .value) ∧
    ((∀ c ∈ s, c = ' ' ∨ c = '\t' ∨ isDigit c = true) → (∃ c ∈ s, isDigit c = true ∧ 8 ≤ dval c) →
      parseWeekdays (.str s) = .err .value) := by
  refine ⟨parseWeekdays_str_nondigit ha, fun hd ⟨c, hc, hcd, h8⟩ => ?_⟩
  rw [parseWeekdays_str_digits ha hd]
  apply weekday_out_of_range_rejected
  exact ⟨Int.ofNat (dval c), mem_wdDigits.2 ⟨c, hc, isDigit_ne hcd rfl, isDigit_ne hcd rfl, rfl⟩,
    Or.inr (by simp; omega)⟩

/-- what a string over `0`..`7` (with blanks/tabs) means: the set of the weekdays whose digit occurs in it, `0`
    standing for 7 – sorted, without duplicates -/
theorem weekday_string_meaning {s : List Char}
    (hs : ∀ c ∈ s, c = ' ' ∨ c = '\t' ∨ (isDigit c = true ∧ dval c ≤ 7)) :
    ∃ w, parseWeekdays (.str s) = .ok w ∧ w.Pairwise (· < ·) ∧
      ∀ d, d ∈ w ↔ (1 ≤ d ∧ d ≤ 7 ∧ (digitChar d ∈ s ∨ (d = 7 ∧ '0' ∈ s))) := by
  have ha : asciiOk s = true := by
    simp only [asciiOk, List.all_eq_true]
    intro c hc
    rcases hs c hc with rfl | rfl | ⟨h, -⟩
    · decide
    · decide
    · exact (isDigit_props h).2
  have hd : ∀ c ∈ s, c = ' ' ∨ c = '\t' ∨ isDigit c = true := fun c hc => by
    rcases hs c hc with h | h | h
    · exact Or.inl h
    · exact Or.inr (Or.inl h)
    · exact Or.inr (Or.inr h.1)
  have hmem : ∀ n : Nat, n ≤ 7 → ((n : Int) ∈ wdDigits s ↔ digitChar n ∈ s) := by
    intro n hn
    rw [mem_wdDigits]
    constructor
    · rintro ⟨c, hc, n1, n2, he⟩
      rcases hs c hc with h | h | ⟨hcd, -⟩
      · exact absurd h n1
      · exact absurd h n2
      · rw [← Int.ofNat.inj he, ← char_of_dval hcd]; exact hc
    · exact fun hc => ⟨digitChar n, hc, digitChar_ne_blank n, isDigit_ne (isDigit_digitChar n) rfl,
        by rw [dval_digitChar, Nat.mod_eq_of_lt (by omega)]; rfl⟩
  have hr : ∀ x ∈ wdDigits s, 0 ≤ x ∧ x ≤ 7 := by
    intro x hx
    obtain ⟨c, hc, n1, n2, rfl⟩ := mem_wdDigits.1 hx
    rcases hs c hc with h | h | ⟨-, h7⟩
    · exact absurd h n1
    · exact absurd h n2
    · simp; omega
  have hw : parseWeekdays (.ints (wdDigits s)) = .ok ([1, 2, 3, 4, 5, 6, 7].filter (wdSel (wdDigits s))) := by
    show weekdaysOfInts _ = _
    rw [weekdaysOfInts_eq, if_pos hr]
  obtain ⟨h1, h2⟩ := weekdays_normal_form hw
  refine ⟨_, by rw [parseWeekdays_str_digits ha hd, hw], h1, fun d => (h2 d).trans ?_⟩
  exact and_congr_right fun _ => and_congr_right fun a2 => or_congr (hmem d a2)
    (and_congr_right fun _ => by simpa [digitChar] using hmem 0 (by omega))

/-- order and duplicates are irrelevant, and 0 ≡ 7: two sequences with the same members give the same result;
    replacing every 0 by 7 changes nothing -/
theorem weekdays_order_duplicates_irrelevant (l1 l2 : List Int) (h : ∀ x, x ∈ l1 ↔ x ∈ l2) :
    parseWeekdays (.ints l1) = parseWeekdays (.ints l2) ∧
    parseWeekdays (.ints (l1.map fun x => if x = 0 then 7 else x)) = parseWeekdays (.ints l1) := by
  refine ⟨weekdaysOfInts_congr (by simp only [h]) fun d _ _ => by simp only [wdSel, h],
    weekdaysOfInts_congr ?_ fun d h1 _ => ?_⟩
  · simp only [List.forall_mem_map]
    exact forall_congr' fun x => imp_congr_right fun _ => by split <;> omega
  · rw [Bool.eq_iff_iff]
    simp only [wdSel, Bool.or_eq_true, Bool.and_eq_true, decide_eq_true_eq, beq_iff_eq, List.mem_map]
    constructor
    · rintro (⟨x, hx, e⟩ | ⟨-, x, -, e⟩)
      · by_cases h0 : x = 0
        · subst h0; exact Or.inr ⟨by simp at e; omega, hx⟩
        · rw [if_neg h0] at e; exact Or.inl (e ▸ hx)
      · split at e <;> omega
    · rintro (hm | ⟨rfl, hm⟩)
      · exact Or.inl ⟨d, hm, if_neg (by omega)⟩
      · exact Or.inl ⟨0, hm, rfl⟩

/-- export ∘ parse is idempotent: the exported weekday list (of a string or a sequence) parses to itself -/
theorem weekdays_export_idempotent {x : WdIn} {w : List Nat} (h : parseWeekdays x = .ok w) :
    parseWeekdays (.ints (w.map Int.ofNat)) = .ok w := by
  have key : ∀ l : List Int, weekdaysOfInts l = .ok w → weekdaysOfInts (w.map Int.ofNat) = .ok w := by
    intro l hl
    rw [weekdaysOfInts_eq] at hl
    split at hl
    · cases hl; exact weekdaysOfInts_export _
    · cases hl
  cases x with
  | ints l => exact key l h
  | str s =>
    simp only [parseWeekdays] at h
    split at h
    · cases h
    · split at h
      · exact key _ h
      · cases h


/-! ### the property in its own words: all notations of one interval mean the same -/

/-- Two specifications whose ranges are written in ANY notation of the endpoints proved above
    (`convert k n = .ok e` is what every notation theorem establishes: canonical / padded / `H:M` / `H:M:S` /
    fractions / ISO basic and extended / hour only; the 13 date notations of all 366 days; date-times canonical, ISO
    extended and basic with any ISO time, traditional with the parts in any order, dashed, `--MMDD`; integer
    sequences), in any order of the ranges, and that denote the same collection of ranges: their normal forms
    (`as_list()`) are the same list, and `x in interval` agrees for every instant `x` – it is membership in one of
    the ranges as written -/
theorem any_notations_of_same_ranges_agree {k : Kind} {l1 l2 : List (EpIn × EpIn)} {rs1 rs2 : List Range}
    (h1 : Denotes k l1 rs1) (h2 : Denotes k l2 rs2)
    (hp : rs1.Perm rs2) :
    ∃ iv, parseInterval k (.seq (l1.map fun n => .seq [n.1, n.2])) = .ok iv ∧
      parseInterval k (.seq (l2.map fun n => .seq [n.1, n.2])) = .ok iv ∧
      (∀ x, contains k iv x = contains k rs1 x) ∧ (∀ x, contains k iv x = contains k rs2 x) := by
  have e : sortR rs1 = sortR rs2 :=
    sorted_perm_unique _ _ (sortR_sorted _) (sortR_sorted _)
      ((sortR_perm rs1).trans (hp.trans (sortR_perm rs2).symm))
  refine ⟨sortR rs1, ?_, ?_, fun x => ?_, fun x => ?_⟩
  · show (parseRanges k _).map sortR = _
    rw [h1.parseRanges]; rfl
  · show (parseRanges k _).map sortR = _
    rw [h2.parseRanges, e]; rfl
  · exact (sortR_perm rs1).any_eq
  · exact ((sortR_perm rs1).trans hp).any_eq

/-- the same for interval STRINGS in canonical notation with any accepted separator is `asString_roundtrip` and the
    `range_separator_*` theorems; an endpoint string is the same endpoint inside a string range and inside a
    sequence range: -/
theorem endpoint_string_same_in_sequence_and_string_range {k : Kind} {a b : Ep} (ha : validEp k a = true)
    (hb : validEp k b = true) :
    parseRange k (.str (render k a ++ '/' :: render k b)) = parseRange k (.seq [.str (render k a), .str (render k b)]) := by
  have h1 := range_separator_slash ha hb [] [] [] [] (by simp [blanks]) (by simp [blanks]) (by simp [blanks]) (by simp [blanks])
  simp only [List.nil_append, List.append_nil] at h1
  rw [h1]
  simp only [parseRange, convert, convertStr_render ha, convertStr_render hb, Res.bind_ok]

/-- the tables and regular expressions of the current source are the ones the model implements -/
theorem tables_match_model :
    Gen.rangeSeparatorsC = [['/'], [' ', '-', ' '], ['-']] ∧ Gen.delimiterC = [';'] ∧
    Gen.delimiterLegacyC = [','] ∧ Gen.dummyYear = 404 ∧ Gen.monthNamesC.length = 13 ∧
    Gen.intervalRegexes =
      [("_RE_DAY", "(\\d{1,2})\\.?"), ("_RE_ISO_DM", "--(\\d{2})-?(\\d{2})"),
       ("_RE_MONTH", "([^\\W\\d_]{3,})\\.?"), ("_RE_TIME", "(\\d{1,2}:\\d{1,2}(:\\d{1,2})?([.,]\\d+)?)"),
       ("_RE_YEAR", "(\\d{4})"), ("_RE_YMD", "([0-9]{4})-([^\\W\\d_]{3,}|[0-9]{2})-([0-9]{2})")] :=
  ⟨rfl, rfl, rfl, rfl, rfl, rfl⟩

example : parseInterval .time (.str "23:50 - 01:30, 3:20-5:10".toList)
    = .ok [([3, 20, 0, 0], [5, 10, 0, 0]), ([23, 50, 0, 0], [1, 30, 0, 0])] := by decide +kernel

example : contains .time [([23, 50, 0, 0], [1, 30, 0, 0])] [0, 15, 0, 0] = true ∧
    contains .time [([23, 50, 0, 0], [1, 30, 0, 0])] [1, 30, 0, 0] = false := by decide

example : contains .date [([12, 10], [1, 15])] [12, 31] = true ∧
    contains .date [([12, 10], [1, 15])] [1, 15] = true ∧
    contains .date [([12, 10], [1, 15])] [1, 16] = false := by decide

example : tradCanon false [2020, 3, 1, 12, 0, 0, 0] = "1. Mar 2020 12:00:00".toList ∧
    isoExt [2020, 3, 1, 12, 0, 0, 500000] = "2020-03-01T12:00:00.500000".toList ∧
    tHM 7 5 = "7:5".toList ∧ timeBases 7 5 9 = ["7:5:9".toList, "07:05:09".toList, "T07:05:09".toList,
      "070509".toList, "T070509".toList] := by decide +kernel

example : asString .date [([3, 1], [3, 1]), ([12, 10], [1, 15])] = "Mar 1; Dec 10 / Jan 15;".toList := by
  decide +kernel


example : joinSp ["8:05".toList, "1984".toList, "Apr".toList, "1".toList] = "8:05 1984 Apr 1".toList ∧
    ["1".toList, "8:05".toList, "Apr".toList, "1984".toList] ∈ perms ["8:05".toList, "1984".toList, "Apr".toList, "1".toList] ∧
    (perms [1, 2, 3, 4]).length = 24 ∧ dayTokens 1 = ["1".toList, "01".toList] ∧ tHM 8 5 = "8:5".toList ∧
    ymdName 'a' 'p' 'r' 1984 1 = "1984-apr-01".toList ∧ ymdBasic 1984 4 1 ++ 'T' :: tHMSb 8 5 0 = "19840401T080500".toList ∧
    isoMD 4 1 = "--0401".toList := by decide +kernel

example : ColonTime (tHM 8 5) [8, 5, 0, 0] := .hm (by decide) (by decide)

example : IsoTime (pad 2 8) [8, 0, 0, 0] ∧ pad 2 8 = "08".toList := ⟨.hour (by decide), by decide⟩

example : convertStr .datetime "1 8:05 Apr 1984".toList = .ok [1984, 4, 1, 8, 5, 0, 0] ∧
    convertStr .datetime "19840401T08".toList = .ok [1984, 4, 1, 8, 0, 0, 0] ∧
    convertStr .time "T07".toList = .ok [7, 0, 0, 0] ∧ convertStr .time "7".toList = .err .value ∧
    parseWeekdays (.str "7 10".toList) = .ok [1, 7] ∧ parseWeekdays (.ints [0, 1, 7, 1]) = .ok [1, 7] ∧
    parseWeekdays (.str "18".toList) = .err .value := by decide +kernel

/-- KNOWN FINDING C13-digit-run-split (the library misreads instead of rejecting; the model mirrors it): the stray
    `1` of `123:45` becomes the day of the month -/
example : convertStr .datetime "jul 2028 123:45".toList = .ok [2028, 7, 1, 23, 45, 0, 0] := by decide +kernel

example : Denotes .time [(.str "7:5".toList, .ints [8])] [([7, 5, 0, 0], [8, 0, 0, 0])] ∧
    Denotes .time [(.str "T0705".toList, .str "08".toList)] [([7, 5, 0, 0], [8, 0, 0, 0])] := by
  refine ⟨⟨⟨?_, ?_⟩, trivial⟩, ⟨⟨?_, ?_⟩, trivial⟩⟩ <;> decide +kernel

end Edzed.Interval

/-! ### tie to the source by translation

`Gen.Tr.cmpOpen/cmpClosed/cmpNoWrap` are regenerated on every run by tools/py2lean.py from the Python text of
`_Interval._cmp_open`, `_Interval._cmp_closed` and `DateTimeInterval._cmp_open`. -/
namespace Edzed.TrTie

/-- the membership functions the theorems above talk about ARE the translated source functions
    (with tuple comparison for `<` and `<=`) -/
theorem translated_membership_is_model :
    (∀ lo x hi, Gen.Tr.cmpOpen Interval.lt Interval.le lo x hi = Interval.cmpOpen lo x hi) ∧
    (∀ lo x hi, Gen.Tr.cmpClosed Interval.lt Interval.le lo x hi = Interval.cmpClosed lo x hi) ∧
    (∀ lo x hi, Gen.Tr.cmpNoWrap Interval.lt Interval.le lo x hi = Interval.cmpNoWrap lo x hi) :=
  ⟨IntervalTie.cmpOpen_eq, IntervalTie.cmpClosed_eq, IntervalTie.cmpNoWrap_eq⟩

/-! ### tie by translation of the control flow of parsing, normalising and rendering

`Gen.TrIv.*` (EdzedModel/Gen/TranslatedInterval.lean) is regenerated on every run by tools/py2lean_interval.py
from the Python text of `_match_pattern`, `_name_to_month`, `_convert_str`, the `convert_*` functions,
`date_to_string` and the methods of `_Interval`; statement order, conditions, loops, `try/except` and the class
attribute tables come from the AST.  The primitives (regular-expression search, `fromisoformat`, `strptime`,
the `datetime` constructors, `str.split/strip/capitalize`, `int`, `sorted`) are instantiated with the model's
matchers and library functions (`IntervalTie.modelPrims`); `tzAware` is the one behaviour of
`datetime.fromisoformat` the model leaves open.  `Refines m t`: the model declares the input outside its
domain (`unsupported`) or the translated code computes exactly the model's result. -/
open Edzed.Interval Edzed.Gen.TrIv Edzed.IntervalTie in
/-- `_match_pattern` = the model's leftmost search and removal of the matched part (start / end / middle) -/
theorem translated_interval_match_pattern_is_model (tzAware : Bool) (s : List Char) (re : Re)
    (msg : Option (List Char)) :
    match_pattern (modelPrims tzAware) s re msg =
      match search (matcher re) s with
      | some (s', g) => .ok (s', some g)
      | none => if (match msg with | some v => !v.isEmpty | none => false) then .err .value else .ok (s, none) :=
  match_pattern_eq tzAware s re msg

open Edzed.Interval Edzed.Gen.TrIv Edzed.IntervalTie in
/-- `_name_to_month` = the model's `nameToMonth` (first month from index 1 whose name starts with the capitalised text) -/
theorem translated_interval_name_to_month_is_model (tzAware : Bool) (name : List Char) :
    name_to_month (modelPrims tzAware) name =
      match nameToMonth name with
      | some j => .ok (j : Int)
      | none => .err .value := name_to_month_eq tzAware name

open Edzed.Interval Edzed.Gen.TrIv Edzed.IntervalTie in
/-- `_convert_str` for dates and for date-times = the model's parsers: time first, then Y-M-D or year, then
    `--MMDD` or month and day, what each branch does with the groups, the "missing …" errors, the leftover check
    and the final constructor call -/
theorem translated_interval_convert_str_is_model (tzAware : Bool) (s : List Char) :
    convert_str (modelPrims tzAware) s false = convertDateCore s ∧
    convert_str (modelPrims tzAware) s true = convertDateTimeCore s :=
  ⟨convert_str_date_eq tzAware s, convert_str_datetime_eq tzAware s⟩

open Edzed.Interval Edzed.Gen.TrIv Edzed.IntervalTie in
/-- the string converters of the three classes: `convert_time_str` (ISO fast path, zone refused, the four
    `strptime` formats in order), `convert_date_str`, `convert_datetime_str` (ISO fast path only with a `T`,
    fall back to `_convert_str` after a ValueError) -/
theorem translated_interval_string_converters_are_model (tzAware : Bool) (k : Interval.Kind) (s : List Char) :
    Refines (convertStr k s) (convertStrOf (modelPrims tzAware) k s) ∧
    convert_time_str (modelPrims tzAware) s = convertTimeStr s ∧
    convert_date_str (modelPrims tzAware) s = convertDateStr s ∧
    Refines (convertDateTimeStr s) (convert_datetime_str (modelPrims tzAware) s) :=
  ⟨convertStrOf_refines tzAware k s, convert_time_str_eq tzAware s, convert_date_str_eq tzAware s,
   convert_datetime_str_refines tzAware s⟩

open Edzed.Interval Edzed.Gen.TrIv Edzed.IntervalTie in
/-- the sequence converters (length checks, constructor) and the class attribute tables -/
theorem translated_interval_sequence_converters_are_model (tzAware : Bool) (k : Interval.Kind) (l : List Int) :
    convertSeqOf (modelPrims tzAware) k l = convertSeq k l ∧ Gen.TrIv.rclosed k = Interval.rclosed k :=
  ⟨convertSeqOf_eq tzAware k l, rclosed_eq k⟩

open Edzed.Interval Edzed.Gen.TrIv Edzed.IntervalTie in
/-- `_Interval._convert` and `_parse_range`: the separators of `_RANGE_SEPARATORS` tried in order with
    `len(parts) == 2`, the single value only for right-closed intervals, sequences of two (or one) endpoints,
    TypeError otherwise -/
theorem translated_interval_parse_range_is_model (tzAware : Bool) (k : Interval.Kind) (r : RangeIn) (x : EpIn) :
    Refines (parseRange k r) (parse_range (modelPrims tzAware) k r) ∧
    Refines (convert k x) (interval_convert (modelPrims tzAware) k x
      (convertStrOf (modelPrims tzAware) k) (convertSeqOf (modelPrims tzAware) k)) :=
  ⟨parse_range_refines tzAware k r, interval_convert_refines tzAware k x⟩

open Edzed.Interval Edzed.Gen.TrIv Edzed.IntervalTie in
/-- `_Interval.__init__`: the choice of the delimiter, the split, the removal of a blank last piece, every
    range parsed in order, the result sorted (the whole `(start, stop)` tuples) -/
theorem translated_interval_init_is_model (tzAware : Bool) (k : Interval.Kind) (spec : IvIn) :
    Refines (parseInterval k spec) (interval_init (modelPrims tzAware) k spec) :=
  interval_init_refines tzAware k spec

open Edzed.Interval Edzed.Gen.TrIv Edzed.IntervalTie in
/-- `__contains__` / `_cmp`: `any` over the ranges of the closed or open comparison chosen by
    `_RCLOSED_INTERVAL`, with `DateTimeInterval`'s own `_cmp_open` (together with
    `translated_membership_is_model`) -/
theorem translated_interval_contains_is_model (k : Interval.Kind) (iv : List Range) (x : Ep) :
    interval_contains k iv x = Interval.contains k iv x := interval_contains_eq k iv x

open Edzed.Interval Edzed.Gen.TrIv Edzed.IntervalTie in
/-- `as_list`, `_range_string`, `as_string` (and `date_to_string`) = the model's renderer, for every interval
    whose endpoints are valid -/
theorem translated_interval_rendering_is_model (tzAware : Bool) (k : Interval.Kind) (iv : List Range)
    (hv : ∀ r ∈ iv, validEp k r.1 = true ∧ validEp k r.2 = true) :
    Gen.TrIv.as_string (modelPrims tzAware) k iv = asString k iv ∧
    Gen.TrIv.as_list (modelPrims tzAware) k iv = (asList iv).map fun r => r.map fun e => e.map Int.ofNat :=
  ⟨as_string_eq tzAware k iv hv, as_list_eq tzAware k iv hv⟩

open Edzed.Interval Edzed.Gen.TrIv Edzed.IntervalTie in
/-- `_Interval.range_endpoints` (what TimeDate / TimeSpan register with cron): the set – no duplicates – of all
    range starts and stops, nothing else -/
theorem translated_interval_range_endpoints_is_model (tzAware : Bool) (k : Interval.Kind) (iv : List Range) :
    (Gen.TrIv.range_endpoints (modelPrims tzAware) k iv).Nodup ∧
    ∀ x, x ∈ Gen.TrIv.range_endpoints (modelPrims tzAware) k iv ↔ x ∈ rangeEndpoints iv :=
  range_endpoints_eq tzAware k iv

open Edzed.Interval Edzed.Gen.TrIv Edzed.IntervalTie in
/-- `export_dt` and the module table `_ATTRS`: the exported integers are the model's endpoint tuple (time: hour,
    minute, second, microsecond; date: month, day; date-time: all seven, year first) -/
theorem translated_interval_export_dt_is_model (tzAware : Bool) (k : Interval.Kind) {e : Ep}
    (h : validEp k e = true) :
    export_dt (modelPrims tzAware) k e = e.map Int.ofNat ∧ dtAttrs k = attrLayout k :=
  ⟨export_dt_eq tzAware k h, by cases k <;> rfl⟩

open Edzed.Interval Edzed.Gen.TrIv Edzed.IntervalTie in
/-- consequence for C07: the values returned by the translated `range_endpoints` are exactly the instants at which
    membership in a time interval can change – between two instants of one day with no returned endpoint in
    `(t1, t2]` the result of `x in interval` is the same -/
theorem translated_interval_membership_changes_only_at_range_endpoints (tzAware : Bool) (iv : List Range)
    {t1 t2 : Ep} (hv : ∀ r ∈ iv, validTime r.1 = true ∧ validTime r.2 = true)
    (h1 : validTime t1 = true) (h2 : validTime t2 = true) (h12 : timeUs t1 ≤ timeUs t2)
    (hb : ∀ e ∈ Gen.TrIv.range_endpoints (modelPrims tzAware) .time iv,
      ¬ (timeUs t1 < timeUs e ∧ timeUs e ≤ timeUs t2)) :
    Interval.contains .time iv t1 = Interval.contains .time iv t2 := by
  apply Interval.time_contains_const iv hv h1 h2 h12
  intro r hr
  have m := (range_endpoints_eq tzAware .time iv).2
  have ha : r.1 ∈ rangeEndpoints iv := by
    simp only [rangeEndpoints, List.mem_flatMap]; exact ⟨r, hr, by simp⟩
  have hb' : r.2 ∈ rangeEndpoints iv := by
    simp only [rangeEndpoints, List.mem_flatMap]; exact ⟨r, hr, by simp⟩
  exact ⟨hb _ ((m _).2 ha), hb _ ((m _).2 hb')⟩

open Edzed.Interval Edzed.Gen.TrIv Edzed.IntervalTie in
/-- … and conversely every returned value is a start or a stop of some range (nothing is registered in vain) -/
theorem translated_interval_range_endpoints_are_starts_and_stops (tzAware : Bool) (k : Interval.Kind)
    (iv : List Range) (x : Ep) (hx : x ∈ Gen.TrIv.range_endpoints (modelPrims tzAware) k iv) :
    ∃ r ∈ iv, x = r.1 ∨ x = r.2 := by
  have := ((range_endpoints_eq tzAware k iv).2 x).1 hx
  simp only [rangeEndpoints, List.mem_flatMap, List.mem_cons, List.not_mem_nil, or_false] at this
  exact this

open Edzed.Interval Edzed.Gen.TrIv Edzed.IntervalTie in
/-- non-vacuity: `23:50 – 01:30` and `03:20 – 05:10` have four endpoints; 02:00 and 03:00 lie between them -/
example : (Gen.TrIv.range_endpoints (modelPrims false) .time
      [([3, 20, 0, 0], [5, 10, 0, 0]), ([23, 50, 0, 0], [1, 30, 0, 0])]).length = 4 ∧
    [1, 30, 0, 0] ∈ Gen.TrIv.range_endpoints (modelPrims false) .time
      [([3, 20, 0, 0], [5, 10, 0, 0]), ([23, 50, 0, 0], [1, 30, 0, 0])] ∧
    Interval.contains .time [([3, 20, 0, 0], [5, 10, 0, 0]), ([23, 50, 0, 0], [1, 30, 0, 0])] [2, 0, 0, 0] =
    Interval.contains .time [([3, 20, 0, 0], [5, 10, 0, 0]), ([23, 50, 0, 0], [1, 30, 0, 0])] [3, 0, 0, 0] := by
  decide

end Edzed.TrTie
