/-
C12 — OutputAsync honours its mode (wait / cancel / start) for every arrival pattern.

Model: EdzedModel/OutputAsync.lean (control tasks `_ctrl_wait/_ctrl_cancel/_ctrl_start`, the output task
with its result events and shielded guard sleep, `stop`/`stop_async`).  A script is a list of `Op`s:
`put t pre batch x` (arrival of data `x` at instant `t`, before/after the block's own timers of that instant,
possibly in one batch with the previous put; after the stop it is a *late* put, see below), `stop t pre batch`
(the deadline `t + stopTimeout` is armed), `finish` (let everything run to completion).
`run c ops` is the state after the script, `(run c ops).log` the time-stamped log (newest first) of
arrival markers `put j`, output changes `out n`, coroutine `start/done/cancelled j` and result events
`succ/err/canc j`, where a job `j = ⟨seq, data⟩` is the `seq`-th accepted put with its original data.

Every theorem is for ALL configurations (mode, guard time, stop_data) and ALL scripts — any number of
arrivals, any instants, durations, failing runs and same-instant placements; nothing is bounded.
`resJobs log` / `putJobs log` / `startJobs log` are the jobs of the result / arrival / start events of a log
(newest first), `evJob e` the job a start, coroutine or result event is about, `none` for every other event
(EdzedProofs/OutputAsync.lean).
-/
import EdzedModel.OutputAsync
import EdzedProofs.OutputAsync
import EdzedProofs.OutputAsyncTie
import EdzedProofs.OutputBlocksTie

namespace Edzed.OutputAsync

/-- the state after the script followed by `finish` (everything pending has been processed) -/
abbrev final (c : Cfg) (ops : List Op) : State := run c (ops ++ [.finish])

/-- with `final` in the statement, so that what the invariants say of the final state meets the statements
    below without unfolding -/
theorem final_reach (c : Cfg) (ops : List Op) : Reach c {} (final c ops) := run_reach c _

/-- output = number of active output tasks, at every point of every script -/
theorem output_is_active_count (c : Cfg) (ops : List Op) :
    (run c ops).output = (run c ops).runs.length :=
  (reach_countInv (run_reach c ops)).output_eq

/-- wait and cancel mode: never more than one active run; the output is 0 or 1 -/
theorem cancel_at_most_one_active (c : Cfg) (ops : List Op) (h : c.mode ≠ Mode.start) :
    (run c ops).runs.length ≤ 1 ∧ (run c ops).output ≤ 1 := by
  have := reach_countInv (run_reach c ops)
  exact ⟨this.oneRun h, by rw [this.output_eq]; exact this.oneRun h⟩

/-- when everything has been processed the block is idle: output 0, no run, nothing queued -/
theorem returns_to_zero (c : Cfg) (ops : List Op) :
    (final c ops).output = 0 ∧ (final c ops).runs = [] ∧ (final c ops).queue = [] ∧
    (final c ops).sdPending = none := by
  unfold final
  rw [run_snoc]
  generalize hs : step c (run c ops) .finish = s
  have hreach : Reach c {} s := hs ▸ (run_reach c ops).trans (step_reach c _ _)
  have hadv := (advance_reach c none (measure (settle c (run c ops))) _ (settle_quiet c (run c ops))).2
  have hruns : s.runs = [] := hs ▸ hadv.2 rfl (Nat.le_refl _)
  have hsd := reach_sdInv hreach
  obtain ⟨q1, q2, q3⟩ : Quiet c s := hs ▸ hadv.1
  refine ⟨by rw [(reach_countInv hreach).output_eq, hruns]; rfl, hruns, ?_, ?_⟩
  · cases hm : c.mode with
    | wait => exact q1 hm hruns
    | cancel => exact (q2 hm).1 hruns
    | start => exact (q3 hm).1
  · cases hm : c.mode with
    | wait => exact hsd.startOnly (by simp [hm])
    | cancel => exact hsd.startOnly (by simp [hm])
    | start =>
      cases hp : s.sdPending with
      | none => rfl
      | some j => exact absurd hruns ((q3 hm).2 (by simp [hp]) (hsd.afterStop (by simp [hp])))

/-- no put ever gets a second result, and results are produced for accepted puts only
    (at every point of every script) -/
theorem at_most_one_result_ever (c : Cfg) (ops : List Op) (j : Job) :
    (resJobs (run c ops).log).count j ≤ (putJobs (run c ops).log).count j ∧
    (putJobs (run c ops).log).count j ≤ 1 := by
  have hb := reach_balanced (run_reach c ops) j
  exact ⟨by omega, (reach_uniq (run_reach c ops)).once j⟩

/-- every put accepted before `stop()` (arrival marker `put j`), whatever its data -- the empty mapping
    included --, and stop_data, has exactly one of success / error / cancel, carrying the job itself (its
    sequence number and original data), once the work is complete.  (Puts that reach the block after `stop()`
    carry the marker `late j`, see `late_put_never_served` and `every_put_exactly_one_result_partial`.) -/
theorem exactly_one_result (c : Cfg) (ops : List Op) (t : Nat) (j : Job)
    (h : (t, Ev.put j) ∈ (final c ops).log) : (resJobs (final c ops).log).count j = 1 := by
  have hb := reach_balanced (final_reach c ops) j
  have hu := (reach_uniq (final_reach c ops)).once j
  have hidle := returns_to_zero c ops
  have hp : 0 < (putJobs (final c ops).log).count j := List.count_pos_iff.mpr (mem_jobs h rfl)
  have hpend : (pendJobs (final c ops)).count j = 0 := by
    simp [pendJobs, hidle.2.1, hidle.2.2.1, hidle.2.2.2]
  omega

/-- at stop all pending work is completed -- every put accepted before the stop, queued or running, and
    stop_data get exactly one result each -- whether or not stop_timeout expires on the way: the model
    carries the deadline `stop time + stop_timeout` (`expire`), and an expiry only cancels the coroutines
    running in that instant (they are reported cancelled); see `timeout_cancels_only_at_expiry`,
    `cancel_only_by_newer` and the `example`s at the end for what happens to each item -/
theorem stop_completes_pending_work (c : Cfg) (ops : List Op) (ts : Nat) (pre batch : Bool) (t : Nat)
    (j : Job) (h : (t, Ev.put j) ∈ (final c (ops ++ [.stop ts pre batch])).log) :
    (resJobs (final c (ops ++ [.stop ts pre batch])).log).count j = 1 :=
  exactly_one_result c _ t j h

/-- the kind of each result matches what the run did: success (error) is reported exactly when the
    coroutine of a non-raising (raising) script came to its end, in that instant, and such a run was never
    cancelled; cancel is reported only for jobs whose coroutine never came to its end (cancelled while
    running, or discarded before it started) -/
theorem result_matches_run (c : Cfg) (ops : List Op) (t : Nat) (j : Job) :
    ((t, Ev.succ j) ∈ (run c ops).log →
      j.data.fail = false ∧ (t, Ev.done j) ∈ (run c ops).log ∧ ∀ t', (t', Ev.cancelled j) ∉ (run c ops).log) ∧
    ((t, Ev.err j) ∈ (run c ops).log →
      j.data.fail = true ∧ (t, Ev.done j) ∈ (run c ops).log ∧ ∀ t', (t', Ev.cancelled j) ∉ (run c ops).log) ∧
    ((t, Ev.canc j) ∈ (run c ops).log → ∀ t', (t', Ev.done j) ∉ (run c ops).log) := by
  have hk := reach_logOK (run_reach c ops)
  have hone : (resJobs (run c ops).log).count j ≤ 1 := by
    have := at_most_one_result_ever c ops j; omega
  refine ⟨fun h => ?_, fun h => ?_, fun h t' hd => ?_⟩
  · have h1 := (hk _ h).1
    refine ⟨h1.1, h1.2, fun t' hc => ?_⟩
    have := two_results h (hk _ hc).1 (by simp) rfl rfl
    omega
  · have h1 := (hk _ h).1
    refine ⟨h1.1, h1.2, fun t' hc => ?_⟩
    have := two_results h (hk _ hc).1 (by simp) rfl rfl
    omega
  · rcases (hk _ hd).1 with h2 | h2
    · have := two_results h h2 (by simp) rfl rfl
      omega
    · have := two_results h h2 (by simp) rfl rfl
      omega

/-- a coroutine that is cancelled is reported cancelled in the same instant, and one that comes to its end
    is reported as success or error in the same instant -/
theorem run_end_is_reported (c : Cfg) (ops : List Op) (t : Nat) (j : Job) :
    ((t, Ev.cancelled j) ∈ (run c ops).log → (t, Ev.canc j) ∈ (run c ops).log) ∧
    ((t, Ev.done j) ∈ (run c ops).log →
      (t, Ev.succ j) ∈ (run c ops).log ∨ (t, Ev.err j) ∈ (run c ops).log) :=
  ⟨fun h => (reach_logOK (run_reach c ops) _ h).1, fun h => (reach_logOK (run_reach c ops) _ h).1⟩

/-- wait mode: the runs start in arrival order (chronologically: started jobs, then the queued ones,
    are exactly the accepted puts in order), one at a time -/
theorem wait_fifo_one_at_a_time (c : Cfg) (ops : List Op) (h : c.mode = Mode.wait) :
    (startJobs (run c ops).log).reverse ++ (run c ops).queue = (putJobs (run c ops).log).reverse ∧
    (run c ops).runs.length ≤ 1 := by
  refine ⟨?_, (cancel_at_most_one_active c ops (by rw [h]; simp)).1⟩
  rw [reach_fifo (run_reach c ops) h]; simp

/-- the stop_timeout clock: an expiry (`timeout` marker) happens only after `stop()`, no earlier than
    stop time + stop_timeout, and in one instant only -/
theorem timeout_not_before_deadline (c : Cfg) (ops : List Op) (t : Nat)
    (h : (t, Ev.timeout) ∈ (run c ops).log) :
    (∃ ts, (run c ops).stopAt = some ts ∧ ts + c.stopTimeout ≤ t) ∧ (run c ops).stopped = true ∧
    ∀ t2, (t2, Ev.timeout) ∈ (run c ops).log → t2 = t := by
  have hT := reach_tInv (run_reach c ops)
  obtain ⟨⟨ts, hts, hle⟩, _, _⟩ := hT.timeout_ok t h
  exact ⟨⟨ts, hts, hle⟩, hT.stopAt_stopped (by simp [hts]), fun t2 h' => hT.timeout_once t2 t h' h⟩

/-- work that fits into stop_timeout is not touched by it: the timeout expires only while a run is
    still active -- once everything is complete, an expiry at `t` is followed by an output decrement at
    `t` or later.  (Read contrapositively: if the output has gone down for the last time before stop time +
    stop_timeout, there is no `timeout` marker.) -/
theorem timeout_only_while_work_pending (c : Cfg) (ops : List Op) (t : Nat)
    (h : (t, Ev.timeout) ∈ (final c ops).log) :
    ∃ t' n, t ≤ t' ∧ (t', Ev.out n) ∈ (final c ops).log := by
  rcases ((reach_tInv (final_reach c ops)).timeout_ok t h).2.2 with hx | ⟨hr, _⟩
  · exact hx
  · exact absurd (returns_to_zero c ops).2.1 hr

/-- wait and start mode cancel nothing, except in the instant in which stop_timeout expires
    (`timeout` marker of the model at the same time stamp) -/
theorem timeout_cancels_only_at_expiry (c : Cfg) (ops : List Op) (h : c.mode ≠ Mode.cancel) (t : Nat) (j : Job)
    (hc : (t, Ev.cancelled j) ∈ (run c ops).log ∨ (t, Ev.canc j) ∈ (run c ops).log) :
    (t, Ev.timeout) ∈ (run c ops).log := by
  have hl := reach_logOK (run_reach c ops)
  rcases hc with hc | hc <;> exact ((hl _ hc).2 j rfl).resolve_left fun h' => h h'.1

/-- while stop_timeout has not expired, wait and start mode never cancel anything -/
theorem only_cancel_mode_cancels (c : Cfg) (ops : List Op) (h : c.mode ≠ Mode.cancel)
    (hto : ∀ t, (t, Ev.timeout) ∉ (run c ops).log) (t : Nat) (j : Job) :
    (t, Ev.cancelled j) ∉ (run c ops).log ∧ (t, Ev.canc j) ∉ (run c ops).log :=
  ⟨fun hm => hto t (timeout_cancels_only_at_expiry c ops h t j (Or.inl hm)),
   fun hm => hto t (timeout_cancels_only_at_expiry c ops h t j (Or.inr hm))⟩

/-- a run is cancelled, and a queued put is discarded (reported cancelled), only because a newer put
    had arrived by then -- or because stop_timeout expired in that very instant -/
theorem cancel_only_by_newer (c : Cfg) (ops : List Op) (t : Nat) (j : Job)
    (h : (t, Ev.cancelled j) ∈ (run c ops).log ∨ (t, Ev.canc j) ∈ (run c ops).log) :
    (∃ k t', j.seq < k.seq ∧ t' ≤ t ∧ (t', Ev.put k) ∈ (run c ops).log) ∨
    (t, Ev.timeout) ∈ (run c ops).log := by
  have hl := reach_logOK (run_reach c ops)
  rcases h with h | h <;> exact ((hl _ h).2 j rfl).imp (fun h => h.2) id

/-- the most recent put is never reported cancelled (at every point of every script), unless
    stop_timeout expired in that instant -/
theorem latest_never_cancelled (c : Cfg) (ops : List Op) (t : Nat) (j : Job)
    (h : (t, Ev.canc j) ∈ (run c ops).log) :
    j.seq + 1 < (run c ops).nacc ∨ (t, Ev.timeout) ∈ (run c ops).log := by
  rcases cancel_only_by_newer c ops t j (Or.inr h) with ⟨k, t', hlt, _, hk⟩ | hto
  · have := (reach_uniq (run_reach c ops)).lt k (mem_jobs hk rfl)
    left; omega
  · exact Or.inr hto

/-- the most recent put (incl. stop_data) always runs to completion: its result is success or error --
    unless stop_timeout expired while its coroutine was running (then it is reported cancelled in that instant) -/
theorem latest_completes (c : Cfg) (ops : List Op) (t : Nat) (j : Job)
    (h : (t, Ev.put j) ∈ (final c ops).log) (hlast : j.seq + 1 = (final c ops).nacc) :
    (∃ t', (t', Ev.succ j) ∈ (final c ops).log ∨ (t', Ev.err j) ∈ (final c ops).log) ∨
    (∃ t', (t', Ev.canc j) ∈ (final c ops).log ∧ (t', Ev.timeout) ∈ (final c ops).log) := by
  have h1 := exactly_one_result c ops t j h
  have hmem : j ∈ resJobs (final c ops).log := List.count_pos_iff.mp (by omega)
  simp only [resJobs, List.mem_filterMap] at hmem
  obtain ⟨⟨t', e⟩, hm, he⟩ := hmem
  cases e with
  | succ k => simp [evRes] at he; subst he; exact Or.inl ⟨t', Or.inl hm⟩
  | err k => simp [evRes] at he; subst he; exact Or.inl ⟨t', Or.inr hm⟩
  | canc k =>
    simp [evRes] at he; subst he
    rcases latest_never_cancelled c (ops ++ [.finish]) t' k hm with h2 | h2
    · simp only [final] at hlast; omega
    · exact Or.inr ⟨t', hm, h2⟩
  | _ => simp [evRes] at he

/-- start mode: every put starts its own run in the instant of its arrival; the only exception is the
    stop_data job (accepted last, by `stop()`), which `stop_async` runs after all others -/
theorem start_all_start_at_arrival (c : Cfg) (ops : List Op) (h : c.mode = Mode.start) (t : Nat) (j : Job)
    (hp : (t, Ev.put j) ∈ (final c ops).log) :
    (t, Ev.start j) ∈ (final c ops).log ∨
    ((final c ops).stopped = true ∧ j.seq + 1 = (final c ops).nacc ∧ c.stopData = some j.data) := by
  rcases reach_startAt (final_reach c ops) h t j hp with ⟨hq, _⟩ | h2 | h3
  · rw [(returns_to_zero c ops).2.2.1] at hq; cases hq
  · exact Or.inl h2
  · exact Or.inr h3

/-- wait and cancel mode: a run starts no earlier than guard_time after the coroutine of any earlier
    run was over — whether it ended by itself (`done`) or was cancelled -/
theorem guard_separation (c : Cfg) (ops : List Op) (h : c.mode ≠ Mode.start)
    (l1 l2 : List (Nat × Ev)) (t2 : Nat) (k : Job)
    (hl : (run c ops).log = l1 ++ (t2, Ev.start k) :: l2) (t1 : Nat) (j : Job)
    (hj : (t1, Ev.done j) ∈ l2 ∨ (t1, Ev.cancelled j) ∈ l2) : t1 + c.guard ≤ t2 := by
  have hs := (reach_sep (run_reach c ops) h).sepOK
  rcases hj with hj | hj <;> exact sepOK_split hs hl t1 _ hj rfl

/-- stop_data is processed last: after `stop()` with stop_data `d`, once everything is complete, the log
    ends with the run of the stop_data job (the job accepted last) — after its start no other run starts
    and no other result is produced -/
theorem stop_data_last (c : Cfg) (ops : List Op) (d : Item)
    (hst : (final c ops).stopped = true) (hd : c.stopData = some d) :
    ∃ l1 t l2, (final c ops).log = l1 ++ (t, Ev.start ⟨(final c ops).nacc - 1, d⟩) :: l2 ∧
      ∀ x ∈ l1, evJob x.2 = some ⟨(final c ops).nacc - 1, d⟩ ∨ evJob x.2 = none := by
  have hidle := returns_to_zero c ops
  rcases reach_sdLast (final_reach c ops) hst d hd with (⟨_, q0, hq⟩ | ⟨_, hp⟩) | hs
  · rw [hidle.2.2.1] at hq
    cases q0 <;> simp at hq
  · rw [hidle.2.2.2] at hp; cases hp
  · exact hs.log_after

/-- a put that reaches the block after its `stop()` (an internal event sent during the clean-up: `Block.event`
    still delivers it and `_event_put` queues it behind the sentinel) never starts a run and is never
    reported: no success, no error, no cancel -- at any later point of any script -/
theorem late_put_never_served (c : Cfg) (ops : List Op) (t : Nat) (j : Job)
    (h : (t, Ev.late j) ∈ (run c ops).log) :
    (∀ t', (t', Ev.start j) ∉ (run c ops).log) ∧ (resJobs (run c ops).log).count j = 0 := by
  have hl := reach_lateInv (run_reach c ops) j (mem_jobs h rfl)
  have hnp : j ∉ putJobs (run c ops).log := fun hp => by
    have := (reach_uniq (run_reach c ops)).lt j hp; omega
  refine ⟨fun t' hs => ?_, ?_⟩
  · obtain ⟨t0, hp⟩ := (reach_logOK (run_reach c ops) _ hs).1
    exact hnp (mem_jobs hp rfl)
  have := (at_most_one_result_ever c ops j).1
  have h0 : (putJobs (run c ops).log).count j = 0 := List.count_eq_zero_of_not_mem hnp
  omega

/-- after the start of the stop_data run no other run starts -- puts that arrive after `stop()` included
    (they never start at all): stop_data's run is the last one to start -/
theorem stop_data_is_last_start (c : Cfg) (ops : List Op) (d : Item)
    (hst : (final c ops).stopped = true) (hd : c.stopData = some d) :
    ∃ l1 t l2, (final c ops).log = l1 ++ (t, Ev.start ⟨(final c ops).nacc - 1, d⟩) :: l2 ∧
      ∀ t' k, (t', Ev.start k) ∈ l1 → k = ⟨(final c ops).nacc - 1, d⟩ := by
  obtain ⟨l1, t, l2, hl, hall⟩ := stop_data_last c ops d hst hd
  refine ⟨l1, t, l2, hl, fun t' k hk => ?_⟩
  rcases hall _ hk with h | h
  · simpa [evJob] using h
  · simp [evJob] at h

/--
Full statement of the property: "every 'put' accepted by an OutputAsync block results in exactly one of
on_success, on_error or on_cancel".  It does not hold for puts that are accepted after `stop()`
(`late_put_never_served`: they are dropped silently; known finding C12-put-after-stop-dropped, the
counter-example is the `example` below), so it is proved under the hypothesis that no put arrives after
the stop: then every arrival marker is a `put` marker and has exactly one result.
-/
theorem every_put_exactly_one_result_partial (c : Cfg) (ops : List Op)
    (hnl : ∀ t j, (t, Ev.late j) ∉ (final c ops).log) (t : Nat) (j : Job)
    (h : (t, Ev.put j) ∈ (final c ops).log ∨ (t, Ev.late j) ∈ (final c ops).log) :
    (resJobs (final c ops).log).count j = 1 :=
  exactly_one_result c ops t j (h.resolve_right (hnl t j))

/-! ### the hypotheses are satisfiable: concrete scripts -/

/-- a put after `stop()` (cancel mode, sent while the controller waits for the guard sleep of the cancelled
    run): accepted, never started, never reported; stop_data runs last and succeeds -/
example :
    let c : Cfg := ⟨.cancel, 2, some ⟨99, 2, false, false⟩, 1000⟩
    let ops := [Op.put 0 true false ⟨1, 5, false, false⟩, .stop 1 true false, .put 2 true false ⟨2, 1, false, false⟩]
    (2, Ev.late ⟨2, ⟨2, 1, false, false⟩⟩) ∈ (final c ops).log ∧
    (resJobs (final c ops).log).count ⟨2, ⟨2, 1, false, false⟩⟩ = 0 ∧
    (3, Ev.start ⟨1, ⟨99, 2, false, false⟩⟩) ∈ (final c ops).log ∧
    (5, Ev.succ ⟨1, ⟨99, 2, false, false⟩⟩) ∈ (final c ops).log := by decide +kernel


/-- cancel mode, guard 2: run 0 is cancelled by put 1, put 1 is discarded for put 2 (which arrives during
    the guard sleep), put 2 completes; three results, output back to 0 -/
example :
    let c : Cfg := ⟨.cancel, 2, none, 1000⟩
    let ops := [Op.put 0 true false ⟨1, 5, false, false⟩, .put 2 true false ⟨2, 5, false, false⟩,
                .put 3 true false ⟨3, 1, false, false⟩, .stop 30 true false]
    (2, Ev.cancelled ⟨0, ⟨1, 5, false, false⟩⟩) ∈ (final c ops).log ∧
    (4, Ev.canc ⟨1, ⟨2, 5, false, false⟩⟩) ∈ (final c ops).log ∧
    (4, Ev.start ⟨2, ⟨3, 1, false, false⟩⟩) ∈ (final c ops).log ∧
    (5, Ev.succ ⟨2, ⟨3, 1, false, false⟩⟩) ∈ (final c ops).log ∧
    (final c ops).output = 0 ∧ (final c ops).nacc = 3 := by decide +kernel

/-- wait mode with stop_data: queued work and then stop_data are processed after the stop -/
example :
    let c : Cfg := ⟨.wait, 1, some ⟨99, 2, false, false⟩, 1000⟩
    let ops := [Op.put 0 true false ⟨1, 3, false, false⟩, .put 1 false false ⟨2, 3, true, false⟩, .stop 2 true false]
    (final c ops).stopped = true ∧
    (7, Ev.err ⟨1, ⟨2, 3, true, false⟩⟩) ∈ (final c ops).log ∧
    (8, Ev.start ⟨2, ⟨99, 2, false, false⟩⟩) ∈ (final c ops).log ∧
    (10, Ev.succ ⟨2, ⟨99, 2, false, false⟩⟩) ∈ (final c ops).log := by decide +kernel

/-- start mode: two overlapping runs, stop_data after both -/
example :
    let c : Cfg := ⟨.start, 0, some ⟨99, 2, false, false⟩, 1000⟩
    let ops := [Op.put 0 true false ⟨1, 3, false, false⟩, .put 1 true false ⟨2, 2, false, false⟩, .stop 2 true false]
    (1, Ev.out 2) ∈ (final c ops).log ∧ (3, Ev.start ⟨2, ⟨99, 2, false, false⟩⟩) ∈ (final c ops).log := by
  decide +kernel

/-- the data of a put is an arbitrary mapping -- the EMPTY mapping included (`Item.empty`: `blk.event('put')`
    for a coroutine without arguments, `stop_data = {}`): all statements above quantify over every `Item`, so an
    empty mapping is an item like any other.  Here (wait mode): a put without data runs and succeeds, the next
    put is served after it, and the empty stop_data runs last -/
example :
    let c : Cfg := ⟨.wait, 0, some ⟨99, 2, false, true⟩, 1000⟩
    let ops := [Op.put 0 true false ⟨1, 1, false, true⟩, .put 2 true false ⟨2, 1, false, false⟩, .stop 6 false false]
    (1, Ev.succ ⟨0, ⟨1, 1, false, true⟩⟩) ∈ (final c ops).log ∧
    (3, Ev.succ ⟨1, ⟨2, 1, false, false⟩⟩) ∈ (final c ops).log ∧
    (6, Ev.start ⟨2, ⟨99, 2, false, true⟩⟩) ∈ (final c ops).log ∧
    (resJobs (final c ops).log).count ⟨0, ⟨1, 1, false, true⟩⟩ = 1 ∧
    (final c ops).output = 0 := by decide +kernel

/-- stop_timeout expiry (wait mode, stop at 2, stop_timeout 4, deadline 6): the run in progress (put 2,
    started at 3) is reported cancelled at 6, but the work goes on after the deadline -- put 3 starts at 6
    and succeeds at 9, stop_data runs from 9 to 11; every put still has exactly one result.
    (This is what the code does: `_output_coro` swallows the cancellation of `stop_async`.) -/
example :
    let c : Cfg := ⟨.wait, 0, some ⟨99, 2, false, false⟩, 4⟩
    let ops := [Op.put 0 true false ⟨1, 3, false, false⟩, .put 1 true false ⟨2, 3, false, false⟩,
                .put 1 true true ⟨3, 3, false, false⟩, .stop 2 true false]
    (6, Ev.timeout) ∈ (final c ops).log ∧
    (6, Ev.canc ⟨1, ⟨2, 3, false, false⟩⟩) ∈ (final c ops).log ∧
    (6, Ev.start ⟨2, ⟨3, 3, false, false⟩⟩) ∈ (final c ops).log ∧
    (9, Ev.succ ⟨2, ⟨3, 3, false, false⟩⟩) ∈ (final c ops).log ∧
    (11, Ev.succ ⟨3, ⟨99, 2, false, false⟩⟩) ∈ (final c ops).log ∧
    (final c ops).output = 0 := by decide +kernel

end Edzed.OutputAsync

/-! ## Tie by translation

`tools/py2lean_oasync.py` regenerates `EdzedModel/Gen/TranslatedOutputAsync.lean` from the CURRENT source of
`OutputAsync._ctrl_cancel/_ctrl_wait/_ctrl_start/_output_coro/_output_coro_wrapper/_event_put/stop/stop_async`
and `utils.shield_cancel` on every run: each `await` is a primitive call, a `while True` loop is one iteration
function plus fuel.  The theorems below run these programs on primitives that are the operations of the model
(`EdzedProofs/OutputAsyncTie.lean`) and say that they compute the model's steps.  A semantic edit of one of
the methods changes the generated program and breaks the theorem about it. -/

namespace Edzed.TrTie
open Edzed.TrTie.OA Edzed.OutputAsync Edzed.OutputAsync.Shield Edzed.Gen.TrD Edzed.Gen.TrOA

/-- **`shield_cancel` as translated IS the model's `shieldCancel`**: for every script of what the successive
    `await asyncio.shield(task)` yield, the translated function re-awaits the shielded task after each
    cancellation, returns its value if there was none, re-raises the last cancellation when the task has
    finished, and lets a cancellation that finds the task done (and any other exception) propagate at once
    (`fuel` = any number above the number of awaits) -/
theorem translated_outputasync_shield_cancel_is_model {ε ν : Type} (script : List (Step ε ν)) (fuel : Nat)
    (h : script.length < fuel) :
    shieldOut ((shield_cancel (shieldP (ε := ε) (ν := ν)) fuel () ⟨script, false⟩).2)
      = shieldCancel script none := by
  have he : ∀ f : Unit → M (ShSt ε ν) (ε × Bool) (Option ν) Unit,
      M.bind ((shieldP (ε := ε) (ν := ν)).ensureFuture ()) f = f () := fun _ => rfl
  unfold shield_cancel
  rw [he]
  -- the statements after the loop, whatever their text: a result is returned, a kept cancellation re-raised
  generalize hk : (fun (rc : Option ν × Option (ε × Bool)) => (_ : M (ShSt ε ν) (ε × Bool) (Option ν) Unit)) = k
  refine shield_loop_model k ?_ script none none false fuel h
  intro v ce s
  subst hk
  cases ce <;> simp [M.bind, M.pure, M.ret, M.raise, M.tryFinally, shieldOut]

/-! ### `_ctrl_cancel`: one iteration of the control loop

The model's controller step `settle` is event-granular: it looks at the queue and at the current run.  The
code is await-granular: one iteration of `while True` takes an item, cancels and AWAITS the running task, then
drains the queue and starts the last item.  `W` below is whatever happens while the controller awaits -- it is
universally quantified; the only thing assumed about it is that the awaited task is over afterwards. -/

/-- nothing is running (no task yet, or the task is done): ONE ITERATION of `_ctrl_cancel` IS the model's
    `settle` -- the item taken from the queue and everything queued behind it are drained, each discarded
    item is reported through on_cancel with ITS OWN data, in order, the last one is started; a sentinel in
    the queue ends the drain with `stop = True` and the item before it still runs -/
theorem translated_outputasync_ctrl_cancel_idle_is_settle (c : Cfg) (W : State → State)
    (hm : c.mode = Mode.cancel) (s : State) (j : Job) (q : List Job) (task : Option Job) (data : Option Job)
    (fuel : Nat) (hr : s.runs = []) (hq : s.queue = j :: q) (hf : q.length < fuel) :
    ctrl_cancel_iter1 (ctrlP c W) [.onCancel] fuel () data false task s
      = (settle c s, .next (LoopCtl.next, (some (lastJob j q), s.stopped, some (lastJob j q)))) := by
  have htail := cancel_tail c W { s with queue := q } j fuel hf
  have hset := settle_requeue c hm { s with queue := q } j hr
  rw [show requeue j { s with queue := q } = s from queue_self hq] at hset
  rw [hset]
  unfold ctrl_cancel_iter1
  simp only [M.bind, Bool.not_false, if_true, ctrlP_get_cons c W s j q hq, Option.isNone_some, Bool.false_eq_true,
    if_false, M.pure]
  cases task with
  | none => simp only [M.bind, M.pure, htail, ctrlP_createTask]
  | some k =>
    have hd : (ctrlP c W).taskDone k { s with queue := q } = true := by simp [ctrlP, hr]
    simp only [M.bind, M.pure, M.get, hd, Bool.not_true, Bool.false_eq_true, if_false, htail, ctrlP_createTask]

/-- a task is active: ONE ITERATION of `_ctrl_cancel` is the model's `settle` (the running coroutine is
    cancelled -- only while it is in its coroutine phase, never by the sentinel --, the item taken stays
    "queued first"), then whatever happens while the controller awaits the task (`W`), then the model's
    `settle` again: drain with on_cancel for every discarded item, start the last -/
theorem translated_outputasync_ctrl_cancel_busy_is_settle_wait_settle (c : Cfg) (W : State → State)
    (hm : c.mode = Mode.cancel) (hW : ∀ x, (W x).runs = []) (s : State) (r : Run) (rest : List Run) (j : Job)
    (q : List Job) (data : Option Job) (fuel : Nat) (hr : s.runs = r :: rest) (hq : s.queue = j :: q)
    (hf : (W { settle c s with queue := q }).queue.length < fuel) :
    let s2 := W { settle c s with queue := q }
    ctrl_cancel_iter1 (ctrlP c W) [.onCancel] fuel () data false (some r.job) s
      = (settle c (requeue j s2),
         .next (LoopCtl.next, (some (lastJob j s2.queue), s2.stopped, some (lastJob j s2.queue)))) := by
  intro s2
  have hs2 : W { settle c s with queue := q } = s2 := rfl
  have hr2 : s2.runs = [] := hW _
  clear_value s2
  have hcj := cancelJob_is_settle c hm s r rest j q hr hq
  have htail := cancel_tail c W s2 j fuel (hs2 ▸ hf)
  have hd : (ctrlP c W).taskDone r.job { s with queue := q } = false := by simp [ctrlP, hr]
  unfold ctrl_cancel_iter1
  simp only [M.bind, Bool.not_false, if_true, ctrlP_get_cons c W s j q hq, Option.isNone_some, Bool.false_eq_true,
    if_false, M.pure, M.get, hd, Bool.not_false]
  have hc : (ctrlP c W).taskCancel r.job { s with queue := q } = (cancelJob c r.job { s with queue := q }, .next ()) := rfl
  have hw : ∀ x, (ctrlP c W).awaitTask r.job x = (W x, .next ()) := fun _ => rfl
  simp only [hc, hw, hcj, hs2]
  rw [settle_requeue c hm s2 j hr2]
  simp only [M.bind, M.pure, htail, ctrlP_createTask]

/-- the sentinel: it never cancels -- with a task still active the iteration awaits it and leaves the loop;
    nothing else happens -/
theorem translated_outputasync_ctrl_cancel_sentinel (c : Cfg) (W : State → State) (s : State)
    (task : Option Job) (data : Option Job) (fuel : Nat) (hq : s.queue = []) (hs : s.stopped = true) :
    ctrl_cancel_iter1 (ctrlP c W) [.onCancel] fuel () data false task s
      = ((match task with
          | some k => if (ctrlP c W).taskDone k s then s else W s
          | none => s),
         .next (LoopCtl.brk, (none, true, task))) := by
  unfold ctrl_cancel_iter1
  simp only [M.bind, Bool.not_false, if_true, ctrlP_get_sentinel c W s hq hs, Option.isNone_none, M.pure]
  cases task with
  | none => rfl
  | some k =>
    have hw : ∀ x, (ctrlP c W).awaitTask k x = (W x, .next ()) := fun _ => rfl
    cases hd : (ctrlP c W).taskDone k s <;> simp [M.bind, M.get, M.pure, hd, hw]

/-- after the sentinel has been seen in the drain (`stop = True`): the next iteration takes nothing from the
    queue, does not cancel the task it has just started, awaits it and leaves the loop -/
theorem translated_outputasync_ctrl_cancel_after_stop (c : Cfg) (W : State → State) (s : State)
    (k : Job) (data : Option Job) (fuel : Nat) (hd : (ctrlP c W).taskDone k s = false) :
    ctrl_cancel_iter1 (ctrlP c W) [.onCancel] fuel () data true (some k) s
      = (W s, .next (LoopCtl.brk, (data, true, some k))) := by
  have hw : ∀ x, (ctrlP c W).awaitTask k x = (W x, .next ()) := fun _ => rfl
  unfold ctrl_cancel_iter1
  simp [M.bind, M.get, M.pure, hd, hw]

/-- ONE ITERATION of `_ctrl_wait` with nothing running: the head of the queue is taken and its run is
    started -- the model's `settle` -- and the controller awaits the whole run (`W`) before it looks at the
    queue again -/
theorem translated_outputasync_ctrl_wait_iter_is_settle (c : Cfg) (W : State → State) (hm : c.mode = Mode.wait)
    (s : State) (j : Job) (q : List Job) (data : Option Job) (fuel : Nat)
    (hr : s.runs = []) (hq : s.queue = j :: q) :
    ctrl_wait_iter1 (ctrlP c W) [.onCancel] fuel data s = (W (settle c s), .next (LoopCtl.next, some j)) := by
  have hset : settle c s = startRun { s with queue := q } j := by
    unfold settle; simp only [hm, hr, hq]
  have hrw : (ctrlP c W).runWrapper (some j) { s with queue := q } = (W (startRun { s with queue := q } j), .next ()) := rfl
  unfold ctrl_wait_iter1
  simp [M.bind, ctrlP_get_cons c W s j q hq, hrw, M.pure, hset]

/-- the sentinel ends `_ctrl_wait`; nothing else happens -/
theorem translated_outputasync_ctrl_wait_sentinel (c : Cfg) (W : State → State) (s : State) (data : Option Job)
    (fuel : Nat) (hq : s.queue = []) (hs : s.stopped = true) :
    ctrl_wait_iter1 (ctrlP c W) [.onCancel] fuel data s = (s, .next (LoopCtl.brk, none)) := by
  unfold ctrl_wait_iter1
  simp [M.bind, ctrlP_get_sentinel c W s hq hs, M.pure]

/-- `_ctrl_start` on a stopped block: every queued item starts its own run at once, in order -- the model's
    `startAll`, i.e. its `settle` up to `stop_async`'s part --, then the controller awaits all of them (`W`) -/
theorem translated_outputasync_ctrl_start_is_startAll (c : Cfg) (W : State → State) (hm : c.mode = Mode.start)
    (s : State) (fuel : Nat) (hs : s.stopped = true) (hf : s.queue.length < fuel) :
    let s1 := startAll { s with queue := [] } s.queue
    ctrl_start (ctrlP c W) [.onCancel] fuel s = ((if s1.runs.isEmpty then s1 else W s1), .next ()) ∧
    settle c s = startStopData s1 := by
  intro s1
  refine ⟨?_, by unfold settle; simp only [hm]; rfl⟩
  have ht : ∀ x, (ctrlP c W).tasksNonEmpty x = !x.runs.isEmpty := fun _ => rfl
  have hg : ∀ x, (ctrlP c W).gatherTasks x = (W x, .next ()) := fun _ => rfl
  have hs1 : startAll { s with queue := [] } s.queue = s1 := rfl
  clear_value s1
  unfold ctrl_start
  simp only [M.bind, start_loop c W s s.queue none fuel rfl hs hf, hs1, M.get, ht]
  cases h : s1.runs.isEmpty <;> simp [M.bind, M.pure, hg, h]

/-- `_event_put` IS the model's acceptance of a put (before `stop()`: queued; after it: behind the sentinel) -/
theorem translated_outputasync_event_put_is_accept (c : Cfg) (W : State → State) (s : State) (x : Item) :
    event_put (stopP c W) x s = ((if s.stopped then acceptLate s x else accept s x), .next ()) := by
  simp [event_put, stopP, M.bind, M.modify, M.pure]

/-- `stop()` IS the model's `doStop`: stop_data is queued as an ordinary item BEFORE the sentinel in wait and
    cancel mode; in start mode `stop()` does not touch stop_data (the model registers it for `stop_async`,
    see `translated_outputasync_stop_async_is_model`): there the code does what `doStop` does for a block
    without stop_data -/
theorem translated_outputasync_stop_is_doStop (c : Cfg) (W : State → State) (s : State)
    (hns : s.stopped = false) :
    (stop (stopP c W) s).1 = doStop (if c.mode = Mode.start then { c with stopData := none } else c) s := by
  unfold stop doStop
  cases hd : c.stopData with
  | none =>
    by_cases hm : c.mode = Mode.start <;>
      simp [stopP, hd, hm, hns, M.bind, M.modify, M.pure, markStopped]
  | some d =>
    by_cases hm : c.mode = Mode.start
    · simp [stopP, hd, hm, hns, M.bind, M.modify, M.pure, markStopped]
    · simp [stopP, hd, hm, hns, M.bind, M.modify, M.pure, markStopped, accept, emit]

/-- `stop_async` IS the model's end of the stop: it awaits the control task (`W`; a cancellation of this
    await is swallowed) and then, in start mode only, runs stop_data -- the model's `startStopData` -/
theorem translated_outputasync_stop_async_is_model (c : Cfg) (W : State → State) (s : State)
    (hst : (W s).stopped = true) (hr : (W s).runs = [])
    (hsd : c.stopData = none → (W s).sdPending = none) :
    (stop_async (stopP c W) s).1 = if c.mode = Mode.start then startStopData (W s) else W s := by
  unfold stop_async startStopData
  by_cases hm : c.mode = Mode.start
  · cases hd : c.stopData with
    | none => simp [stopP, hd, hm, M.bind, M.modify, M.pure, M.tryExcept, hsd hd]
    | some d =>
      cases hp : (W s).sdPending <;>
        simp [stopP, hd, hm, M.bind, M.modify, M.pure, M.tryExcept, hp, hst, hr]
  · cases hd : c.stopData <;> simp [stopP, hd, hm, M.bind, M.modify, M.pure, M.tryExcept]

/-- the user's coroutine comes to its end: `_output_coro` logs what the model's `coroEnd` logs (`afterCoro`:
    the end of the coroutine, then success for a returning and error for a raising script, with the job's
    own data), then sleeps the (shielded) guard time iff it is positive -/
theorem translated_outputasync_output_coro_end_is_model (c : Cfg) (s : State) (j : Job) (t : Nat) :
    output_coro (runP0 c (.ends t)) [.onCancel] [.onError] [.onSuccess] j s
      = (guardPart c (afterCoro (emit s (.start j)) t ⟨j, true, t⟩), .next ()) :=
  output_coro_model c (.ends t) s j

/-- a cancellation is delivered inside the user's coroutine: `_output_coro` reports it through on_cancel
    with the job's own data -- the two log entries of the model's `cancelCur` / `expire` -- and still sleeps
    the guard time -/
theorem translated_outputasync_output_coro_cancel_is_model (c : Cfg) (s : State) (j : Job) (t : Nat) :
    output_coro (runP0 c (.cancelledAt t)) [.onCancel] [.onError] [.onSuccess] j s
      = (guardPart c (emit (emit { emit s (.start j) with now := max s.now t } (.cancelled j)) (.canc j)), .next ()) :=
  output_coro_model c (.cancelledAt t) s j

/-- the output is counted down IN EVERY CASE (`try … finally`): whatever `_output_coro` does -- returns,
    raises, is cancelled --, the wrapper counts the output up before and down after it, and the outcome
    of `_output_coro` is the outcome of the wrapper -/
theorem translated_outputasync_wrapper_counts_down_always (c : Cfg) (oc : Outcome)
    (body : Job → M State Exc Unit Unit) (j : Job) (s : State) :
    output_coro_wrapper (runPwith c oc body) [.onCancel] [.onError] [.onSuccess] j s
      = (addOut (-1) (body j (addOut 1 s)).1,
         match (body j (addOut 1 s)).2 with
         | .next _ => .next ()
         | .ret r => .ret r
         | .raise e => .raise e
         | .diverged => .diverged) := by
  have ha : ∀ d x, (runPwith c oc body).addOutput d x = (addOut d x, .next ()) := fun _ _ => rfl
  have hb : (runPwith c oc body).runCoro = body := rfl
  unfold output_coro_wrapper
  simp only [M.bind, M.tryFinally, M.pure, ha, hb]
  cases hbody : body j (addOut 1 s) with
  | mk s1 o => cases o <;> rfl

/-- the whole run: `_output_coro_wrapper` counts the output up, runs `_output_coro`, and counts it down in
    every case -- the model's `startRun`, `afterCoro` (+ guard time), `countDown` (the model additionally
    keeps the run in `runs` while it is active) -/
theorem translated_outputasync_wrapper_is_model (c : Cfg) (s : State) (j : Job) (t : Nat) :
    (output_coro_wrapper (runP c (.ends t)) [.onCancel] [.onError] [.onSuccess] j s).1
      = { countDown (guardPart c (afterCoro (startRun s j) t ⟨j, true, t⟩)) with runs := s.runs } := by
  have e : runP c (.ends t)
      = runPwith c (.ends t) (output_coro (runP0 c (.ends t)) [.onCancel] [.onError] [.onSuccess]) := rfl
  rw [e, translated_outputasync_wrapper_counts_down_always,
    translated_outputasync_output_coro_end_is_model, addOut_neg_one, addOut_one]
  unfold guardPart
  split <;> rfl

end Edzed.TrTie

/-! ## Tie by translation, second part: constructors, `start`, `OutputFunc`

`Gen/TranslatedOutputBlocks.lean` is regenerated from `_check_arg`, `OutputAsync.__init__ / start /
init_regular`, `OutputFunc.__init__ / _event_put / init_regular / stop` (incl. the keyword-only defaults of
the two signatures) and `InExecutor.__call__`; the model is `EdzedModel/OutputBlocks.lean`. -/

namespace Edzed.TrTie
open Edzed.TrTie.OB Edzed.OutputBlocks Edzed.Gen.TrD Edzed.Gen.TrOB

/-- `_check_arg` IS the model's `ArgSpec.ok`: a str, a non-sequence and a sequence with a non-str item raise
    TypeError, everything else passes; nothing is changed -/
theorem translated_outputasync_check_arg_is_model (st : Option Int) (name : String) (a : ArgSpec) (s : Attrs) :
    check_arg (initP0 st) name a s = if a.ok then (s, .next ()) else (s, .raise .argsNotStrings) :=
  check_arg_model st name a s

/-- the keyword-only parameters of `OutputAsync(…)` and their defaults, from the current signature:
    `coro`, `mode`, `on_error` are required; f_args defaults to `('value',)`, f_kwargs to `()`, everything
    else to None -/
theorem translated_outputasync_init_defaults :
    oasync_init_defaults =
      [("coro", "<required>"), ("mode", "<required>"), ("f_args", "('value',)"), ("f_kwargs", "()"),
       ("guard_time", "None"), ("on_success", "None"), ("on_cancel", "None"), ("on_error", "<required>"),
       ("stop_data", "None")] := rfl

/-- … and of `OutputFunc(…)` -/
theorem translated_outputfunc_init_defaults :
    ofunc_init_defaults =
      [("func", "<required>"), ("f_args", "('value',)"), ("f_kwargs", "()"), ("on_success", "None"),
       ("on_error", "<required>"), ("stop_data", "None")] := rfl

/-- **`OutputAsync.__init__` as translated IS the model's `constructAsync`**, for all argument values:
    what is refused, with which exception and in which order of the checks, and what is stored -/
theorem translated_outputasync_init_is_model (a : AsyncArgs) :
    asyncResult (oasync_init (initP a.stopTimeout) a.mode a.fArgs a.fKwargs (guardArg a.guard)
        a.onSuccess a.onCancel a.onError a.stopData () () {})
      = constructAsync a :=
  oasync_init_model a

/-- **`OutputFunc.__init__` as translated IS the model's `constructFunc`** -/
theorem translated_outputfunc_init_is_model (a : FuncArgs) :
    funcResult (ofunc_init (initP (if a.superOk then some 0 else none)) a.fArgs a.fKwargs a.onSuccess a.onError
        a.stopData () () {})
      = constructFunc a :=
  ofunc_init_model a

/-- `OutputAsync.start`: `super().start()`, then the queue is created, then -- the queue exists -- the control
    task of the selected mode; `init_regular` sets the output to 0 (no run is active) -/
theorem translated_outputasync_start_is_model (st : Option Int) (s : Attrs) :
    oasync_start (initP st) s
      = ({ s with started := true, queue := true, ctrlTask := true,
                  startLog := s.startLog ++ ["super().start", "queue", "control task"] }, .next ()) ∧
    oasync_init_regular (initP st) s = ({ s with output := some 0 }, .next ()) := by
  constructor
  · simp [oasync_start, initP, initP0, M.bind, M.modify, M.pure]
  · rfl

/-- `OutputFunc.init_regular`: the output of an OutputFunc is False -/
theorem translated_outputfunc_init_regular_is_model (cfg : FuncCfg) (f : Func) (sd) (log : List FEv) :
    (ofunc_init_regular (funcP cfg f sd) cfg.fArgs cfg.fKwargs (List.range cfg.nError) (List.range cfg.nSuccess) log).1
      = initRegular log := rfl

/-- **`OutputFunc._event_put` as translated IS the model's `eventPut`**: the items named by f_args / f_kwargs are
    taken from the event data (a missing key raises KeyError before anything is called), the function is
    called with exactly them, an exception is reported to every on_error destination and returned as
    ('error', exc), a result is reported to every on_success destination and returned as ('result', value) -/
theorem translated_outputfunc_event_put_is_model (cfg : FuncCfg) (f : Func) (sd) (data : Data) (log : List FEv) :
    let r := ofunc_event_put (funcP cfg f sd) cfg.fArgs cfg.fKwargs (List.range cfg.nError)
      (List.range cfg.nSuccess) data log
    (r.1, funcOut r.2) = ((eventPut cfg f log data).1, some (eventPut cfg f log data).2) := by
  intro r
  simp only [r, ofunc_event_put, eventPut, M.bind, getItems_model, getKwItems_model]
  cases getAll data cfg.fArgs with
  | error k => simp [funcOut]
  | ok args =>
    cases getAllKw data cfg.fKwargs with
    | error k => simp [funcOut]
    | ok kwargs =>
      have hc : (funcP cfg f sd).callFunc args kwargs log =
          match f args kwargs with
          | .ok v => (log ++ [.call args kwargs], .next v)
          | .error e => (log ++ [.call args kwargs], .raise (.user e)) := rfl
      have hx : ∀ e, (funcP cfg f sd).excIs e "Exception" = true := fun _ => beq_self_eq_true _
      simp only [M.tryExcept, M.bind, hc]
      cases f args kwargs with
      | error e => simp [hx, error_loop, M.bind, M.ret, M.pure, funcOut]
      | ok v => simp [success_loop, M.bind, M.ret, M.pure, funcOut]

/-- **`OutputFunc.stop` IS the model's `stop`**: stop_data, if present, is delivered through `_event_put` -- the
    last call of the function -- and only then `super().stop()` runs; a KeyError of that delivery propagates
    (then `super().stop()` is not reached); without stop_data only `super().stop()` happens -/
theorem translated_outputfunc_stop_is_model (cfg : FuncCfg) (f : Func) (log : List FEv) :
    let r := ofunc_stop (funcP cfg f (sdRunModel cfg f)) cfg.fArgs cfg.fKwargs (List.range cfg.nError)
      (List.range cfg.nSuccess) log
    r.1 = (stop cfg f log).1 ∧
    (match r.2 with | .raise (.keyError k) => some k | _ => none) = (stop cfg f log).2 := by
  intro r
  have hs : ∀ l, (funcP cfg f (sdRunModel cfg f)).superStop l = (l ++ [.superStop], .next ()) := fun _ => rfl
  have he : (funcP cfg f (sdRunModel cfg f)).eventPutStopData = sdRunModel cfg f := rfl
  have hh : (funcP cfg f (sdRunModel cfg f)).hasStopData = cfg.stopData.isSome := rfl
  simp only [r, ofunc_stop, stop, M.bind, hh, he]
  cases hd : cfg.stopData with
  | none => simp [hs, M.pure]
  | some d =>
    have hsd : ∀ l, sdRunModel cfg f l =
        match eventPut cfg f l d with
        | (l', .keyError k) => (l', .raise (.keyError k))
        | (l', .result v) => (l', .next ("result", .inr v))
        | (l', .error e) => (l', .next ("error", .inl (.user e))) := by
      intro l; unfold sdRunModel; rw [hd]; rfl
    simp only [Option.isSome_some, Bool.not_true, if_true, Bool.false_eq_true, if_false, hsd, M.bind, M.pure]
    cases hr : eventPut cfg f log d with
    | mk l res => cases res <;> simp [hs, M.pure]

/-- **`InExecutor.__call__` IS the model's `inExecutorCall`**: a pool is entered, the function runs in it with
    exactly the given positional and keyword arguments (through `functools.partial` iff there are keyword
    arguments), the pool is left on every outcome, the result is returned and an exception propagates -/
theorem translated_outputasync_inexecutor_call_is_model (f : Func) (args : List Val) (kwargs : Data) :
    let r := inexecutor_call (execP f) args kwargs []
    r.1 = (inExecutorCall f args kwargs).1 ∧
    (match r.2 with | .ret v => some (Except.ok v) | .raise e => some (Except.error e) | _ => none)
      = some (inExecutorCall f args kwargs).2 := by
  intro r
  simp only [r, inexecutor_call, inExecutorCall, M.bind, M.tryFinally, execP, M.modify, M.ret]
  cases kwargs with
  | nil => cases f args [] <;> simp [M.bind, M.ret]
  | cons p ps => cases f args (p :: ps) <;> simp [M.bind, M.ret]

/-! ### what follows for the constructors and for OutputFunc (stated on the model the programs were proved equal to) -/

/-- the mode argument: exactly 'cancel', 'wait', 'start' and their first letters are accepted -/
theorem outputasync_mode_values (m : String) :
    (modeOf m).isSome = (["c", "cancel", "w", "wait", "s", "start"].contains m) := by
  have hl : ["c", "cancel", "w", "wait", "s", "start"].contains m
      = ((m == "c" || m == "cancel") || (m == "w" || m == "wait") || (m == "s" || m == "start")) := by
    simp only [List.contains_cons, List.contains_nil, Bool.or_false, Bool.or_assoc]
  rw [hl]
  rcases mode_cases m with ⟨h1, h2, h3, hm⟩ | ⟨h1, hm⟩ | ⟨h1, h2, hm⟩ | ⟨h1, h2, h3, hm⟩ <;> simp [*]

/-- whatever is constructed: f_args is a sequence of strs, guard_time is 0 when None was given, never exceeds
    stop_timeout, and the control task is the one the mode names -/
theorem outputasync_constructed_is_sane (a : AsyncArgs) (b : AsyncBlk) (h : constructAsync a = .ok b) :
    b.fArgs.ok = true ∧ (a.guard = .none → b.guard = 0) ∧ b.guard ≤ b.stopTimeout ∧ modeOf a.mode = some b.ctrl := by
  obtain ⟨mode, fArgs, fKwargs, guard, onS, onC, onE, sd, st⟩ := a
  unfold constructAsync at h
  -- the checks in the order of the constructor; a failed one contradicts `h`
  generalize hok : fArgs.ok = ok at h
  cases ok with
  | false => cases h
  | true =>
  generalize onS.count = cS at h
  cases cS with
  | error x => cases h
  | ok ns =>
  generalize onC.count = cC at h
  cases cC with
  | error x => cases h
  | ok nc =>
  generalize onE.count = cE at h
  cases cE with
  | error x => cases h
  | ok ne =>
  generalize hm : modeOf mode = om at h
  cases guard with
  | bad => cases h
  | none | period us =>
    all_goals
      cases om with
      | none => cases h
      | some m =>
      cases st with
      | none => cases h
      | some t =>
        simp only [bind, Except.bind, pure, Except.pure, Bool.not_true, Bool.false_eq_true, if_false] at h
        split at h
        · cases h
        · next hg =>
          cases h
          exact ⟨hok, by simp, Int.not_lt.mp hg, rfl⟩

/-- a str, a non-sequence or a sequence with a non-str item as f_args is refused by both constructors
    (TypeError of `_check_arg`), before anything else is looked at -/
theorem outputblocks_refuse_bad_f_args (a : AsyncArgs) (fa : FuncArgs) :
    (a.fArgs.ok = false → constructAsync a = .error .argsNotStrings) ∧
    (fa.fArgs.ok = false → constructFunc fa = .error .argsNotStrings) := by
  constructor
  · intro h; unfold constructAsync; simp [h, bind, Except.bind, throw, throwThe, MonadExceptOf.throw]
  · intro h; unfold constructFunc; simp [h, bind, Except.bind, throw, throwThe, MonadExceptOf.throw]

/-- `OutputFunc` checks f_kwargs as well; `OutputAsync` does not (its second `_check_arg` call passes f_args
    again -- an observation about the code, outside the property): the same bad f_kwargs … -/
theorem outputfunc_checks_f_kwargs (fa : FuncArgs) (h1 : fa.fArgs.ok = true) (h2 : fa.fKwargs.ok = false) :
    constructFunc fa = .error .argsNotStrings := by
  unfold constructFunc; simp [h1, h2, bind, Except.bind, pure, Except.pure, throw, throwThe, MonadExceptOf.throw]

/-- … is accepted by `OutputAsync(…)` -/
example : ∃ b, constructAsync { mode := "w", fKwargs := .notSeq, onError := .events 1, stopTimeout := some 10 } = .ok b ∧
    b.fKwargs = .notSeq := ⟨_, rfl, rfl⟩

/-- with all named items present the function is called exactly once, with the items of f_args in order as
    positional and those of f_kwargs as keyword arguments -- with the defaults: the single item 'value' -/
theorem outputfunc_passes_the_named_items (cfg : FuncCfg) (f : Func) (log : List FEv) (data : Data)
    (args : List Val) (kwargs : Data) (ha : getAll data cfg.fArgs = .ok args) (hk : getAllKw data cfg.fKwargs = .ok kwargs) :
    ∃ tail, (eventPut cfg f log data).1 = log ++ [.call args kwargs] ++ tail ∧ ∀ e ∈ tail, ∀ a k, e ≠ .call a k := by
  unfold eventPut
  simp only [ha, hk]
  cases f args kwargs with
  | error e => exact ⟨_, rfl, by intro x hx; simp at hx; obtain ⟨d, _, rfl⟩ := hx; simp⟩
  | ok v => exact ⟨_, rfl, by intro x hx; simp at hx; obtain ⟨d, _, rfl⟩ := hx; simp⟩

/-- with the defaults `f_args=('value',)`, `f_kwargs=()` the hypotheses of `outputfunc_passes_the_named_items`
    hold for every event data with a 'value' item -/
theorem outputfunc_default_passes_value (v : Val) (data : Data) (h : data.get? "value" = some v) :
    getAll data ["value"] = .ok [v] ∧ getAllKw data [] = .ok [] := by
  simp [getAll, getAllKw, h]

/-- an item named in f_args is missing: KeyError for the sender, the function is not called, no event is sent -/
theorem outputfunc_missing_item_calls_nothing (cfg : FuncCfg) (f : Func) (log : List FEv) (data : Data) (k : String)
    (h : getAll data cfg.fArgs = .error k) : eventPut cfg f log data = (log, .keyError k) := by
  unfold eventPut; simp [h]

/-- an exception of the function is REPORTED, not raised: every on_error destination gets it (and no on_success
    event is sent), the event returns ('error', exc); whether the simulation goes on is up to the on_error
    destinations (`Event.abort()` aborts) -/
theorem outputfunc_exception_is_reported (cfg : FuncCfg) (f : Func) (log : List FEv) (data : Data)
    (args : List Val) (kwargs : Data) (e : Nat)
    (ha : getAll data cfg.fArgs = .ok args) (hk : getAllKw data cfg.fKwargs = .ok kwargs) (hf : f args kwargs = .error e) :
    eventPut cfg f log data
      = (log ++ [.call args kwargs] ++ (List.range cfg.nError).map (fun d => .error d e), .error e) := by
  unfold eventPut; simp [ha, hk, hf]

/-- a result goes to every on_success destination and is returned as ('result', value) -/
theorem outputfunc_result_is_reported (cfg : FuncCfg) (f : Func) (log : List FEv) (data : Data)
    (args : List Val) (kwargs : Data) (v : Val)
    (ha : getAll data cfg.fArgs = .ok args) (hk : getAllKw data cfg.fKwargs = .ok kwargs) (hf : f args kwargs = .ok v) :
    eventPut cfg f log data
      = (log ++ [.call args kwargs] ++ (List.range cfg.nSuccess).map (fun d => .success d v), .result v) := by
  unfold eventPut; simp [ha, hk, hf]

/-- stop_data is delivered by `stop()` as the LAST call of the function: what `stop()` logs is what the event
    with the stop data logs, followed by `super().stop()` and nothing else -/
theorem outputfunc_stop_data_is_last_call (cfg : FuncCfg) (f : Func) (log : List FEv) (d : Data)
    (hd : cfg.stopData = some d) (hk : ∀ k, (eventPut cfg f log d).2 ≠ .keyError k) :
    (stop cfg f log).1 = (eventPut cfg f log d).1 ++ [.superStop] := by
  unfold stop
  rw [hd]
  show (match eventPut cfg f log d with
        | (log', FRes.keyError k) => (log', some k)
        | (log', _) => (log' ++ [FEv.superStop], none)).1 = _
  cases hr : eventPut cfg f log d with
  | mk l res =>
    cases res with
    | keyError k => rw [hr] at hk; exact absurd rfl (hk k)
    | _ => rfl

/-- non-vacuity: an OutputFunc with the default f_args, two on_error destinations and stop_data -/
example :
    let cfg : FuncCfg := ⟨["value"], [], 1, 2, some [("value", Val.int 7)]⟩
    let f : Func := fun args _ => if args == [Val.int 7] then .ok (Val.int 70) else .error 5
    eventPut cfg f [] [("value", Val.int 3), ("source", Val.str "x")]
      = ([.call [Val.int 3] [], .error 0 5, .error 1 5], .error 5) ∧
    (stop cfg f []).1 = [.call [Val.int 7] [], .success 0 (Val.int 70), .superStop] := by
  decide +kernel

end Edzed.TrTie

