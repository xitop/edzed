/-
C18 — Repeat re-sends the latest event at the configured pace and count.

Model: EdzedModel/Repeat.lean (mirrors `Repeat._event`, `Repeat._maintask`, `AddonMainTask.stop_async`
with the repairs patches/C18-repeat-chain.diff and patches/C18-stale-resend.diff applied; the
unrepaired code violates `newer_restarts_and_supersedes` and `chain_of_two`, which the oracle of
harness/props/c18.py shows with a replay).  Time is the integer-µs virtual clock.
All statements hold for every configuration, every state, every arrival time / placement /
data and every operation sequence (no bound on lengths).
-/
import EdzedModel.Repeat
import EdzedModel.Gen.TranslatedRepeat
import EdzedModel.RepeatCtor
import EdzedProofs.Repeat
import EdzedProofs.RepeatCtor
import EdzedProofs.DataLemmas
import EdzedProofs.PyBool

namespace Edzed.Repeat

/-- An event of the configured type arriving at `t` is forwarded in that very step, stamped `t`,
    with `repeat=0` (whatever was going on before, stopped or not): it is the last thing offered
    to the destination in the step, after the timeouts preceding the arrival, whatever the answer;
    with an accepting destination (`s.resp = []`) it is the last thing sent in the step and the
    output becomes 0. -/
theorem forward_immediately_repeat0 (c : Cfg) (s : State) (t : Nat) (pl : Placement) (data : Data) :
    (event c s t pl c.etype data).2 =
        (advance c s (pl.horizon t)).2 ++
          [⟨t, c.etype, 0, outData c (withOrig data) 0, (advance c s (pl.horizon t)).1.answer⟩]
    ∧ (s.resp = [] →
        (event c s t pl c.etype data).2 =
          (advance c s (pl.horizon t)).2 ++ [⟨t, c.etype, 0, outData c (withOrig data) 0, .ok⟩]
        ∧ (event c s t pl c.etype data).1.out = 0) := by
  refine ⟨?_, fun h => ?_⟩
  · simp only [event, arrive_same]
  · rw [event_accepting c s t pl data h]
    exact ⟨rfl, rfl⟩

/-- such an `n` exists for every `t ≥ t0` (the schedule theorem below is never vacuous) -/
theorem dueBy_exists (c : Cfg) (hI : 0 < c.interval) (t0 t : Nat) (h : t0 ≤ t) : ∃ n, DueBy c t0 t n := by
  have h1 : (t - t0) / c.interval * c.interval ≤ t - t0 := Nat.div_mul_le_self _ _
  have h2 : t - t0 < c.interval * ((t - t0) / c.interval + 1) := Nat.lt_mul_div_succ _ hI
  rw [Nat.mul_comm] at h2
  unfold DueBy
  cases hc : c.count with
  | none =>
    refine ⟨(t - t0) / c.interval, ?_, ?_, ?_⟩
    · intro m e; cases e
    · omega
    · exact Or.inr (by omega)
  | some m =>
    by_cases hm : m ≤ (t - t0) / c.interval
    · refine ⟨m, ?_, ?_, Or.inl rfl⟩
      · intro m' e; cases e; exact Nat.le_refl _
      · have : m * c.interval ≤ (t - t0) / c.interval * c.interval := Nat.mul_le_mul_right _ hm
        omega
    · refine ⟨(t - t0) / c.interval, ?_, by omega, Or.inr (by omega)⟩
      intro m' e; cases e; omega

/-- After an event arrived at `t0` (block not stopped), letting time pass until `t` sends exactly
    the repetitions `k = 1 … n`, the `k`-th at `t0 + k·interval` with `repeat = k` and the data of
    that event, where `n` is the number due by `t` – limited by `count`; the output then shows `n`. -/
theorem repetition_schedule (c : Cfg) (hI : 0 < c.interval) (s : State) (hs : s.stopped = false)
    (hacc : s.resp = [])
    (t0 : Nat) (pl : Placement) (data : Data) (t n : Nat) (hn : DueBy c t0 t n) :
    (advance c (event c s t0 pl c.etype data).1 t).2 =
        (List.range n).map (fun k =>
          ⟨t0 + (k + 1) * c.interval, c.etype, k + 1, outData c (withOrig data) (k + 1), .ok⟩)
      ∧ (advance c (event c s t0 pl c.etype data).1 t).1.out = n := by
  rw [event_waiting c s t0 pl data hacc hs, advance_waiting c hI _ t0 t n hn]
  exact ⟨rfl, rfl⟩

/-- A newer event restarts the block and supersedes the older one: (a) the state after the arrival
    is the same whatever was being repeated before, (b) hence every continuation behaves as if the
    older events had never been there – nothing of them is sent any more –, and (c) what the step
    itself still sent of older events precedes the forward and is stamped no later than the
    placement's horizon: strictly before `t` for an arrival before / in the loop iteration of a
    timeout due at `t` (`B`, `T`: the explicit same-iteration rule), at most `t` for `A`.
    (`0 < t`: the horizon of `B`/`T` is `t - 1` in natural numbers, so at `t = 0` it is `0` as for `A`.) -/
theorem newer_restarts_and_supersedes (c : Cfg) (s s' : State) (hst : s.stopped = s'.stopped)
    (hacc : s.resp = []) (hacc' : s'.resp = []) (t : Nat) (pl : Placement) (data : Data) :
    (event c s t pl c.etype data).1 = (event c s' t pl c.etype data).1
    ∧ (∀ ops, run c (event c s t pl c.etype data).1 ops = run c (event c s' t pl c.etype data).1 ops)
    ∧ (∀ x ∈ (event c s t pl c.etype data).2.dropLast,
        x.t ≤ t ∧ (pl ≠ .A → 0 < t → x.t < t)) := by
  have h1 : (event c s t pl c.etype data).1 = (event c s' t pl c.etype data).1 := by
    rw [event_accepting _ _ _ _ _ hacc, event_accepting _ _ _ _ _ hacc', hst]
  refine ⟨h1, fun ops => by rw [h1], ?_⟩
  intro x hx
  simp only [event_accepting _ _ _ _ _ hacc, List.dropLast_concat] at hx
  have := (advanceFuel_sent c (pl.horizon t) _ s x hx).1
  exact ⟨Nat.le_trans this (horizon_le pl t), fun h ht => Nat.lt_of_le_of_lt this (horizon_lt h ht)⟩

/-- Events of other types are ignored: the step is just the passing of time. -/
theorem other_types_ignored (c : Cfg) (s : State) (t : Nat) (pl : Placement) (etype : String)
    (data : Data) (h : etype ≠ c.etype) :
    event c s t pl etype data = advance c s (pl.horizon t) ∧ arrive c s t etype data = (s, []) := by
  simp [event, arrive_other c _ t etype data h]

/-- The items of an event sent for received data `d` with repeat number `rep`: `source` names the
    Repeat block, `orig_source` holds the received `source` (None when there was none), `repeat`
    is the number (replacing a `repeat` item of the received event), every other item is kept. -/
theorem data_preserved_source_rewritten (c : Cfg) (d : Data) (rep : Nat) :
    (outData c (withOrig d) rep).get? "source" = some (Val.str c.name)
    ∧ (outData c (withOrig d) rep).get? "orig_source" = some ((d.get? "source").getD Val.none)
    ∧ (outData c (withOrig d) rep).get? "repeat" = some (Val.int rep)
    ∧ ∀ k, k ≠ "source" → k ≠ "orig_source" → k ≠ "repeat" →
        (outData c (withOrig d) rep).get? k = d.get? k := by
  unfold outData withOrig
  refine ⟨Data.get?_set_same .., ?_, ?_, fun k h1 h2 h3 => ?_⟩
  · rw [Data.get?_set_other _ _ _ _ (by decide), Data.get?_set_other _ _ _ _ (by decide), Data.get?_set_same]
  · rw [Data.get?_set_other _ _ _ _ (by decide), Data.get?_set_same]
  · rw [Data.get?_set_other _ _ _ _ h1, Data.get?_set_other _ _ _ _ h3, Data.get?_set_other _ _ _ _ h2]

/-- … and every event a block ever sends (from its initial state, any operation sequence) has
    that shape for the data `d` of one of the received events, with the configured event type. -/
theorem every_send_is_a_received_event (c : Cfg) (answers : List Resp) (ops : List Op) :
    ∀ x ∈ (run c { resp := answers } ops).2,
      x.etype = c.etype ∧ ∃ d ∈ eventData ops, x.data = outData c (withOrig d) x.rep :=
  run_shape c ops { resp := answers } fun _ hp => nomatch hp

/-- The output equals the repeat number of the last event sent (the previous output if nothing
    was sent), after every operation sequence from every state; the second part is the case of the
    initial state, whose output is 0. -/
theorem output_is_repeat (c : Cfg) (s : State) (ops : List Op) :
    (run c s ops).1.out = ((run c s ops).2.getLast?.map (·.rep)).getD s.out
    ∧ (run c {} ops).1.out = ((run c {} ops).2.getLast?.map (·.rep)).getD 0 := by
  constructor
  · rw [run_out, lastRep_eq_getLast]
  · rw [run_out, lastRep_eq_getLast]

/-- After the stop nothing is re-sent: time alone produces nothing, and whatever operation
    sequence follows, every event sent is the immediate forward (`repeat=0`) of an event that
    arrived at that instant. -/
theorem nothing_after_stop (c : Cfg) (s : State) (hacc : s.resp = []) :
    (∀ t, advance c (stop s) t = (stop s, []))
    ∧ ∀ ops, ∀ x ∈ (run c (stop s) ops).2,
        x.rep = 0 ∧ ∃ pl d, Op.event x.t pl c.etype d ∈ ops :=
  ⟨fun t => advance_none c _ t rfl, fun ops => run_stopped c ops (stop s) ⟨rfl, rfl, hacc⟩⟩

/-- A Repeat feeding a Repeat (same event type): an event arriving at the first block at `t`
    reaches the destination in the same step, stamped `t`, with `repeat=0`; it names the second
    block as `source` and the first one as `orig_source`, the `repeat` item written by the first
    block is replaced (the unrepaired code raises TypeError here), all other items are kept.
    More generally, whatever the first block sends – including its repetitions `repeat=k` – is
    forwarded by the second block at the same instant with `repeat=0`. -/
theorem chain_of_two (c1 c2 : Cfg) (hty : c2.etype = c1.etype) (ch : Chain) (t : Nat) (pl : Placement)
    (data : Data) (flags : List Bool) (r : Chain × List Sent) (hacc : ch.s1.resp = [])
    (hr : Chain.event c1 c2 ch t pl c1.etype data flags = some r) :
    (∃ a, (⟨t, c2.etype, 0, outData c2 (withOrig (outData c1 (withOrig data) 0)) 0, a⟩ : Sent) ∈ r.2)
    ∧ r.1.s1.out = 0
    ∧ (∀ x ∈ (event c1 ch.s1 t pl c1.etype data).2,
        ∃ a, (⟨x.t, c2.etype, 0, outData c2 (withOrig x.data) 0, a⟩ : Sent) ∈ r.2)
    ∧ ∀ k j, (outData c2 (withOrig (outData c1 (withOrig data) k)) j).get? "repeat" = some (Val.int j)
        ∧ (outData c2 (withOrig (outData c1 (withOrig data) k)) j).get? "source" = some (Val.str c2.name)
        ∧ (outData c2 (withOrig (outData c1 (withOrig data) k)) j).get? "orig_source" = some (Val.str c1.name)
        ∧ ∀ key, key ≠ "source" → key ≠ "orig_source" → key ≠ "repeat" →
            (outData c2 (withOrig (outData c1 (withOrig data) k)) j).get? key = data.get? key := by
  simp only [Chain.event, Chain.finish] at hr
  split at hr
  · next s2' ys hfeed =>
    cases hr
    have hall : ∀ x ∈ (event c1 ch.s1 t pl c1.etype data).2,
        ∃ a, (⟨x.t, c2.etype, 0, outData c2 (withOrig x.data) 0, a⟩ : Sent) ∈ ys ++ (advance c2 s2' (pl.horizon t)).2 :=
      fun x hx =>
        (feed_forwards c2 _ _ _ _ _ hfeed x hx (hty ▸ event_sent_etype c1 _ t pl _ data x hx)).imp
          fun _ ha => List.mem_append_left _ ha
    obtain ⟨a', hm⟩ := event_forward_mem c1 ch.s1 t pl data
    refine ⟨hall _ hm, by rw [event_accepting _ _ _ _ _ hacc], hall, fun k j => ?_⟩
    obtain ⟨a1, a2, a3, a4⟩ := data_preserved_source_rewritten c2 (outData c1 (withOrig data) k) j
    obtain ⟨b1, b2, b3, b4⟩ := data_preserved_source_rewritten c1 data k
    refine ⟨a3, a1, by rw [a2, b1]; rfl, fun key h1 h2 h3 => ?_⟩
    rw [a4 key h1 h2 h3, b4 key h1 h2 h3]
  · cases hr

/-! ### destinations that refuse a delivery

`Repeat._event` forwards the event synchronously and queues it for the main task only AFTERWARDS
(`send`, then `self._queue.put_nowait(data)`): an exception of the forward leaves the handler
before anything is queued. -/

/-- An event whose original forwarding the destination refuses with `EdzedUnknownEvent` (the
    destination does not know the event type) is never repeated and disturbs nothing:
    (a) apart from the output 0 and the consumed answer the state is the one just before the
    arrival – NO ITEM IS QUEUED, the block is not stopped (the simulation runs on), an event that
    was being repeated goes on with its own schedule and numbering;
    (b) the sender is told (`Ret.unknown`), the step sends the due older repetitions and this one
    refused forward;
    (c) if nothing was being repeated, then whatever time passes nothing is sent. -/
theorem refused_event_never_repeated (c : Cfg) (s : State) (t : Nat) (pl : Placement) (data : Data)
    (h : (advance c s (pl.horizon t)).1.answer = .unknown) :
    (event c s t pl c.etype data).1 =
        { (advance c s (pl.horizon t)).1 with
            out := 0, resp := (advance c s (pl.horizon t)).1.resp.tail }
    ∧ (event c s t pl c.etype data).2 =
        (advance c s (pl.horizon t)).2 ++ [⟨t, c.etype, 0, outData c (withOrig data) 0, .unknown⟩]
    ∧ (deliver c s t pl c.etype data false).2.2 = .unknown
    ∧ ((advance c s (pl.horizon t)).1.cur = none →
        ∀ t', (advance c (event c s t pl c.etype data).1 t').2 = []) := by
  refine ⟨by simp only [event, arrive_same, h], by simp only [event, arrive_same, h],
    by simp [deliver, h], fun hn t' => ?_⟩
  rw [advance_none c _ t' (by simp only [event, arrive_same, h]; exact hn)]

/-- the same for a block that is idle: the refused event leaves no trace but the output 0 -/
theorem refused_first_forward_leaves_idle (c : Cfg) (rs : List Resp) (t : Nat) (pl : Placement)
    (data : Data) :
    (event c { resp := .unknown :: rs } t pl c.etype data).1 = { resp := rs } := by
  have h0 : advance c { resp := .unknown :: rs } (pl.horizon t) = ({ resp := .unknown :: rs }, []) :=
    advance_none _ _ _ rfl
  have h := (refused_event_never_repeated c { resp := .unknown :: rs } t pl data
    (by rw [h0]; rfl)).1
  rw [h, h0]
  rfl

/-- A repetition the destination refuses – for whatever reason – is the last thing the block
    does: the exception is raised inside the monitored main task, the simulation is aborted
    (block stopped, nothing pending), the output shows the number of the failed repetition. -/
theorem refused_repetition_stops_simulation (c : Cfg) (s : State) (p : Pending) (t : Nat)
    (hs : s.cur = some p) (hd : p.deadline ≤ t) (ha : s.answer ≠ .ok) :
    advance c s t =
      ({ out := p.rep + 1, cur := none, stopped := true, resp := s.resp.tail },
       [⟨p.deadline, c.etype, p.rep + 1, outData c p.data (p.rep + 1), s.answer⟩]) := by
  rw [advance, advanceFuel_due c t s t p hs hd, fire_not_ok c s p ha, fire_snd,
    advanceFuel_none _ _ _ _ rfl]

/-- A forward that fails with any other exception aborts the simulation (the exception passes
    through `Repeat`'s own `SBlock.event`): the block is stopped, nothing is queued for the
    event; at most a timeout of that very instant (deadline `≤ t`, the event that was being
    repeated) is still on its way, and once it has fired nothing is pending (the last part: a
    timeout of ANY stopped block leaves nothing pending). -/
theorem failed_forward_stops_simulation (c : Cfg) (s : State) (t : Nat) (pl : Placement) (data : Data)
    (h : (advance c s (pl.horizon t)).1.answer = .fatal) :
    (event c s t pl c.etype data).1.stopped = true
    ∧ (∀ p, (event c s t pl c.etype data).1.cur = some p →
        (advance c s (pl.horizon t)).1.cur = some p ∧ p.deadline ≤ t)
    ∧ (deliver c s t pl c.etype data false).2.2 = .fatal
    ∧ ∀ (st : State) (p : Pending), st.stopped = true → (fire c st p).1.cur = none := by
  have he : (event c s t pl c.etype data).1 = (arrive c (advance c s (pl.horizon t)).1 t c.etype data).1 := rfl
  rw [he, arrive_same, h]
  refine ⟨rfl, fun p hp => stillDue_eq_some hp, by simp [deliver, h], fun st p hst => ?_⟩
  cases ha : st.answer with
  | ok => rw [fire_ok c st p ha, hst]; rfl
  | _ => rw [fire_not_ok c st p (by simp [ha])]

/-- `deliver` is `event` plus the result for the sender; an external event (`ExtEvent.send`) is
    refused without reaching the block once the simulation is not running -/
theorem deliver_is_event (c : Cfg) (s : State) (t : Nat) (pl : Placement) (etype : String) (data : Data) :
    ((deliver c s t pl etype data false).1, (deliver c s t pl etype data false).2.1) =
        event c s t pl etype data
    ∧ ((advance c s (pl.horizon t)).1.stopped = true →
        deliver c s t pl etype data true =
          ((advance c s (pl.horizon t)).1, (advance c s (pl.horizon t)).2, .notReady)) := by
  constructor
  · simp [deliver, event]
  · intro h; simp [deliver, h]

/-- count 3: an event at 5, a newer one at 35 in the loop iteration of the third timeout (`T`):
    the third repetition of the older event is superseded; then three repetitions and silence -/
example : ((run ⟨"r", "put", 10, some 3⟩ {}
      [.event 5 .T "put" [("value", Val.int 1)], .advance 30,
       .event 35 .T "put" [("value", Val.int 2)], .event 40 .B "other" [], .advance 100]).2.map
      fun x => (x.t, x.rep, x.data.get? "value")) =
    [(5, 0, some (Val.int 1)), (15, 1, some (Val.int 1)), (25, 2, some (Val.int 1)),
     (35, 0, some (Val.int 2)), (45, 1, some (Val.int 2)), (55, 2, some (Val.int 2)),
     (65, 3, some (Val.int 2))] := by decide +kernel

/-- the same arrival after the loop has settled (`A`): the third repetition comes first -/
example : ((run ⟨"r", "put", 10, some 3⟩ {}
      [.event 5 .T "put" [], .event 35 .A "put" [], .advance 50]).2.map fun x => (x.t, x.rep)) =
    [(5, 0), (15, 1), (25, 2), (35, 3), (35, 0), (45, 1)] := by decide +kernel

/-- a destination refusing deliveries: the event at 5 is accepted and repeated; the one at 18 is
    refused with EdzedUnknownEvent (third answer) – it is never repeated and the first event goes
    on (`repeat=2` at 25); the repetition at 35 fails (fifth answer): the block is stopped -/
example : ((run ⟨"r", "put", 10, none⟩ { resp := [.ok, .ok, .unknown, .ok, .fatal] }
      [.event 5 .A "put" [("value", Val.int 1)], .event 18 .T "put" [("value", Val.int 2)],
       .advance 100]).2.map fun x => (x.t, x.rep, x.data.get? "value", x.resp)) =
    [(5, 0, some (Val.int 1), Resp.ok), (15, 1, some (Val.int 1), Resp.ok),
     (18, 0, some (Val.int 2), Resp.unknown), (25, 2, some (Val.int 1), Resp.ok),
     (35, 3, some (Val.int 1), Resp.fatal)] := by decide +kernel

example : (run ⟨"r", "put", 10, none⟩ { resp := [.ok, .ok, .unknown, .ok, .fatal] }
      [.event 5 .A "put" [("value", Val.int 1)], .event 18 .T "put" [("value", Val.int 2)],
       .advance 100]).1 = { out := 3, cur := none, stopped := true, resp := [] } := by decide +kernel

example : DueBy ⟨"r", "put", 10, some 3⟩ 5 1000 3 := by
  refine ⟨?_, by decide, Or.inl rfl⟩
  intro m e; cases e; exact Nat.le_refl _

/-- a chain r1 (interval 10, count 1) → r2 (interval 4, count none): the hypotheses of
    `chain_of_two` are satisfiable and the second block repeats what the first one sends -/
example : ((Chain.event ⟨"r1", "put", 10, some 1⟩ ⟨"r2", "put", 4, none⟩ {} 5 .T "put"
      [("value", Val.int 1), ("source", Val.str "src")] []).bind fun r =>
      (Chain.advance ⟨"r1", "put", 10, some 1⟩ ⟨"r2", "put", 4, none⟩ r.1 20 [false]).map fun q =>
        (r.2 ++ q.2).map fun x => (x.t, x.rep, x.data.get? "orig_source")) =
    some [(5, 0, some (Val.str "r1")), (9, 1, some (Val.str "r1")), (13, 2, some (Val.str "r1")),
          (15, 0, some (Val.str "r1")), (19, 1, some (Val.str "r1"))] := by decide +kernel

end Edzed.Repeat

/-! ### tie by translation (`tools/py2lean_repeat.py`, scheme `TrAct`)

`Gen.TrR.repeatEventActs` is the list of primitive actions of `Repeat._event`, translated from
the current source in program order. -/

namespace Edzed.Repeat.TrTie

open Edzed.Repeat Edzed.Gen.TrR

/-- What a list of primitive actions of the handler does at time `t` to a block in state `s`
    holding the event data `d`.  `send` offers the event to the destination, whose answer is the
    next one of the script; when it REFUSES, the exception leaves the handler and the rest of the
    list is skipped (`unknown`: nothing else happens; `fatal`: `SBlock.event` of the Repeat block
    aborts the simulation – a timeout of that very instant is still on its way).  `enqueue`: the
    main task takes the item in the same instant and starts to wait for `interval`. -/
def runActs (c : Cfg) (t : Nat) : State → Data → List Act → State × List Sent
  | s, _, [] => (s, [])
  | s, _, .ret :: _ => (s, [])
  | s, d, .warnOnce :: r => runActs c t s d r
  | s, d, .setItemFromItem dst src :: r => runActs c t s (d.set dst ((d.get? src).getD Val.none)) r
  | s, d, .setOutput n :: r => runActs c t { s with out := n } d r
  | s, d, .send rep :: r =>
    let x : Sent := ⟨t, c.etype, rep, outData c d rep, s.answer⟩
    match s.answer with
    | .ok => let q := runActs c t { s with resp := s.resp.tail } d r; (q.1, x :: q.2)
    | .unknown => ({ s with resp := s.resp.tail }, [x])
    | .fatal =>
      ({ s with
          cur := match s.cur with
            | some p => if p.deadline ≤ t then some p else none
            | none => none
          stopped := true
          resp := s.resp.tail }, [x])
  | s, d, .enqueue :: r =>
    runActs c t { s with cur := if !s.stopped && repeating c 0 then some ⟨d, 0, t + c.interval⟩ else none } d r

/-- the model's handler `arrive` IS the meaning of the actions of `Repeat._event`, translated from the source -/
theorem translated_event_is_model (c : Cfg) (s : State) (t : Nat) (etype : String) (data : Data) :
    runActs c t s data (repeatEventActs (etype != c.etype)) = arrive c s t etype data := by
  unfold repeatEventActs
  by_cases he : etype = c.etype
  · subst he
    rw [arrive_same]
    simp only [pybool, ↓reduceIte, runActs, answer_with_out]
    cases s.answer <;> rfl
  · rw [arrive_other c s t etype data he, bne_iff_ne.mpr he]
    rfl

/-- In the source the synchronous forward PRECEDES the queueing, which is the last action: an
    exception of the forward leaves the handler before anything is queued. -/
theorem send_precedes_queue :
    ∃ pre, repeatEventActs false = pre ++ [Act.send 0, Act.enqueue]
      ∧ Act.enqueue ∉ pre ∧ ∀ n, Act.send n ∉ pre := by
  refine ⟨(repeatEventActs false).take ((repeatEventActs false).length - 2), by decide, by decide, ?_⟩
  intro n; unfold repeatEventActs; simp

/-- … hence, by the meaning of the translated actions: a refused forward queues nothing -/
theorem translated_refused_forward_queues_nothing (c : Cfg) (s : State) (t : Nat) (data : Data)
    (h : s.answer = .unknown) :
    (runActs c t s data (repeatEventActs false)).1.cur = s.cur
    ∧ (runActs c t s data (repeatEventActs false)).1.stopped = s.stopped := by
  have hm := translated_event_is_model c s t c.etype data
  rw [bne_self_eq_false, arrive_same, h] at hm
  rw [hm]
  exact ⟨rfl, rfl⟩

/-! #### `Repeat._maintask`: one iteration of its loop, translated (`Gen.TrR.maintaskIter`) -/

/-- What the actions of an iteration do to a block that is repeating `p` (time = the expired
    deadline).  A `send` the destination refuses raises inside the main task: the task dies, the
    monitor aborts the simulation (`true` in the last component), the rest is skipped. -/
def runMActs (c : Cfg) (p : Pending) : State → List MAct → State × List Sent × Bool
  | s, [] => (s, [], false)
  | s, .setOutput n :: r => runMActs c p { s with out := n } r
  | s, .send rep :: r =>
    let x : Sent := ⟨p.deadline, c.etype, rep, outData c p.data rep, s.answer⟩
    match s.answer with
    | .ok => let q := runMActs c p { s with resp := s.resp.tail } r; (q.1, x :: q.2.1, q.2.2)
    | _ => ({ out := s.out, cur := none, stopped := true, resp := s.resp.tail }, [x], true)

/-- … and the state in which the next iteration waits: with the new `repeat`, for `interval`
    again when `repeating` (a task that survived an abort is cancelled before it can wait). -/
def afterIter (c : Cfg) (p : Pending) (o : IterOut) (s : State) : State × List Sent :=
  let q := runMActs c p s o.acts
  if q.2.2 then (q.1, q.2.1)
  else
    ({ q.1 with
        cur := if !q.1.stopped && o.repeating
               then some { p with rep := o.rep, deadline := p.deadline + c.interval } else none },
     q.2.1)

/-- the model's `fire` IS the meaning of the translated iteration that ends with a timeout and an
    empty queue: `repeat += 1`, `set_output(repeat)`, the re-send with that `repeat`, then
    `repeating = count is None or repeat < count`; `data` is kept -/
theorem translated_timeout_is_fire (c : Cfg) (s : State) (p : Pending) :
    ∃ o, maintaskIter c.count true p.rep (.timeout true) = some o
      ∧ o.newData = false ∧ o.continued = false
      ∧ afterIter c p o s = ((fire c s p).1, [(fire c s p).2]) := by
  refine ⟨⟨false, p.rep + 1, [.setOutput (p.rep + 1), .send (p.rep + 1)], repeating c (p.rep + 1), false⟩,
    ?_, rfl, rfl, ?_⟩
  · unfold maintaskIter repeating
    cases c.count <;> simp
  · unfold afterIter fire
    cases hr : s.resp with
    | nil => simp [runMActs, State.answer, hr]
    | cons a rs => cases a <;> simp [runMActs, State.answer, hr]

/-- an iteration that gets an item (idle or repeating alike): `data` is the new item, the numbering
    restarts at 0, NOTHING is sent (the original was forwarded by the handler), and the task
    repeats iff `count is None or 0 < count` – this is the meaning of `Act.enqueue` in `runActs` -/
theorem translated_item_restarts (c : Cfg) (b : Bool) (r : Nat) :
    maintaskIter c.count b r .item = some ⟨true, 0, [], repeating c 0, false⟩ := by
  unfold maintaskIter repeating
  cases b <;> cases c.count <;> simp

theorem translated_item_is_enqueue (c : Cfg) (s : State) (t : Nat) (d : Data) (b : Bool) (r : Nat) :
    ∃ o, maintaskIter c.count b r .item = some o ∧ o.acts = [] ∧
      (runActs c t s d [Act.enqueue]).1.cur =
        (if !s.stopped && o.repeating then some ⟨d, o.rep, t + c.interval⟩ else none) :=
  ⟨_, translated_item_restarts c b r, rfl, rfl⟩

/-- THE SAME-ITERATION RULE in the source: a timeout that finds the queue non-empty sends nothing
    and changes nothing (`continue`) – the new item supersedes the event repeated so far -/
theorem translated_timeout_superseded (count : Option Nat) (r : Nat) :
    maintaskIter count true r (.timeout false) = some ⟨false, r, [], true, true⟩ := by
  unfold maintaskIter; simp

/-- an idle task waits without a timeout, and the task starts idle -/
theorem translated_idle_never_times_out (count : Option Nat) (r : Nat) (q : Bool) :
    maintaskIter count false r (.timeout q) = none ∧ maintaskInit = false := by
  unfold maintaskIter; simp [maintaskInit]

end Edzed.Repeat.TrTie

/-! ### tie by translation: constructors and task life-cycle (`tools/py2lean_ctor.py`)

`Gen.TrC.*` are the programs translated from the current source of `Event.__init__ / typecheck / dest`,
`_to_tuple`, `Repeat.__init__ / start / init_regular`, `AddonAsync.__init__ / _task_monitor /
_create_monitored_task`, `AddonMainTask.__init__ / start / stop_async`; `RepeatCtor.*` is the hand-written model. -/

namespace Edzed.TrTie

open Edzed.Gen.TrC Edzed.RepeatCtor

def ctorOfExcept {σ α : Type} (x : Except Exc α) : M σ α := fun s => (x, s)

/-! What a program does when it is run from a state `s`, one equation per combinator.  Rewriting with them turns a
    translated constructor, run on the recording primitives below, into a nested `match` on the outcomes of its checks:
    the shape of the hand-written model. -/
section run
variable {σ α β : Type}

theorem ctor_bind_ofExcept (x : Except Exc α) (k : α → M σ β) (s : σ) :
    M.bind (ctorOfExcept x) k s = match x with | .ok a => k a s | .error e => (.error e, s) := by
  cases x <;> rfl

theorem ctor_bind_modifyS (f : σ → σ) (k : Unit → M σ β) (s : σ) : M.bind (modifyS f) k s = k () (f s) := rfl

theorem ctor_bind_getS (k : σ → M σ β) (s : σ) : M.bind getS k s = k s s := rfl

theorem ctor_pure_run (a : α) (s : σ) : (M.pure a : M σ α) s = (.ok a, s) := rfl

theorem ctor_raise_run (e : Exc) (s : σ) : (raise e : M σ α) s = (.error e, s) := rfl

theorem ctor_ite_run (c : Prop) [Decidable c] (m n : M σ α) (s : σ) :
    (if c then m else n) s = if c then m s else n s := by
  split <;> rfl

end run

/-- The outcome `r` of a translated constructor agrees with the model's `x`: it raises the exception of `x`, or it
    returns and leaves the attributes `fin` of the model's value.  (The state a failed constructor leaves behind is
    not compared: the object is dropped.) -/
def CtorAgrees {σ ρ : Type} (r : Except Exc Unit × σ) (x : Except Exc ρ) (fin : ρ → σ) : Prop :=
  match x with
  | .ok v => r = (.ok (), fin v)
  | .error e => r.1 = .error e

theorem CtorAgrees.elim {σ ρ : Type} {r : Except Exc Unit × σ} {x : Except Exc ρ} {fin : ρ → σ}
    (h : CtorAgrees r x fin) :
    r.1 = x.map (fun _ => ()) ∧ ∀ v, x = .ok v → r.2 = fin v := by
  cases x with
  | error e => exact ⟨h, nofun⟩
  | ok v =>
    obtain rfl : r = _ := h
    exact ⟨rfl, fun _ e => by cases e; rfl⟩

-- the ties below that do not go through `CtorAgrees` evaluate the program by unfolding its combinators
attribute [local simp] M.bind M.pure raise getS modifyS ctorOfExcept Except.map

theorem translated_ctor_typecheck_is_model {σ : Type} (etype : ETy) :
    (eventTypecheck etype : M σ Unit) = ctorOfExcept (typecheck etype) := by
  funext s
  cases etype with
  | str x => by_cases h : x = "" <;> simp [eventTypecheck, typecheck, ETy.isStr, ETy.truthy, h]
  | other t => simp [eventTypecheck, typecheck, ETy.isStr, ETy.isEventType]
  | _ => simp [eventTypecheck, typecheck, ETy.isStr, ETy.isEventType]

/-- the primitives of `Event.__init__`: the Repeat constructor is the model's `repeatNew`, the filters are
    accepted or not, `resolve_name` is recorded -/
def ctorEvPrims (filtersOk : Bool) : EvPrims where
  mkRepeat dest etype interval count := fun s =>
    match repeatNew dest etype interval count with
    | .ok rc => (.ok (.repeatOf rc.dest rc.etype rc.interval rc.count), s)
    | .error e => (.error e, s)
  efilterTuple := if filtersOk then M.pure () else raise "TypeError"
  resolveDest := modifyS fun o => { o with resolveCalled := true }

/-- `Event.__init__` computes the model's `eventNew`: on success `_dest` / `_etype` are what the model says, the
    filters are stored and the name resolution is requested; otherwise the same exception is raised -/
theorem translated_ctor_event_init_is_model (dest : Dest) (etype : ETy) (repeatArg : Option Val)
    (count : Option Int) (filtersOk : Bool) :
    (eventInit (ctorEvPrims filtersOk) dest etype repeatArg count {}).1 =
        (eventNew dest etype repeatArg count filtersOk).map (fun _ => ())
    ∧ ∀ ec, eventNew dest etype repeatArg count filtersOk = .ok ec →
        (eventInit (ctorEvPrims filtersOk) dest etype repeatArg count {}).2 =
          { dest := some ec.dest, etype := some ec.etype, filtersSet := true, resolveCalled := true } := by
  refine CtorAgrees.elim ?_
  unfold eventInit eventNew
  -- The model's checks are decided one after the other, in the model's order.  A failing one ends the walk by `rfl`:
  -- `CtorAgrees _ (.error e) _` is an equation of exceptions and the program, with every earlier check decided,
  -- evaluates to it.  `generalize` must find the check in the program too, hence `cases repeatArg` comes before
  -- the primitives are unfolded: until its `match` is reduced the program has the argument under a name of its own.
  cases repeatArg with
  | none =>
    cases count with
    | some n => exact rfl
    | none =>
      simp only [translated_ctor_typecheck_is_model, ctorEvPrims, pybool, ↓reduceIte]
      generalize typecheck etype = tc
      cases tc with
      | error e => exact rfl
      | ok u => cases filtersOk <;> exact rfl
  | some r =>
    simp only [translated_ctor_typecheck_is_model, ctorEvPrims, pybool, ↓reduceIte]
    generalize repeatNew dest etype r count = rn
    cases rn with
    | error e => exact rfl
    | ok rc =>
      generalize typecheck etype = tc
      cases tc with
      | error e => exact rfl
      | ok u => cases filtersOk <;> exact rfl

theorem translated_ctor_event_dest_is_model {σ : Type} (dest : Dest) :
    (Gen.TrC.eventDest dest : M σ Dest) = ctorOfExcept (RepeatCtor.eventDest dest) := by
  funext s
  cases dest <;> simp [Gen.TrC.eventDest, RepeatCtor.eventDest, Dest.isName]

theorem ctor_forEach_ofExcept {σ ι : Type} (validator : ι → Except Exc Unit) (xs : List ι) :
    (forEach xs (fun x => M.bind (ctorOfExcept (validator x)) fun _ => M.pure ()) : M σ Unit) =
      ctorOfExcept (validateAll validator xs) := by
  induction xs with
  | nil => rfl
  | cons x xs ih =>
    funext s
    simp only [forEach, validateAll, M.bind, ctorOfExcept, M.pure]
    cases hv : validator x with
    | error e => simp
    | ok u => simp; rw [ih]; rfl

theorem translated_ctor_to_tuple_is_model {σ ι : Type} (args : ArgsT ι) (validator : ι → Except Exc Unit) :
    (Gen.TrC.toTuple args (fun x => ctorOfExcept (validator x)) : M σ (List ι)) =
      ctorOfExcept (RepeatCtor.toTuple args validator) := by
  funext s
  cases args with
  | none => simp [Gen.TrC.toTuple, RepeatCtor.toTuple, ArgsT.isNone]
  | tuple l | multiple l | single x =>
    simp only [Gen.TrC.toTuple, RepeatCtor.toTuple, ArgsT.isNone, ArgsT.isTuple, ArgsT.isMultiple, ArgsT.items,
      Bool.false_eq_true, if_false, if_true, ctor_forEach_ofExcept]
    cases validateAll validator _ <;> simp

/-- the primitives of `Repeat`: `block.Event(dest, etype)` is the model's plain event constructor,
    `utils.time_period` the model of C19, the base classes and `set_output` are recorded -/
def ctorRPrims : RPrims where
  mkEvent dest etype := fun s =>
    match eventNew dest etype none none true with
    | .ok ec => (.ok (ec.dest, ec.etype), s)
    | .error e => (.error e, s)
  timePeriod v := ctorOfExcept (timePeriod v)
  superInit := modifyS fun o => { o with log := o.log ++ ["super().__init__"] }
  superStart := modifyS fun o => { o with log := o.log ++ ["super().start"] }
  setOutput n := modifyS fun o => { o with log := o.log ++ [s!"set_output({n})"] }

theorem ctorRPrims_mkEvent (dest : Dest) (etype : ETy) :
    ctorRPrims.mkEvent dest etype = ctorOfExcept ((typecheck etype).map fun _ => (dest, etype)) := by
  funext s
  simp only [ctorRPrims, eventNew_plain]
  cases typecheck etype <;> rfl

/-- `Repeat.__init__` performs exactly the model's checks, in the model's order, and stores the model's values:
    the repeated event goes to the ORIGINAL destination with the original type, the interval is
    `time_period(interval)`, the count as given, `_warning_logged = False`; the base class is initialised last -/
theorem translated_ctor_repeat_init_is_model (dest : Dest) (etype : ETy) (interval : Val) (count : Option Int) :
    (repeatInit ctorRPrims dest etype interval count {}).1 = (repeatNew dest etype interval count).map (fun _ => ())
    ∧ ∀ rc, repeatNew dest etype interval count = .ok rc →
        (repeatInit ctorRPrims dest etype interval count {}).2 =
          { repeated := some (rc.dest, rc.etype), interval := some rc.interval, count := rc.count,
            warningLogged := some false, queue := none, log := ["super().__init__"] }
        ∧ rc.dest = dest ∧ rc.etype = etype ∧ rc.count = count := by
  refine (CtorAgrees.elim ?_).imp id fun h2 rc h => ⟨h2 rc h, ?_⟩
  · unfold repeatInit repeatNew
    -- `mkEvent` first: once `ctorRPrims` is unfolded `ctorRPrims_mkEvent` does not apply any more
    simp only [ctorRPrims_mkEvent, ctor_ite_run, ctor_bind_ofExcept, ctor_bind_modifyS, ctor_raise_run]
    simp only [ctorRPrims, ctor_ite_run, ctor_bind_ofExcept, ctor_bind_modifyS, ctor_bind_getS, ctor_raise_run,
      ctor_pure_run, pybool, ↓reduceIte]
    cases etype.isEventCond
    case true => exact rfl
    generalize typecheck etype = tc
    cases tc with
    | error e => exact rfl
    | ok u =>
      generalize RepeatCtor.timePeriod interval = tp
      cases tp with
      | error e => exact rfl
      | ok r =>
        cases r with
        | none => exact rfl
        | some iv =>
          -- a comparison of rationals is not decided by evaluation: it is rewritten into the normalised program
          by_cases hiv : iv ≤ 0
          · simp only [hiv, pybool, ↓reduceIte]
            exact rfl
          · cases count with
            | none =>
              simp only [hiv, pybool, ↓reduceIte]
              exact rfl
            | some n =>
              by_cases hn : n < 0 <;>
                simp only [hiv, hn, pybool, ↓reduceIte] <;> exact rfl
  · obtain ⟨iv, -, -, rfl, -, -⟩ := repeatNew_eq_ok h
    exact ⟨rfl, rfl, rfl⟩

/-- `Repeat.start`: the base classes first (the main task is created there but cannot run before the
    caller yields), then the FIFO queue; `Repeat.init_regular`: the output starts as 0 -/
theorem translated_ctor_repeat_start_is_model (o : RepeatObj) :
    repeatStart ctorRPrims o = (.ok (), { o with queue := some .fifo, log := o.log ++ ["super().start"] })
    ∧ repeatInitRegular ctorRPrims o = (.ok (), { o with log := o.log ++ [s!"set_output({0})"] })
    ∧ ({} : Repeat.State).out = 0 := by
  refine ⟨?_, ?_, rfl⟩ <;> simp [repeatStart, repeatInitRegular, ctorRPrims]

/-- the primitives of `AddonAsync` / `AddonMainTask`: `time_period` is the model of C19, the two awaits are
    parameters (how the awaited task / coroutine ends), everything else is recorded in the log -/
def ctorAPrims (hasInit hasStop : Bool) (awaitMtask awaitCoro : M AsyncObj Unit) : APrims where
  hasInitAsync := hasInit
  hasStopAsync := hasStop
  timePeriod v := ctorOfExcept (RepeatCtor.timePeriod v)
  superInit := modifyS fun o => { o with log := o.log ++ ["super().__init__"] }
  superStart := modifyS fun o => { o with log := o.log ++ ["super().start"] }
  cancelMtask := modifyS fun o => { o with log := o.log ++ ["cancel"] }
  awaitMtask := awaitMtask
  superStopAsync := modifyS fun o => { o with log := o.log ++ ["super().stop_async"] }
  awaitCoro := awaitCoro
  addNote _ := M.pure ()
  abort e := modifyS fun o => { o with log := o.log ++ ["abort " ++ e] }

def ctorEndOf {σ : Type} : CoroEnd → M σ Unit
  | .returned => M.pure ()
  | .raised e => raise e

theorem ctor_popKw_eq (key : String) (o : AsyncObj) :
    Gen.TrC.popKw key o = (.ok (RepeatCtor.popKw o.kwargs key).1, { o with kwargs := (RepeatCtor.popKw o.kwargs key).2 }) := rfl

theorem ctor_hasKw_eq (o : AsyncObj) (k : String) : o.hasKw k = RepeatCtor.hasKw o.kwargs k := rfl

attribute [local simp] ctor_popKw_eq ctor_hasKw_eq

/-- the defaults of the module: 10 s each (as `Gen.defaultInitTimeoutUs` / `defaultStopTimeoutUs` of the extractor) -/
theorem translated_ctor_default_timeouts :
    defaultInitTimeout = 10 ∧ defaultStopTimeout = 10
    ∧ defaultInitTimeout * 1000000 = (Gen.defaultInitTimeoutUs : Rat)
    ∧ defaultStopTimeout * 1000000 = (Gen.defaultStopTimeoutUs : Rat) := by
  refine ⟨rfl, rfl, ?_, ?_⟩ <;> decide +kernel

theorem ctor_bind_popKw {β : Type} (key : String) (k : Val → M AsyncObj β) (o : AsyncObj) :
    M.bind (Gen.TrC.popKw key) k o =
      k (RepeatCtor.popKw o.kwargs key).1 { o with kwargs := (RepeatCtor.popKw o.kwargs key).2 } := rfl

/-- `AddonAsync.__init__` computes the model's `asyncInit` with the defaults of the module
    (`DEFAULT_INIT_TIMEOUT`, `DEFAULT_STOP_TIMEOUT`, regenerated: 10 s); the keyword arguments it does not
    consume are the ones the next `__init__` sees -/
theorem translated_ctor_async_init_is_model (hasInit hasStop : Bool) (kwargs : List (String × Val))
    (aw ac : M AsyncObj Unit) :
    (addonAsyncInit (ctorAPrims hasInit hasStop aw ac) { kwargs := kwargs }).1 =
        (asyncInit hasInit hasStop defaultInitTimeout defaultStopTimeout kwargs).map (fun _ => ())
    ∧ ∀ t, asyncInit hasInit hasStop defaultInitTimeout defaultStopTimeout kwargs = .ok t →
        (addonAsyncInit (ctorAPrims hasInit hasStop aw ac) { kwargs := kwargs }).2 =
          { kwargs := t.rest, initTimeout := t.init, stopTimeout := t.stop, mtask := none,
            log := ["super().__init__"] } := by
  refine CtorAgrees.elim ?_
  -- for each of the four kinds of block the program is straight-line: per timeout either pop and convert
  -- (error / None / a value) or refuse a given keyword
  unfold addonAsyncInit asyncInit oneTimeout
  -- `cases` first and `↓reduceIte` in the same call: after `simp only [ctorAPrims]` alone the `Decidable` instance of
  -- `if init then …` would still mention `(ctorAPrims …).hasInitAsync` and no lemma about `ite` would apply any more
  cases hasInit <;> cases hasStop <;>
    simp only [ctorAPrims, pybool, ↓reduceIte, ctor_ite_run, ctor_bind_popKw, ctor_bind_ofExcept, ctor_bind_modifyS,
      ctor_bind_getS, ctor_raise_run, ctor_pure_run, ctor_hasKw_eq, withDefault]
  · cases RepeatCtor.hasKw kwargs "init_timeout"
    · simp only [pybool, ↓reduceIte]
      cases RepeatCtor.hasKw kwargs "stop_timeout" <;> exact rfl
    · exact rfl
  · cases RepeatCtor.hasKw kwargs "init_timeout"
    · simp only [pybool, ↓reduceIte]
      generalize RepeatCtor.timePeriod (RepeatCtor.popKw kwargs "stop_timeout").1 = tp
      cases tp with
      | error e => exact rfl
      | ok r => cases r <;> exact rfl
    · exact rfl
  · generalize RepeatCtor.timePeriod (RepeatCtor.popKw kwargs "init_timeout").1 = tp
    cases tp with
    | error e => exact rfl
    | ok r =>
      -- reduce the model's `match` on the pair, so that its next check is the term the program has
      simp only []
      cases RepeatCtor.hasKw (RepeatCtor.popKw kwargs "init_timeout").2 "stop_timeout"
      · cases r <;> exact rfl
      · exact rfl
  · generalize RepeatCtor.timePeriod (RepeatCtor.popKw kwargs "init_timeout").1 = tp
    cases tp with
    | error e => exact rfl
    | ok r =>
      simp only []
      generalize RepeatCtor.timePeriod
        (RepeatCtor.popKw (RepeatCtor.popKw kwargs "init_timeout").2 "stop_timeout").1 = tp2
      cases tp2 with
      | error e => exact rfl
      | ok r2 => cases r <;> cases r2 <;> exact rfl

/-- `AddonAsync._task_monitor` IS the model's `monitor`: the call ends as the model says and `circuit.abort(err)`
    is called exactly for the error the model names (after `add_note`) -/
theorem translated_monitor_task_monitor_is_model (hi hs isService : Bool) (aw : M AsyncObj Unit) (e : CoroEnd)
    (o : AsyncObj) :
    taskMonitor (ctorAPrims hi hs aw (ctorEndOf e)) isService o =
      ((monitor isService e).result,
       { o with log := o.log ++ (match (monitor isService e).aborted with
                                 | some x => ["abort " ++ x]
                                 | none => []) }) := by
  unfold taskMonitor monitor
  cases e with
  | returned =>
    cases isService <;>
      simp [ctorAPrims, ctorEndOf, tryExcept, excIsA]
  | raised x =>
    by_cases hx : excIsA x "Exception" = true
    · simp [ctorAPrims, ctorEndOf, tryExcept, hx]
    · have hx' : excIsA x "Exception" = false := by simpa using hx
      simp [ctorAPrims, ctorEndOf, tryExcept, hx']

/-- `_create_monitored_task(coro, is_service=False)` wraps the coroutine in the monitor with the flag as given -/
theorem translated_monitor_create_task_is_model (coro : Coro) (isService : Bool) (o : AsyncObj) :
    createMonitoredTask coro isService o = (.ok (coro, isService), o)
    ∧ createMonitoredTaskDefaultIsService = false ∧ taskMonitorDefaultIsService = false := by
  simp [createMonitoredTask, createMonitoredTaskDefaultIsService, taskMonitorDefaultIsService]

/-- `AddonMainTask.__init__` clears `_mtask` before the base classes run; `start` starts the base classes, then
    creates the monitored task of `_maintask()` AS A SERVICE; a second `start` fails the assertion -/
theorem translated_ctor_main_task_start_is_model (hi hs : Bool) (aw ac : M AsyncObj Unit) (o : AsyncObj) :
    mainTaskInit (ctorAPrims hi hs aw ac) o =
        (.ok (), { o with mtask := none, log := o.log ++ ["super().__init__"] })
    ∧ (o.mtask = none → mainTaskStart (ctorAPrims hi hs aw ac) o =
        (.ok (), { o with mtask := some (.maintask, true), log := o.log ++ ["super().start"] }))
    ∧ (∀ t, o.mtask = some t → mainTaskStart (ctorAPrims hi hs aw ac) o =
        (.error "AssertionError", { o with log := o.log ++ ["super().start"] })) := by
  refine ⟨?_, ?_, ?_⟩
  · simp [mainTaskInit, ctorAPrims]
  · intro h
    simp [mainTaskStart, ctorAPrims, assertM, createMonitoredTask, h]
  · intro t h
    simp [mainTaskStart, ctorAPrims, assertM, h]

/-- `AddonMainTask.stop_async` IS the model's `stopAsync`: the task is cancelled and awaited; its
    CancelledError is swallowed; `_mtask` is cleared in every case (`finally`); another exception of the task
    propagates and the next `stop_async` in the MRO is then not awaited -/
theorem translated_monitor_stop_async_is_model (hi hs : Bool) (ac : M AsyncObj Unit) (e : CoroEnd) (o : AsyncObj) :
    mainTaskStopAsync (ctorAPrims hi hs (ctorEndOf e) ac) o =
      ((stopAsync o.mtask.isSome e).result,
       { o with
           mtask := if (stopAsync o.mtask.isSome e).mtaskCleared then none else o.mtask
           log := o.log ++ (if (stopAsync o.mtask.isSome e).cancelled then ["cancel"] else [])
                        ++ (if (stopAsync o.mtask.isSome e).superAwaited then ["super().stop_async"] else []) }) := by
  unfold mainTaskStopAsync stopAsync
  cases hm : o.mtask with
  | none =>
    cases o
    simp_all [M.bind, getS, assertM, raise]
  | some t =>
    cases e with
    | returned =>
      simp [ctorAPrims, ctorEndOf, assertM, tryExcept, Gen.TrC.tryFinally, hm]
    | raised x =>
      by_cases hx : excIsA x "CancelledError" = true
      · simp [ctorAPrims, ctorEndOf, assertM, tryExcept, Gen.TrC.tryFinally, hm, hx]
      · have hx' : excIsA x "CancelledError" = false := by simpa using hx
        simp [ctorAPrims, ctorEndOf, assertM, tryExcept, Gen.TrC.tryFinally, hm, hx']

/-- A main task (a service) that ENDS without being cancelled aborts the simulation – by returning
    (EdzedCircuitError) or by raising an Exception (that exception) –; a cancelled one does not. -/
theorem ctor_monitor_service_end_aborts_cancel_does_not (e : Exc) :
    (monitor true .returned).aborted = some "EdzedCircuitError"
    ∧ (excIsA e "Exception" = true → (monitor true (.raised e)).aborted = some e)
    ∧ (monitor true (.raised "CancelledError")).aborted = none
    ∧ (monitor false .returned).aborted = none := by
  refine ⟨rfl, ?_, by decide, rfl⟩
  intro h; simp [monitor, h]

/-- `stop_async` cancels the main task and awaits it; the cancellation is not an error and the rest of the
    clean-up chain runs; `_mtask` is cleared whatever happens; without `start` it is an assertion failure.
    (The bound by `stop_timeout` is applied by the caller, `Circuit._run_tasks`, not here.) -/
theorem ctor_stop_async_cancels_and_awaits (e : Exc) :
    stopAsync true (.raised "CancelledError") = ⟨true, true, true, .ok ()⟩
    ∧ stopAsync true .returned = ⟨true, true, true, .ok ()⟩
    ∧ (excIsA e "CancelledError" = false → stopAsync true (.raised e) = ⟨true, true, false, .error e⟩)
    ∧ (stopAsync false (.raised e)).result = .error "AssertionError" := by
  refine ⟨by simp [stopAsync, excIsA], rfl, ?_, rfl⟩
  intro h; simp [stopAsync, h]

/-- Which `Event(...)` calls create a Repeat block: exactly those with `repeat` given (not None).  The created
    block forwards to the ORIGINAL destination with the ORIGINAL event type, its interval is
    `time_period(repeat)`, its count the `count` argument unchanged (None stays None – unlimited –, 0 stays 0);
    the event itself keeps its type and is redirected to the new block. -/
theorem ctor_event_with_repeat_creates_repeat (dest : Dest) (etype : ETy) (r : Val) (count : Option Int)
    (filtersOk : Bool) (ec : EventCfg) (h : eventNew dest etype (some r) count filtersOk = .ok ec) :
    ∃ iv, RepeatCtor.timePeriod r = .ok (some iv) ∧ 0 < iv
      ∧ ec.dest = .repeatOf dest etype iv count ∧ ec.etype = etype := by
  unfold eventNew at h
  simp only at h
  split at h
  · cases h
  · next rc hr =>
    obtain ⟨iv, hp, hiv, rfl, ht, -⟩ := repeatNew_eq_ok hr
    rw [ht] at h
    cases filtersOk <;> simp at h
    exact ⟨iv, hp, hiv, by rw [← h], by rw [← h]⟩

/-- without `repeat` no block is created: the event goes where it was sent; a `count` alone is refused -/
theorem ctor_event_without_repeat (dest : Dest) (etype : ETy) (n : Int) (filtersOk : Bool) :
    eventNew dest etype none (some n) filtersOk = .error "ValueError"
    ∧ ∀ ec, eventNew dest etype none none filtersOk = .ok ec → ec = ⟨dest, etype⟩ := by
  refine ⟨rfl, ?_⟩
  intro ec h
  unfold eventNew at h
  cases ht : typecheck etype <;> cases filtersOk <;> simp [ht] at h
  exact h.symm

/-- the refused argument combinations of `Repeat(...)` / `Event(..., repeat=…)`, and the two accepted
    ones (a positive interval with no count or a count `≥ 0`) with what is stored -/
theorem ctor_repeat_refused_arguments (dest : Dest) (etype : ETy) (interval : Val) (count : Option Int) (n : Int) (q : Rat)
    (k : Kind) (t : Bool) :
    repeatNew dest .eventCond interval count = .error "ValueError"
    ∧ repeatNew dest (.str "") interval count = .error "ValueError"
    ∧ repeatNew dest (.other t) interval count = .error "TypeError"
    ∧ repeatNew dest (.str "put") Val.none count = .error "ValueError"
    ∧ (q ≤ 0 → repeatNew dest (.str "put") (.atom (.num q k)) count = .error "ValueError")
    ∧ (0 < q → n < 0 → repeatNew dest (.str "put") (.atom (.num q k)) (some n) = .error "ValueError")
    ∧ (0 < q → 0 ≤ n → repeatNew dest (.str "put") (.atom (.num q k)) (some n) = .ok ⟨dest, .str "put", q, some n⟩)
    ∧ (0 < q → repeatNew dest (.str "put") (.atom (.num q k)) none = .ok ⟨dest, .str "put", q, none⟩) := by
  have hpos : ∀ {q : Rat}, 0 < q → ¬ q < 0 ∧ ¬ q ≤ 0 := fun h =>
    ⟨Rat.not_lt.mpr (Rat.le_of_lt h), Rat.not_le.mpr h⟩
  refine ⟨rfl, rfl, rfl, ?_, ?_, ?_, ?_, ?_⟩
  · simp [repeatNew, ETy.isEventCond, typecheck, RepeatCtor.timePeriod, TimeUnits.timePeriod, Val.none]
  · intro hq
    by_cases h0 : q < 0
    · simp [repeatNew, ETy.isEventCond, typecheck, RepeatCtor.timePeriod, TimeUnits.timePeriod, h0]
    · simp [repeatNew, ETy.isEventCond, typecheck, RepeatCtor.timePeriod, TimeUnits.timePeriod, h0, hq]
  · intro hq hn
    simp [repeatNew, ETy.isEventCond, typecheck, RepeatCtor.timePeriod, TimeUnits.timePeriod, (hpos hq).1, (hpos hq).2, hn]
  · intro hq hn
    have : ¬ n < 0 := by omega
    simp [repeatNew, ETy.isEventCond, typecheck, RepeatCtor.timePeriod, TimeUnits.timePeriod, (hpos hq).1, (hpos hq).2, this]
  · intro hq
    simp [repeatNew, ETy.isEventCond, typecheck, RepeatCtor.timePeriod, TimeUnits.timePeriod, (hpos hq).1, (hpos hq).2]

/-- `stop_timeout` / `init_timeout`: missing or None means the default (10 s) when the block has the method;
    a given value goes through `time_period`; given although the method is missing: TypeError -/
theorem ctor_async_timeouts_default_and_refusal (kwargs : List (String × Val))
    (h1 : hasKw kwargs "init_timeout" = false) (h2 : hasKw kwargs "stop_timeout" = false) :
    (∃ t, asyncInit true true 10 10 kwargs = .ok t ∧ t.init = some 10 ∧ t.stop = some 10)
    ∧ asyncInit false false 10 10 (("stop_timeout", Val.int 3) :: kwargs) = .error "TypeError" := by
  have hf : ∀ (l : List (String × Val)) k, hasKw l k = false → (RepeatCtor.popKw l k).1 = Val.none := by
    intro l k hk
    rw [RepeatCtor.popKw, List.find?_eq_none.mpr (List.any_eq_false.mp hk)]
    rfl
  have htp : RepeatCtor.timePeriod Val.none = .ok none := rfl
  have hf2 : hasKw (popKw kwargs "init_timeout").2 "stop_timeout" = false :=
    List.any_eq_false.mpr fun x hx => List.any_eq_false.mp h2 x (List.mem_filter.mp hx).1
  constructor
  · refine ⟨⟨some 10, some 10, (popKw (popKw kwargs "init_timeout").2 "stop_timeout").2⟩, ?_, rfl, rfl⟩
    unfold asyncInit oneTimeout
    simp only [if_true, hf _ _ h1, hf _ _ hf2, htp, withDefault]
  · have h1' : (kwargs.any fun x => x.fst == "init_timeout") = false := h1
    simp [asyncInit, oneTimeout, hasKw, h1']

/-- non-vacuity: an event with `repeat=2.5, count=0` -/
example : (eventNew (.block "out") (.str "put") (some (Val.flt (5 / 2))) (some 0) true).toOption =
    some ⟨.repeatOf (.block "out") (.str "put") (5 / 2) (some 0), .str "put"⟩ := by decide +kernel

end Edzed.TrTie
