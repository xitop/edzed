/-
C03 — an FSM follows its transition table and runs its actions in the documented order.

Model: EdzedModel/Fsm.lean (`buildTables` mirrors FSM._build_tables, `ctxEvent` mirrors
FSM._ctx_event, which sets `fsm_event_data` again when a chained event is unpacked --
patches/C03-chained-event-data.diff).
All statements are for every FSM definition (tables and callback scripts), every state of the
block, every event and every event data; sequences are covered by induction.
-/
import EdzedModel.Fsm
import EdzedProofs.Fsm
import EdzedProofs.FsmTie03
import EdzedProofs.FsmTablesTie
import EdzedModel.Gen.Constants

namespace Edzed.Fsm

/-- `_build_tables` yields a table that is a function of (event, from-state) (duplicates are
    refused), whose targets are declared states, with at least one state, and the chain limit
    `3 * number of states` -/
theorem build_tables_wf (sp : Spec) (t : Tables) (h : buildTables sp = .ok t) :
    KeysUnique t.trans ∧ (∀ a ∈ t.trans, ∀ x, a.2.2 = some x → x ∈ t.states) ∧
    t.states ≠ [] ∧ t.chainLimit = 3 * t.states.length := by
  unfold buildTables at h
  simp only at h
  split at h
  · cases h
  · next hne =>
    cases ha : addRules (ctStates sp) ([], []) sp.rules with
    | error x => rw [ha] at h; cases h
    | ok acc =>
      obtain ⟨evs, tr⟩ := acc
      rw [ha] at h
      simp only at h
      have hinv := TInv_addRules (ctStates sp) ([], []) (evs, tr) sp.rules
        ⟨List.Pairwise.nil, by simp⟩ ha
      split at h
      · split at h <;> cases h
      · cases h
        refine ⟨hinv.1, hinv.2, ?_, rfl⟩
        intro hc
        simp at hc
        simp [hc] at hne

/-- in the tables built from any class definition
    (1) a rule naming the current state decides — also when its target is None (forbidden), the
        any-state rule is then NOT consulted;
    (2) without such a rule the any-state rule decides;
    (3) without either there is no transition. -/
theorem lookup_precedence (sp : Spec) (t : Tables) (hb : buildTables sp = .ok t) (e : EvName) (s : State) :
    (∀ tgt, (e, some s, tgt) ∈ t.trans → lookup t e s = tgt) ∧
    ((∀ x, (e, some s, x) ∉ t.trans) → ∀ tgt, (e, none, tgt) ∈ t.trans → lookup t e s = tgt) ∧
    ((∀ x, (e, some s, x) ∉ t.trans) → (∀ x, (e, none, x) ∉ t.trans) → lookup t e s = none) :=
  lookup_of_keysUnique t (build_tables_wf sp t hb).1 e s

/-- non-vacuity and the documented example #4 of FSM.EVENTS: default rule, specific rule,
    forbidden rule -/
example :
    ∃ t, buildTables ⟨["state1", "state2", "state3"],
        [⟨"ev1", none, some "state2"⟩, ⟨"ev1", some ["state2"], some "state3"⟩,
         ⟨"ev1", some ["state3"], none⟩], []⟩ = .ok t ∧
      lookup t "ev1" "state1" = some "state2" ∧ lookup t "ev1" "state2" = some "state3" ∧
      lookup t "ev1" "state3" = none ∧ t.chainLimit = 9 :=
  ⟨_, rfl, by decide, by decide, by decide, by decide⟩

/-- a table defining two targets for one (event, state) pair is refused -/
example : buildTables ⟨["a", "b"], [⟨"e", some ["a"], some "b"⟩, ⟨"e", some ["a", "b"], some "a"⟩], []⟩
    = .error .duplicate := by rfl

/-- for a known event on an FSM that has a state, `event()` returns False exactly
    when the documented acceptance condition fails (no target, or an initialised FSM with a
    condition returning a false value); it returns True only when the condition holds; and when
    the condition holds the only other outcome is an exception (chain errors). -/
theorem accept_iff (d : Def) (f : Fsm) (name : EvName) (data : Data) (s : State)
    (hev : d.events.contains name = true) (hs : f.state = some s) :
    ((ctxEvent d f (.ev name) data).2.1 = .rejected ↔ ¬ Passes d f name data) ∧
    ((ctxEvent d f (.ev name) data).2.1 = .accepted → Passes d f name data) ∧
    (Passes d f name data → (ctxEvent d f (.ev name) data).2.1 = .accepted ∨
      (ctxEvent d f (.ev name) data).2.1.isError = true) := by
  rcases check_ev_cases d f name data s hev hs with ⟨hp, t, l, _, hc, _⟩ | ⟨hnp, l, hc, _⟩
  · have hpass := ctxEvent_res_of_check_ok d f _ data _ t hc
    refine ⟨⟨fun h => ?_, fun h => absurd hp h⟩, fun _ => hp, fun _ => hpass⟩
    rw [h] at hpass
    rcases hpass with h' | h' <;> cases h'
  · rw [ctxEvent_check_error hc]
    exact ⟨⟨fun _ => hnp, fun _ => rfl⟩, nofun, fun h => absurd h hnp⟩

/-- Goto bypasses the table and the conditions: it is never rejected, nothing is logged by the
    first half, and a Goto to a state that does not exist is refused with an error that leaves the
    block unchanged -/
theorem goto_bypasses_table (d : Def) (f : Fsm) (s : State) (data : Data) :
    (ctxEvent d f (.goto s) data).2.1 ≠ .rejected ∧
    (check d f (.goto s) data).1 = [] ∧
    (d.states.contains s = false → ctxEvent d f (.goto s) data = (f, .errBadState, [])) := by
  refine ⟨?_, ?_, ?_⟩
  · cases hc : d.states.contains s with
    | true =>
      have h : check d f (.goto s) data = ([], .ok s) := by rw [check_goto]; simp only [hc, ↓reduceIte]
      rcases ctxEvent_res_of_check_ok d f _ data _ s h with h' | h' <;> intro hr <;> simp [hr, Res.isError] at h'
    | false =>
      have h : check d f (.goto s) data = ([], .error .errBadState) := by rw [check_goto]; simp only [hc, Bool.false_eq_true, ↓reduceIte]
      rw [ctxEvent_check_error h]; simp
  · rw [check_goto]; split <;> rfl
  · intro hc
    have h : check d f (.goto s) data = ([], .error .errBadState) := by rw [check_goto]; simp only [hc, Bool.false_eq_true, ↓reduceIte]
    exact ctxEvent_check_error h

/-- conditions are consulted only for table events on an initialised FSM: on a block whose
    output is still UNDEF the first half logs no condition call -/
theorem conds_only_when_initialised (d : Def) (f : Fsm) (e : EType) (data : Data)
    (hu : f.output.isUndef = true) :
    ∀ a ∈ (check d f e data).1, ∀ w n seen, a ≠ Action.cond w n seen := by
  intro a ha w n seen
  rcases check_log d f e data with h | ⟨n', s, h⟩ | ⟨n', hu', _⟩
  · rw [h] at ha; cases ha
  · rw [h, List.mem_singleton] at ha; rw [ha]; nofun
  · rw [hu] at hu'; cases hu'

/-- a rejected event leaves state, output and both flags as they were;
    what it did is either the single on_notrans event (no transition defined) or the calls of all
    conditions of that event -/
theorem reject_changes_nothing (d : Def) (f : Fsm) (name : EvName) (data : Data)
    (h : (ctxEvent d f (.ev name) data).2.1 = .rejected) :
    (ctxEvent d f (.ev name) data).1 = f ∧
    ∃ s, f.state = some s ∧
      ((lookup d.toTables name s = none ∧ (ctxEvent d f (.ev name) data).2.2 = [.notrans name s]) ∨
       ((lookup d.toTables name s).isSome = true ∧
         (ctxEvent d f (.ev name) data).2.2 = condLog d name data)) := by
  cases hev : d.events.contains name with
  | false =>
    rw [ctxEvent_check_error (check_unknown d f name data hev)] at h; cases h
  | true =>
    cases hs : f.state with
    | none => rw [ctxEvent_check_error (check_no_state d f name data hev hs)] at h; cases h
    | some s =>
      rcases check_ev_cases d f name data s hev hs with ⟨_, t, l, _, hc, _⟩ | ⟨_, l, hc, hl⟩
      · have hpass := ctxEvent_res_of_check_ok d f _ data _ t hc
        rw [h] at hpass
        rcases hpass with h' | h' <;> cases h'
      · rw [ctxEvent_check_error hc]
        refine ⟨rfl, s, rfl, hl.imp id fun h' => ⟨h'.1, h'.2.2⟩⟩

/-- an unknown event type is refused before anything happens -/
theorem unknown_event_changes_nothing (d : Def) (f : Fsm) (name : EvName) (data : Data)
    (hev : d.events.contains name = false) :
    ctxEvent d f (.ev name) data = (f, .unknownEvent, []) :=
  ctxEvent_check_error (check_unknown d f name data hev)

/-- whatever a top-level event does (accepted, rejected, any exception),
    `_fsm_event_active` is clear afterwards; and after every outcome that is not an exception
    no chained request is left in `_next_event` -/
theorem flags_released (d : Def) (f : Fsm) (e : EType) (data : Data)
    (ha : f.active = false) (hn : f.next = none) :
    (ctxEvent d f e data).1.active = false ∧
    ((ctxEvent d f e data).2.1.isError = false → (ctxEvent d f e data).1.next = none) := by
  rcases hc : check d f e data with ⟨l, r | tgt⟩
  · rw [ctxEvent_check_error hc]; exact ⟨ha, fun _ => hn⟩
  · rw [ctxEvent_check_ok hc ha hn]
    rcases transition_cases d f e data tgt with ⟨f1, r, l1, _, hr, _, ht⟩ | ⟨f1, s, l1, _, _, hn1, _, ht⟩
    · rw [ht]; exact ⟨rfl, fun h => by simp [hr] at h⟩
    · rw [ht]; exact ⟨rfl, fun _ => by simp [(setOutput_frame f1 (calcOutput d s)).2.1, hn1]⟩

/-- the flags stay released along every event sequence that raises no exception -/
theorem flags_released_run (d : Def) (f : Fsm) (evs : List (EType × Data))
    (ha : f.active = false) (hn : f.next = none)
    (hok : ∀ x ∈ (run d f evs).2, x.1.isError = false) :
    (run d f evs).1.active = false ∧ (run d f evs).1.next = none := by
  induction evs generalizing f with
  | nil => exact ⟨ha, hn⟩
  | cons ev rest ih =>
    obtain ⟨e, data⟩ := ev
    have h1 := flags_released d f e data ha hn
    rw [run_cons] at hok ⊢
    have hr1 : (ctxEvent d f e data).2.1.isError = false := hok _ (List.mem_cons_self ..)
    exact ih _ h1.1 (h1.2 hr1) (fun x hx => hok x (List.mem_cons_of_mem _ hx))

/-- with well-formed tables (what `_build_tables` produces, see
    `build_tables_wf`) the state after any event — accepted, rejected or ended by an exception,
    top-level or nested — is a declared state, and so is the target of a pending chained request -/
theorem state_in_states (d : Def) (hwf : d.toTables.WF) (f : Fsm) (e : EType) (data : Data)
    (hs : ∀ s, f.state = some s → s ∈ d.states) (hn : ∀ r, f.next = some r → r.target ∈ d.states) :
    (∀ s, (ctxEvent d f e data).1.state = some s → s ∈ d.states) ∧
    (∀ r, (ctxEvent d f e data).1.next = some r → r.target ∈ d.states) := by
  cases ha : f.active with
  | true =>
    rw [ctxEvent_active d f e data ha]
    refine ⟨?_, nested_nextOk d hwf f e data hn⟩
    intro s hs1
    rw [(nested_same d f e data).1] at hs1
    exact hs s hs1
  | false =>
    rcases hc : check d f e data with ⟨l, r | tgt⟩
    · rw [ctxEvent_check_error hc]; exact ⟨hs, hn⟩
    · cases hnx : f.next with
      | some x => rw [ctxEvent_stale_next hc ha hnx]; exact ⟨hs, hn⟩
      | none =>
        rw [ctxEvent_check_ok hc ha hnx]
        have ht := check_ok_target d hwf f e data l tgt hc
        have hl := (loop_plain d d.chainLimit { f with active := true } ⟨e, data, tgt⟩).declared hwf hs hn ht
        rcases transition_cases d f e data tgt with ⟨f1, r, l1, hlo, _, _, htr⟩ | ⟨f1, s, l1, hlo, _, _, _, htr⟩
        · rw [htr]; rw [hlo] at hl; exact hl
        · rw [htr]; rw [hlo] at hl
          have hso := setOutput_frame f1 (calcOutput d s)
          constructor
          · intro s' hs'; simp only at hs'; rw [hso.1] at hs'; exact hl.1 s' hs'
          · intro r hr; simp only at hr; rw [hso.2.1] at hr; exact hl.2 r hr

/-- the state is a declared state after the initialisation and any sequence of events whatsoever -/
theorem state_in_states_run (sp : Spec) (t : Tables) (hb : buildTables sp = .ok t) (scr : Scripts)
    (initdef : State) (evs : List (EType × Data)) :
    ∀ s, (run { toTables := t, toScripts := scr }
            (init { toTables := t, toScripts := scr } initdef).1 evs).1.state = some s → s ∈ t.states := by
  have hwf := build_tables_wf sp t hb
  generalize hd : ({ toTables := t, toScripts := scr } : Def) = d
  have hwf' : d.toTables.WF := by rw [← hd]; exact hwf
  have hst : d.states = t.states := by rw [← hd]
  have h0 := state_in_states d hwf' Fsm.fresh (.goto initdef) []
    (by intro s h; simp [Fsm.fresh] at h) (by intro r h; simp [Fsm.fresh] at h)
  intro s hs
  rw [← hst]
  exact (run_inv d (fun f => StateOk d f ∧ NextOk d f)
    (fun f e data h => state_in_states d hwf' f e data h.1 h.2) _ evs h0).1 s hs

/-- an accepted top-level event does, in this order:
    the conditions (first half), then — on an initialised FSM — the exit action of the OLD state
    reading this event's data, the on_exit events carrying the old state and the old output, the
    timer stop; then a middle part that consists ONLY of internal entries (state assignments,
    entry/exit actions, self-sent events with their conditions, timer starts) however many
    chained transitions it contains; then the output update computed by calc_output for the FINAL
    state (one on_output event from the old output, or none when the value is UNDEF or equal), then
    the on_enter events of the FINAL state carrying the new output.  An intermediate state
    therefore causes no output, no on_enter and no on_exit event. -/
theorem action_order (d : Def) (f : Fsm) (e : EType) (data : Data)
    (ha : f.active = false) (hn : f.next = none)
    (hacc : (ctxEvent d f e data).2.1 = .accepted) :
    ∃ s mid, (ctxEvent d f e data).1.state = some s ∧
      (ctxEvent d f e data).1.output = (setOutput f (calcOutput d s)).1.output ∧
      (∀ a ∈ mid, a.internal = true) ∧
      (ctxEvent d f e data).2.2 =
        (check d f e data).1 ++ leaveLog d f data ++ mid ++ (setOutput f (calcOutput d s)).2
          ++ [.onEnter s (setOutput f (calcOutput d s)).1.output] := by
  rcases ctxEvent_top d f e data ha hn with ⟨l, r, _, _, h, hr, _⟩ | ⟨l, tgt, f1, r, l1, _, _, _, hp, h⟩ |
      ⟨l, tgt, f1, s, l1, hc, _, _, hp, h⟩
  · rw [h] at hacc; exact absurd hacc hr
  · rw [h] at hacc; cases hacc; cases hp.error _ rfl
  · exact ⟨s, l1, by rw [h], by rw [h], hp.internal, by rw [h, hc]⟩

/-- what the old state's part of the log is: exit action(s) with this event's data, then the
    on_exit event with old state and old output, then the timer stop; nothing before the
    initialisation -/
theorem leave_part (d : Def) (f : Fsm) (data : Data) (s : State) (hs : f.state = some s) :
    leaveLog d f data =
      if f.output.isUndef then []
      else (exitsOf d s).map (fun w => Action.exit w s data) ++ [.onExit s f.output, .stopTimer] := by
  unfold leaveLog exitLog; simp [hs]

/-- one event enters at most `chainLimit` states; the chain-limit error is raised
    exactly when that many states have been entered and the last one requested yet another -/
theorem chain_bounded (d : Def) (f : Fsm) (e : EType) (data : Data)
    (ha : f.active = false) (hn : f.next = none) :
    (ctxEvent d f e data).2.2.countP Action.isSet ≤ d.chainLimit ∧
    ((ctxEvent d f e data).2.1 = .errChain →
      (ctxEvent d f e data).2.2.countP Action.isSet = d.chainLimit) := by
  rcases ctxEvent_top d f e data ha hn with ⟨l, r, _, hq, h, _, hr⟩ | ⟨l, tgt, f1, r, l1, _, hq, _, hl, h⟩ |
      ⟨l, tgt, f1, s, l1, _, hq, _, hl, h⟩ <;> rw [h] <;> simp only
  · rw [countP_quiet _ hq]
    exact ⟨Nat.zero_le _, fun h' => absurd h' hr⟩
  · rw [List.countP_append, List.countP_append, countP_quiet _ hq, leaveLog_count]
    simp only [Nat.zero_add]
    exact ⟨hl.count_le, fun h' => hl.count_eq (by rw [h'])⟩
  · rw [List.countP_append, List.countP_append, List.countP_append, List.countP_append, countP_quiet _ hq,
      leaveLog_count, setOutput_log_count]
    simp only [Nat.zero_add, Nat.add_zero]
    exact ⟨by simpa [Action.isSet] using hl.count_le, fun h' => by simp at h'⟩

/-- while a chained request is pending every further event that passes its first half is the
    error "forbidden event multiplication"; nothing is changed by it -/
theorem second_request_refused (d : Def) (f : Fsm) (e : EType) (data : Data) (l : List Action)
    (tgt : State) (x : Req) (ha : f.active = true) (hn : f.next = some x)
    (hc : check d f e data = (l, .ok tgt)) :
    ctxEvent d f e data = (f, .errMultiple, l) := by
  rw [ctxEvent_active d f e data ha]
  unfold nested
  simp [hc, hn]

/-- non-vacuity of `second_request_refused` -/
example :
    let d : Def := { states := ["A", "B"], events := ["go"], trans := [("go", none, some "B")], timed := [],
                     chainLimit := 6 }
    let f : Fsm := { state := some "A", output := .str "A", active := true, next := some ⟨.goto "A", [], "A"⟩ }
    ctxEvent d f (.ev "go") [] = (f, .errMultiple, []) := by
  decide

/-- if the first entry callback of the state being entered sends two events in a row that both
    pass their first half (table + conditions, or Goto), the whole event ends with the
    multiplication error — for every definition, state, event and data -/
theorem two_requests_error (d : Def) (f : Fsm) (e : EType) (data : Data) (l : List Action) (tgt : State)
    (ha : f.active = false) (hn : f.next = none) (hlim : 0 < d.chainLimit)
    (hc : check d f e data = (l, .ok tgt))
    (w : Who) (s1 s2 : Send) (rest : List Send) (more : List (Who × List Send))
    (hent : entersOf d tgt = (w, s1 :: s2 :: rest) :: more)
    (l1 l2 : List Action) (t1 t2 : State)
    (h1 : check d { f with state := some tgt, active := true } s1.etype s1.data = (l1, .ok t1))
    (h2 : check d { f with state := some tgt, active := true } s2.etype s2.data = (l2, .ok t2)) :
    (ctxEvent d f e data).2.1 = .errMultiple := by
  obtain ⟨n, hn'⟩ : ∃ n, d.chainLimit = n + 1 := ⟨d.chainLimit - 1, by omega⟩
  -- `check` does not read `_next_event`, so the second request passes its first half after the first is posted
  have h2' : check d { f with state := some tgt, active := true, next := some ⟨s1.etype, s1.data, t1⟩ }
      s2.etype s2.data = (l2, .ok t2) := h2
  rw [hn] at h1
  simp [ctxEvent, ha, hc, hn, transition, hn', loop, iter, unpack, enterState, hent, runCbs, runSends, nested,
    h1, h2', Res.isError]

/-- non-vacuity: entering `B` sends two Gotos -/
example :
    let d : Def := { states := ["A", "B"], events := ["go"], trans := [("go", none, some "B")], timed := [],
                     chainLimit := 6, enterM := [("B", [⟨.goto "A", []⟩, ⟨.goto "B", []⟩])] }
    (ctxEvent d { state := some "A", output := .str "A" } (.ev "go") []).2.1 = .errMultiple := by
  decide

/-- of an accepted top-level event other blocks see, state-wise, exactly
    this, however many intermediate states were passed through: the on_exit event of the OLD state
    with the old output (initialised FSM only), at most one on_output event (old output -> the
    output calc_output gives for the FINAL state), the on_enter event of the FINAL state with the new
    output — "from an external view the S1 -> S2 -> S3 transition looks like a straightforward
    S1 -> S3 transition" (docs/FSM.rst) -/
theorem chained_invisible (d : Def) (f : Fsm) (e : EType) (data : Data)
    (ha : f.active = false) (hn : f.next = none)
    (hacc : (ctxEvent d f e data).2.1 = .accepted) :
    ∃ s, (ctxEvent d f e data).1.state = some s ∧
      (ctxEvent d f e data).2.2.filter Action.stateEvent =
        (match f.state with
          | some s0 => if f.output.isUndef then [] else [Action.onExit s0 f.output]
          | none => [])
        ++ (setOutput f (calcOutput d s)).2 ++ [.onEnter s (ctxEvent d f e data).1.output] := by
  obtain ⟨s, mid, hs, ho, hmid, hlog⟩ := action_order d f e data ha hn hacc
  refine ⟨s, hs, ?_⟩
  rw [hlog, ho]
  simp only [List.filter_append]
  rw [filter_stateEvent_quiet _ (check_quiet d f e data), leaveLog_stateEvents,
    filter_stateEvent_internal mid hmid, setOutput_stateEvents]
  have h1 : ∀ v, List.filter Action.stateEvent [Action.onEnter s v] = [Action.onEnter s v] := fun _ => rfl
  simp [h1]
  cases f.state <;> rfl

/-- "its exit action runs": a pass of the chain loop that
    starts with a pending request (i.e. the state entered by the previous pass is an intermediate
    state) first runs the exit action(s) of that state, reading the data of the CHAINED event,
    and then assigns the requested state -/
theorem chained_exit_runs (d : Def) (n : Nat) (f : Fsm) (cur nx : Req) (s : State)
    (hn : f.next = some nx) (hs : f.state = some s) :
    ∃ rest, (loop d (n + 1) f cur).2.2 =
      (exitsOf d s).map (fun w => Action.exit w s nx.data) ++ Action.setState nx.target :: rest := by
  rw [loop_succ]
  have hu : unpack f cur = nx := by simp [unpack, hn]
  have hl : unpackLog d f = exitLog d s nx.data := by simp [unpackLog, hn, hs]
  rw [hu, hl]
  obtain ⟨_, rest, hlog, _⟩ := enterState_plain d f nx (exitLog d s nx.data ++ [Action.setState nx.target])
  rcases he : enterState d f nx (exitLog d s nx.data ++ [Action.setState nx.target]) with ⟨f1, st, l⟩
  rw [he] at hlog
  simp only at hlog
  cases st with
  | fail r => exact ⟨rest, by simp [hlog, exitLog]⟩
  | done => exact ⟨rest, by simp [hlog, exitLog]⟩
  | again => exact ⟨rest ++ (loop d n f1 nx).2.2, by simp [hlog, exitLog]⟩

/-- a complete chained transition A -(go)-> B -(nxt, sent by enter_B)-> C: what is logged and
    what is not (no on_exit/on_enter/on_output for B; exit_B and enter_C read the data of `nxt`) -/
example :
    let d : Def := { states := ["A", "B", "C"], events := ["go", "nxt"],
                     trans := [("go", some "A", some "B"), ("nxt", some "B", some "C")], timed := [],
                     chainLimit := 9, condM := [("nxt", .item "ok")],
                     enterM := [("B", [⟨.ev "nxt", [("ok", .bool true), ("tag", .str "d2")]⟩]), ("C", [])],
                     exitM := ["A", "B", "C"] }
    ctxEvent d { state := some "A", output := .str "A" } (.ev "go") [("tag", .str "d1")] =
      ({ state := some "C", output := .str "C" }, .accepted,
       [.exit .meth "A" [("tag", .str "d1")], .onExit "A" (.str "A"), .stopTimer,
        .setState "B", .enter .meth "B" [("tag", .str "d1")],
        .send (.ev "nxt") [("ok", .bool true), ("tag", .str "d2")],
        .cond .meth "nxt" [("ok", .bool true), ("tag", .str "d2")], .sendRet true,
        .exit .meth "B" [("ok", .bool true), ("tag", .str "d2")],
        .setState "C", .enter .meth "C" [("ok", .bool true), ("tag", .str "d2")],
        .output (.str "A") (.str "C"), .onEnter "C" (.str "C")]) := by
  decide

/-- an endless chain (enter_B requests B again) ends with the chain-limit error after exactly
    `chainLimit` entries -/
example :
    let d : Def := { states := ["A", "B"], events := ["go"], trans := [("go", none, some "B")], timed := [],
                     chainLimit := 6, enterF := [("B", [⟨.goto "B", []⟩])] }
    (ctxEvent d { state := some "A", output := .str "A" } (.ev "go") []).2.1 = .errChain ∧
    (ctxEvent d { state := some "A", output := .str "A" } (.ev "go") []).2.2.countP Action.isSet = 6 := by
  decide

/-- the log of every top-level event — any definition, state, event,
    data; accepted, rejected or ended by an exception; with any number of chained transitions —
    is accepted by the definition-independent checker `attrRun` (EdzedProofs/Fsm.lean):
    every condition reads the data of the event whose acceptance it decides, every exit action the
    data of the event that makes the FSM leave that state (for an intermediate state: the chained
    event), every entry action the data of the event that caused the entry. -/
theorem action_reads_causing_event (d : Def) (f : Fsm) (e : EType) (data : Data)
    (ha : f.active = false) (hn : f.next = none) :
    (attrRun ⟨data, none, none⟩ (ctxEvent d f e data).2.2).isSome = true := by
  let st : ASt := ⟨data, none, none⟩
  have hchk := attrRun_check st d f e data rfl
  have hlv := leaveLog_attr d f data st rfl
  have hloop : ∀ tgt, (attrRun st ((check d f e data).1 ++ leaveLog d f data ++
      (loop d d.chainLimit { f with active := true } ⟨e, data, tgt⟩).2.2)).isSome = true := fun tgt => by
    rw [attrRun_append_some st st _ _ (by rw [attrRun_append_some st st _ _ hchk]; exact hlv)]
    exact attr_loop d d.chainLimit _ _ st (by simp [st, hn]) (fun _ => rfl)
  rcases ctxEvent_top d f e data ha hn with ⟨l, r, hc, _, h, _, _⟩ | ⟨l, tgt, f1, r, l1, hc, _, hlo, _, h⟩ |
      ⟨l, tgt, f1, s, l1, hc, _, hlo, _, h⟩ <;> rw [h]
  · rw [hc] at hchk
    exact congrArg Option.isSome hchk
  · have := hloop tgt
    rwa [hc, hlo] at this
  · have := hloop tgt
    rw [hc, hlo] at this
    rw [attrRun_append_fixed _ _ _ (fun _ x hx => by cases List.mem_singleton.mp hx; rfl),
      attrRun_append_fixed _ _ _ (fun s' => setOutput_log_attr s' f _)]
    exact this

/-- the checker is not vacuous: the log of a chained transition in which the context variable is set
    only once (exit_B and enter_C still reading the first event's data `d1`) is refused -/
example :
    attrRun ⟨[("tag", .str "d1")], none, none⟩
      [.setState "B", .enter .meth "B" [("tag", .str "d1")], .send (.ev "nxt") [("tag", .str "d2")],
       .cond .meth "nxt" [("tag", .str "d2")], .sendRet true,
       .exit .meth "B" [("tag", .str "d1")], .setState "C", .enter .meth "C" [("tag", .str "d1")]] = none := by
  decide

/-- the checker also refuses an entry action of the final state alone reading stale data -/
example :
    attrRun ⟨[("tag", .str "d1")], none, none⟩
      [.setState "B", .enter .meth "B" [("tag", .str "d1")], .send (.goto "C") [("tag", .str "d2")],
       .sendRet true, .setState "C", .enter .meth "C" [("tag", .str "d1")]] = none := by
  decide

/-- the control tables of `Timer` extracted from the current code are exactly what the model's
    `buildTables` makes of them: consistent (no duplicate key, targets and timed events declared),
    same event set, chain limit `3 * |states|` -/
theorem timer_tables_consistent :
    ∃ t, buildTables (genSpec Gen.timerStates Gen.timerTrans Gen.timerTimed) = .ok t ∧
      t.states = Gen.timerStates ∧ t.events = Gen.timerEvents ∧ t.trans = Gen.timerTrans ∧
      t.chainLimit = Gen.timerChainLimit ∧ Gen.timerStates.contains Gen.timerDefault = true :=
  ⟨_, rfl, by decide, by decide, by decide, by decide, by decide⟩

theorem inputexp_tables_consistent :
    ∃ t, buildTables (genSpec Gen.inputExpStates Gen.inputExpTrans Gen.inputExpTimed) = .ok t ∧
      t.states = Gen.inputExpStates ∧ t.events = Gen.inputExpEvents ∧ t.trans = Gen.inputExpTrans ∧
      t.chainLimit = Gen.inputExpChainLimit ∧ Gen.inputExpStates.contains Gen.inputExpDefault = true :=
  ⟨_, rfl, by decide, by decide, by decide, by decide, by decide⟩

/-- `Timer` never answers "no transition": every event has a target in every state, and every
    target is a state (decided over the whole generated table) -/
theorem timer_table_total :
    ∀ e ∈ Gen.timerEvents, ∀ s ∈ Gen.timerStates,
      ∃ t ∈ Gen.timerStates,
        lookup { states := Gen.timerStates, events := Gen.timerEvents, trans := Gen.timerTrans,
                 timed := [], chainLimit := Gen.timerChainLimit } e s = some t := by
  decide

theorem inputexp_table_total :
    ∀ e ∈ Gen.inputExpEvents, ∀ s ∈ Gen.inputExpStates,
      ∃ t ∈ Gen.inputExpStates,
        lookup { states := Gen.inputExpStates, events := Gen.inputExpEvents, trans := Gen.inputExpTrans,
                 timed := [], chainLimit := Gen.inputExpChainLimit } e s = some t := by
  decide

/-- the general result instantiated on the generated `Timer` tables: whatever conditions, entry
    and exit actions, outputs and initial state an instance has, after the initialisation and any
    sequence of events (table events, Goto, unknown ones) its state is one of the extracted states -/
theorem timer_state_in_states (t : Tables)
    (hb : buildTables (genSpec Gen.timerStates Gen.timerTrans Gen.timerTimed) = .ok t)
    (scr : Scripts) (initdef : State) (evs : List (EType × Data)) :
    ∀ s, (run { toTables := t, toScripts := scr }
            (init { toTables := t, toScripts := scr } initdef).1 evs).1.state = some s →
      s ∈ Gen.timerStates := by
  intro s hs
  have h := state_in_states_run _ t hb scr initdef evs s hs
  obtain ⟨t', hb', hst, _⟩ := timer_tables_consistent
  rw [hb] at hb'
  cases hb'
  rw [← hst]; exact h

/-- a turnstile with a condition on `coin`: rejected by a false condition (all conditions are
    called), rejected without a transition (on_notrans), accepted otherwise -/
example :
    let d : Def := { states := ["locked", "unlocked"], events := ["coin", "push"],
                     trans := [("coin", some "locked", some "unlocked"), ("push", some "unlocked", some "locked")],
                     timed := [], chainLimit := 6,
                     condF := [("coin", .item "ok")], condM := [("coin", .const (.bool true))] }
    let f : Fsm := { state := some "locked", output := .str "locked" }
    ctxEvent d f (.ev "coin") [("ok", .int 0)] =
      (f, .rejected, [.cond .func "coin" [("ok", .int 0)], .cond .meth "coin" [("ok", .int 0)]]) ∧
    ctxEvent d f (.ev "push") [] = (f, .rejected, [.notrans "push" "locked"]) ∧
    (ctxEvent d f (.ev "coin") [("ok", .int 1)]).2.1 = .accepted ∧
    (ctxEvent d f (.ev "coin") [("ok", .int 1)]).1 = { state := some "unlocked", output := .str "unlocked" } ∧
    ctxEvent d f (.ev "kick") [] = (f, .unknownEvent, []) ∧
    f.active = false ∧ f.next = none := by
  decide

end Edzed.Fsm

/-! ## Tie by translation

`FSM._ctx_event` is translated from the CURRENT Python source on every check into the program
`Gen.TrM.ctxEvent` (lean/EdzedModel/Gen/TranslatedFsm.lean, generator tools/py2lean_fsm.py -- the same generated
program that C04 ties to its timer model): statement order, conditions, early returns, raises, `try/finally`,
the `for … else` loop with `continue`/`break` and the arguments of every call come from the AST; each call or
lookup the method makes is a field of `FsmPrims`.  `F03.prims d` (EdzedProofs/FsmTie03.lean) instantiates these
fields with the operations of THIS model (`tget`, `condsOf`/`condLog`, `exitLog`, `runCbs`, `nested`,
`calcOutput`, `setOutput`, …) over the block `F03.TS` = (`Fsm`, the context variable `fsm_event_data`, the log so
far, `_enable_event`).  The callbacks read the event data from the context variable, which only the translated
program sets; the model passes the data explicitly.  The theorems say that the translated method computes
exactly the model's `ctxEvent` (event from outside) and `nested` (recursive call while `_fsm_event_active`):
same block afterwards, same ordered log with the same data read by every action, same return value / exception
class.  A semantic edit of the method changes the generated program and these theorems stop compiling. -/

-- `prims`, `seq_next`, `seq_stop`, `RoundEnds` below are those of `F03`, reached through `open`.  The C04 tie
-- (EdzedProofs/FsmTie.lean) declares the same names in `Edzed.TrTie` itself, and a name of the current namespace
-- wins over an opened one without any message: this module must not import that file.
namespace Edzed.TrTie
open Edzed.Fsm Edzed.Gen.TrM F03

/-- the recursive call (`self.event()` from an entry action or from `_start_timer` of a zero-duration state,
    `_fsm_event_active` set): the translated method = the model's `nested` — unknown event, missing state,
    table lookup with the specific rule first and no fall-through of a stored None, on_notrans, conditions only
    when initialised (all of them, reading the data of THIS call), Goto with `_check_state`, the multiplication
    error and the posting of `_next_event` -/
theorem translated_fsm03_post_is_model (d : Def) (t : TS) (e : EType) (data : Data)
    (ha : t.f.active = true) :
    view (Gen.TrM.ctxEvent (prims d) e data t) =
      ((nested d t.f e data).1, t.log ++ (nested d t.f e data).2.2, flowOf (nested d t.f e data).2.1) := by
  obtain ⟨f, ctx, log, en⟩ := t
  simp only at ha
  have h := body_run d f ctx data log en e
  unfold Gen.TrM.ctxEvent nested view
  generalize check d f e data = c at h ⊢
  obtain ⟨l, r | tgt⟩ := c
  · simp only at h ⊢
    rw [h.1, h.2]
  · simp only at h ⊢
    rw [h]
    cases hn : f.next <;> simp only [ha, if_true, flowOf]

/-- one pass of the translated loop body = the model's `iter`: unpacking of `_next_event` (context variable set
    to the chained event's data BEFORE the exit action of the intermediate state), state assignment, entry
    action, `continue`, timer start, `continue` / `break`, exceptions -/
theorem translated_fsm03_round (d : Def) (t : TS) (loc : Loc EType Data State) (cur : Req)
    (hen : t.enabled = false)
    (hq : t.f.next = none → loc.v3 = some cur.target ∧ loc.v1 = cur.data ∧ t.ctx = cur.data) :
    (ctxEventLoop0 (prims d) (t, loc)).1.1.f = (iter d t.f cur).1 ∧
    (ctxEventLoop0 (prims d) (t, loc)).1.1.log = t.log ++ (iter d t.f cur).2.2.2 ∧
    (ctxEventLoop0 (prims d) (t, loc)).1.1.enabled = false ∧
    RoundEnds (iter d t.f cur).2.2.1 (ctxEventLoop0 (prims d) (t, loc)).2 ∧
    (ctxEventLoop0 (prims d) (t, loc)).1.2.v1 = (iter d t.f cur).2.1.data ∧
    (ctxEventLoop0 (prims d) (t, loc)).1.2.v3 = some (iter d t.f cur).2.1.target ∧
    (ctxEventLoop0 (prims d) (t, loc)).1.1.ctx = (iter d t.f cur).2.1.data := by
  obtain ⟨f, ctx, log, en⟩ := t
  obtain ⟨v0, v1, v2, v3⟩ := loc
  cases hen
  have h := round_run d f ctx log v0 v1 v2 v3 cur hq
  generalize ctxEventLoop0 (prims d) _ = R at h ⊢
  subst h
  dsimp only
  generalize iter d f cur = I
  refine ⟨rfl, rfl, rfl, ?_, rfl, rfl, rfl⟩
  cases I.2.2.1 <;> rfl

/-- the translated `for _ in range(self._ct_chainlimit): … else: raise …` = the model's `loop`, by induction
    on the count -/
theorem translated_fsm03_loop (d : Def) : ∀ (n : Nat) (t : TS) (loc : Loc EType Data State) (cur : Req),
    t.enabled = false →
    (t.f.next = none → loc.v3 = some cur.target ∧ loc.v1 = cur.data ∧ t.ctx = cur.data) →
    (forRange (ctxEventLoop0 (prims d)) (Gen.TrM.raise ((prims d).exc "EdzedCircuitError")) n (t, loc)).1.1.f
      = (loop d n t.f cur).1 ∧
    (forRange (ctxEventLoop0 (prims d)) (Gen.TrM.raise ((prims d).exc "EdzedCircuitError")) n (t, loc)).1.1.log
      = t.log ++ (loop d n t.f cur).2.2 ∧
    (forRange (ctxEventLoop0 (prims d)) (Gen.TrM.raise ((prims d).exc "EdzedCircuitError")) n (t, loc)).1.1.enabled
      = false ∧
    LoopEnds (loop d n t.f cur).2.1
      (forRange (ctxEventLoop0 (prims d)) (Gen.TrM.raise ((prims d).exc "EdzedCircuitError")) n (t, loc)).2 := by
  intro n
  induction n with
  | zero =>
    intro t loc cur hen _
    simp [forRange, Gen.TrM.raise, loop, LoopEnds, prims_exc, excOf, excOfRes, hen]
  | succ n ih =>
    intro t loc cur hen hq
    obtain ⟨f, ctx, log, en⟩ := t
    obtain ⟨v0, v1, v2, v3⟩ := loc
    cases hen
    unfold forRange loop
    rw [round_run d f ctx log v0 v1 v2 v3 cur hq]
    generalize iter d f cur = I
    obtain ⟨f1, cur', st, l⟩ := I
    cases st with
    | fail r => exact ⟨rfl, rfl, rfl, rfl⟩
    | done => exact ⟨rfl, rfl, rfl, rfl⟩
    | again =>
      dsimp only [roundFlow]
      obtain ⟨i1, i2, i3, i4⟩ := ih ⟨f1, cur'.data, log ++ l, false⟩
        ⟨(f.next.map (·.etype)).getD v0, cur'.data, v2, some cur'.target⟩ cur' rfl (fun _ => ⟨rfl, rfl, rfl⟩)
      exact ⟨i1, by rw [i2, List.append_assoc], i3, i4⟩

/-- the `try:` block of `_ctx_event` run once, whatever `_next_event` holds.
    The block is run inside the hypothesis `hR`, where the program stands once.  The value of `_next_event` is the
    parameter `nx`: a `match f.next with` in the conclusion would be rewritten together with the `next := f.next`
    inside `{ f with active := true }`. -/
theorem try_run (d : Def) (f : Fsm) (data : Data) (log0 : List Action) (loc : Loc EType Data State)
    (hinit : f.output.isUndef = false → f.state ≠ none) (R : (TS × Loc EType Data State) × Flow Exc Bool)
    (hR : ctxEventTry0 (prims d) (⟨{ f with active := true }, data, log0, false⟩, loc) = R)
    (nx : Option Req) (hn : f.next = nx) :
    match nx with
    | some _ =>
      R.1.1.f = { f with active := true } ∧ R.1.1.log = log0 ++ leaveLog d f data ∧
      R.2 = Flow.raise Exc.assertion
    | none => ∀ e tgt, loc.v3 = some tgt → loc.v1 = data →
      { R.1.1.f with active := false } = (transition d f e data tgt).1 ∧
      R.1.1.log = log0 ++ leaveLog d f data ++ (transition d f e data tgt).2.2 ∧
      R.2 = flowOf (transition d f e data tgt).2.1 := by
  unfold ctxEventTry0 at hR
  -- exit action, on_exit events, `_stop_timer()`
  rw [seq_next (sl1 := (⟨{ f with active := true }, data, log0 ++ leaveLog d f data, false⟩, loc))] at hR
  rotate_left
  · cases hu : f.output.isUndef with
    | true => cases hs : f.state <;> simp only [fsm03, leaveLog, hu, hs]
    | false =>
      cases hs : f.state with
      | none => exact absurd hs (hinit hu)
      | some s0 => simp only [fsm03, leaveLog, hu, hs]
  -- `assert self._next_event is None`
  cases nx with
  | some x =>
    rw [seq_stop (sl1 := (⟨{ f with active := true }, data, log0 ++ leaveLog d f data, false⟩, loc))
      (f := Flow.raise Exc.assertion) (by simp only [fsm03, hn]) (by simp)] at hR
    subst hR
    exact ⟨by simp only [hn], rfl, rfl⟩
  | none =>
    intro e tgt hv3 hv1
    rw [seq_next (sl1 := (⟨{ f with active := true }, data, log0 ++ leaveLog d f data, false⟩, loc))
      (by simp only [fsm03, hn])] at hR
    -- the chain loop
    obtain ⟨i1, i2, i3, i4⟩ := translated_fsm03_loop d d.chainLimit
      ⟨{ f with active := true }, data, log0 ++ leaveLog d f data, false⟩ loc ⟨e, data, tgt⟩ rfl
      (fun _ => ⟨hv3, hv1, rfl⟩)
    have hp := loop_plain d d.chainLimit { f with active := true } ⟨e, data, tgt⟩
    unfold transition
    simp only at i1 i2 i3 i4
    generalize hL : forRange (ctxEventLoop0 (prims d)) (Gen.TrM.raise ((prims d).exc "EdzedCircuitError"))
      d.chainLimit (⟨{ f with active := true }, data, log0 ++ leaveLog d f data, false⟩, loc) = L at i1 i2 i3 i4
    generalize loop d d.chainLimit { f with active := true } ⟨e, data, tgt⟩ = M at i1 i2 i4 hp ⊢
    obtain ⟨⟨⟨f1, ctx1, log1, en1⟩, loc1⟩, fl⟩ := L
    obtain ⟨fm, rm, lm⟩ := M
    simp only at i1 i2 i3 i4 hp
    subst i1 i2 i3
    cases rm with
    | some r =>
      simp only [LoopEnds] at i4
      subst i4
      rw [seq_stop (sl1 := (⟨f1, ctx1, _, false⟩, loc1)) (f := Flow.raise (excOfRes r)) hL (by simp)] at hR
      subst hR
      exact ⟨rfl, rfl, (flowOf_error r (hp.error r rfl)).symm⟩
    | none =>
      simp only [LoopEnds] at i4
      subst i4
      rw [seq_next (sl1 := (⟨f1, ctx1, _, false⟩, loc1)) hL] at hR
      obtain ⟨hnx, hst⟩ := hp.ended rfl
      cases hs : f1.state with
      | none => rw [hs] at hst; cases hst
      | some s =>
        cases hu : (Fsm.calcOutput d s).isUndef with
        | true =>
          have : Fsm.setOutput f1 (Fsm.calcOutput d s) = (f1, []) := by simp [Fsm.setOutput, hu]
          simp only [fsm03, hs, hu] at hR
          subst hR
          simp only [this, hs, flowOf, List.append_nil, List.append_assoc, and_self]
        | false =>
          simp only [fsm03, hs, hu, (setOutput_keeps f1 (Fsm.calcOutput d s)).1] at hR
          subst hR
          simp only [hs, flowOf, List.append_assoc, and_self]

/-- the `try:` block of `_ctx_event` (exit action, on_exit, timer stop, assertion, chain loop, output,
    on_enter) = the model's `leaveLog` followed by `transition`, up to the `finally:` clause -/
theorem translated_fsm03_try (d : Def) (f : Fsm) (e : EType) (data : Data) (tgt : State)
    (log0 : List Action) (loc : Loc EType Data State) (hv3 : loc.v3 = some tgt) (hv1 : loc.v1 = data)
    (hn : f.next = none) (hinit : f.output.isUndef = false → f.state ≠ none) :
    { (ctxEventTry0 (prims d) (⟨{ f with active := true }, data, log0, false⟩, loc)).1.1.f with active := false }
      = (transition d f e data tgt).1 ∧
    (ctxEventTry0 (prims d) (⟨{ f with active := true }, data, log0, false⟩, loc)).1.1.log
      = log0 ++ leaveLog d f data ++ (transition d f e data tgt).2.2 ∧
    (ctxEventTry0 (prims d) (⟨{ f with active := true }, data, log0, false⟩, loc)).2
      = flowOf (transition d f e data tgt).2.1 :=
  try_run d f data log0 loc hinit _ rfl none hn e tgt hv3 hv1

/-- the `try:` block entered with a stale `_next_event` (left behind by an exception inside an entry action): the assertion
    after the exit action fails -/
theorem translated_fsm03_try_stale (d : Def) (f : Fsm) (data : Data) (x : Req)
    (log0 : List Action) (loc : Loc EType Data State)
    (hn : f.next = some x) (hinit : f.output.isUndef = false → f.state ≠ none) :
    (ctxEventTry0 (prims d) (⟨{ f with active := true }, data, log0, false⟩, loc)).1.1.f
      = { f with active := true } ∧
    (ctxEventTry0 (prims d) (⟨{ f with active := true }, data, log0, false⟩, loc)).1.1.log
      = log0 ++ leaveLog d f data ∧
    (ctxEventTry0 (prims d) (⟨{ f with active := true }, data, log0, false⟩, loc)).2
      = Flow.raise Exc.assertion :=
  try_run d f data log0 loc hinit _ rfl (some x) hn

/-- `FSM._ctx_event`, as translated from the current source, run on the operations of the C03
    model for an event arriving from outside (`_fsm_event_active` clear) computes exactly the model's
    `ctxEvent`: the block afterwards, the ordered log of actions and events (each with the event data it read
    through `fsm_event_data`), and the value returned / the class of the exception -/
theorem translated_fsm03_ctx_event_is_model (d : Def) (f : Fsm) (e : EType) (data ctx0 : Data)
    (log0 : List Action) (ha : f.active = false)
    (hinit : f.output.isUndef = false → f.state ≠ none) :
    view (Gen.TrM.ctxEvent (prims d) e data ⟨f, ctx0, log0, false⟩) =
      ((Fsm.ctxEvent d f e data).1, log0 ++ (Fsm.ctxEvent d f e data).2.2,
        flowOf (Fsm.ctxEvent d f e data).2.1) := by
  have h := body_run d f ctx0 data log0 false e
  unfold Gen.TrM.ctxEvent view
  rcases hc : check d f e data with ⟨l, r | tgt⟩
  · rw [hc] at h
    rw [ctxEvent_check_error hc, h.1, h.2]
  · rw [hc] at h
    simp only at h
    rw [h]
    simp only [ha, Bool.false_eq_true, if_false]
    obtain ⟨st, out, act, nx⟩ := f
    subst ha
    cases nx with
    | none =>
      obtain ⟨a, b, c⟩ := translated_fsm03_try d ⟨st, out, false, none⟩ e data tgt (log0 ++ l)
        ⟨e, data, data, some tgt⟩ rfl rfl rfl hinit
      rw [ctxEvent_check_ok hc rfl rfl, ← a, b, c]
      simp only [fsm03]
    | some x =>
      obtain ⟨a, b, c⟩ := translated_fsm03_try_stale d ⟨st, out, false, some x⟩ data x (log0 ++ l)
        ⟨e, data, data, some tgt⟩ rfl hinit
      rw [ctxEvent_stale_next hc rfl rfl, a, b, c]
      simp only [fsm03, flowOf]

/-- the hypotheses of `translated_fsm03_ctx_event_is_model` hold in every state a block can reach: after the
    initialisation and any sequence of events whatsoever an initialised FSM has a state (that `_fsm_event_active` is clear
    after any sequence that raised no exception is `flags_released_run`) -/
theorem translated_fsm03_tie_hypotheses_hold_when_reachable (d : Def) (initdef : State)
    (evs : List (EType × Data)) :
    (run d (init d initdef).1 evs).1.output.isUndef = false → (run d (init d initdef).1 evs).1.state ≠ none :=
  run_hasState d _ evs (ctxEvent_hasState d Fsm.fresh (.goto initdef) [] (by intro h; simp [Fsm.fresh, Val.isUndef] at h))

/-- what the tie gives for the clause "every condition, entry and exit action reads the data of the event that
    caused it": the log written by the TRANSLATED method (callbacks reading the context variable that the
    translated `fsm_event_data.set(…)` calls maintain) is accepted by the definition-independent checker
    `attrRun` -/
theorem translated_fsm03_actions_read_causing_event (d : Def) (f : Fsm) (e : EType) (data ctx0 : Data)
    (ha : f.active = false) (hn : f.next = none) (hinit : f.output.isUndef = false → f.state ≠ none) :
    (attrRun ⟨data, none, none⟩ (Gen.TrM.ctxEvent (prims d) e data ⟨f, ctx0, [], false⟩).1.log).isSome = true := by
  have h := translated_fsm03_ctx_event_is_model d f e data ctx0 [] ha hinit
  simp only [view, Prod.mk.injEq, List.nil_append] at h
  rw [h.2.1]
  exact action_reads_causing_event d f e data ha hn

def ex03 : Def :=
  { states := ["A", "B", "C"], events := ["go", "nxt"],
    trans := [("go", some "A", some "B"), ("nxt", some "B", some "C")], timed := [],
    chainLimit := 9, condM := [("nxt", .item "ok")],
    enterM := [("B", [⟨.ev "nxt", [("ok", .bool true), ("tag", .str "d2")]⟩]), ("C", [])],
    exitM := ["A", "B", "C"] }

/-- non-vacuity: the chained transition A -(go)-> B -(nxt, sent by enter_B)-> C evaluated through the translated
    method: it agrees with the model, ends in C, and the exit action of the intermediate state B as well as the
    entry action of C read the data of `nxt` (`d2`), not of `go` (`d1`) -/
example :
    (fun r => (r.1, r.2.1, retOf r.2.2)) (view (Gen.TrM.ctxEvent (prims ex03) (.ev "go") [("tag", .str "d1")]
        ⟨{ state := some "A", output := .str "A" }, [], [], false⟩)) =
      ({ state := some "C", output := .str "C" },
       [.exit .meth "A" [("tag", .str "d1")], .onExit "A" (.str "A"), .stopTimer,
        .setState "B", .enter .meth "B" [("tag", .str "d1")],
        .send (.ev "nxt") [("ok", .bool true), ("tag", .str "d2")],
        .cond .meth "nxt" [("ok", .bool true), ("tag", .str "d2")], .sendRet true,
        .exit .meth "B" [("ok", .bool true), ("tag", .str "d2")],
        .setState "C", .enter .meth "C" [("ok", .bool true), ("tag", .str "d2")],
        .output (.str "A") (.str "C"), .onEnter "C" (.str "C")],
       some true) := by
  decide +kernel

/-- the recursive call evaluated through the translated method: `self.event('nxt', …)` while `_fsm_event_active` posts the request -/
example :
    (fun r => (r.1, r.2.1, retOf r.2.2))
      (view (Gen.TrM.ctxEvent (prims ex03) (.ev "nxt") [("ok", .bool true), ("tag", .str "d2")]
        ⟨{ state := some "B", output := .str "A", active := true }, [("tag", .str "d1")], [], true⟩)) =
      ({ state := some "B", output := .str "A", active := true,
         next := some ⟨.ev "nxt", [("ok", .bool true), ("tag", .str "d2")], "C"⟩ },
       [.cond .meth "nxt" [("ok", .bool true), ("tag", .str "d2")]], some true) := by
  decide +kernel

/-! ## Tie by translation, second part: the tables, the callbacks, the events, the context copy

`FSM._check_state`, `_build_tables` (with `add_transition`), `__init__`, `_send_events`, `_run_cb` and `_event` are
translated from the current source by tools/py2lean_fsmtables.py into programs of lean/EdzedModel/Gen/
TranslatedFsmTables.lean (namespace `Gen.TrFT`): a monad with the class / instance attributes as state,
exceptions, `return`, `break` / `continue`; dicts, sets and defaultdicts are association lists; what the
methods call outside themselves is a field of `Prims`.  The proofs are in EdzedProofs/FsmTablesTie.lean. -/

section tables
open FT Gen.TrFT
variable {δ Du κ α ε χ η : Type}

/-- the tables: for every class definition a user can write (STATES a sequence of names; EVENTS rules with
    from-states None / `'a | b'` / a sequence, targets a name or None; TIMERS with event names or Goto), provided no
    name is refused by `check_name`, no event name is an SBlock event and the TIMERS durations are well-formed,
    the translated `_build_tables` fails (ValueError) exactly when the model's `buildTables` refuses the
    definition, and otherwise produces the model's tables: `_ct_states`, `_ct_events`, `_ct_transition` (same
    keys incl. the any-state key None and the forbidding targets None, same insertion order), `_ct_chainlimit`,
    and in addition `_ct_timed_event`, the collected `cond_/enter_/exit_` methods (`collectStep`: the attribute
    name is split at the FIRST `_`, the kind must be one of the three, the rest an event resp. a state, the
    attribute callable) and the `_ct_prefixes` rows that `__init__` uses.  `zero` only decides the zero-duration
    flags of the model's `timed` table, which `buildTables` passes through and the conclusion does not compare -/
theorem translated_fsm03_tables_build_is_model (p : Prims δ Du κ α ε χ η) (zero : δ → Bool)
    (o : Obj δ Du κ α ε χ) (sts : List String) (hS : o.STATES = .seq sts)
    (hcn : ∀ n w, p.checkName n w = .ok ())
    (hh : ∀ r ∈ o.EVENTS, dhas o.ctHandlers r.1 = false)
    (hper : ∀ t ∈ o.TIMERS, ∃ du, p.timePeriod t.2.1 = .ok du) :
    match Fsm.buildTables (specOf p zero o sts) with
    | .error _ => (Gen.TrFT.buildTables p o).2 = .raise "ValueError"
    | .ok t =>
      (Gen.TrFT.buildTables p o).2 = .next () ∧
      (Gen.TrFT.buildTables p o).1.ctStates = t.states ∧
      (Gen.TrFT.buildTables p o).1.ctEvents = t.events ∧
      trOf (Gen.TrFT.buildTables p o).1.ctTransition = t.trans ∧
      (Gen.TrFT.buildTables p o).1.ctChainlimit = t.chainLimit ∧
      (Gen.TrFT.buildTables p o).1.ctTimedEvent = o.TIMERS.foldl (fun d t => dset d t.1 t.2.2) [] ∧
      (Gen.TrFT.buildTables p o).1.ctMethods =
        o.classVars.foldl (collectStep p t.events t.states) [("enter", []), ("exit", []), ("cond", [])] ∧
      (Gen.TrFT.buildTables p o).1.ctPrefixes = (resetObj o).ctPrefixes :=
  buildTables_spec p zero o sts hS hcn hh hper

/-- hence "the FSM follows its transition table" starts from the class attributes: the lookup the model does
    in the tables built by the TRANSLATED `_build_tables` obeys `lookup_precedence` -/
theorem translated_fsm03_tables_lookup_precedence (p : Prims δ Du κ α ε χ η) (zero : δ → Bool)
    (o : Obj δ Du κ α ε χ) (sts : List String) (hS : o.STATES = .seq sts)
    (hcn : ∀ n w, p.checkName n w = .ok ())
    (hh : ∀ r ∈ o.EVENTS, dhas o.ctHandlers r.1 = false)
    (hper : ∀ t ∈ o.TIMERS, ∃ du, p.timePeriod t.2.1 = .ok du)
    (t : Tables) (hb : Fsm.buildTables (specOf p zero o sts) = .ok t) (e : EvName) (s : State) :
    trOf (Gen.TrFT.buildTables p o).1.ctTransition = t.trans ∧
    (∀ tgt, (e, some s, tgt) ∈ t.trans → lookup t e s = tgt) ∧
    ((∀ x, (e, some s, x) ∉ t.trans) → ∀ tgt, (e, none, tgt) ∈ t.trans → lookup t e s = tgt) ∧
    ((∀ x, (e, some s, x) ∉ t.trans) → (∀ x, (e, none, x) ∉ t.trans) → lookup t e s = none) := by
  have h := buildTables_spec p zero o sts hS hcn hh hper
  rw [hb] at h
  exact ⟨h.2.2.2.1, Edzed.Fsm.lookup_precedence _ t hb e s⟩

/-- `_check_state` -/
theorem translated_fsm03_check_state (p : Prims δ Du κ α ε χ η) (s : String) (o : Obj δ Du κ α ε χ) :
    checkState p s o = if o.ctStates.contains s then (o, .next ()) else (o, .raise "ValueError") :=
  checkState_spec p s o

/-- `_run_cb`: the instance callback first, then the class method, each if it exists; both results are
    collected in that order; nothing else happens -/
theorem translated_fsm03_run_cb_calls (p : Prims δ Du κ α ε χ η) (kind name : String) (o : Obj δ Du κ α ε χ)
    (F : List (String × κ)) (Mt : List (String × α))
    (hF : o.fsmFunctions.lookup kind = some F) (hM : o.ctMethods.lookup kind = some Mt) :
    (runCb p kind name o).1.calls =
      o.calls ++ ((F.lookup name).map Call.func).toList ++ ((Mt.lookup name).map Call.meth).toList :=
  runCb_calls p kind name o F Mt hF hM

/-- `_run_cb('cond', e)` is the model's `condsOf` (function before method) with the values the model gives to
    `all(…)`: each condition evaluated on the data in the context variable -/
theorem translated_fsm03_run_cb_is_condsOf (d : Def) (p : Prims δ Du CondS CondS ε χ η) (e : String)
    (o : Obj δ Du CondS CondS ε χ)
    (hF : o.fsmFunctions.lookup "cond" = some d.condF) (hM : o.ctMethods.lookup "cond" = some d.condM)
    (hfr : ∀ c (o' : Obj δ Du CondS CondS ε χ), p.funcResult c o' = c.eval o'.ctxVar)
    (hmr : ∀ c (o' : Obj δ Du CondS CondS ε χ), p.methResult c o' = c.eval o'.ctxVar) :
    (runCb p "cond" e o).2 = .ret ((condsOf d e).map fun c => c.2.eval o.ctxVar) ∧
    (runCb p "cond" e o).1.calls = o.calls ++ (condsOf d e).map (fun c =>
      match c.1 with
      | .func => Call.func c.2
      | .meth => Call.meth c.2) :=
  runCb_cond_model d p e o hF hM hfr hmr

/-- `_send_events`: every event configured for the current state is sent once, in order, with `sdata`
    minus the private items, the trigger without `on_`, the CURRENT state and the CURRENT output (what the
    model logs as `onExit s output` / `onEnter s output`); nothing for a state without events -/
theorem translated_fsm03_send_events_items (p : Prims δ Du κ α ε χ η) (trigger s : String)
    (o : Obj δ Du κ α ε χ) (tbl : List (String × List ε)) (hs : o.state = some s)
    (ht : o.stateEvents.lookup trigger = some tbl) :
    sendEvents p trigger o =
      match tbl.lookup s with
      | none => (o, .ret ())
      | some evs => ({ o with calls := o.calls ++ evs.map fun ev => Call.send ev (sendItems p trigger s o) },
          .next ()) :=
  sendEvents_spec p trigger s o tbl hs ht

/-- `_event`: `contextvars.copy_context().run(self._ctx_event, …)` -- the result and everything
    `_ctx_event` did to the block are handed on, its writes to `fsm_event_data` are not -/
theorem translated_fsm03_event_copies_context (p : Prims δ Du κ α ε χ η) (e : η) (data : Data)
    (o : Obj δ Du κ α ε χ) :
    event p e data o =
      match p.ctxEvent e data o with
      | (o1, .ok b) => ({ o1 with ctxVar := o.ctxVar }, .ret b)
      | (o1, .error x) => ({ o1 with ctxVar := o.ctxVar }, .raise x) :=
  event_spec p e data o

/-- what the `_ctx_event` tie relies on (F03.prims: `runCbEnter` / `startTimer` apply `nested` and leave the
    context variable alone): a `self.event()` of an entry action, i.e. the translated `_event` around the
    translated `_ctx_event` on the model's primitives while `_fsm_event_active`, IS the model's `nested` --
    request posted / multiplication error / rejection, conditions logged with the data of THIS call -- and the
    caller's context variable is what it was -/
theorem translated_fsm03_event_is_post (d : Def) (q : Prims δ Du κ α ε (Option Req × List Action × Bool) EType)
    (t : TS) (base : Obj δ Du κ α ε (Option Req × List Action × Bool)) (e : EType) (data : Data)
    (ha : t.f.active = true) :
    (tsOf (event { q with ctxEvent := ctxEventObj d } e data (objOf t base)).1).f = (nested d t.f e data).1 ∧
    (tsOf (event { q with ctxEvent := ctxEventObj d } e data (objOf t base)).1).log
      = t.log ++ (nested d t.f e data).2.2 ∧
    (tsOf (event { q with ctxEvent := ctxEventObj d } e data (objOf t base)).1).ctx = t.ctx ∧
    (event { q with ctxEvent := ctxEventObj d } e data (objOf t base)).2 =
      (match flowOf (nested d t.f e data).2.1 with
       | .ret b => Out.ret b
       | .raise x => Out.raise (excName x)
       | _ => Out.raise "?") := by
  have hp := translated_fsm03_post_is_model d t e data ha
  simp only [view, Prod.mk.injEq] at hp
  obtain ⟨h1, h2, h3⟩ := hp
  rw [event_spec]
  simp only [ctxEventObj, tsOf_objOf]
  rw [h3]
  cases hfl : flowOf (nested d t.f e data).2.1 <;> simp [tsOf, objOf, h1, h2]

/-- `__init__`, keyword parsing: every keyword argument is tried against EVERY row of `_ct_prefixes`, in
    order; a matching prefix with a rest that is not in the container the row refers to (`t_`: the timed states
    with a default duration entry, `cond_`: the events, the others: the states) is TypeError; otherwise the
    pair (rest, keyword) is appended under that prefix -/
theorem translated_fsm03_init_sorts_keywords (p : Prims δ Du κ α ε χ η) (n : Option κ) (o : Obj δ Du κ α ε χ)
    (args : List String) (dd : List (String × List (String × String))) :
    match sortArgs p (refContains o) o.ctPrefixes dd args with
    | .ok dd' => forEach args (initLoop0 p n) { o with tmpDD := dd } = ({ o with tmpDD := dd' }, .next ())
    | .error _ => (forEach args (initLoop0 p n) { o with tmpDD := dd }).2 = .raise "TypeError" :=
  sortArgs_spec p n o args dd

/-- `__init__` of a block without FSM-specific keywords, statement by statement: shared durations, empty
    callback / event tables, `_on_notrans`, `_state = UNDEF`, timer / flags / pending request reset, empty
    `sdata`, `initdef` defaulting to `_ct_default_state`, then `super().__init__` with all keywords -/
theorem translated_fsm03_init_plain (p : Prims δ Du κ α ε χ η) (n : Option κ) (o : Obj δ Du κ α ε χ)
    (dd : List (String × List (String × String))) (evs : List ε)
    (hT : o.typeIsFSM = false)
    (hdd : sortArgs p (refContains o) o.ctPrefixes [] (o.kwargs.map (·.1)) = .ok dd)
    (hnone : ∀ k, ddget dd k = []) (hev : p.eventTuple n = .ok evs) :
    Gen.TrFT.init p n o =
      ({ o with
          tmpDD := dd
          duration := DurRef.shared
          fsmFunctions := [("cond", []), ("enter", []), ("exit", [])]
          stateEvents := [("on_enter", []), ("on_exit", [])]
          onNotrans := evs
          state := none
          activeTimerNone := true
          timersEnabled := false
          fsmEventActive := false
          nextEventNone := true
          sdata := []
          initdefDefault := (if dhas o.kwargs "initdef" then o.initdefDefault else some o.ctDefaultState)
          calls := (o.calls ++ [Call.superInit o.kwargs
            (if dhas o.kwargs "initdef" then o.initdefDefault else some o.ctDefaultState)]) },
        .next ()) :=
  init_plain_spec p n o dd evs hT hdd hnone hev

/-- `__init__`, `t_STATE=value`: the instance works on ITS OWN copy of the default durations (the class's
    dict is not modified), the value goes through `time_period`, the keyword is consumed before
    `super().__init__` sees the rest -/
theorem translated_fsm03_init_duration_is_own_copy (p : Prims δ Du κ α ε χ η) (n : Option κ)
    (o : Obj δ Du κ α ε χ) (dd : List (String × List (String × String))) (evs : List ε) (ts arg : String)
    (v : κ) (du : Du) (rest : List (String × κ))
    (hT : o.typeIsFSM = false)
    (hdd : sortArgs p (refContains o) o.ctPrefixes [] (o.kwargs.map (·.1)) = .ok dd)
    (ht : ddget dd "t_" = [(ts, arg)])
    (hnone : ∀ k, k ≠ "t_" → ddget dd k = [])
    (hts : dhas o.ctDefaultDuration ts = true)
    (hpop : dpop o.kwargs arg = .ok (v, rest))
    (hper : p.timePeriodKw v = .ok (some du))
    (hev : p.eventTuple n = .ok evs) :
    (Gen.TrFT.init p n o).2 = .next () ∧
    (Gen.TrFT.init p n o).1.duration = DurRef.own (dset o.ctDefaultDuration ts (some du)) ∧
    (Gen.TrFT.init p n o).1.ctDefaultDuration = o.ctDefaultDuration ∧
    (Gen.TrFT.init p n o).1.kwargs = rest ∧
    (Gen.TrFT.init p n o).1.calls = o.calls ++ [Call.superInit rest
      (if dhas rest "initdef" then o.initdefDefault else some o.ctDefaultState)] :=
  init_one_duration_spec p n o dd evs ts arg v du rest hT hdd ht hnone hts hpop hper hev

end tables

end Edzed.TrTie
