/-
C02 — output events reproduce the source block's output history exactly.

Model: EdzedModel/Output.lean (`assign .sblock` = SBlock.set_output, `assign .cblock` =
CBlock.eval_block, both with the comparison `pyEqN` that knows float NaN; `Ev.send` = Event.send with
its filter pipeline; `run` = a whole history of assignments).  On values without NaN `assign` is the
pair `setOutput` / `evalBlock` (`assign_is_translated_code_without_nan`), which is what the
translation of the source is compared with at the end of the file.
All statements are for every block kind `k`, every configuration `c` (any number of on_output /
on_every_output events with any filters), every initial output and EVERY list of assigned values
(any length; UNDEF, which the code refuses, included).  An "event" below is one `Event.send` call
(`Sent`); what the destination handler gets is `Sent.result`.

Not modelled, and so not spoken of by any statement below: what a destination does with an event, in
particular one that makes the sender assign again while it is still delivering (re-entrancy) or that raises.
-/
import EdzedModel.Output
import EdzedProofs.Output
import EdzedProofs.DataLemmas
import EdzedModel.Gen.TranslatedOutput
import EdzedModel.EventTuple
import EdzedModel.Gen.TranslatedEvTuple
import EdzedProps.C18

namespace Edzed.Output

/-- the records of `run` ARE the output history: record `j` is the `j`-th assignment, it starts
    with the output the previous one left (the first with the initial output), and it leaves the
    assigned value — or, when the value is refused (UNDEF) or compares equal, the very object
    that was stored before (`1` then `True` leaves `1`) -/
theorem run_is_output_history (k : BKind) (c : Cfg) (out : Val) (vs : List Val) :
    (run k c out vs).map (·.value) = vs ∧
    (∀ h0 : 0 < (run k c out vs).length, (run k c out vs)[0].before = out) ∧
    (∀ j (hj : j + 1 < (run k c out vs).length),
      (run k c out vs)[j + 1].before = (run k c out vs)[j].after) ∧
    ∀ r ∈ run k c out vs,
      r.after = if r.value.isUndef || pyEqN r.before r.value then r.before else r.value := by
  obtain ⟨h0, h1⟩ := linked_index Rec.before Rec.after out _ (run_linked k c out vs)
  refine ⟨run_values k c out vs, h0, h1, fun r hr => ?_⟩
  obtain ⟨o, v, res⟩ := r
  rw [show res = assign k c o v from res_of_mem_run hr]
  exact after_assign k c o v

/-- UNDEF is refused and changes nothing -/
theorem undef_refused (k : BKind) (c : Cfg) (out : Val) :
    assign k c out .undef = .valueError ∧ (Rec.mk out .undef (assign k c out .undef)).after = out ∧
    (Rec.mk out .undef (assign k c out .undef)).sends = [] := by
  simp [assign_undef k c out .undef rfl, Rec.after, Rec.sends]

/-- for every configured on_output event the sends are exactly the successive changes of the
    output — the assignments whose output before and after compare unequal —, in order, each
    carrying previous = the output before and value = the output after the change -/
theorem on_output_is_change_history (k : BKind) (c : Cfg) (out : Val) (vs : List Val) (i : Nat)
    (hi : i < c.onOutput.length) :
    (sendsOf .output i (run k c out vs)).map (fun s => (s.previous, s.value)) =
      ((run k c out vs).filter Rec.isChange).map
        fun r => (some r.before, some r.after) := by
  rw [sendsOf_output_changes k c out vs i hi, ← run_changes k c out vs, List.map_map]
  rfl

/-- an on_output event without filters: the destination handler is called exactly once per
    change, in order, with exactly `{trigger: 'output', previous: before, value: after,
    source: name}` -/
theorem on_output_deliveries_without_filters (k : BKind) (c : Cfg) (out : Val) (vs : List Val) (i : Nat)
    (hi : i < c.onOutput.length) (hf : c.onOutput[i].filters = []) :
    (sendsOf .output i (run k c out vs)).map (·.result) =
      ((run k c out vs).filter Rec.isChange).map
        fun r => some (rawData c.name r.before r.after) := by
  rw [sendsOf_output_eq k c out vs i hi, ← run_changes k c out vs, List.map_map, List.map_map]
  exact List.map_congr_left fun r _ => by
    rw [Function.comp, Function.comp, (send_fields _ _ _ _ _ _ _).2.2.2.2.2, hf]
    rfl

/-- `previous` of a send is the very `value` of the send before (same object, not merely equal);
    the first one carries the initial output -/
theorem chaining (k : BKind) (c : Cfg) (out : Val) (vs : List Val) (i : Nat)
    (hi : i < c.onOutput.length) :
    (∀ h0 : 0 < (sendsOf .output i (run k c out vs)).length,
      (sendsOf .output i (run k c out vs))[0].previous = some out) ∧
    ∀ j (hj : j + 1 < (sendsOf .output i (run k c out vs)).length),
      (sendsOf .output i (run k c out vs))[j + 1].previous
        = (sendsOf .output i (run k c out vs))[j].value :=
  linked_index Sent.previous Sent.value (some out) _ (sendsOf_output_linked k c out vs i hi)

/-- on a block that starts uninitialised the first output event carries previous = UNDEF -/
theorem first_previous_is_undef (k : BKind) (c : Cfg) (vs : List Val) (i : Nat)
    (hi : i < c.onOutput.length) (h0 : 0 < (sendsOf .output i (run k c .undef vs)).length) :
    (sendsOf .output i (run k c .undef vs))[0].previous = some .undef :=
  (chaining k c .undef vs i hi).1 h0

/-- a sequential block sends every configured on_every_output event exactly once for every
    (accepted) assignment, changed or not, with previous = the output before and value = the
    assigned value -/
theorem every_output_one_per_assignment (c : Cfg) (out : Val) (vs : List Val) (i : Nat)
    (hi : i < c.onEvery.length) :
    (sendsOf .every i (run .sblock c out vs)).map (fun s => (s.previous, s.value)) =
      ((run .sblock c out vs).filter fun r => !r.value.isUndef).map
        fun r => (some r.before, some r.value) :=
  sendsOf_every_all .sblock c out vs i hi

/-- a combinational block has no on_every_output events, whatever the configuration record says -/
theorem cblock_sends_on_change_only (c : Cfg) (out : Val) (vs : List Val) :
    ∀ r ∈ run .cblock c out vs, ∀ s ∈ r.sends, s.slot = .output := by
  intro r hr s hs
  rcases (mem_sends hr s hs).2.2.2.2 with h | h
  · exact h.1
  · simp [everyEvs] at h

/-- an accepted FSM transition (InputExp, Timer, any FSM) is exactly ONE output assignment with
    the value `calc_output()` gives for the new state — also when that value equals the current
    output: every configured on_every_output event is then sent exactly once, with previous =
    the output before and value = the computed one; only UNDEF leaves the output alone -/
theorem fsm_transition_is_one_assignment (c : Cfg) (out cv : Val) :
    (cv.isUndef = true → fsmTransition c out cv = none) ∧
    (cv.isUndef = false →
      fsmTransition c out cv = some (assign .sblock c out cv) ∧
      ∀ i (hi : i < c.onEvery.length),
        ((Rec.mk out cv (assign .sblock c out cv)).sends.filter
            (fun s => s.slot == .every && s.idx == i)).map (fun s => (s.ev, s.previous, s.value))
          = [(c.onEvery[i], some out, some cv)]) := by
  refine ⟨fun h => by simp [fsmTransition, h], fun h => ⟨by simp [fsmTransition, h, assign], fun i hi => ?_⟩⟩
  rw [rec_sends_every .sblock c out cv i hi]
  simp only [h, everyEvs, Bool.false_eq_true, if_false, List.map_cons, List.map_nil, send_previous, send_value]
  rfl

/-- within one assignment of a block of either kind: on a change every configured on_output event
    once, in the configured order, then every on_every_output event the kind has (`everyEvs`) -/
theorem configured_order_of_kind (k : BKind) (c : Cfg) (out : Val) (vs : List Val) :
    ∀ r ∈ run k c out vs, ∀ st, r.res = .ok st →
      st.sends.map (fun x => (x.slot, x.ev)) =
        (if pyEqN r.before r.after then [] else c.onOutput.map fun e => (Slot.output, e))
        ++ (everyEvs k c).map fun e => (Slot.every, e) := by
  intro r hr st hst
  obtain ⟨hch, -, -, ho⟩ := assign_ok hr st hst
  rw [ho, hch, Rec.after, hst]
  cases pyEqN r.before st.out <;> rfl

/-- within one assignment of a sequential block: if (and only if) the output changed, every
    configured on_output event once, in the configured order; then every configured
    on_every_output event once, in the configured order -/
theorem configured_order (c : Cfg) (out : Val) (vs : List Val) :
    ∀ r ∈ run .sblock c out vs, ∀ st, r.res = .ok st →
      st.sends.map (fun x => (x.slot, x.ev)) =
        (if pyEqN r.before r.after then [] else c.onOutput.map fun e => (Slot.output, e))
        ++ c.onEvery.map fun e => (Slot.every, e) :=
  configured_order_of_kind .sblock c out vs

/-- the same for a combinational block: on a change every on_output event once, in order -/
theorem configured_order_cblock (c : Cfg) (out : Val) (vs : List Val) :
    ∀ r ∈ run .cblock c out vs, ∀ st, r.res = .ok st →
      st.sends.map (fun x => (x.slot, x.ev)) =
        if pyEqN r.before r.after then [] else c.onOutput.map fun e => (Slot.output, e) := by
  intro r hr st hst
  rw [configured_order_of_kind .cblock c out vs r hr st hst]
  exact List.append_nil _

/-- on_output before on_every_output: the slots of the sends of one assignment are a block of
    `output` followed by a block of `every` -/
theorem order_on_before_every (k : BKind) (c : Cfg) (out : Val) (vs : List Val) :
    ∀ r ∈ run k c out vs, ∃ n m,
      r.sends.map (·.slot) = List.replicate n Slot.output ++ List.replicate m Slot.every := by
  intro r hr
  cases hres : r.res with
  | valueError => exact ⟨0, 0, by simp [Rec.sends, hres]⟩
  | ok st =>
    have ho := congrArg (List.map Prod.fst)
      (assign_ok hr st hres).2.2.2
    refine ⟨if st.changed then c.onOutput.length else 0, (everyEvs k c).length, ?_⟩
    simp only [Rec.sends, hres]
    simp only [List.map_map, List.map_append] at ho
    have e1 : (Prod.fst ∘ fun (x : Sent) => (x.slot, x.ev)) = fun x => x.slot := rfl
    rw [e1] at ho
    rw [ho]
    cases st.changed <;> simp [Function.comp_def, List.map_const']

/-- every output event leaves the sender with exactly the four items previous = the output
    before the assignment, value = the assigned value, source = the sender's name,
    trigger = 'output'; `idx`/`ev` name the configured event it was sent for; an on_output
    event is sent only for a real change -/
theorem source_and_trigger (k : BKind) (c : Cfg) (out : Val) (vs : List Val) :
    ∀ r ∈ run k c out vs, ∀ s ∈ r.sends,
      s.raw.map (·.1) = ["trigger", "previous", "value", "source"] ∧
      s.source = some (.str c.name) ∧ s.trigger = some (.str "output") ∧
      s.previous = some r.before ∧ s.value = some r.value ∧
      ((s.slot = .output ∧ c.onOutput[s.idx]? = some s.ev ∧ pyEqN r.before r.value = false) ∨
       (s.slot = .every ∧ k = .sblock ∧ c.onEvery[s.idx]? = some s.ev)) := by
  intro r hr s hs
  obtain ⟨_, h2, _, _, h5⟩ := mem_sends hr s hs
  have g := rawData_get c.name r.before r.value
  refine ⟨by simp [h2, rawData], by simp [Sent.source, h2, g.2.2.1], by simp [Sent.trigger, h2, g.2.2.2],
    by simp [Sent.previous, h2, g.1], by simp [Sent.value, h2, g.2.1], ?_⟩
  rcases h5 with h | h
  · exact .inl h
  · cases k
    · exact .inr ⟨h.1, rfl, h.2⟩
    · simp [everyEvs] at h

/-- the output is stored before anything is sent: while an event is being delivered the sender
    already shows the output it has when the assignment returns (delivery itself is synchronous
    by construction: the sends are part of the assignment's result) -/
theorem delivery_sees_new_output (k : BKind) (c : Cfg) (out : Val) (vs : List Val) :
    ∀ r ∈ run k c out vs, ∀ s ∈ r.sends, s.visible = r.after := by
  intro r hr s hs
  exact (mem_sends hr s hs).2.2.1

/-- the sender is put into the simulator's queue (SBlock), resp. `eval_block` returns True
    (CBlock), exactly when the output changed; the queueing comes before all sends -/
theorem enqueue_iff_changed (k : BKind) (c : Cfg) (out : Val) (vs : List Val) :
    ∀ r ∈ run k c out vs, ∀ st, r.res = .ok st →
      (st.changed = true ↔ pyEqN r.before r.after = false) ∧
      (st.enq = true ↔ k = .sblock ∧ pyEqN r.before r.after = false) ∧
      (st.changed = false → r.after = r.before) ∧
      (st.enq = true → st.acts.head? = some .enqueue) := by
  intro r hr st hst
  obtain ⟨hch, henq, hsame, -⟩ := assign_ok hr st hst
  have haft : r.after = st.out := by rw [Rec.after, hst]
  rw [haft, henq, hch]
  refine ⟨by simp, by simp, fun h => hsame (hch.symm ▸ h), fun h => ?_⟩
  simp only [Step.acts, henq, hch]
  rw [if_pos h]
  rfl

/-- the destination handler is called iff no filter rejected, and then with exactly the data
    that left the filter pipeline (`dest.event(etype, **data)`) -/
theorem handler_receives_filter_output (k : BKind) (c : Cfg) (out : Val) (vs : List Val) :
    ∀ r ∈ run k c out vs, ∀ s ∈ r.sends,
      s.result = runFilters s.ev.filters s.raw ∧
      (∀ d, s.result = some d →
        s.acts.getLast? = some (.deliver s.slot s.idx s.ev.dest s.ev.etype d s.visible)) ∧
      (s.result = none → ∀ a ∈ s.acts, ∃ j inp, a = .filt s.slot s.idx j inp) := by
  intro r hr s hs
  refine ⟨(mem_sends hr s hs).2.2.2.1, fun d hd => Sent.acts_getLast hd, fun hn a ha => ?_⟩
  simp only [Sent.acts, hn, List.append_nil, List.mem_mapIdx] at ha
  obtain ⟨j, hj, rfl⟩ := ha
  exact ⟨j, _, rfl⟩

/-- an event without filters delivers the data as sent -/
theorem no_filters_delivers_sent_data (d : Data) : runFilters [] d = some d := rfl

/-- filters work as a pipeline: each gets what the one before left, a rejection ends it;
    the first one gets the data as sent -/
theorem filters_are_a_pipeline (fs gs : List Filt) (d : Data) :
    runFilters (fs ++ gs) d = (runFilters fs d).bind (runFilters gs) ∧
    (fs ≠ [] → (filterCalls fs d).head? = some d) :=
  ⟨runFilters_append fs gs d, filterCalls_head fs d⟩

/-- a filter that returns a mapping (or edits in place and returns a true value) never rejects:
    the mapping — WHATEVER ITS SIZE, the empty one included — is the data the rest of the
    pipeline and finally the handler get (docs: "the returned dict becomes the new event data") -/
theorem mapping_result_replaces_data (f : Filt) (hf : f.returnsMapping = true) (d : Data) :
    ∃ m, f.apply d = some m ∧ (∀ fs, runFilters (f :: fs) d = runFilters fs m) ∧
      runFilters [f] d = some m := by
  have h : ∃ m, f.apply d = some m := by
    cases f with
    | set k v | del k | clear | replace m => exact ⟨_, rfl⟩
    | copy a b =>
      cases h : d.get? a with
      | none => exact ⟨d, by simp [Filt.apply, h]⟩
      | some v => exact ⟨d.set b v, by simp [Filt.apply, h]⟩
    | accept | reject | ifTruthy k | ifDefined k => cases hf
  obtain ⟨m, hm⟩ := h
  exact ⟨m, hm, fun fs => by rw [runFilters, hm], by rw [runFilters, hm]; rfl⟩

/-- in particular the EMPTY mapping: `d.clear(); return d`, `return {}` or a replacement by `{}`
    at the end of a pipeline that got that far delivers the event with empty data, for every
    send of every history: the handler IS called (last act of the send) and gets `{}`/`m` -/
theorem empty_mapping_reaches_handler (k : BKind) (c : Cfg) (out : Val) (vs : List Val) :
    ∀ r ∈ run k c out vs, ∀ s ∈ r.sends, ∀ fs, (runFilters fs s.raw).isSome →
      (s.ev.filters = fs ++ [.clear] →
        s.result = some [] ∧
        s.acts.getLast? = some (.deliver s.slot s.idx s.ev.dest s.ev.etype [] s.visible)) ∧
      (∀ m, s.ev.filters = fs ++ [.replace m] →
        s.result = some m ∧
        s.acts.getLast? = some (.deliver s.slot s.idx s.ev.dest s.ev.etype m s.visible)) := by
  intro r hr s hs fs hfs
  have hres := (mem_sends hr s hs).2.2.2.1
  obtain ⟨d', hd'⟩ := Option.isSome_iff_exists.1 hfs
  refine ⟨fun hf => ?_, fun m hf => ?_⟩
  · have := hres.trans (hf ▸ runFilters_snoc hd' .clear)
    exact ⟨this, Sent.acts_getLast this⟩
  · have := hres.trans (hf ▸ runFilters_snoc hd' (.replace m))
    exact ⟨this, Sent.acts_getLast this⟩

/-- non-vacuity of the two statements above: a block whose only on_output event clears the data -/
example :
    ((sendsOf .output 0 (run .cblock { name := "f", onOutput := [⟨"p0", "o0", [.del "value", .clear]⟩] }
        .undef [Val.int 1, Val.int 1, Val.none])).map (·.result)) = [some [], some []] := by
  decide +kernel

/-- `1, True, 1.0, 0, None` on a block with two on_output and one on_every_output event:
    three changes (UNDEF → 1, 1 → 0, 0 → None: the stored 1 survives True and 1.0), five every-events -/
example :
    let c : Cfg := { name := "s", onOutput := [⟨"p0", "o0", []⟩, ⟨"p1", "o1", [.ifDefined "previous"]⟩],
                     onEvery := [⟨"p2", "e0", []⟩] }
    let vs := [Val.int 1, Val.bool true, Val.flt 1, Val.int 0, Val.none]
    (sendsOf .output 0 (run .sblock c .undef vs)).map (fun s => (s.previous, s.value)) =
      [(some .undef, some (Val.int 1)), (some (Val.int 1), some (Val.int 0)),
       (some (Val.int 0), some Val.none)] ∧
    (sendsOf .every 0 (run .sblock c .undef vs)).length = 5 ∧
    ((sendsOf .output 1 (run .sblock c .undef vs)).map (·.result.isSome)) = [false, true, true] := by
  decide +kernel

/-- no item name is reserved: whatever key a filter puts into the event data — also `etype`, `self`,
    `data`, `source`, the parameter names of the `event` / `send` methods on the delivery path — the
    destination handler is called and finds exactly that item, the other items as the rest of the
    pipeline left them: the data mapping reaches the handler unchanged for EVERY key set.
    (The model's destination takes the data as ONE mapping, like the generic `_event(etype, data)`; a
    specialised `_event_ETYPE(self, *, …, **_data)` handler is called as `handler(self, **data)` and can
    therefore not receive an item called `self` — Python refuses the call with a TypeError, a parameter
    error in the sense of C09/C11/C14; recorded in DESIGN.md 9.3.) -/
theorem handler_receives_every_key (k : BKind) (c : Cfg) (out : Val) (vs : List Val) :
    ∀ r ∈ run k c out vs, ∀ s ∈ r.sends, ∀ (fs : List Filt) (key : String) (v : Val) (d' : Data),
      s.ev.filters = fs ++ [.set key v] → runFilters fs s.raw = some d' →
      ∃ d, s.result = some d ∧ d.get? key = some v ∧ (∀ k', k' ≠ key → d.get? k' = d'.get? k') ∧
        s.acts.getLast? = some (.deliver s.slot s.idx s.ev.dest s.ev.etype d s.visible) := by
  intro r hr s hs fs key v d' hf hd'
  have := (mem_sends hr s hs).2.2.2.1.trans (hf ▸ runFilters_snoc hd' _)
  exact ⟨_, this, Data.get?_set_same d' key v, fun k' hk => Data.get?_set_other d' key k' v hk, Sent.acts_getLast this⟩

/-- non-vacuity: a filter pipeline ending with `d['etype'] = 'x'` on a real history -/
example :
    ((sendsOf .output 0 (run .sblock { name := "s", onOutput := [⟨"p2", "o0", [.del "trigger", .set "etype" (Val.str "x")]⟩] }
        .undef [Val.int 1])).map (fun s => (s.result.bind (·.get? "etype"), s.result.bind (·.get? "value")))) =
      [(some (Val.str "x"), some (Val.int 1))] := by
  decide +kernel

/-- NaN compares unequal to everything, itself included (`previous == value` is False even when
    both are the very same object) -/
theorem nan_is_never_equal (x : Val) : pyEqN nanVal x = false ∧ pyEqN x nanVal = false :=
  ⟨by simp [pyEqN, isNan], pyEqN_nan_right x⟩

/-- assigning NaN is ALWAYS a change — in particular NaN after NaN: the value is stored, a
    sequential block is queued / `eval_block` returns True, every on_output event is sent exactly
    once with previous = the output before (NaN after NaN: previous = NaN, value = NaN), then the
    on_every_output events; for both block kinds -/
theorem nan_after_nan_is_a_change (k : BKind) (c : Cfg) (out : Val) :
    assign k c out nanVal =
      .ok { out := nanVal, changed := true, enq := decide (k = .sblock),
            sends := sendAll .output c.name c.onOutput out nanVal nanVal
                     ++ sendAll .every c.name (everyEvs k c) out nanVal nanVal } ∧
    ∀ i (hi : i < c.onOutput.length),
      ((Rec.mk out nanVal (assign k c out nanVal)).sends.filter
          (fun s => s.slot == .output && s.idx == i)).map (fun s => (s.ev, s.previous, s.value))
        = [(c.onOutput[i], some out, some nanVal)] := by
  have hu : nanVal.isUndef = false := rfl
  refine ⟨assign_changed k c out nanVal hu (pyEqN_nan_right out), fun i hi => ?_⟩
  rw [rec_sends_output k c out nanVal i hi]
  simp only [hu, pyEqN_nan_right, Bool.or_self, Bool.false_eq_true, if_false, List.map_cons, List.map_nil,
    send_previous, send_value]
  rfl

/-- whole histories: NaN assigned `n` times in a row (the same object or not) gives `n` sends of
    every configured on_output event -/
theorem repeated_nan_history (k : BKind) (c : Cfg) (out : Val) (n : Nat) (i : Nat)
    (hi : i < c.onOutput.length) :
    (sendsOf .output i (run k c out (List.replicate n nanVal))).length = n := by
  have := congrArg List.length (sendsOf_output_changes k c out (List.replicate n nanVal) i hi)
  simpa [changes_replicate_nan] using this

/-- on values without NaN the model is exactly the pair of functions that the translation of
    `set_output` / `eval_block` is proved equal to (`TrTie.translated_*_is_model` below) -/
theorem assign_is_translated_code_without_nan (c : Cfg) (out v : Val)
    (ho : isNan out = false) (hv : isNan v = false) :
    assign .sblock c out v = setOutput c out v ∧ assign .cblock c out v = evalBlock c out v := by
  simp [assign, setOutput, evalBlock, setOutputWith, evalBlockWith, pyEqN_eq_pyEq ho hv]

/-- whatever makes the first assignment of a run (initdef, an init event, restored persistent
    state, the first evaluation of a CBlock): it is an assignment to a block whose output is UNDEF,
    hence a change — every on_output event (and for a sequential block every on_every_output
    event) is sent first of all with previous = UNDEF and value = the first output -/
theorem first_output_announced (k : BKind) (c : Cfg) (v : Val) (vs : List Val) (hv : v.isUndef = false) :
    (∀ i, i < c.onOutput.length →
      (sendsOf .output i (run k c .undef (v :: vs))).head?.map (fun s => (s.previous, s.value))
        = some (some .undef, some v)) ∧
    (∀ i, i < (everyEvs k c).length →
      (sendsOf .every i (run k c .undef (v :: vs))).head?.map (fun s => (s.previous, s.value))
        = some (some .undef, some v)) ∧
    (run k c .undef (v :: vs)).head?.map (fun r => (r.before, r.after)) = some (.undef, v) := by
  refine ⟨fun i hi => ?_, fun i hi => ?_, ?_⟩
  · have h := sendsOf_output_changes k c .undef (v :: vs) i hi
    simp only [changes, hv, pyEqN_undef_left hv, Bool.or_self, Bool.false_eq_true, if_false] at h
    rw [← List.head?_map, h]; rfl
  · have h := sendsOf_every_all k c .undef (v :: vs) i hi
    rw [← List.head?_map, h, run_cons]
    simp [hv]
  · rw [run_cons]
    simp [after_assign, hv, pyEqN_undef_left hv]

/-- non-vacuity: NaN, NaN, 1, NaN on a block with one on_output event — four changes -/
example :
    ((sendsOf .output 0 (run .sblock { name := "s", onOutput := [⟨"p0", "o0", []⟩] } .undef
        [nanVal, nanVal, Val.int 1, nanVal])).map (fun s => (s.previous, s.value))) =
      [(some .undef, some nanVal), (some nanVal, some nanVal), (some nanVal, some (Val.int 1)),
       (some (Val.int 1), some nanVal)] := by
  decide +kernel

end Edzed.Output

namespace Edzed.TrTie
open Edzed.Output Edzed.Gen.TrO

def eventsOf (c : Cfg) : Slot → List Ev
  | .output => c.onOutput
  | .every => c.onEvery

/-- what a list of primitive actions does to a block with configuration `c`: the stored output, "was
    assigned", "was queued", and the `Event.send` calls made so far (each sees the output stored at that
    moment).  A `raise` ends the call with nothing done: `raise_only_first` shows that it is never
    preceded by another action. -/
def runPrims (c : Cfg) : Val → Bool → Bool → List Sent → List Prim → Res
  | out, ch, enq, sends, [] => .ok ⟨out, ch, enq, sends⟩
  | _, _, _, _, .raise _ :: _ => .valueError
  | _, _, enq, sends, .store v :: r => runPrims c v true enq sends r
  | out, ch, _, sends, .enqueue :: r => runPrims c out ch true sends r
  | out, ch, enq, sends, .send slot p v :: r =>
    runPrims c out ch enq (sends ++ sendAll slot c.name (eventsOf c slot) p v out) r
  | out, ch, enq, sends, .ret _ :: _ => .ok ⟨out, ch, enq, sends⟩

/-- the model's `setOutput` IS the meaning of the actions of `SBlock.set_output`, translated from the source -/
theorem translated_set_output_is_model (c : Cfg) (out v : Val) :
    runPrims c out false false [] (setOutputActs out v c.onEvery) = setOutput c out v := by
  unfold setOutputActs setOutput setOutputWith
  cases hu : v.isUndef <;> cases he : out.pyEq v <;> cases h : c.onEvery.isEmpty <;>
    simp [hu, he, h, runPrims, eventsOf]

/-- the model's `evalBlock` IS the meaning of the actions of `CBlock.eval_block` -/
theorem translated_eval_block_is_model (c : Cfg) (out v : Val) :
    runPrims c out false false [] (evalBlockActs out v) = evalBlock c out v := by
  unfold evalBlockActs evalBlock evalBlockWith
  cases hu : v.isUndef <;> cases he : out.pyEq v <;> simp [hu, he, runPrims, eventsOf]

/-- `eval_block` returns the change indicator -/
theorem translated_eval_block_returns_changed (c : Cfg) (out v : Val) (s : Step)
    (h : evalBlock c out v = .ok s) :
    (evalBlockActs out v).getLast? = some (.ret (some s.changed)) := by
  unfold evalBlockActs
  unfold evalBlock evalBlockWith at h
  cases hu : v.isUndef <;> cases he : out.pyEq v <;> simp [hu, he] at h ⊢ <;> (subst h; rfl)

/-- an exception is raised only before anything was done -/
theorem raise_only_first (own v : Val) (every : List Ev) (e : String) :
    (.raise e ∈ setOutputActs own v every → setOutputActs own v every = [.raise e])
    ∧ (.raise e ∈ evalBlockActs own v → evalBlockActs own v = [.raise e]) := by
  unfold setOutputActs evalBlockActs
  constructor <;>
    (cases hu : v.isUndef <;> cases he : own.pyEq v <;> cases hy : every.isEmpty <;> simp [hu, he, hy] <;>
      exact fun h => h.symm)

/-- the new output is stored and the block is queued for the simulator BEFORE the first event is sent:
    an exception raised by a destination cannot leave the simulator unaware of a change -/
theorem store_and_enqueue_before_sending (own v : Val) (every : List Ev)
    (hu : v.isUndef = false) (hch : own.pyEq v = false) :
    ∃ rest, setOutputActs own v every = .store v :: .enqueue :: rest
      ∧ ∀ a ∈ rest, ∃ slot p w, a = .send slot p w := by
  unfold setOutputActs
  simp only [hu, hch, Bool.false_eq_true, ↓reduceIte]
  exact ⟨_, rfl, by simp⟩

/-! #### event_tuple / efilter_tuple (`tools/py2lean_evtuple.py`)

`Gen.TrET.eventTuple` / `efilterTuple` are translated from the current source; they call the translated
`_to_tuple` (`Gen.TrC.toTuple`), whose own tie is `translated_ctor_to_tuple_is_model` (EdzedProps/C18.lean). -/

section EvTuple
open Edzed.Gen.TrC Edzed.Gen.TrET Edzed.EventTuple

theorem translated_output_event_tuple_is_model {σ ι : Type} (hasSend : ι → Bool) (events : ArgsT ι) :
    (Gen.TrET.eventTuple hasSend events : M σ (List ι)) = ctorOfExcept (EventTuple.eventTuple hasSend events) := by
  have hv : (Gen.TrET.eventTupleValidator hasSend : ι → M σ Unit) =
      fun x => ctorOfExcept (if hasSend x then .ok () else .error "TypeError") := by
    funext x s
    cases h : hasSend x <;> simp [Gen.TrET.eventTupleValidator, h, ctorOfExcept, M.pure, raise]
  unfold Gen.TrET.eventTuple EventTuple.eventTuple
  rw [hv]
  exact translated_ctor_to_tuple_is_model events _

theorem translated_output_efilter_tuple_is_model {σ ι : Type} (isCallable : ι → Bool) (efilters : ArgsT ι) :
    (Gen.TrET.efilterTuple isCallable efilters : M σ (List ι)) =
      ctorOfExcept (EventTuple.efilterTuple isCallable efilters) := by
  have hv : (Gen.TrET.efilterTupleValidator isCallable : ι → M σ Unit) =
      fun x => ctorOfExcept (if isCallable x then .ok () else .error "TypeError") := by
    funext x s
    cases h : isCallable x <;> simp [Gen.TrET.efilterTupleValidator, h, ctorOfExcept, M.pure, raise]
  unfold Gen.TrET.efilterTuple EventTuple.efilterTuple
  rw [hv]
  exact translated_ctor_to_tuple_is_model efilters _

/-- **the normalised tuple has the same length and order as the argument sequence — every occurrence
    is kept**: whenever the translated `event_tuple` returns, the result IS the sequence of the items of
    its argument (an Event object listed twice or three times stays there twice or three times, nothing
    is reordered, dropped or merged) and the state is untouched; and it does return when every item is
    Event-like -/
theorem translated_output_event_tuple_keeps_every_occurrence {σ ι : Type} (hasSend : ι → Bool)
    (events : ArgsT ι) (s : σ) :
    (∀ l, ((Gen.TrET.eventTuple hasSend events : M σ (List ι)) s).1 = .ok l →
      l = events.items ∧ l.length = events.items.length) ∧
    ((∀ x ∈ events.items, hasSend x = true) →
      (Gen.TrET.eventTuple hasSend events : M σ (List ι)) s = (.ok events.items, s)) := by
  rw [translated_output_event_tuple_is_model]
  simp only [ctorOfExcept, EventTuple.eventTuple]
  constructor
  · intro l hl
    have : l = events.items := by
      cases events with
      | none => simp [RepeatCtor.toTuple] at hl; simp [ArgsT.items, hl]
      | tuple a | multiple a | single a =>
        simp only [RepeatCtor.toTuple] at hl
        split at hl <;> simp_all [ArgsT.items]
    exact ⟨this, by rw [this]⟩
  · intro h
    rw [toTuple_all_valid events _ (fun x hx => by simp [h x hx])]

/-- the same for the filters of an event -/
theorem translated_output_efilter_tuple_keeps_every_occurrence {σ ι : Type} (isCallable : ι → Bool)
    (efilters : ArgsT ι) (s : σ) (h : ∀ x ∈ efilters.items, isCallable x = true) :
    (Gen.TrET.efilterTuple isCallable efilters : M σ (List ι)) s = (.ok efilters.items, s) := by
  rw [translated_output_efilter_tuple_is_model]
  simp only [ctorOfExcept, EventTuple.efilterTuple]
  rw [toTuple_all_valid efilters _ (fun x hx => by simp [h x hx])]

/-- an item that is not Event-like is refused with TypeError -/
theorem translated_output_event_tuple_refuses_non_event {σ ι : Type} (hasSend : ι → Bool) (x : ι) (s : σ)
    (h : hasSend x = false) :
    (Gen.TrET.eventTuple hasSend (.single x) : M σ (List ι)) s = (.error "TypeError", s) := by
  rw [translated_output_event_tuple_is_model]
  simp [ctorOfExcept, EventTuple.eventTuple, RepeatCtor.toTuple, RepeatCtor.validateAll, ArgsT.items, h]

/-- non-vacuity: `[A, B, A]` (A listed twice) stays `[A, B, A]`; `None` gives the empty tuple -/
example : ((Gen.TrET.eventTuple (fun _ : String => true) (.multiple ["A", "B", "A"]) : M Unit _) ()).1
    = .ok ["A", "B", "A"] ∧
    ((Gen.TrET.eventTuple (fun _ : String => true) .none : M Unit _) ()).1 = .ok [] :=
  ⟨rfl, rfl⟩

end EvTuple

end Edzed.TrTie
