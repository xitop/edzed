/-
C20 — Counter arithmetic is exact and stays within the modulo range.

Model: EdzedModel/Counter.lean (mirrors Counter._setmod and the handlers).
All statements are for every configuration, every restored value and every event
sequence (no bound on length), over exact rationals (ints and dyadic floats alike).
-/
import EdzedModel.Counter
import EdzedProofs.Counter
import EdzedModel.Gen.Constants
import EdzedModel.Gen.Translated
import EdzedModel.Gen.TranslatedCounter

namespace Edzed.Counter

theorem store_q (o v : Num) : (store o v).q = v.q := by
  unfold store; split
  · next h => exact of_decide_eq_true (by simpa using h)
  · rfl

theorem step_cases (c : Cfg) (o : Num) (op : Op) :
    (op = .put none ∧ step c o op = (o, .paramError)) ∨
    ∃ v, step c o op = (store o (reduce c v), .ret (reduce c v)) := by
  cases op with
  | put x => cases x with
    | none => exact .inl ⟨rfl, rfl⟩
    | some x => exact .inr ⟨x, rfl⟩
  | _ => exact .inr ⟨_, rfl⟩

/-- every event returns the updated output (equal as numbers; Python keeps the stored object
    when the new value compares equal); a `put` without value changes nothing -/
theorem event_returns_updated_output (c : Cfg) (o : Num) (op : Op) :
    (∃ v, (step c o op).2 = .ret v ∧ v.q = (step c o op).1.q) ∨
    (op = .put none ∧ step c o op = (o, .paramError)) := by
  obtain h | ⟨v, h⟩ := step_cases c o op
  · exact .inr h
  · exact .inl ⟨_, congrArg Prod.snd h, by rw [h, store_q]⟩

theorem put_without_value_is_harmless (c : Cfg) (o : Num) :
    step c o (.put none) = (o, .paramError) := rfl

theorem modulo_zero_refused (k : Kind) (i : Num) : Cfg.valid ⟨some ⟨0, k⟩, i⟩ = false := by
  simp [Cfg.valid]

theorem reset_restores_reduced_initdef (c : Cfg) (o : Num) :
    (step c o .reset).1.q = (init c none).q :=
  store_q _ _

theorem run_of_reduce (c : Cfg) (P : Rat → Prop) (h : ∀ v, P (reduce c v).q)
    (restored : Option Num) (ops : List Op) : P (run c (init c restored) ops).q := by
  have h0 : P (init c restored).q := h _
  generalize init c restored = o at h0
  induction ops generalizing o with
  | nil => exact h0
  | cons op ops ih =>
    refine ih (step c o op).1 ?_
    obtain ⟨-, hs⟩ | ⟨v, hs⟩ := step_cases c o op
    · rwa [hs]
    · rw [hs, store_q]
      exact h v

/-- the range `[0, M)` of a counter with a positive modulo -/
def InRange (m : Num) (o : Num) : Prop := 0 ≤ o.q ∧ o.q < m.q

/-- after initialisation (from initdef or a restored, possibly out-of-range
    value) and after every event sequence the output is in `[0, M)` -/
theorem range_invariant (c : Cfg) (m : Num) (hc : c.mod = some m) (hm : 0 < m.q)
    (restored : Option Num) (ops : List Op) :
    InRange m (run c (init c restored) ops) := by
  refine run_of_reduce c (fun q => 0 ≤ q ∧ q < m.q) (fun v => ?_) restored ops
  rw [reduce, hc]
  exact ⟨fmod_nonneg _ _ hm, fmod_lt _ _ hm⟩

/-- a NEGATIVE modulo is accepted by the constructor (only zero is refused); Python's floored `%` then keeps
    the output in `(M, 0]` -/
def InRangeNeg (m : Num) (o : Num) : Prop := m.q < o.q ∧ o.q ≤ 0

/-- the same for a negative modulo: after initialisation and after every event sequence the output
    is in `(M, 0]` -/
theorem range_invariant_neg (c : Cfg) (m : Num) (hc : c.mod = some m) (hm : m.q < 0)
    (restored : Option Num) (ops : List Op) :
    InRangeNeg m (run c (init c restored) ops) := by
  refine run_of_reduce c (fun q => m.q < q ∧ q ≤ 0) (fun v => ?_) restored ops
  rw [reduce, hc]
  exact ⟨fmod_gt _ _ hm, fmod_nonpos _ _ hm⟩

/-- every accepted configuration is covered: no modulo, a positive one (`range_invariant`) or a negative one
    (`range_invariant_neg`) -/
theorem valid_cfg_cases (c : Cfg) (h : c.valid = true) :
    c.mod = none ∨ (∃ m, c.mod = some m ∧ 0 < m.q) ∨ (∃ m, c.mod = some m ∧ m.q < 0) := by
  unfold Cfg.valid at h
  cases hm : c.mod with
  | none => exact .inl rfl
  | some m =>
    have h0 : m.q ≠ 0 := by simpa [hm] using h
    by_cases h1 : m.q < 0
    · exact .inr (.inr ⟨m, rfl, h1⟩)
    · exact .inr (.inl ⟨m, rfl, Rat.lt_of_le_of_ne (Rat.not_lt.1 h1) h0.symm⟩)

example : InRangeNeg ⟨-3, .int⟩ (run ⟨some ⟨-3, .int⟩, ⟨5, .int⟩⟩ (init ⟨some ⟨-3, .int⟩, ⟨5, .int⟩⟩ none) [.inc none, .inc none]) := by
  unfold InRangeNeg; decide +kernel

theorem run_refines (c : Cfg) (f : Rat → Rat) (hred : ∀ v, (reduce c v).q = f v.q)
    (hadd : ∀ a b, f (f a + b) = f (a + b)) (restored : Option Num) (ops : List Op) :
    (run c (init c restored) ops).q = f (spec c (restored.getD c.initdef).q ops) := by
  have h0 : (init c restored).q = f (restored.getD c.initdef).q := hred _
  generalize init c restored = o at h0
  generalize (restored.getD c.initdef).q = acc at h0
  induction ops generalizing o acc with
  | nil => exact h0
  | cons op ops ih =>
    refine ih (step c o op).1 (specStep c acc op) ?_
    cases op with
    | inc a => exact (store_q _ _).trans ((hred _).trans (by rw [Num.add, h0, hadd]; rfl))
    | dec a =>
      refine (store_q _ _).trans ((hred _).trans ?_)
      rw [Num.sub, Rat.sub_eq_add_neg, h0, hadd, ← Rat.sub_eq_add_neg]; rfl
    | put x => cases x with
      | none => exact h0
      | some x => exact (store_q _ _).trans (hred x)
    | reset => exact (store_q _ _).trans (hred _)

/-- reducing after every step gives
    the same output as the plain accumulator (initial value transformed by the same arithmetic)
    reduced once, for every event sequence -/
theorem counter_refines_accumulator (c : Cfg) (m : Num) (hc : c.mod = some m) (hm : m.q ≠ 0)
    (restored : Option Num) (ops : List Op) :
    (run c (init c restored) ops).q = fmod (spec c (restored.getD c.initdef).q ops) m.q :=
  run_refines c (fmod · m.q) (fun v => by rw [reduce, hc]; rfl) (fun a b => fmod_fmod_add a b _ hm)
    restored ops

/-- without a modulo the output *is* the accumulator -/
theorem counter_is_accumulator_nomod (c : Cfg) (hc : c.mod = none)
    (restored : Option Num) (ops : List Op) :
    (run c (init c restored) ops).q = spec c (restored.getD c.initdef).q ops :=
  run_refines c id (fun v => by rw [reduce, hc]; rfl) (fun _ _ => rfl) restored ops

/-- tie to the source: the handler table extracted from the current code is the one the model
    implements (`put` requires `value`, `inc`/`dec` take an optional `amount`, `reset` nothing;
    all accept further data items) -/
theorem handler_table_matches_model :
    Gen.counterHandlers =
      [("dec", [], ["amount"], true), ("inc", [], ["amount"], true),
       ("put", ["value"], [], true), ("reset", [], [], true)] := rfl

/-- non-vacuity: a concrete counter modulo 7 restored from an out-of-range value -/
example : ∃ c : Cfg, ∃ m : Num, c.mod = some m ∧ 0 < m.q ∧
    (run c (init c (some ⟨-4, .int⟩)) [.inc none, .dec (some ⟨5, .int⟩), .reset]).q = 3 :=
  ⟨⟨some ⟨7, .int⟩, ⟨3, .int⟩⟩, ⟨7, .int⟩, rfl, by decide +kernel, by decide +kernel⟩

end Edzed.Counter

/-! ### tie to the source by translation (tools/py2lean.py regenerates `Gen.Tr.counterSetmod` from `Counter._setmod`) -/
namespace Edzed.TrTie

/-- the model's reduction IS the translated value computation of `Counter._setmod` -/
theorem translated_setmod_is_model (c : Counter.Cfg) (v : Counter.Num) :
    Gen.Tr.counterSetmod (c.mod.map (·.q)) v.q = (Counter.reduce c v).q := by
  unfold Gen.Tr.counterSetmod Counter.reduce
  cases c.mod <;> rfl

/-- the signature's default `amount=1` is the model's `one` -/
theorem amount_q (a : Option Counter.Num) : (a.map (·.q)).getD 1 = (a.getD Counter.one).q := by
  cases a <;> rfl

/-- the value returned by `_event_inc` (amount defaulting as in the signature) IS the model's result -/
theorem translated_inc_is_model (c : Counter.Cfg) (out : Counter.Num) (a : Option Counter.Num) :
    ∃ v, Counter.step c out (.inc a) = (Counter.store out v, .ret v)
      ∧ v.q = Gen.Tr.counterInc (c.mod.map (·.q)) out.q (a.map (·.q)) := by
  refine ⟨_, rfl, ?_⟩
  rw [Gen.Tr.counterInc, amount_q]
  exact (translated_setmod_is_model c (out.add (a.getD Counter.one))).symm

/-- the same for `_event_dec` -/
theorem translated_dec_is_model (c : Counter.Cfg) (out : Counter.Num) (a : Option Counter.Num) :
    ∃ v, Counter.step c out (.dec a) = (Counter.store out v, .ret v)
      ∧ v.q = Gen.Tr.counterDec (c.mod.map (·.q)) out.q (a.map (·.q)) := by
  refine ⟨_, rfl, ?_⟩
  rw [Gen.Tr.counterDec, amount_q]
  exact (translated_setmod_is_model c (out.sub (a.getD Counter.one))).symm

/-- `_event_put` (its `value` is a required argument: the translator refuses a signature with a default) -/
theorem translated_put_is_model (c : Counter.Cfg) (out x : Counter.Num) :
    ∃ v, Counter.step c out (.put (some x)) = (Counter.store out v, .ret v)
      ∧ v.q = Gen.Tr.counterPut (c.mod.map (·.q)) x.q :=
  ⟨Counter.reduce c x, rfl, (translated_setmod_is_model c x).symm⟩

/-- `_event_reset` -/
theorem translated_reset_is_model (c : Counter.Cfg) (out : Counter.Num) :
    ∃ v, Counter.step c out .reset = (Counter.store out v, .ret v)
      ∧ v.q = Gen.Tr.counterReset (c.mod.map (·.q)) c.initdef.q :=
  ⟨Counter.reduce c c.initdef, rfl, (translated_setmod_is_model c c.initdef).symm⟩

/-- the constructor's refusal IS the negation of the model's validity predicate -/
theorem translated_modulo_check_is_model (c : Counter.Cfg) :
    Gen.Tr.counterRefusesModulo (c.mod.map (·.q)) = !c.valid := by
  unfold Gen.Tr.counterRefusesModulo Counter.Cfg.valid
  cases c.mod with
  | none => rfl
  | some m => simp only [Option.map_some, bne, Bool.not_not]; rfl

open Gen.TrCnt in
/-- `Counter.__init__` as translated: a zero modulo is refused BEFORE anything is stored or the base class is
    initialised; otherwise the modulo is stored unchanged and `initdef` is handed to the base constructor
    (which makes it the value of the regular initialisation and of `reset`) -/
theorem translated_counter_init_is_model (c : Counter.Cfg) :
    counterInit (c.mod.map (·.q)) (some c.initdef.q) =
      if c.valid then [Prim.setMod (c.mod.map (·.q)), Prim.superInit c.initdef.q]
      else [Prim.raise "ValueError"] := by
  unfold counterInit Counter.Cfg.valid
  cases hm : c.mod with
  | none => simp
  | some m => by_cases h0 : m.q = 0 <;> simp [h0]

open Gen.TrCnt in
/-- an omitted `initdef` is 0 (the signature's default), an omitted `modulo` is `None` = no reduction -/
theorem translated_counter_init_defaults :
    counterInit none none = [Prim.setMod none, Prim.superInit 0] := by
  decide

open Gen.TrCnt in
/-- for EVERY argument pair: nothing is stored and the base class is not initialised iff the modulo is zero -/
theorem translated_counter_init_refuses_iff_zero (m i : Option Rat) :
    (counterInit m i = [Prim.raise "ValueError"]) ↔ m = some 0 := by
  unfold counterInit
  by_cases hz : m = some 0 <;> simp [hz]

open Gen.TrCnt in
/-- `init_from_value` and `_restore_state` ARE `_setmod` (class-level aliases, checked by the translator against
    the class dictionary at run time too): the initial value and a restored value go through the same reduction
    as every event — which is what the model's `init` says -/
theorem translated_counter_aliases_are_setmod :
    counterAliases = [("init_from_value", "_setmod"), ("_restore_state", "_setmod")]
    ∧ ∀ (c : Counter.Cfg) (r : Option Counter.Num),
        (Counter.init c r).q = Gen.Tr.counterSetmod (c.mod.map (·.q)) (r.getD c.initdef).q := by
  refine ⟨rfl, fun c r => ?_⟩
  unfold Counter.init
  exact (translated_setmod_is_model c _).symm

open Gen.TrCnt in
/-- the class defines exactly the handlers of the model's operations (an added `_event_*` method would be a
    behaviour the model does not have) and inherits the persistence add-on before `SBlock` -/
theorem translated_counter_class_shape :
    counterMethods = ["__init__", "_setmod", "_event_inc", "_event_dec", "_event_put", "_event_reset"]
    ∧ counterBases = ["addons.AddonPersistence", "block.SBlock"] := by
  exact ⟨rfl, rfl⟩

end Edzed.TrTie
