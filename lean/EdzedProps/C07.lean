/-
C07 — TimeDate / TimeSpan outputs follow the wall clock.  Model: EdzedModel/Cron.lean: the calendar predicates mirror
`TimeDate.recalc` / `TimeSpan.recalc`; the recalculation service of cron is a SPECIFICATION (`accepts`) that the trace of
every explored run of the real cron tasks is checked against by the correspondence.  Proved for every monotone calendar
(`CalMono`), configuration and trace: the calendar predicate changes only at a boundary instant (the times of day a block
registers with cron, midnight, the end points of a TimeSpan), so the registered alarms suffice; in an accepted trace an
observed output that is not within `lam` after a boundary is the calendar predicate of that instant, also after clock jumps
once `bound` has passed; a reset recalculates a set of blocks that is defined for every alarm table.  Then the ties by
translation, and the timing of the translated sleep loop in an environment model (EdzedProofs/CronTiming.lean).
-/
import EdzedModel.Cron
import EdzedProofs.Cron
import EdzedModel.Gen.Constants
import EdzedModel.Gen.TranslatedCron
import EdzedProofs.CronTie
import EdzedModel.Gen.TranslatedCronCfg
import EdzedProofs.CronCfgTie
import EdzedProofs.IntervalTie
import EdzedProofs.WeekdayBridge
import EdzedProofs.CronTiming
import EdzedProofs.CronTimingDemo

namespace Edzed.Cron

/-- "False when nothing is configured" -/
theorem timedate_unconfigured (cal : Calendar) (now : Nat) :
    timedatePred cal ⟨none, none, none⟩ now = false := rfl

/-- "… or a given set is empty" (an empty argument is not the same as an absent one) -/
theorem timedate_empty_set (cal : Calendar) (c : TDCfg) (now : Nat)
    (h : c.times = some [] ∨ c.dates = some [] ∨ c.weekdays = some []) :
    timedatePred cal c now = false := by
  unfold timedatePred
  rcases h with h | h | h <;> simp [h, timesContain, datesContain]

/-- "True exactly when the current time of day, date and weekday all match" – an absent argument
    matches always, unless all three are absent -/
theorem timedate_true_iff (cal : Calendar) (c : TDCfg) (now : Nat) :
    timedatePred cal c now = true ↔
      (c.times.isSome ∨ c.dates.isSome ∨ c.weekdays.isSome) ∧
      (∀ iv, c.times = some iv → ∃ r ∈ iv, inOpen r.1 (todOf now) r.2 = true) ∧
      (∀ iv, c.dates = some iv →
        ∃ r ∈ iv, inClosed r.1 ((cal (dayOf now)).month, (cal (dayOf now)).day) r.2 = true) ∧
      (∀ w, c.weekdays = some w → (cal (dayOf now)).wday ∈ w) := by
  unfold timedatePred
  simp only [Bool.and_eq_true, and_assoc]
  refine and_congr ?_ (and_congr ?_ (and_congr ?_ ?_))
  · simp only [TDCfg.configured, Bool.or_eq_true, or_assoc]
  · cases c.times <;>
      simp only [timesContain, List.any_eq_true, Option.some.injEq, forall_eq', reduceCtorEq, false_imp_iff, implies_true]
  · cases c.dates <;>
      simp only [datesContain, List.any_eq_true, Option.some.injEq, forall_eq', reduceCtorEq, false_imp_iff, implies_true]
  · cases c.weekdays <;>
      simp only [List.contains_iff_mem, Option.some.injEq, forall_eq', reduceCtorEq, false_imp_iff, implies_true]

/-- a time range is half-open and cyclic: `x` is inside iff, going forward from `lo`, `x` comes
    strictly before `hi` (equal end points: the whole day) -/
theorem time_range_cyclic (lo x hi : Nat) (hlo : lo < usPerDay) (hx : x < usPerDay) (hhi : hi < usPerDay) :
    inOpen lo x hi = true ↔
      (lo = hi ∨ (x + usPerDay - lo) % usPerDay < (hi + usPerDay - lo) % usPerDay) :=
  inOpen_cyclic usPerDay lo x hi hlo hx hhi

/-- a TimeSpan is True exactly inside one of its ranges `lo ≤ now < hi` (no wrapping) -/
theorem timespan_true_iff (cal : Calendar) (sp : Span) (now : Nat) :
    timespanPred cal sp now = true ↔
      ∃ r ∈ sp, r.1.Le (stampOf cal now) ∧ (stampOf cal now).Lt r.2 := by
  simp [timespanPred, inSpan, List.any_eq_true]

/-- the boundary instants of a TimeDate in `(a, b]` are exactly the instants whose time of day is
    registered with cron (`boundaries`: end points of `times`, and midnight) -/
theorem timedate_boundary_instants (cal : Calendar) (c : TDCfg) (a b : Nat) :
    boundaryIn cal (.timedate c) a b = true ↔ ∃ t, a < t ∧ t ≤ b ∧ todOf t ∈ boundaries c :=
  td_boundaryIn_iff cal c a b

/-- the boundary instants of a TimeSpan are the end points of its ranges: a boundary-free
    interval contains no instant whose date-time equals an end point -/
theorem timespan_boundary_instants (cal : Calendar) (hcal : CalMono cal) (sp : Span) (a b : Nat)
    (h : boundaryIn cal (.timespan sp) a b = false) :
    ∀ t, a < t → t ≤ b → stampOf cal t ∉ endpoints sp := by
  intro t h1 h2 hm
  have hab : a < b := by omega
  exact (ts_boundaryIn_false cal sp a b hab).mp h _ hm ⟨stampOf_strict hcal h1, stampOf_mono hcal h2⟩

/-- a TimeDate output can only change at a boundary instant –
    for ANY calendar (time of day, date and weekday are constant between the registered
    times of day and midnight) -/
theorem timedate_piecewise_constant (cal : Calendar) (c : TDCfg) (a b : Nat) (hab : a ≤ b)
    (h : ∀ t, a < t → t ≤ b → todOf t ∉ boundaries c) :
    timedatePred cal c a = timedatePred cal c b := by
  apply timedatePred_const cal c a b hab
  cases hf : boundaryIn cal (.timedate c) a b with
  | false => rfl
  | true =>
    obtain ⟨t, h1, h2, h3⟩ := (timedate_boundary_instants cal c a b).mp hf
    exact absurd h3 (h t h1 h2)

/-- **pred_piecewise_constant** for both kinds of blocks: the calendar predicate is constant
    on every interval `[a, b]` with no boundary instant in `(a, b]` -/
theorem pred_piecewise_constant (cal : Calendar) (hcal : CalMono cal) (cfg : Cfg) (a b : Nat)
    (hab : a ≤ b) (h : boundaryIn cal cfg a b = false) :
    pred cal cfg a = pred cal cfg b :=
  pred_const cal hcal cfg a b hab h

/-- … hence on every pair of instants of such an interval -/
theorem pred_constant_inside (cal : Calendar) (hcal : CalMono cal) (cfg : Cfg) (a b x y : Nat)
    (h : boundaryIn cal cfg a b = false) (hx : a ≤ x) (hxy : x ≤ y) (hy : y ≤ b) :
    pred cal cfg x = pred cal cfg y :=
  pred_const cal hcal cfg x y hxy (boundaryIn_mono cal hcal cfg a x y b hx hy h)

/-- the bookkeeping state follows the trace: a `config` record installs the configuration … -/
theorem track_config (p : Params) (pre : List Rec) (blk : Nat) (cfg : Cfg) (read : Nat) (out : Bool) :
    ((track p (pre ++ [.config blk cfg read out])).blocks blk).map (·.cfg) = some cfg := by
  simp [track, apply, update]

/-- … and no other record changes the configuration of a block -/
theorem track_keeps_cfg (p : Params) (pre : List Rec) (r : Rec) (blk : Nat)
    (h : ∀ cfg read out, r ≠ .config blk cfg read out) :
    ((track p (pre ++ [r])).blocks blk).map (·.cfg) = ((track p pre).blocks blk).map (·.cfg) := by
  simp only [track, List.foldl_append, List.foldl_cons, List.foldl_nil]
  generalize List.foldl (apply p) {} pre = st
  cases r with
  | config b c rd o =>
    have : blk ≠ b := fun e => h c rd o (by rw [e])
    simp [apply, update, this]
  | recalc b rd o =>
    simp only [apply]
    cases hb : st.blocks b with
    | none => rfl
    | some bs =>
      by_cases e : blk = b
      · subst e
        have : (recalcBlock bs rd o).cfg = bs.cfg := by
          unfold recalcBlock; split <;> rfl
        simp [update, hb, this]
      · simp [update, e]
  | jump t d =>
    simp only [apply]
    cases st.blocks blk <;> simp [markStale]
  | probe t b o => rfl
  | late t d =>
    simp only [apply]
    cases st.blocks blk <;> simp [markLate]

/-- **accepted_trace_correct**: in an accepted trace, an output observed at instant `t` when no
    clock jump is pending for the block (`stale = none`, or its deadline has passed) and no
    boundary of the block lies in `(t − lam, t]` equals the calendar predicate of `t` under the
    block's current configuration -/
theorem accepted_trace_correct (p : Params) (hcal : CalMono p.cal) (pre post : List Rec)
    (t blk : Nat) (out : Bool) (b : BState)
    (hacc : accepts p (pre ++ .probe t blk out :: post) = true)
    (hb : (track p pre).blocks blk = some b)
    (hfresh : ∀ dl, b.stale = some dl → dl < t)
    (hfar : boundaryIn p.cal b.cfg (t - p.lam) t = false) :
    out = pred p.cal b.cfg t := by
  obtain ⟨b', hb', hok, _, hout, hcov⟩ := probe_facts p pre post t blk out hacc
  cases hb.symm.trans hb'
  have hcov := (coverage_ok p b t).mp hcov hfresh
  have hlast := hok.last_le
  rw [hout, hok.out_ok]
  by_cases hl : b.last ≤ t - p.lam
  · rw [pred_const p.cal hcal b.cfg b.last (t - p.lam) hl hcov]
    exact pred_const p.cal hcal b.cfg (t - p.lam) t (Nat.sub_le _ _) hfar
  · exact pred_const p.cal hcal b.cfg b.last t (by omega)
      (boundaryIn_mono p.cal hcal b.cfg (t - p.lam) b.last t t (by omega) (Nat.le_refl _) hfar)

/-- **jump_recovery**: once the grace period has ended – `bound` after the arrival of the latest forward
    clock jump, `delta + lam` after an injected delay of `delta` (see `jump_recovery_trace`,
    `injected_delay_trace`) – every observed output (not within `lam` after a boundary) is the
    calendar predicate again -/
theorem jump_recovery (p : Params) (hcal : CalMono p.cal) (pre post : List Rec)
    (t blk : Nat) (out : Bool) (b : BState)
    (hacc : accepts p (pre ++ .probe t blk out :: post) = true)
    (hb : (track p pre).blocks blk = some b)
    (hlate : (track p pre).graceEnd < t)
    (hfar : boundaryIn p.cal b.cfg (t - p.lam) t = false) :
    out = pred p.cal b.cfg t := by
  obtain ⟨b', hb', hok, _⟩ := probe_facts p pre post t blk out hacc
  cases hb.symm.trans hb'
  apply accepted_trace_correct p hcal pre post t blk out b hacc hb _ hfar
  intro dl hs
  have := hok.dl_le dl hs
  omega

/-- the same, read off the trace: after a clock jump or an injected delay `r`, and records that are neither, every
    probe later than the end of the grace period that `r` set is correct -/
theorem recovery_after (p : Params) (hcal : CalMono p.cal) (pre mid post : List Rec) (r : Rec)
    (t blk : Nat) (out : Bool) (b : BState)
    (hacc : accepts p (pre ++ r :: (mid ++ .probe t blk out :: post)) = true)
    (hmid : ∀ r ∈ mid, r.isJump = false)
    (hb : (track p (pre ++ r :: mid)).blocks blk = some b)
    (hlate : (apply p (track p pre) r).graceEnd < t)
    (hfar : boundaryIn p.cal b.cfg (t - p.lam) t = false) :
    out = pred p.cal b.cfg t := by
  have e : pre ++ r :: (mid ++ .probe t blk out :: post) = (pre ++ r :: mid) ++ .probe t blk out :: post := by simp
  rw [e] at hacc
  apply jump_recovery p hcal _ post t blk out b hacc hb _ hfar
  simp only [track, List.foldl_append, List.foldl_cons]
  rw [graceEnd_foldl p mid _ hmid]
  exact hlate

/-- a clock jump of `d` at `tj`, then no further jump or injected delay; every probe later than `tj + d + bound` is
    correct -/
theorem jump_recovery_trace (p : Params) (hcal : CalMono p.cal) (pre mid post : List Rec)
    (tj d t blk : Nat) (out : Bool) (b : BState)
    (hacc : accepts p (pre ++ .jump tj d :: (mid ++ .probe t blk out :: post)) = true)
    (hmid : ∀ r ∈ mid, r.isJump = false)
    (hb : (track p (pre ++ .jump tj d :: mid)).blocks blk = some b)
    (hlate : tj + d + p.bound < t)
    (hfar : boundaryIn p.cal b.cfg (t - p.lam) t = false) :
    out = pred p.cal b.cfg t :=
  recovery_after p hcal pre mid post _ t blk out b hacc hmid hb hlate hfar

/-- an injected delay excuses nothing beyond its own window: wake-up callbacks due at `tl` run `dl` µs
    late (no clock jump pending before: `graceEnd ≤ tl + dl + lam`), then no jump and no further delay;
    every probe later than `tl + dl + lam` is correct -/
theorem injected_delay_trace (p : Params) (hcal : CalMono p.cal) (pre mid post : List Rec)
    (tl dl t blk : Nat) (out : Bool) (b : BState)
    (hacc : accepts p (pre ++ .late tl dl :: (mid ++ .probe t blk out :: post)) = true)
    (hpre : (track p pre).graceEnd ≤ tl + dl + p.lam)
    (hmid : ∀ r ∈ mid, r.isJump = false)
    (hb : (track p (pre ++ .late tl dl :: mid)).blocks blk = some b)
    (hlate : tl + dl + p.lam < t)
    (hfar : boundaryIn p.cal b.cfg (t - p.lam) t = false) :
    out = pred p.cal b.cfg t := by
  refine recovery_after p hcal pre mid post _ t blk out b hacc hmid hb ?_ hfar
  show (if _ then _ else _) < t
  rw [if_pos hpre]
  exact hlate

/-- a block is never left unrecalculated for longer than `bound` after a jump while one of its
    boundaries has passed: the acceptance predicate rejects such a trace (S3) -/
theorem stale_block_rejected (p : Params) (pre post : List Rec) (t blk dl : Nat) (out : Bool) (b : BState)
    (hb : (track p pre).blocks blk = some b) (hs : b.stale = some dl) (hlate : dl < t)
    (hmiss : boundaryIn p.cal b.cfg b.last (t - p.lam) = true) :
    accepts p (pre ++ .probe t blk out :: post) = false := by
  cases hacc : accepts p (pre ++ .probe t blk out :: post) with
  | false => rfl
  | true =>
    obtain ⟨b', hb', _, _, _, hcov⟩ := probe_facts p pre post t blk out hacc
    cases hb.symm.trans hb'
    have := (coverage_ok p b t).mp hcov fun dl' h => by cases hs.symm.trans h; exact hlate
    rw [hmiss] at this
    cases this

/-- **resetTargets_total**: with `set().union(*alarms.values())` the reset branch is defined for
    every alarm table – the empty one included – and yields exactly the registered blocks -/
theorem resetTargets_total (al : Alarms) :
    ∃ l, resetTargets al = .ok l ∧ ∀ b, b ∈ l ↔ ∃ e ∈ al, b ∈ e.2 := by
  refine ⟨_, rfl, ?_⟩
  intro b
  rw [mem_sortDedup]
  simp [List.mem_flatMap]

/-- the expression of the unrepaired code agrees on every non-empty table … -/
theorem resetTargetsOrig_nonempty (e : Nat × List Nat) (al : Alarms) :
    resetTargetsOrig (e :: al) = resetTargets (e :: al) := rfl

/-- … and fails on the empty one (the defect repaired by patches/C07-empty-alarms.diff) -/
theorem resetTargetsOrig_empty : resetTargetsOrig [] = .error .typeError := rfl

/-- every legal group of blocks recalculated by cron consists of registered blocks -/
theorem group_members_registered (lam : Nat) (al : Alarms) (read : Nat) (blocks : List Nat)
    (h : groupLegal lam al read blocks = true) : ∀ b ∈ blocks, ∃ e ∈ al, b ∈ e.2 := by
  intro b hb
  have hb' : b ∈ sortDedup blocks := (mem_sortDedup b blocks).mpr hb
  unfold groupLegal at h
  simp only [resetTargets, Bool.or_eq_true, beq_iff_eq, List.any_eq_true, Bool.and_eq_true] at h
  rcases h with h | ⟨e, he, _, h⟩
  · rw [h, mem_sortDedup] at hb'
    simpa [List.mem_flatMap] using hb'
  · rw [h, mem_sortDedup] at hb'
    exact ⟨e, he, hb'⟩

/-- cron wakes up at every full hour (so a stale sleep ends within one hour), a clock error of
    30 s – the smallest jump of the property – is above the reset threshold, and the desired
    accuracy is below the 5 ms the property allows -/
theorem cron_constants_fit :
    Gen.cronSet24 = (List.range 24).map (fun h => (h, 0, 0, 0)) ∧
    Gen.cronTtErrorUs < 30000000 ∧ Gen.cronTtOkUs < 5000 ∧ Gen.secPerHour = 3600 ∧
    Gen.secPerDay * 1000000 = usPerDay := by
  decide

/-- a monotone toy calendar: every day is January 1st of its own year -/
def toyCal : Calendar := fun d => ⟨1970 + d, 1, 1, d % 7 + 1⟩

theorem toyCal_mono : CalMono toyCal := by
  intro d1 d2 h; simp only [toyCal]; omega

/-- a block 10:00–11:00 configured at 09:00 (output False), recalculated by cron 2 µs after 10:00
    (True), observed at 10:30 (True): accepted, and the theorem applies to the probe -/
example :
    let p : Params := { cal := toyCal, lam := 5000, bound := 3600005000 }
    let cfg : Cfg := .timedate ⟨some [(36000000000, 39600000000)], none, none⟩
    let tr := [Rec.config 0 cfg 32400000000 false, .recalc 0 36000000002 true, .probe 37800000000 0 true]
    accepts p tr = true ∧ boundaryIn p.cal cfg (37800000000 - p.lam) 37800000000 = false
      ∧ pred p.cal cfg 37800000000 = true := by
  decide

/-- the same block not recalculated at 10:00: the probe at 10:30 is rejected (S2) -/
example :
    let p : Params := { cal := toyCal, lam := 5000, bound := 3600005000 }
    let cfg : Cfg := .timedate ⟨some [(36000000000, 39600000000)], none, none⟩
    accepts p [Rec.config 0 cfg 32400000000 false, .probe 37800000000 0 false] = false := by
  decide

/-- a forward jump of 30 min at 09:10: the block may stay wrong until the deadline (probe at 10:05
    wall time accepted without a recalculation), but not beyond it -/
example :
    let p : Params := { cal := toyCal, lam := 5000, bound := 3600005000 }
    let cfg : Cfg := .timedate ⟨some [(36000000000, 39600000000)], none, none⟩
    let pre := [Rec.config 0 cfg 32400000000 false, .jump 33000000000 1800000000]
    accepts p (pre ++ [.probe 36300000000 0 false]) = true ∧
    accepts p (pre ++ [.probe 38500000000 0 false]) = false := by
  decide

/-- the 10:00 wake-up is delayed by 8 ms (injected): the recalculation 7 ms after 10:00 is accepted, a
    probe inside the window is not judged, but the NEXT boundary (11:00) must again be served within
    5 ms – a recalculation 8 ms after 11:00 is rejected, one 0.3 ms after it accepted -/
example :
    let p : Params := { cal := toyCal, lam := 5000, bound := 3600005000 }
    let cfg : Cfg := .timedate ⟨some [(36000000000, 39600000000)], none, none⟩
    let pre := [Rec.config 0 cfg 32400000000 false, .late 35999999000 8000, .probe 36000006000 0 false,
                .recalc 0 36000007002 true, .probe 36000010000 0 true]
    accepts p pre = true ∧
    accepts p (pre ++ [.recalc 0 39600008000 false]) = false ∧
    accepts p (pre ++ [.recalc 0 39600000300 false, .probe 39600010000 0 false]) = true := by
  decide

/-- one alarm (10:00), two blocks; the output event of block 0 reconfigures block 1 inside the alarm
    processing (its `config` reading is 2 µs later), then cron hands the older reading to block 1:
    accepted because it yields the same output; a different output would be rejected -/
example :
    let p : Params := { cal := toyCal, lam := 5000, bound := 3600005000 }
    let c0 : Cfg := .timedate ⟨some [(36000000000, 39600000000)], none, none⟩
    let c1 : Cfg := .timedate ⟨some [(43200000000, 46800000000)], none, none⟩
    let pre := [Rec.config 0 c0 32400000000 false, .config 1 c0 32400000002 false,
                .recalc 0 36000000002 true, .config 1 c1 36000000004 false]
    accepts p (pre ++ [.recalc 1 36000000002 false, .probe 36000010000 1 false]) = true ∧
    accepts p (pre ++ [.recalc 1 36000000002 true]) = false := by
  decide

end Edzed.Cron

/-! ## Tie by translation

`Gen.TrCron.*` (lean/EdzedModel/Gen/TranslatedCron.lean) is regenerated on every run from the CURRENT Python AST
of `Cron.add_block/remove_block/reload/_maintask`, `Flag`, `TimeDate/TimeSpan.recalc/_event_reconfig`
(tools/py2lean_cron.py).  The theorems below say what those translated definitions are; the references they are
compared with are written by hand (EdzedModel/Cron.lean: the alarm table and the calendar predicates;
EdzedProofs/CronTie.lean: one pass of the scheduler loop in direct style).  The acceptance predicate (`accepts`,
EdzedModel/Cron.lean) stays a SPECIFICATION of cron's timing; what is tied here is everything discrete the specification relies on. -/
namespace Edzed.TrTie
open Edzed.Cron Edzed.Gen.TrCron

/-- `utils.flag.Flag`: OR / test-and-clear / set / clear / truth value -/
theorem translated_cron_flag_is_model (v o : Bool) :
    (Flag_init o).1 = o ∧
    Flag_OR v o = (v || o, v || o) ∧ Flag_test_clear v = (false, v) ∧ Flag_set v o = (o, o) ∧
    Flag_set v = (true, true) ∧ Flag_clear v = (false, false) ∧ Flag_bool v = (v, v) ∧
    Flag_AND v o = (v && o, v && o) ∧ Flag_test_set v = (true, v) ∧ Flag_invert v = (!v, !v) := by
  cases v <;> cases o <;> decide

/-- the numeric constants under the names `blocklib/cron.py` uses (`_TT_OK`, `_TT_WARNING`, `_TT_ERROR`,
    `SEC_PER_HOUR/MIN/DAY` as found in ITS namespace) are the extracted ones -/
theorem translated_cron_constants_are_extracted :
    ttOk * 1000000 = (Gen.cronTtOkUs : Rat) ∧ ttWarning * 1000000 = (Gen.cronTtWarningUs : Rat) ∧
    ttError * 1000000 = (Gen.cronTtErrorUs : Rat) ∧ secPerHour = (Gen.secPerHour : Rat) ∧
    secPerMin = (Gen.secPerMin : Rat) ∧ secPerDay = (Gen.secPerDay : Rat) := by
  decide +kernel

/-- `Cron.add_block` IS the model's `Table.add`, and asks for a reload iff the key is new and not a full hour -/
theorem translated_cron_add_block_is_model (tz : Nat → Except Exc Nat) (compat : Nat → Bool) (tb : Table)
    (nr : Bool) (t t' b : Nat) (hc : compat b = true) (ht : tz t = .ok t') :
    addBlock (tabPrims tz compat) ⟨tb, nr, t, b⟩ = .ok ⟨tb.add t' b, nr || tb.addNeedsReload t', t', b⟩ :=
  add_is_model tz compat tb nr t t' b hc ht

/-- a block without `recalc` is refused with TypeError before anything is touched -/
theorem translated_cron_add_block_refuses_incompatible (tz : Nat → Except Exc Nat) (compat : Nat → Bool)
    (tb : Table) (nr : Bool) (t b : Nat) (hc : compat b = false) :
    addBlock (tabPrims tz compat) ⟨tb, nr, t, b⟩ = .error .typeError :=
  add_incompatible tz compat tb nr t b hc

/-- `Cron.remove_block` IS the model's `Table.remove` -/
theorem translated_cron_remove_block_is_model (tz : Nat → Except Exc Nat) (compat : Nat → Bool) (tb : Table)
    (nr : Bool) (t t' b : Nat) (ht : tz t = .ok t') :
    removeBlock (tabPrims tz compat) ⟨tb, nr, t, b⟩ =
      .ok ⟨tb.remove t' b, nr || tb.removeNeedsReload t' b, t', b⟩ :=
  remove_is_model tz compat tb nr t t' b ht

/-- `Cron.reload`: the request flag is consumed; the task is woken iff a reload was requested and it runs -/
theorem translated_cron_reload_is_model (nr running wake : Bool) :
    reload ⟨nr, running, wake⟩ = .ok ⟨false, running, wake || (nr && running)⟩ :=
  reload_is_model nr running wake

/-- one call of the TRANSLATED methods on (table, reload flag); times are naive, blocks have `recalc` -/
def trCall (st : Table × Bool) (op : TOp) : Table × Bool :=
  match op with
  | .add t b =>
    match addBlock (tabPrims .ok (fun _ => true)) ⟨st.1, st.2, t, b⟩ with
    | .ok L => (L.alarms, L.needs_reload)
    | .error _ => st
  | .remove t b =>
    match removeBlock (tabPrims .ok (fun _ => true)) ⟨st.1, st.2, t, b⟩ with
    | .ok L => (L.alarms, L.needs_reload)
    | .error _ => st

theorem trCall_table (st : Table × Bool) (op : TOp) : (trCall st op).1 = op.apply st.1 := by
  cases op with
  | add t b => simp [trCall, add_is_model (t' := t), TOp.apply]
  | remove t b => simp [trCall, remove_is_model (t' := t), TOp.apply]

theorem trCall_foldl_table (ops : List TOp) (st : Table × Bool) :
    (ops.foldl trCall st).1 = ops.foldl TOp.apply st.1 := by
  induction ops generalizing st with
  | nil => rfl
  | cons op ops ih => simp only [List.foldl_cons]; rw [ih, trCall_table]

/-- after ANY sequence of add_block / remove_block calls the set registered at each time is exactly the blocks
    whose last call for that time was an `add_block` (untouched pairs stay as they were) -/
theorem translated_cron_registered_after_calls (ops : List TOp) (tb : Table) (nr : Bool) (t b : Nat) :
    (ops.foldl trCall (tb, nr)).1.registered t b = (lastOp ops t b).getD (tb.registered t b) := by
  rw [trCall_foldl_table]; exact registered_after_ops ops tb t b

/-- removing a block from a time it is not registered for changes nothing – neither table nor reload flag -/
theorem translated_cron_remove_unregistered_changes_nothing (tb : Table) (nr : Bool) (t b : Nat)
    (h : tb.NoEmpty) (hr : tb.registered t b = false) :
    trCall (tb, nr) (.remove t b) = (tb, nr) := by
  have := remove_unregistered tb t b h hr
  simp [trCall, remove_is_model (t' := t), this.1, this.2]

/-- no key ever holds an empty set -/
theorem translated_cron_table_keeps_no_empty_set (ops : List TOp) (tb : Table) (nr : Bool) (h : tb.NoEmpty) :
    (ops.foldl trCall (tb, nr)).1.NoEmpty := by
  rw [trCall_foldl_table]
  induction ops generalizing tb with
  | nil => exact h
  | cons op ops ih =>
    simp only [List.foldl_cons]
    cases op with
    | add t b => exact ih _ (noEmpty_add tb t b h)
    | remove t b => exact ih _ (noEmpty_remove tb t b h)

/-- a reload is requested iff the set of NON-hourly keys changed: a call touches the key `t` only, and sets the
    flag exactly when `t` is not a full hour and appeared / disappeared -/
theorem translated_cron_reload_requested_iff_nonhourly_key_changed (tb : Table) (nr : Bool) (op : TOp) :
    let t := match op with | .add t _ => t | .remove t _ => t
    (∀ t', t' ≠ t → (trCall (tb, nr) op).1.isKey t' = tb.isKey t') ∧
    (trCall (tb, nr) op).2 = (nr || (!hourly t && ((trCall (tb, nr) op).1.isKey t != tb.isKey t))) := by
  cases op with
  | add t b =>
    refine ⟨fun t' ht => ?_, ?_⟩
    · simp [trCall, add_is_model (t' := t), isKey_add, ht]
    · simp only [trCall, add_is_model (t' := t), isKey_add, Table.addNeedsReload]
      cases tb.isKey t <;> cases hourly t <;> cases nr <;> simp
  | remove t b =>
    refine ⟨fun t' ht => ?_, ?_⟩
    · simp [trCall, remove_is_model (t' := t), isKey_remove_other _ _ _ _ ht]
    · simp only [trCall, remove_is_model (t' := t), removeNeedsReload_iff]
      cases h1 : tb.isKey t <;> cases h2 : (tb.remove t b).isKey t <;> cases hourly t <;> cases nr <;> simp
      -- left over: `t` no key before and a key after the removal, which cannot be
      · unfold Table.remove Table.isKey at h2
        unfold Table.isKey at h1
        cases h3 : tb t <;> simp_all

/-- the hourly keys of the model are exactly the extracted `_SET24` -/
theorem translated_cron_hourly_is_set24 (t : Nat) :
    hourly t = Gen.cronSet24.any (fun x => ((x.1 * 60 + x.2.1) * 60 + x.2.2.1) * 1000000 + x.2.2.2 == t) := by
  have e : ∀ h : Nat, ((h * 60 + 0) * 60 + 0) * 1000000 + 0 = h * 3600000000 := fun h => by
    simp only [Nat.add_zero, Nat.mul_assoc, Nat.reduceMul]
  rw [cron_constants_fit.1, Bool.eq_iff_iff, hourly_iff]
  simp only [List.any_eq_true, List.mem_map, List.mem_range, beq_iff_eq]
  constructor
  · rintro ⟨h, h24, rfl⟩
    exact ⟨_, ⟨h, h24, rfl⟩, e h⟩
  · rintro ⟨_, ⟨h, h24, rfl⟩, rfl⟩
    exact ⟨h, h24, (e h).symm⟩

variable {σ T DT B : Type}

/-- the statements before `while True:`: the overhead estimate starts at `_TT_OK`, a reload is pending (it also
    initialises the index), no reset, no short sleep -/
theorem translated_cron_init_is_model [Inhabited T] [Inhabited DT] :
    (mtInit : MtLocals T DT).v0 = ttOk ∧ (mtInit : MtLocals T DT).v2 = true ∧
    (mtInit : MtLocals T DT).v1 = false ∧ (mtInit : MtLocals T DT).v3 = false ∧
    (mtInit : MtLocals T DT).v6 = none := ⟨rfl, rfl, rfl, rfl, rfl⟩

/-- the beginning of a pass IS `refHead`: reload → timetable rebuilt from `_SET24` ∪ the CURRENT keys, index
    forgotten; ONE clock reading; unknown index → `bisect_left` for that reading and ALL current clients
    recalculated with it; then `wakeup = timetable[index]` and the sleep loop -/
theorem translated_cron_step_is_model (P : MtPrims σ T DT B) (L : MtLocals T DT) (w : σ) :
    mtStep P L w = refHead P L w := head_is_ref P L w

/-- the body of `for step in range(3)` IS `refBody` (time difference normalised to ±12 h, the check with its
    thresholds, the four ways of sleeping) -/
theorem translated_cron_sleep_body_is_model (P : MtPrims σ T DT B)
    (next brk : MtLocals T DT → σ → Res (MtLocals T DT) σ) (L : MtLocals T DT) (w : σ) :
    mtFor1Body P next brk L w = refBody P next brk L w := body_is_ref P next brk L w

/-- what follows the sleep loop IS `refTail` -/
theorem translated_cron_tail_is_model (P : MtPrims σ T DT B) (L : MtLocals T DT) (w : σ) :
    mtAfter1 P L w = refTail P L w := tail_is_ref P L w

/-- the loop itself: steps 0, 1, 2 in this order, `break` and exhaustion both lead to the tail -/
theorem translated_cron_loop_is_model (P : MtPrims σ T DT B) (L : MtLocals T DT) (w : σ) :
    mtFor1 P (List.range 3) L w =
      refBody P (fun L w => refBody P (fun L w => refBody P (refTail P) (refTail P) { L with v10 := 2 } w)
        (refTail P) { L with v10 := 1 } w) (refTail P) { L with v10 := 0 } w :=
  for_is_ref P L w

/-- **a reset recalculates every block registered at that moment**: the client set is computed from the world as
    it is when the reset is processed, each block gets the last reading, the index is forgotten (so that the next
    pass re-positions it) and the pass ends -/
theorem translated_cron_reset_recalculates_every_client (P : MtPrims σ T DT B) (L : MtLocals T DT) (w : σ)
    (h : L.v1 = true) :
    mtAfter1 P L w =
      .next { L with v1 := false, v6 := none } (recalcAll P (P.allClients w) L.v7 w) := by
  rw [tail_is_ref]; exact refTail_reset P L w h

/-- **the wake-up set is read after the sleep returned**: the blocks recalculated at an alarm are those
    registered for `wakeup` in the world `w` in which the sleep loop ended (not one remembered from before), with
    the reading taken after the sleep; then the index advances cyclically -/
theorem translated_cron_wakeup_set_read_after_sleep (P : MtPrims σ T DT B) (L : MtLocals T DT) (w : σ) (i : Nat)
    (h1 : L.v1 = false) (h2 : L.v2 = false) (h3 : L.v6 = some i) :
    mtAfter1 P L w =
      .next { L with v6 := some ((i + 1) % L.v5) }
        (if P.hasAlarm w L.v9 then recalcAll P (P.clientsAt w L.v9) L.v7 w else w) := by
  rw [tail_is_ref]; exact refTail_served P L w i h1 h2 h3

/-- a reload request that arrived during the sleep ends the pass at once: nothing is recalculated, the index
    is kept (the next pass rebuilds the timetable) -/
theorem translated_cron_pending_reload_ends_pass (P : MtPrims σ T DT B) (L : MtLocals T DT) (w : σ)
    (h1 : L.v1 = false) (h2 : L.v2 = true) :
    mtAfter1 P L w = .next L w := by
  rw [tail_is_ref]; exact refTail_reload P L w h1 h2

/-- **every key of `_alarms` and every full hour is in the timetable after a reload** (for a `sorted(a.union(b))`
    that contains what it should), and a pass with a pending reload is a pass without one from that timetable
    with the index forgotten -/
theorem translated_cron_reload_rebuilds_timetable (P : MtPrims σ T DT B) (L : MtLocals T DT) (w : σ)
    (hs : ∀ a b x, x ∈ P.sortedUnion a b ↔ x ∈ a ∨ x ∈ b) (h : L.v2 = true) :
    let tt := P.sortedUnion P.set24 (P.alarmKeys w)
    mtStep P L w = mtStep P { L with v2 := false, v4 := tt, v5 := tt.length, v6 := none } w ∧
    ∀ t, (t ∈ P.set24 ∨ t ∈ P.alarmKeys w) ↔ t ∈ tt := by
  exact ⟨head_reload L w h, fun t => (hs _ _ t).symm⟩

/-- **re-positioning uses one reading**: with an unknown index (start, reload, reset) the index is
    `bisect_left(timetable, reading) % tlen` and ALL clients registered after that clock read are recalculated
    with the same reading before anything else happens -/
theorem translated_cron_resync_uses_one_reading (P : MtPrims σ T DT B) (L : MtLocals T DT) (w : σ)
    (h1 : L.v2 = false) (h2 : L.v6 = none) :
    mtStep P L w =
      refWake P { L with v7 := (P.dtnow w).1, v8 := P.timeOf (P.dtnow w).1,
                         v6 := some (P.bisectLeft L.v4 (P.timeOf (P.dtnow w).1) % L.v5) }
        (recalcAll P (P.allClients (P.dtnow w).2) (P.dtnow w).1 (P.dtnow w).2) := by
  rw [head_is_ref]; unfold refHead; simp [h1, h2]

/-- **jump detection**: whenever the check runs (steps 1, 2, or step 0 when already late) and the clock is off by
    more than `_TT_ERROR`, the loop is left with `reset` set and the overhead estimate untouched -/
theorem translated_cron_jump_is_detected (P : MtPrims σ T DT B)
    (next brk : MtLocals T DT → σ → Res (MtLocals T DT) σ) (L : MtLocals T DT) (w : σ)
    (hc : L.v10 > 1 ∨ secondsUntil P L.v9 L.v8 < 0)
    (hj : ratAbs (secondsUntil P L.v9 L.v8) > ttError) :
    mtFor1Body P next brk L w =
      brk { L with v11 := secondsUntil P L.v9 L.v8,
                   v12 := ratAbs (secondsUntil P L.v9 L.v8), v1 := true } w := by
  rw [body_is_ref]
  exact refCheck_problem P next brk { L with v11 := secondsUntil P L.v9 L.v8 } w hc
    (by rw [decide_eq_true hj, Bool.or_true])

/-- still early at step 2 (after the additional short sleep) is a clock problem as well -/
theorem translated_cron_early_at_step2_resets (P : MtPrims σ T DT B)
    (next brk : MtLocals T DT → σ → Res (MtLocals T DT) σ) (L : MtLocals T DT) (w : σ)
    (h2 : L.v10 = 2) (he : secondsUntil P L.v9 L.v8 > 0) :
    mtFor1Body P next brk L w =
      brk { L with v11 := secondsUntil P L.v9 L.v8,
                   v12 := ratAbs (secondsUntil P L.v9 L.v8), v1 := true } w := by
  rw [body_is_ref]
  refine refCheck_problem P next brk { L with v11 := secondsUntil P L.v9 L.v8 } w (Or.inl ?_) ?_
  · show L.v10 > 1
    omega
  · show (L.v10 == 2 && decide (secondsUntil P L.v9 L.v8 > 0) || _) = true
    rw [h2, decide_eq_true he]
    rfl

/-- **the overhead estimate**: at step 1, after a long sleep that ended more than `_TT_OK` (but not more than
    `_TT_ERROR`) late, the estimate grows by half of (lateness − `_TT_OK`/2): `s` is negative when late, so
    `overhead − (s + _TT_OK/2)/2` is larger than `overhead`; the alarm is then processed -/
theorem translated_cron_overhead_estimate (P : MtPrims σ T DT B)
    (next brk : MtLocals T DT → σ → Res (MtLocals T DT) σ) (L : MtLocals T DT) (w : σ)
    (h1 : L.v10 = 1) (hs : L.v3 = false) (hr : L.v1 = false)
    (hl : secondsUntil P L.v9 L.v8 < -ttOk) (hl0 : secondsUntil P L.v9 L.v8 < 0)
    (hj : ¬ ratAbs (secondsUntil P L.v9 L.v8) > ttError) :
    mtFor1Body P next brk L w =
      brk { L with v11 := secondsUntil P L.v9 L.v8,
                   v12 := ratAbs (secondsUntil P L.v9 L.v8),
                   v0 := L.v0 - (secondsUntil P L.v9 L.v8 + ttOk / 2) * (1 / 2) } w := by
  rw [body_is_ref]
  have hp : (L.v10 == 2 && decide (secondsUntil P L.v9 L.v8 > 0)
      || decide (ratAbs (secondsUntil P L.v9 L.v8) > ttError)) = false := by
    rw [h1, decide_eq_false hj]
    rfl
  rw [show refBody P next brk L w = _ from
    refCheck_due P next brk { L with v11 := secondsUntil P L.v9 L.v8 } w (Or.inr hl0) hr hp (Rat.le_of_lt hl0)]
  have hc : L.v10 = 1 ∧ L.v3 = false ∧ ¬ (-ttOk ≤ secondsUntil P L.v9 L.v8 ∧ secondsUntil P L.v9 L.v8 ≤ 0) :=
    ⟨h1, hs, fun h => Rat.not_le.mpr hl h.1⟩
  simp only [hc, not_false_eq_true, and_self, ↓reduceIte]

/-- `TimeDate.recalc` hands the model's calendar predicate to `set_output` -/
theorem translated_cron_timedate_recalc_is_pred (cal : Calendar) (c : TDCfg) (now : Nat) :
    tdRecalc (tdPrims cal) c now = timedatePred cal c now := td_recalc_is_pred cal c now

/-- `TimeSpan.recalc` likewise -/
theorem translated_cron_timespan_recalc_is_pred (cal : Calendar) (sp : Span) (now : Nat) :
    tsRecalc (tsPrims cal) sp now = timespanPred cal sp now := ts_recalc_is_pred cal sp now

/-- what an absent item of the event data means (the defaults of the keyword-only parameters), and
    `init_from_value` / `_restore_state` are these very reconfigurations (checked by the translator, which
    otherwise omits the definitions) -/
theorem translated_cron_reconfig_defaults :
    tdReconfigDefaults = [("times", "None"), ("dates", "None"), ("weekdays", "None")] ∧
    tsReconfigDefaults = [("span", "()")] := ⟨rfl, rfl⟩

/-- `TimeDate._event_reconfig`: besides the table calls, in this order: store the new configuration, `reload()`,
    ONE clock reading, `recalc` with that reading -/
theorem translated_cron_timedate_reconfig_order (o n : Bool) :
    (tdReconfig o n).filter (fun a => a matches .storeNew | .reload | .readClock | .recalc _) =
      [.storeNew, .reload, .readClock, .recalc 0] := by
  cases o <;> cases n <;> rfl

/-- **a reconfigured TimeDate is registered exactly at its `boundaries`** (end points of the new `times`, and
    midnight): whatever it was registered for before (anything within the old boundaries), the table calls of
    `_event_reconfig` – old end points removed first, new ones and midnight added afterwards – never raise and
    leave it registered at `t` iff `t ∈ boundaries new` -/
theorem translated_cron_timedate_reconfig_registers_boundaries (old new : TDCfg) (b : Nat) (tb : Table)
    (h0 : ∀ t, tb.registered t b = true → t ∈ boundaries old) :
    ∃ ops, actsOps (tdActOps old new b) (tdReconfig old.times.isSome new.times.isSome) = some ops ∧
      ∀ t, (ops.foldl TOp.apply tb).registered t b = true ↔ t ∈ boundaries new := by
  let rem := match old.times with | some iv => timeEndpoints iv | none => []
  let add := match new.times with | some iv => timeEndpoints iv | none => []
  refine ⟨rem.map (TOp.remove · b) ++ (add.map (TOp.add · b) ++ [TOp.add 0 b]), ?_, fun t => ?_⟩
  · cases old with
    | mk ot od ow =>
    cases new with
    | mk nt nd nw =>
      cases ot <;> cases nt <;> simp [tdReconfig, actsOps, tdActOps, rem, add]
  · rw [registered_reconfig, mem_boundaries]
    constructor
    · rintro (h | h | ⟨hn, hr⟩)
      · exact Or.inl h
      · exact Or.inr h
      · rcases (mem_boundaries old t).mp (h0 t hr) with h | h
        · exact Or.inl h
        · exact absurd h hn
    · rintro (h | h)
      · exact Or.inl h
      · exact Or.inr (Or.inl h)

/-- the `range_endpoints()` that `_event_reconfig` iterates over IS the function translated from timeinterval.py
    (TrTie.translated_interval_range_endpoints_is_model in C13): on the microsecond scale of this model's
    configuration its values are exactly `timeEndpoints` -/
theorem translated_cron_time_endpoints_are_translated_range_endpoints (tzAware : Bool)
    (iv : List Interval.Range) (t : Nat) :
    t ∈ timeEndpoints (iv.map fun r => (Interval.timeUs r.1, Interval.timeUs r.2)) ↔
      ∃ e ∈ Gen.TrIv.range_endpoints (IntervalTie.modelPrims tzAware) .time iv, Interval.timeUs e = t := by
  have m := (IntervalTie.range_endpoints_eq tzAware .time iv).2
  simp only [timeEndpoints, List.mem_flatMap, List.mem_map, List.mem_cons, List.not_mem_nil, or_false]
  constructor
  · rintro ⟨p, ⟨r, hr, rfl⟩, h⟩
    rcases h with h | h
    · refine ⟨r.1, (m _).2 ?_, h.symm⟩
      simp only [Interval.rangeEndpoints, List.mem_flatMap]; exact ⟨r, hr, by simp⟩
    · refine ⟨r.2, (m _).2 ?_, h.symm⟩
      simp only [Interval.rangeEndpoints, List.mem_flatMap]; exact ⟨r, hr, by simp⟩
  · rintro ⟨e, he, rfl⟩
    have := (m e).1 he
    simp only [Interval.rangeEndpoints, List.mem_flatMap, List.mem_cons, List.not_mem_nil, or_false] at this
    obtain ⟨r, hr, h⟩ := this
    exact ⟨_, ⟨r, hr, rfl⟩, by rcases h with h | h <;> simp [h]⟩

/-- `TimeSpan._event_reconfig`: ONE clock reading, taken after the new span is stored; the registration filter
    and `recalc` use that same reading; `reload()` comes before `recalc` -/
theorem translated_cron_timespan_reconfig_order :
    tsReconfig.filter (fun a => a matches .storeNew | .reload | .readClock | .recalc _ | .addFutureEndpoints _) =
      [.storeNew, .readClock, .addFutureEndpoints 0, .reload, .recalc 0] := rfl

/-- **a reconfigured TimeSpan is registered exactly at the model's `alarmTimes`** for the reading it took: the
    times of day of the end points that are not before the date of that reading ("future events only"), no
    midnight -/
theorem translated_cron_timespan_reconfig_registers_alarm_times (cal : Calendar) (old new : Span)
    (read : Nat → Nat) (b : Nat) (tb : Table)
    (h0 : ∀ t, tb.registered t b = true → t ∈ (endpoints old).map (·.tod)) :
    ∃ ops, actsOps (tsActOps cal old new read b) tsReconfig = some ops ∧
      ∀ t, (ops.foldl TOp.apply tb).registered t b = true ↔ t ∈ alarmTimes cal (.timespan new) (read 0) := by
  refine ⟨_, rfl, fun t => ?_⟩
  simp only [List.append_nil, List.nil_append, alarmTimes]
  rw [mem_sortDedup]
  generalize List.filter _ (endpoints new) = F
  have e1 : F.map (fun e => TOp.add e.tod b) = (F.map (·.tod)).map (TOp.add · b) := by
    rw [List.map_map]; rfl
  have e2 : (endpoints old).map (fun e => TOp.remove e.tod b) = ((endpoints old).map (·.tod)).map (TOp.remove · b) := by
    rw [List.map_map]; rfl
  rw [registered_after_ops, lastOp_append, e1, e2, lastOp_adds, lastOp_removes]
  by_cases hm : t ∈ F.map (·.tod)
  · simp only [hm, ↓reduceIte, Option.getD_some]
  · by_cases ho : t ∈ (endpoints old).map (·.tod)
    · simp [hm, ho]
    · simp only [hm, ho, ↓reduceIte, Option.getD_none, iff_false]
      exact fun hr => ho (h0 t hr)

end Edzed.TrTie

/-! ## Tie by translation, second part: construction and configuration (tools/py2lean_cron_cfg.py)

`Gen.TrCronCfg.*` is regenerated from `Cron.__init__/_check_tz/dtnow`, `_get_cron`,
`TimeDate.__init__/_parse3/_export3/parse/get_state`, `TimeSpan.__init__/parse/get_state`. -/
namespace Edzed.TrTie
open Edzed.Cron Edzed.Gen.TrCronCfg

/-- `Cron.__init__`: the SBlock constructor runs first; the service starts with the zone kind it was given, an
    EMPTY alarm table, no queue yet (only declared: it is created in `start()`), no reload pending -/
theorem translated_croncfg_cron_init_is_model (utc : Bool) :
    cronInit utc = [.superInit, .setUtc utc, .setAlarmsEmpty, .declareQueue, .setNeedsReload false] := rfl

/-- `Cron._check_tz` IS the model's `checkZone` -/
theorem translated_croncfg_check_tz_is_model (u it : Bool) (z : Tz) :
    zoneRes (checkTz u ⟨it, z⟩) = checkZone u it (zoneOf z) := check_tz_is_model u it z

/-- … hence: a naive time is taken as it is by both services; a time marked UTC is accepted by the UTC service
    only, and loses the mark; every other zone is a ValueError; a non-time a TypeError whatever its zone -/
theorem translated_croncfg_zone_rules (u : Bool) (z : Tz) :
    checkTz u ⟨true, .naive⟩ = .ok .asIs ∧
    checkTz true ⟨true, .utc⟩ = .ok .stripped ∧ checkTz false ⟨true, .utc⟩ = .error .valueError ∧
    checkTz u ⟨true, .other⟩ = .error .valueError ∧ checkTz u ⟨false, z⟩ = .error .typeError := by
  cases u <;> cases z <;> exact ⟨rfl, rfl, rfl, rfl, rfl⟩

/-- `Cron.dtnow`: the UTC service reads UTC and drops the zone, the local one reads local time – both naive,
    so that all date/time objects stay mutually comparable -/
theorem translated_croncfg_dtnow_is_model (u : Bool) :
    dtnowSrc u = if u then .utcStripped else .localNaive := by cases u <;> rfl

/-- `_get_cron` IS the model's `getCronM` (names `_cron_utc` / `_cron_local`, created reserved) -/
theorem translated_croncfg_get_cron_is_model (circ : List SvcBlk) (utc : Bool) :
    (match getCron gcPrims circ utc with | .ok r => some r | .error _ => none) = getCronM circ utc :=
  get_cron_is_model circ utc

/-- **ONE service block per time-zone kind, however many clients are created**: whatever `_get_cron(utc)` returned,
    every later call with the same `utc` returns that very block and leaves the circuit as it is; the block is a
    reserved Cron of that kind named `_cron_utc` / `_cron_local`; the service of the other kind is not disturbed -/
theorem translated_croncfg_one_service_block_per_kind (circ circ' : List SvcBlk) (utc : Bool) (b : SvcBlk)
    (h : getCron gcPrims circ utc = .ok (b, circ')) :
    getCron gcPrims circ' utc = .ok (b, circ') ∧
    b.name = cronName utc ∧ b.isCron = true ∧ (circ' = circ ∨ circ' = circ ++ [b]) ∧
    circ'.find? (fun x => x.name == cronName (!utc)) = circ.find? (fun x => x.name == cronName (!utc)) := by
  have hm : getCronM circ utc = some (b, circ') := by rw [← get_cron_is_model, h]
  have h2 := getCronM_idempotent circ circ' utc b hm
  obtain ⟨r1, r2, r3, _⟩ := getCronM_result circ circ' utc b hm
  refine ⟨?_, r1, r2, r3, getCronM_other_kind circ circ' utc b hm⟩
  have := get_cron_is_model circ' utc
  rw [h2] at this
  cases hg : getCron gcPrims circ' utc with
  | ok r => simp [hg] at this; rw [this]
  | error e => simp [hg] at this

/-- non-vacuity: two TimeDate and one UTC TimeSpan in an empty circuit create exactly two service blocks -/
example :
    (do let (_, c1) ← getCron gcPrims [] false
        let (_, c2) ← getCron gcPrims c1 false
        let (_, c3) ← getCron gcPrims c2 true
        let (_, c4) ← getCron gcPrims c3 false
        pure (c4.map (·.name))) = (.ok ["_cron_local", "_cron_utc"] : Except GcExc (List String)) := by
  rfl

variable {TA DA SA TI DI SI TL DL SL ε : Type}

/-- an optional argument: `None` stays `None`, anything else goes through the interval constructor (which may raise) -/
def optParse {α β : Type} (f : α → Except ε β) : Option α → Except (PExc ε) (Option β)
  | none => .ok none
  | some a => (liftP (f a)).map some

/-- `TimeDate._parse3` IS: times first, then dates, then the weekdays (None stays None; a string is converted
    character by character, blanks and tabs skipped; the model's `normWeekdays` does the rest) – the first failure
    in this order is the one raised -/
theorem translated_croncfg_parse3_is_model (P : CfgPrims TA DA SA TI DI SI TL DL SL ε)
    (t : Option TA) (d : Option DA) (w : WdArg) :
    parse3 P t d w =
      (match optParse P.timeInterval t with
       | .error e => .error e
       | .ok pt =>
         match optParse P.dateInterval d with
         | .error e => .error e
         | .ok pd =>
           match w with
           | .none => .ok (pt, pd, none)
           | w =>
             match wdSeq P w with
             | .error e => .error e
             | .ok xs =>
               match normWeekdays xs with
               | some s => .ok (pt, pd, some s)
               | none => .error .valueError) := by
  have wd : ∀ (pt : Option TI) (pd : Option DI),
      (match w with
       | .none => (.ok (pt, pd, none) : Except (PExc ε) (Option TI × Option DI × Option (List Int)))
       | weekdays =>
         match wdSeq P weekdays with
         | .error e => .error e
         | .ok xs =>
           if (!(xs.all fun x => ((decide ((0 : Int) ≤ x)) && (decide (x ≤ (7 : Int)))))) then .error .valueError
           else .ok (pt, pd, some (Gen.TrCronCfg.setOf (xs.map fun x => (if (x == (0 : Int)) then (7 : Int) else x))))) =
      (match w with
       | .none => .ok (pt, pd, none)
       | w =>
         match wdSeq P w with
         | .error e => .error e
         | .ok xs =>
           match normWeekdays xs with
           | some s => .ok (pt, pd, some s)
           | none => .error .valueError) := by
    intro pt pd
    cases w
    case none => rfl
    all_goals
      simp only []
      generalize wdSeq P _ = r
      cases r with
      | error e => rfl
      | ok xs =>
        simp only [normWeekdays, setOf_eq_intSet]
        cases (xs.all fun x => decide (0 ≤ x) && decide (x ≤ 7)) <;> simp
  unfold parse3 optParse
  cases t with
  | none =>
    cases d with
    | none => simp only [pure, Except.pure]; exact wd none none
    | some db =>
      cases h2 : P.dateInterval db with
      | error e => simp [liftP, Except.map, pure, Except.pure, h2]
      | ok y => simp only [liftP, Except.map, pure, Except.pure, h2]; exact wd none (some y)
  | some ta =>
    cases h1 : P.timeInterval ta with
    | error e => simp [liftP, Except.map, h1]
    | ok x =>
      cases d with
      | none => simp only [liftP, Except.map, pure, Except.pure, h1]; exact wd (some x) none
      | some db =>
        cases h2 : P.dateInterval db with
        | error e => simp [liftP, Except.map, h1, h2]
        | ok y => simp only [liftP, Except.map, h1, h2]; exact wd (some x) (some y)

/-- the characters of a weekday string: blank and tab are skipped, every other character goes through `int()` -/
theorem translated_croncfg_weekday_string (P : CfgPrims TA DA SA TI DI SI TL DL SL ε) (s : List Char) :
    wdSeq P (.str s) = (s.filter fun c => c != ' ' && c != '\t').mapM fun c => liftP (P.intOfChar c) := by
  simp only [wdSeq]
  congr 1
  apply List.filter_congr
  intro c _
  by_cases h1 : c = ' ' <;> by_cases h2 : c = '\t' <;> simp [h1, h2]

/-- weekday numbers: anything outside 0..7 is a ValueError, 0 and 7 both mean Sunday (stored as 7), the stored
    set is canonical -/
theorem translated_croncfg_weekday_rules (P : CfgPrims TA DA SA TI DI SI TL DL SL ε) (xs : List Int) :
    (parse3 P none none (.seq xs) =
      match normWeekdays xs with
      | some s => .ok (none, none, some s)
      | none => .error .valueError) ∧
    parse3 P none none (.seq [0, 7, 3, 7]) = .ok (none, none, some [3, 7]) ∧
    (match parse3 P none none (.seq [1, 8]) with | .error .valueError => True | _ => False) := by
  refine ⟨?_, by rfl, by simp [parse3, wdSeq, pure, Except.pure]⟩
  rw [translated_croncfg_parse3_is_model]; rfl

/-- BRIDGE C07 ↔ C13 (weekday sequences): what the translated `_parse3` stores for a sequence of weekday numbers is,
    number by number, the list that C13's model of `TimeDate.parse` answers (`Interval.parseWeekdays`), and the two
    refuse the same sequences – for every sequence of integers. -/
theorem translated_croncfg_weekdays_are_c13_weekdays (P : CfgPrims TA DA SA TI DI SI TL DL SL ε) (xs : List Int) :
    (match parse3 P none none (.seq xs) with
     | .ok (_, _, some s) => Interval.parseWeekdays (.ints xs) = .ok (s.map Int.toNat)
     | .ok (_, _, none) => False
     | .error .valueError => Interval.parseWeekdays (.ints xs) = .err .value
     | .error _ => False) := by
  rw [(translated_croncfg_weekday_rules P xs).1]
  cases h : normWeekdays xs with
  | some s => exact WeekdayBridge.normWeekdays_some h
  | none => exact WeekdayBridge.normWeekdays_none h

/-- BRIDGE C07 ↔ C13 (weekday strings): with `int(c)` = the digit's value for an ASCII digit and a failure for every
    other ASCII character (what CPython does; stated as the hypothesis on the primitive), the translated `_parse3`
    and C13's `parseWeekdays` agree on every ASCII weekday string: same refusals, same weekdays. -/
theorem translated_croncfg_weekday_strings_are_c13_weekdays (P : CfgPrims TA DA SA TI DI SI TL DL SL ε)
    (e0 : ε) (hint : ∀ c, P.intOfChar c = if Interval.isDigit c then .ok (Int.ofNat (Interval.dval c)) else .error e0)
    (s : List Char) (ha : Interval.asciiOk s = true) :
    (match parse3 P none none (.str s) with
     | .ok (_, _, some w) => Interval.parseWeekdays (.str s) = .ok (w.map Int.toNat)
     | .ok (_, _, none) => False
     | .error _ => Interval.parseWeekdays (.str s) = .err .value) := by
  rw [translated_croncfg_parse3_is_model]
  simp only [optParse]
  rw [translated_croncfg_weekday_string]
  have hf : (s.filter fun c => c != ' ' && c != '\t') = s.filter fun c => !(c == ' ' || c == '\t') := by
    apply List.filter_congr
    intro c _
    by_cases h1 : c = ' ' <;> by_cases h2 : c = '\t' <;> simp [h1, h2, bne]
  rw [hf]
  generalize hcs : (s.filter fun c => !(c == ' ' || c == '\t')) = cs
  have hpw : Interval.parseWeekdays (.str s) =
      if cs.all Interval.isDigit then Interval.weekdaysOfInts (cs.map fun c => Int.ofNat (Interval.dval c))
      else .err .value := by
    simp only [Interval.parseWeekdays, ha, Bool.not_true, Bool.false_eq_true, ↓reduceIte, hcs]
  -- the character-by-character conversion: all digits -> their values, otherwise the first failure
  have hmap : ∀ l : List Char,
      (l.mapM fun c => liftP (P.intOfChar c)) =
        if l.all Interval.isDigit then .ok (l.map fun c => Int.ofNat (Interval.dval c))
        else .error (.fromParser e0) := by
    intro l
    induction l with
    | nil => rfl
    | cons c r ih =>
      rw [List.mapM_cons, ih, hint]
      by_cases hc : Interval.isDigit c = true
      · by_cases hr : r.all Interval.isDigit = true
        · simp [hc, hr, liftP, bind, Except.bind, pure, Except.pure]
        · simp [hc, hr, liftP, bind, Except.bind]
      · simp [hc, liftP, bind, Except.bind]
  rw [hmap cs, hpw]
  by_cases hd : cs.all Interval.isDigit = true
  · simp only [hd, ↓reduceIte]
    have hb := WeekdayBridge.normWeekdays_is_weekdaysOfInts (cs.map fun c => Int.ofNat (Interval.dval c))
    cases hn : normWeekdays (cs.map fun c => Int.ofNat (Interval.dval c)) with
    | some w => rw [hn] at hb; simp only []; exact hb.symm
    | none => rw [hn] at hb; simp only []; exact hb.symm
  · simp only [hd, Bool.false_eq_true, ↓reduceIte]

/-- non-vacuity: a concrete sequence and a concrete string on both sides of the bridge -/
example : normWeekdays [0, 7, 3, 7] = some [3, 7] ∧ Interval.parseWeekdays (.ints [0, 7, 3, 7]) = .ok [3, 7] ∧
    Interval.parseWeekdays (.str "7 30".toList) = .ok [3, 7] ∧ normWeekdays [1, 8] = none ∧
    Interval.parseWeekdays (.ints [1, 8]) = .err .value := by decide

/-- `_export3`, `parse`, `get_state` -/
theorem translated_croncfg_export_is_model (P : CfgPrims TA DA SA TI DI SI TL DL SL ε)
    (t : Option TI) (d : Option DI) (w : Option (List Int)) :
    export3 P t d w = (t.map P.timesAsList, d.map P.datesAsList, w.map intSet) ∧
    tdGetState P t d w = export3 P t d w := by
  refine ⟨?_, rfl⟩
  unfold export3; cases w <;> simp [setOf_eq_intSet]

theorem translated_croncfg_parse_is_export_of_parse3 (P : CfgPrims TA DA SA TI DI SI TL DL SL ε)
    (t : Option TA) (d : Option DA) (w : WdArg) :
    tdParse P t d w = (parse3 P t d w).map fun r => export3 P r.1 r.2.1 r.2.2 := by
  unfold tdParse; cases parse3 P t d w <;> rfl

/-- the exported weekdays as an argument again -/
def wdArgOf : Option (List Int) → WdArg
  | none => .none
  | some s => .seq s

/-- **get_state / parse round trip**: whatever configuration `_parse3` produced, exporting it (`get_state`) and
    parsing the export again gives the same configuration – provided the interval classes accept their own
    `as_list()` output (`hT`, `hD`: C13's `asList_roundtrip`) -/
theorem translated_croncfg_export_parse_roundtrip (P : CfgPrims TA DA SA TI DI SI TL DL SL ε)
    (tArg : TL → TA) (dArg : DL → DA)
    (hT : ∀ x, P.timeInterval (tArg (P.timesAsList x)) = .ok x)
    (hD : ∀ x, P.dateInterval (dArg (P.datesAsList x)) = .ok x)
    (t : Option TA) (d : Option DA) (w : WdArg) (cfg : Option TI × Option DI × Option (List Int))
    (h : parse3 P t d w = .ok cfg) :
    parse3 P ((export3 P cfg.1 cfg.2.1 cfg.2.2).1.map tArg) ((export3 P cfg.1 cfg.2.1 cfg.2.2).2.1.map dArg)
      (wdArgOf (export3 P cfg.1 cfg.2.1 cfg.2.2).2.2) = .ok cfg := by
  obtain ⟨ct, cd, cw⟩ := cfg
  -- the weekdays of a parsed configuration are a fixed point of the normalisation
  have hw : ∀ s, cw = some s → normWeekdays s = some s := by
    intro s hs
    rw [translated_croncfg_parse3_is_model] at h
    split at h
    · cases h
    split at h
    · cases h
    split at h
    · simp_all
    split at h
    · cases h
    split at h
    · rename_i s' h4
      have : s' = s := by simp_all
      exact normWeekdays_fixed _ s (this ▸ h4)
    · cases h
  rw [translated_croncfg_parse3_is_model]
  have e1 : optParse P.timeInterval ((export3 P ct cd cw).1.map tArg) = .ok ct := by
    cases ct <;> simp [export3, optParse, hT, liftP, Except.map]
  have e2 : optParse P.dateInterval ((export3 P ct cd cw).2.1.map dArg) = .ok cd := by
    cases cd <;> simp [export3, optParse, hD, liftP, Except.map]
  simp only [e1, e2]
  cases cw with
  | none => rfl
  | some s =>
    have hs := hw s rfl
    simp only [export3, Option.map_some, wdArgOf, setOf_eq_intSet, normWeekdays_intSet hs]
    have h3 : wdSeq P (.seq s) = .ok s := rfl
    simp only [h3, hs]

/-- **the configuration given to the constructor = the configuration a `reconfig` event with the same arguments
    installs**: the constructor stores `initdef = parse(args) = export(parse3(args))`; initialisation hands it to
    `init_from_value` = `_event_reconfig(**initdef)` (`translated_cron_reconfig_defaults`), which parses it again –
    and arrives at `parse3(args)`, the configuration a direct `reconfig(args)` installs -/
theorem translated_croncfg_init_config_is_reconfig_config (P : CfgPrims TA DA SA TI DI SI TL DL SL ε)
    (tArg : TL → TA) (dArg : DL → DA)
    (hT : ∀ x, P.timeInterval (tArg (P.timesAsList x)) = .ok x)
    (hD : ∀ x, P.dateInterval (dArg (P.datesAsList x)) = .ok x)
    (t : Option TA) (d : Option DA) (w : WdArg) (initdef : Option TL × Option DL × Option (List Int))
    (h : tdParse P t d w = .ok initdef) :
    parse3 P (initdef.1.map tArg) (initdef.2.1.map dArg) (wdArgOf initdef.2.2) = parse3 P t d w := by
  rw [translated_croncfg_parse_is_export_of_parse3] at h
  cases hp : parse3 P t d w with
  | error e => simp [hp, Except.map] at h
  | ok cfg =>
    simp only [hp, Except.map, Except.ok.injEq] at h
    rw [← h]
    exact translated_croncfg_export_parse_roundtrip P tArg dArg hT hD t d w cfg hp

/-- non-vacuity: with intervals that are their own list form, `weekdays="1 0 7"` is Monday and Sunday, exported as
    `[1, 7]`, and parsing `[1, 7]` gives the same set -/
example :
    let P : CfgPrims Nat Nat Nat Nat Nat Nat Nat Nat Nat Unit :=
      { timeInterval := .ok, dateInterval := .ok, dtInterval := .ok, timesAsList := id, datesAsList := id,
        spanAsList := id, intOfChar := fun c => if c.isDigit then .ok (c.toNat - 48) else .error () }
    tdParse P (some 5) none (.str ['1', ' ', '0', '\t', '7']) = .ok (some 5, none, some [1, 7]) ∧
    parse3 P (some 5) none (.seq [1, 7]) = .ok (some 5, none, some [1, 7]) := by
  exact ⟨rfl, rfl⟩

/-- `TimeSpan.parse` / `get_state`, and their round trip under the same kind of hypothesis -/
theorem translated_croncfg_timespan_parse_is_model (P : CfgPrims TA DA SA TI DI SI TL DL SL ε) (sArg : SL → SA)
    (hS : ∀ x, P.dtInterval (sArg (P.spanAsList x)) = .ok x) (span : SA) (x : SI) :
    tsParse P span = (liftP (P.dtInterval span)).map P.spanAsList ∧ tsGetState P x = P.spanAsList x ∧
    tsParse P (sArg (tsGetState P x)) = .ok (P.spanAsList x) := by
  refine ⟨rfl, rfl, ?_⟩
  simp [tsParse, tsGetState, hS, liftP, Except.map]

/-- the constructors: the service block is obtained FIRST, the configuration attributes start empty, `initdef=` is
    refused with TypeError before anything is parsed, the configuration is parsed into `initdef` (a bad one fails
    here, in the constructor), and only then the SBlock constructor runs with that `initdef` -/
theorem translated_croncfg_client_init_is_model :
    tdInit = [.getCron, .clearTimes, .clearDates, .clearWeekdays, .refuseInitdef, .computeInitdef, .superInit] ∧
    tsInit = [.getCron, .emptySpan, .refuseInitdef, .computeInitdef, .superInit] ∧
    tdInitDefaults = [("times", "None"), ("dates", "None"), ("weekdays", "None"), ("utc", "False")] ∧
    tsInitDefaults = [("span", "()"), ("utc", "False")] := ⟨rfl, rfl, rfl, rfl⟩

end Edzed.TrTie

/-! ## The TIMING of the translated loop (EdzedProofs/CronTiming.lean)

`mtStep` (one pass of `while True:` of `Cron._maintask`, regenerated from the source) run in an environment model
`TimedEnv`: wall clock read through `dtnow()` (monotone, a read costs at most `L`), the four ways of sleeping
(each returns no earlier than requested and at most `W` later), a group of recalculations costs at most `C`,
declared forward jumps of the clock (at most `J` per primitive step; `J = 0`: none).  All times are rationals
in seconds; the float arithmetic of the code is treated as exact (the convention of the tie).
`wp E M Φ r`: `Φ` holds at the end of the pass `r` for EVERY behaviour of the environment, no exception is
raised, and every awaited sleep is positive and at most `M`. -/

namespace Edzed.TrTie
open Edzed.Cron Edzed.Gen.TrCron

section timing
variable {σ T DT B : Type} {P : MtPrims σ T DT B}

/-- **the ±12 h normalisation is right**: for an instant `A` whose time of day is `a` and a reading less than
    12 h away from it the `sleeptime` computed by the loop is exactly `A − reading` (negative: late) -/
theorem translated_cron_timing_sleeptime_is_distance (E : TimedEnv P) (a : T) (x : DT) (A : Rat) (k : Int)
    (hA : A = (k : Rat) * secPerDay + todS P a)
    (h1 : -(secPerDay / 2) < A - E.abs x) (h2 : A - E.abs x < secPerDay / 2) :
    secondsUntil P a (P.timeOf x) = A - E.abs x := secondsUntil_eq E a x A k hA h1 h2

/-- **one pass with a known index serves its alarm**: the loop is positioned at entry `i` (time of day `a`) and
    heading for the instant `A`; the latest reading is at most `G` before `A`, the clock at most `lat` after it.
    Then for every behaviour of the environment the pass ends as `PassOutcome` says: SERVED with a reading in
    `[A, A + _TT_ERROR]` that is at most `max (lat + L) (2L + W)` (+ the jumps declared during the pass) after
    `A`, recalculating exactly the blocks registered for `a` after the sleep, index + 1; or RELOAD (queue item);
    or RESET – only with a reading more than `_TT_ERROR` past `A` – recalculating every client.  No awaited sleep
    is longer than `G` (the distance to the alarm): the loop cannot stall. -/
theorem translated_cron_timing_pass_serves_alarm (E : TimedEnv P) (tt : List T) (n i : Nat) (a : T)
    (A G lat UP : Rat) (L : MtLocals T DT) (w : σ)
    (K : KnownSt E tt n i a A G lat L w)
    (kA : Int) (hA : A = (kA : Rat) * secPerDay + todS P a) (hG : G < secPerDay / 2)
    (hU0 : A + lat + E.L ≤ UP) (hU2 : A + 2 * E.L + E.W ≤ UP)
    (hwin : UP + 7 * E.J < A + secPerDay / 2) :
    wp E G (PassOutcome E tt n i a A G (E.off w) UP 7) (mtStep P L w) :=
  pass_known E G tt n i a A G lat UP L w (le_refl _) K kA hA hG hU0 hU2 hwin

/-- **a pass with an unknown index** (start, after a reload, after a reset): one reading `r`; the pass heads for
    the FIRST instant `A ≥ r` whose time of day is in the timetable (`A ≤ r + G`), all clients are recalculated
    with `r`, then as above with the bound `2L + W + C` -/
theorem translated_cron_timing_resync_pass (E : TimedEnv P) (tt : List T) (n : Nat) (g G : Rat)
    (L : MtLocals T DT) (w : σ) (h1 : L.v1 = false) (h2 : L.v2 = false) (h6 : L.v6 = none)
    (h4 : L.v4 = tt) (h5 : L.v5 = n) (hlen : tt.length = n) (hov : ttOk ≤ L.v0)
    (ok : TTok P tt g G) (hG : G < secPerDay / 2)
    (hwin : 2 * E.L + E.W + E.C + 8 * E.J < secPerDay / 2) :
    ∃ idx a A, ∃ kA : Int, idx < n ∧ tt[idx]? = some a ∧ A = (kA : Rat) * secPerDay + todS P a ∧
      E.abs (P.dtnow w).1 ≤ A ∧ A ≤ E.abs (P.dtnow w).1 + G ∧
      wp E G (PassOutcome E tt n idx a A G (E.off w) (A + 2 * E.L + E.W + E.C) 8) (mtStep P L w) :=
  pass_resync E G tt n g G L w (le_refl _) h1 h2 h6 h4 h5 hlen hov ok (ok.bis _) hG hwin

/-- a pending reload is a pass with an unknown index on the timetable rebuilt from `_SET24` and the CURRENT keys -/
theorem translated_cron_timing_reload_pass (L : MtLocals T DT) (w : σ) (h : L.v2 = true) :
    mtStep P L w = mtStep P ({ L with v2 := false, v4 := P.sortedUnion P.set24 (P.alarmKeys w), v5 := (P.sortedUnion P.set24 (P.alarmKeys w)).length, v6 := none } : MtLocals T DT) w :=
  head_reload L w h

/-- **no alarm is skipped between two consecutive passes**: after a SERVED pass the loop is positioned at the next
    entry of the timetable and heads for `A + nextGap` – the first instant after `A` whose time of day is in the
    timetable – with the invariant of `…_pass_serves_alarm` re-established -/
theorem translated_cron_timing_no_alarm_skipped (E : TimedEnv P) (tt : List T) (n i : Nat) (a : T)
    (A G g off0 UP m : Rat) (L' : MtLocals T DT) (w' : σ) (hlen : tt.length = n) (hi : i < n)
    (hget : tt[i]? = some a) (ok : TTok P tt g G) (kA : Int) (hA : A = (kA : Rat) * secPerDay + todS P a)
    (h : PassOutcome E tt n i a A G off0 UP m L' w') (hs : L'.v2 = false) (hs6 : L'.v6 ≠ none) :
    ∃ a' kA', tt[(i + 1) % n]? = some a' ∧
      A + nextGap P tt i = ((kA' : Int) : Rat) * secPerDay + todS P a' ∧
      A ≤ E.abs L'.v7 ∧ E.abs L'.v7 ≤ A + ttError ∧ E.abs L'.v7 ≤ UP + m * E.J ∧
      KnownSt E tt n ((i + 1) % n) a' (A + nextGap P tt i) G
        (UP - A + E.C + (m + 1) * E.J - nextGap P tt i) L' w' :=
  served_next E tt n i a A G g off0 UP m L' w' hlen hi hget ok kA hA h hs hs6

/-- **the service guarantee for every number of passes** (S2 of the acceptance predicate, from the environment
    assumptions instead of trace acceptance).  Without clock jumps (`J = 0`), with `2L + W + C ≤ _TT_ERROR` and
    consecutive timetable entries at least `L + C` and at most `G < 12 h` apart: from the initial state of
    `_maintask`, EACH of the first `N` passes – for every `N` and every behaviour of the environment – is a `GoodPass`: for
    some instant `A` at most `G` after its last reading `r` it either recalculates exactly the blocks registered
    for the time of day it was heading for, with `A ≤ r ≤ A + 2L + W + C`, and advances the index by one, or is cut
    short by a reload request; it never ends in a reset, never raises, and never awaits a sleep longer than `G`.
    (`GoodPass` does not record that `A` is an instant of the timetable; the proof knows it – `Ready`,
    `…_no_alarm_skipped` – but the statement does not say it.) -/
theorem translated_cron_timing_service_every_pass [Inhabited T] [Inhabited DT] (E : TimedEnv P) (g G : Rat)
    (hJ0 : E.J = 0) (hlam : lamServe E ≤ ttError) (hg : E.L + E.C ≤ g) (hG : G < secPerDay / 2)
    (htt : ∀ w, TTok P (P.sortedUnion P.set24 (P.alarmKeys w)) g G) (N : Nat) (w : σ) :
    allPasses E G (GoodPass E G) N (mtInit : MtLocals T DT) w :=
  all_passes_good E g G hJ0 hlam hg hG htt N mtInit w ⟨rfl, le_refl _, Or.inl rfl⟩

/-- … and from any state between two passes -/
theorem translated_cron_timing_service_from_ready (E : TimedEnv P) (g G : Rat)
    (hJ0 : E.J = 0) (hlam : lamServe E ≤ ttError) (hg : E.L + E.C ≤ g) (hG : G < secPerDay / 2)
    (htt : ∀ w, TTok P (P.sortedUnion P.set24 (P.alarmKeys w)) g G) (N : Nat)
    (L : MtLocals T DT) (w : σ) (h : Ready E g G L w) :
    allPasses E G (GoodPass E G) N L w :=
  all_passes_good E g G hJ0 hlam hg hG htt N L w h

/-- **the longest distance in the timetable is one hour, because of the hourly `_SET24` entries**: in a strictly
    sorted timetable that contains the 24 full hours consecutive entries (cyclically) are at most 3600 s apart –
    so `G = 3600` in the theorems above, and no awaited sleep is longer than one hour -/
theorem translated_cron_timing_hourly_gap (htod : ∀ t, 0 ≤ todS P t ∧ todS P t < secPerDay) (tt : List T)
    (hs : SortedTT P tt) (hh : Hourly P tt) (i : Nat) (hi : i < tt.length) : nextGap P tt i ≤ 3600 :=
  gap_le_hour htod tt hs hh i hi

/- FULL STATEMENT (not proved): for every block registered with the service and every instant `t` that is not within
   `lamServe` after a boundary of its configuration, the block's output at `t` is `pred cal cfg t` – i.e. hypothesis
   S2 (`coverage`) of `accepted_trace_correct` derived from `TimedEnv` and the translated loop instead of trace
   acceptance.  Missing: (a) the instantiation of `T`, `DT`, `abs`, `todS` with integer microseconds; (b) every
   boundary of a registered block is an instant of the loop's timetable (from
   `translated_cron_timedate_reconfig_registers_boundaries`, `…_timespan_reconfig_registers_alarm_times`,
   `…_reload_rebuilds_timetable`, `pred_piecewise_constant`); (c) a world model in which `recalc blk r` sets the
   block's output to `pred cal cfg r` (`translated_cron_timedate_recalc_is_pred`).  (b) + (c) are the hypothesis
   `hconst` / the reading `pr (abs r)` below. -/
/-- PARTIAL connection to the acceptance predicate: for a quantity `pr` of the wall clock that can change only at
    instants of the timetable (`hconst`: constant from `A` up to the next instant `A + nextGap`), the value computed
    from the reading of a SERVED pass is the right one at every instant from `UP + m·J` (at most `lamServe` after
    `A` without jumps) until the next alarm instant -/
theorem translated_cron_timing_value_right_until_next_alarm_partial (E : TimedEnv P) (tt : List T) (n i : Nat)
    (a : T) (A G g off0 UP m : Rat) (L' : MtLocals T DT) (w' : σ) (hlen : tt.length = n) (hi : i < n)
    (hget : tt[i]? = some a) (ok : TTok P tt g G) (kA : Int) (hA : A = (kA : Rat) * secPerDay + todS P a)
    (h : PassOutcome E tt n i a A G off0 UP m L' w') (hs : L'.v2 = false) (hs6 : L'.v6 ≠ none)
    (pr : Rat → Bool)
    (hconst : ∀ x y, A ≤ x → x ≤ y → y < A + nextGap P tt i → pr x = pr y)
    (t : Rat) (ht1 : UP + m * E.J ≤ t) (ht2 : t < A + nextGap P tt i) :
    pr t = pr (E.abs L'.v7) := by
  obtain ⟨_, _, _, _, h1, _, h3, _⟩ :=
    served_next E tt n i a A G g off0 UP m L' w' hlen hi hget ok kA hA h hs hs6
  exact (hconst (E.abs L'.v7) t h1 (le_trans h3 ht1) ht2).symm

/-- what `wp` demands of an awaited sleep: it is positive and at most `M` (so `wp E G …` = no stall), and of an
    exception: that it does not happen -/
theorem translated_cron_timing_wp_bounds_sleeps (E : TimedEnv P) (M d : Rat) (Φ : MtLocals T DT → σ → Prop)
    (w : σ) (k : σ → Res (MtLocals T DT) σ) (kq : Bool → σ → Res (MtLocals T DT) σ) (e : MExc)
    (l : MtLocals T DT) :
    (wp E M Φ (.sleep d w k) → 0 < d ∧ d ≤ M) ∧ (wp E M Φ (.waitQueue d w kq) → 0 < d ∧ d ≤ M) ∧
    ¬ wp E M Φ (.raise e l w) := by
  refine ⟨fun h => ?_, fun h => ?_, fun h => ?_⟩ <;> simp only [wp] at h
  · exact ⟨h.1, h.2.1⟩
  · exact ⟨h.1, h.2.1⟩

end timing

/-! ### the hypotheses are satisfiable (EdzedProofs/CronTimingDemo.lean)

`Demo.demoE`: the world is the wall clock (rational seconds), a reading returns it, `time.sleep(d)` advances it by
`d`, awaited sleeps return up to 1 ms late, no jumps; timetable 00:00 / 08:00 / 16:00 (`Demo.demo_ttok`). -/

open Edzed.Cron.Demo in
/-- the environment assumptions and the timetable assumptions of `…_service_every_pass` hold in the demo
    environment: every pass of the translated loop, from its initial state at any clock value, is a `GoodPass` -/
example (N : Nat) (w : Rat) : allPasses demoE 28800 (GoodPass demoE 28800) N (mtInit : MtLocals Tod Rat) w :=
  translated_cron_timing_service_every_pass demoE 28800 28800 rfl
    (by norm_num [lamServe, demoE, ttError]) (by norm_num [demoE]) (by norm_num [secPerDay])
    (fun _ => demo_ttok) N w

open Edzed.Cron.Demo in
/-- a concrete positioned state (`Demo.demo_known`: heading for 08:00, last reading 05:33:20): the pass serves
    08:00 with a reading at most 2 ms late, for every behaviour of the environment -/
example : wp demoE 28800 (PassOutcome demoE demoTT 3 1 t08 28800 28800 (demoE.off (20000 + 1 / 2))
      (28800 + 2 / 1000) 7) (mtStep demoP demoL (20000 + 1 / 2)) :=
  translated_cron_timing_pass_serves_alarm demoE demoTT 3 1 t08 28800 28800 (1 / 1000) (28800 + 2 / 1000)
    demoL (20000 + 1 / 2) demo_known 0 demo_A (by norm_num [secPerDay])
    (by norm_num [demoE]) (by norm_num [demoE]) (by norm_num [demoE, secPerDay])

open Edzed.Cron.Demo in
/-- the window hypothesis of `…_sleeptime_is_distance` holds for the reading 05:33:20 and the alarm 08:00 (the
    well-formed timetable that `…_resync_pass` / `…_no_alarm_skipped` ask for is `Demo.demo_ttok`, used above) -/
example : secondsUntil demoP t08 (demoP.timeOf (20000 : Rat)) = 28800 - 20000 :=
  translated_cron_timing_sleeptime_is_distance demoE t08 (20000 : Rat) 28800 0 demo_A
    (by norm_num [demoE, secPerDay]) (by norm_num [demoE, secPerDay])

open Edzed.Cron.Demo in
/-- the timetable of exactly the 24 full hours (times of day = `Fin 24`) is sorted and hourly: every gap ≤ 1 h -/
example (i : Nat) (hi : i < (List.finRange 24).length) : nextGap hoursP (List.finRange 24) i ≤ 3600 :=
  translated_cron_timing_hourly_gap hours_range (List.finRange 24) hours_sorted hours_hourly i hi

open Edzed.Cron.Demo in
/-- the 08:00 alarm of the demo timetable served with the reading 08:00:00.0005 (`Demo.demo_outcome`): a quantity
    that changes at 08:00 and 16:00 only is right from 08:00:00.002 until 16:00 -/
example (t : Rat) (h1 : 28800 + 2 / 1000 + 7 * demoE.J ≤ t) (h2 : t < 28800 + nextGap demoP demoTT 1) :
    (fun x : Rat => decide (28800 ≤ x ∧ x < 57600)) t
      = (fun x : Rat => decide (28800 ≤ x ∧ x < 57600)) (demoE.abs demoL'.v7) :=
  translated_cron_timing_value_right_until_next_alarm_partial demoE demoTT 3 1 t08 28800 28800 28800 0
    (28800 + 2 / 1000) 7 demoL' (28800 + 6 / 10000) rfl (by omega) rfl demo_ttok 0 demo_A demo_outcome rfl
    (by simp [demoL']) _
    (by
      intro x y hx hxy hy
      rw [demo_gap 1 (by decide)] at hy
      have a1 : 28800 ≤ x ∧ x < 57600 := ⟨hx, by linarith only [hxy, hy]⟩
      have a2 : 28800 ≤ y ∧ y < 57600 := ⟨le_trans hx hxy, by linarith only [hy]⟩
      show decide (28800 ≤ x ∧ x < 57600) = decide (28800 ≤ y ∧ y < 57600)
      rw [decide_eq_true a1, decide_eq_true a2])
    t h1 h2

/-! ### the "sleeps for a day" defect of an earlier `_maintask` as a machine-checked counterexample -/

/-- the midnight rule of that earlier `_maintask`: only "reading in hour 23, wake-up in hour 0" wraps -/
def secondsUntilOld {σ T DT B : Type} (P : MtPrims σ T DT B) (wakeup nowt : T) : Rat :=
  let s : Rat := secPerHour * (P.hour wakeup - P.hour nowt)
    + secPerMin * (P.minute wakeup - P.minute nowt)
    + (P.second wakeup - P.second nowt) + (P.microsecond wakeup - P.microsecond nowt) / 1000000
  if P.hour nowt = 23 ∧ P.hour wakeup = 0 then s + secPerDay else s

/-- times of day as (hour, minute, second, microsecond); nothing else matters here -/
def hmsPrims : MtPrims Unit (Rat × Rat × Rat × Rat) Unit Unit where
  dtnow w := ((), w)
  timeOf _ := (0, 0, 0, 0)
  set24 := []
  alarmKeys _ := []
  sortedUnion a _ := a
  bisectLeft _ _ := 0
  allClients _ := []
  hasAlarm _ _ := false
  clientsAt _ _ := []
  recalc _ _ w := w
  hour t := t.1
  minute t := t.2.1
  second t := t.2.2.1
  microsecond t := t.2.2.2
  blockingSleep _ w := w

/-- an alarm at 23:59:59.9995 whose wake-up is read at 00:00:00.0001 (0.6 ms late, past midnight): the old rule
    computes +86399.9994 s and would await `wait_for(…, 86399.9984)` – 24 times the one hour that
    `translated_cron_timing_pass_serves_alarm` allows (`wp E G` with `G ≤ 1 h`); the repaired normalisation gives
    −0.0006 s (late: serve at once) -/
theorem translated_cron_timing_prefix_midnight_stall :
    secondsUntilOld hmsPrims (23, 59, 59, 999500) (0, 0, 0, 100) = 863999994 / 10000 ∧
    secondsUntil hmsPrims (23, 59, 59, 999500) (0, 0, 0, 100) = -(6 / 10000) ∧
    (3600 : Rat) < secondsUntilOld hmsPrims (23, 59, 59, 999500) (0, 0, 0, 100) - ttOk := by
  unfold secondsUntilOld secondsUntil hmsPrims secPerHour secPerMin secPerDay ttOk
  norm_num

end Edzed.TrTie
