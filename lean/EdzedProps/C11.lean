/-
C11 — a block never handles two events at once.

Model: EdzedModel/Dispatch.lean (`deliver` mirrors `SBlock.event`; handlers are scripts; the
ghost `stack` holds the `event()` frames, the ghost `trace` the handler entries with the nesting
depth of the block).  All statements are for every circuit (any number of blocks of any kind, any
event graph with cycles, self-loops and diamonds, any filters and conditional events), every
state, every event and every amount of fuel; `Idle` states are the states between two top-level
deliveries (no block inside `event()`).
-/
import EdzedModel.Dispatch
import EdzedProofs.Dispatch
import EdzedProofs.DispatchTie
import EdzedProofs.DispatchPersist
import EdzedProofs.HandlersTie
import EdzedModel.Gen.Constants

namespace Edzed.Dispatch

/-- After EVERY outcome of a call of `event()` – handled, "no event" of an EventCond, unknown type,
    parameter error, handler error, refused recursion, failure of an early initialisation, malformed
    type – every `_event_active` flag has the value it had before the call (`Run.frm` of the run that the
    call is by `deliver_run`; filters are part of `sendEdges` inside the handlers). -/
theorem guard_balanced (c : Circ) (fuel : Nat) (s : St) (d : Nat) (et : EType) (data : Data) :
    (deliver c fuel s d et data).1.active = s.active :=
  (deliver_frm c fuel s d et data).active

/-- hence after a top-level delivery (direct call of `event()`) no block is locked -/
theorem guard_balanced_top (c : Circ) (s : St) (d : Nat) (et : EType) (data : Data) (h : Idle s) :
    Idle (rawSend c s d et data).1 :=
  h.of_frm (deliver_frm c _ s d et data)

/-- the same for an external event (`ExtEvent.send`) -/
theorem guard_balanced_ext (c : Circ) (s : St) (d : Nat) (name : String) (data : Data) (h : Idle s) :
    Idle (extSend c s d name data).1 := by
  unfold extSend
  split
  · exact h
  · exact h.of_frm (deliver_frm c _ s d _ _)

/-- and for the circuit's start-up (events exchanged during the initialisation), failed or not -/
theorem guard_balanced_init (c : Circ) (s : St) (h : Idle s) : Idle (initAll c s).1 :=
  h.of_frm ((initAll_run s).frm rfl)

/-- In every execution the handler of a block is entered with nesting depth 1, i.e. never while a
    handler of the same block is running (`TItem.ok` of an `enter` item says `depth = 1`, where
    `depth` counts the frames of the block on the stack that are in phase `handler`).  The other
    frames of the block that may be below it are in phase `init` – the documented window
    "initialisation of a block by an event" (`_enable_event` around `init_sblock`) – or in phase
    `window` – an FSM transition suspended in `with self._enable_event:` around its entry action or
    the start of its timer, where the nested handler only parks ONE chained request
    (`chained_request_is_parked`, `second_chained_request_is_refused`).  This covers the handlers of
    FSMs, their initial transition (`fsm_initial_transition_is_an_event`) and timer-driven
    transitions (`timer_expiry_is_an_event`). -/
theorem no_nested_handling (c : Circ) (fuel : Nat) (s : St) (d : Nat) (et : EType) (data : Data)
    (hi : Inv s) (ht : TraceOk s) : TraceOk (deliver c fuel s d et data).1 :=
  (deliver_run fuel .code trivial s.stack s d et data).traceOk rfl ⟨hi, ht⟩

/-- top-level form: every handler entry recorded during a top-level delivery has depth 1 -/
theorem no_nested_handling_top (c : Circ) (s : St) (d : Nat) (et : EType) (data : Data) (h : Idle s)
    (ht : s.trace = []) : ∀ t ∈ (rawSend c s d et data).1.trace, t.ok :=
  no_nested_handling c _ s d et data h.inv (h.good ht).2

/-- … and during the start-up of the circuit -/
theorem no_nested_handling_init (c : Circ) (s : St) (h : Idle s) (ht : s.trace = []) :
    ∀ t ∈ (initAll c s).1.trace, t.ok :=
  (initAll_run s).traceOk rfl (h.good ht)

/-- the guard and the stack agree at every handler entry: the invariant is kept by every call -/
theorem guard_tracks_stack (c : Circ) (fuel : Nat) (s : St) (d : Nat) (et : EType) (data : Data)
    (hi : Inv s) : Inv (deliver c fuel s d et data).1 :=
  hi.of_frm (deliver_frm c fuel s d et data)

/-- an event addressed to a block that is handling an event is refused with EdzedCircuitError;
    the handler is not entered; the only change of the state is `Circuit.abort(exc)` – the simulation
    is stopped AT the refusal (`SBlock.event`: `exc = …; self.circuit.abort(exc); raise exc`);
    the type checks come first -/
theorem recursive_event_is_refused (c : Circ) (fuel : Nat) (s : St) (d : Nat) (b : Blk) (et : EType)
    (data : Data) (hb : c.blocks[d]? = some b) (ht : et.check = Option.none) (ha : s.active d = true) :
    deliver c (fuel + 1) s d et data =
      ({ s.abort .circuitError with trace := .refused d :: s.trace }, .exc .circuitError) := by
  unfold deliver
  simp [hb, ht, ha]

/-- a refused recursive event sets `Circuit.error` at the refusal itself … -/
theorem recursion_is_refused_and_aborts (c : Circ) (fuel : Nat) (s : St) (d : Nat) (b : Blk)
    (et : EType) (data : Data) (hb : c.blocks[d]? = some b) (ht : et.check = Option.none)
    (ha : s.active d = true) :
    (deliver c (fuel + 1) s d et data).2 = .exc .circuitError ∧
    (deliver c (fuel + 1) s d et data).1.error.isSome := by
  rw [recursive_event_is_refused c fuel s d b et data hb ht ha]
  exact ⟨rfl, abort_error s _⟩

/-- … and it stays set whatever any handler on the stack does afterwards (propagate the exception,
    turn it into other events, or swallow it with `try/except` – `Act.trySend`): if anywhere in the
    call tree of a delivery an event was refused, `Circuit.error` is set when the delivery returns,
    with or without an exception for the sender -/
theorem refusal_stops_simulation (c : Circ) (fuel : Nat) (s : St) (d : Nat) (et : EType) (data : Data)
    (h0 : s.trace = []) (x : Nat) (hx : TItem.refused x ∈ (deliver c fuel s d et data).1.trace) :
    (deliver c fuel s d et data).1.error.isSome :=
  (deliver_run fuel .code trivial s.stack s d et data).refAbort (refAbort_nil h0) ⟨x, hx⟩

/-- the error is never withdrawn by later deliveries -/
theorem error_is_kept (c : Circ) (fuel : Nat) (s : St) (d : Nat) (et : EType) (data : Data)
    (h : s.error.isSome) : (deliver c fuel s d et data).1.error.isSome :=
  (deliver_frm c fuel s d et data).error h

/-- every exception other than EdzedUnknownEvent that leaves a handler calls `abort` and is
    re-raised (error classification of `SBlock.event`) -/
theorem exception_leaving_handler_aborts (s : St) (e : Exc) (h1 : e ≠ .unknownEvent)
    (h2 : e ≠ .outOfFuel) : (classify s (.exc e)).error.isSome :=
  classify_aborts s e h1 h2

/-- a nested EdzedUnknownEvent passes through the handler without `abort` (DESIGN.md §5 #13,
    property C09): mirrored faithfully -/
theorem unknown_event_passes_handler (s : St) : classify s (.exc .unknownEvent) = s := rfl

/-- the first error wins -/
theorem abort_keeps_first_error (s : St) (e e' : Exc) (h : s.error = some e) :
    (s.abort e').error = some e := by
  simp [St.abort, h]

/-- a filter rejection: the event is not delivered, nothing changes, the loop goes on -/
theorem filter_rejection_is_harmless (dlv : Dlv) (src : Nat) (s : St) (e : Edge) (es : List Edge)
    (data : Data) (h : applyFilters e.filters (data.set "source" (.str (blockName src))) = Option.none) :
    sendEdges dlv src s (e :: es) data = sendEdges dlv src s es data := by
  rw [sendEdges]; simp [h]

/-- a conditional event resolving to "no event": `event()` returns None, the state is as before
    (not locked, not aborted, not even initialised early) -/
theorem eventcond_none_is_harmless (c : Circ) (fuel : Nat) (s : St) (d : Nat) (b : Blk) (et : EType)
    (data : Data) (hb : c.blocks[d]? = some b) (ht : et.check = Option.none)
    (ha : s.active d = false) (hn : et.resolve (dataTruthy data) = .none) :
    deliver c (fuel + 1) s d et data = (s, .ret .none) :=
  deliver_unchanged c fuel s d b et data hb ht ha (by simp only [eventBody, hn, if_true])

/-- an event of unknown type to an initialised block: EdzedUnknownEvent for the caller only -/
theorem unknown_event_is_harmless (c : Circ) (fuel : Nat) (s : St) (d : Nat) (b : Blk) (et : EType)
    (data : Data) (hb : c.blocks[d]? = some b) (ht : et.check = Option.none)
    (ha : s.active d = false) (hi : s.init d ≠ .pending)
    (hn : et.resolve (dataTruthy data) ≠ .none) (hk : b.kind ≠ .fsm) (hk2 : b.kind ≠ .repeat)
    (hl : lookupHandler b.kind (et.resolve (dataTruthy data)) = Option.none) :
    deliver c (fuel + 1) s d et data = (s, .exc .unknownEvent) :=
  deliver_unchanged c fuel s d b et data hb ht ha (by
    rw [eventBody_ready _ b d _ { s with active := upd s.active d true } et data hi hn]
    simp only [callHandler, hk, hk2, hl, if_false])

/-- an event with wrong parameters (the call of the handler does not bind): TypeError for the
    caller only – state unchanged, hence no lock and no abort -/
theorem parameter_error_is_harmless (c : Circ) (fuel : Nat) (s : St) (d : Nat) (b : Blk) (et : EType)
    (data : Data) (h : String × List String × List String × Bool)
    (hb : c.blocks[d]? = some b) (ht : et.check = Option.none)
    (ha : s.active d = false) (hi : s.init d ≠ .pending)
    (hn : et.resolve (dataTruthy data) ≠ .none) (hk : b.kind ≠ .fsm) (hk2 : b.kind ≠ .repeat)
    (hl : lookupHandler b.kind (et.resolve (dataTruthy data)) = some h)
    (hp : paramsOk h data = false) :
    deliver c (fuel + 1) s d et data = (s, .exc .typeError) :=
  deliver_unchanged c fuel s d b et data hb ht ha (by
    rw [eventBody_ready _ b d _ { s with active := upd s.active d true } et data hi hn]
    simp only [callHandler, hk, hk2, hl, hp, Bool.not_false, if_true, if_false])

/-- a malformed event type is rejected before the guard is touched – even by a busy block -/
theorem malformed_type_is_harmless (c : Circ) (fuel : Nat) (s : St) (d : Nat) (b : Blk) (et : EType)
    (data : Data) (x : Exc) (hb : c.blocks[d]? = some b) (ht : et.check = some x) :
    deliver c (fuel + 1) s d et data = (s, .exc x) := by
  unfold deliver
  simp [hb, ht]

/-- summary: in each of the four outcomes above (malformed type; "no event"; and, for a block other than an FSM
    or a Repeat whose initialisation is not pending, unknown type or parameter error) the state after the call
    is the state before it: no block locked, the simulation not stopped -/
theorem harmless_outcomes_do_not_abort (c : Circ) (fuel : Nat) (s : St) (d : Nat) (b : Blk)
    (et : EType) (data : Data) (hb : c.blocks[d]? = some b) (ha : s.active d = false)
    (hi : s.init d ≠ .pending) (hk : b.kind ≠ .fsm) (hk2 : b.kind ≠ .repeat)
    (hcase : et.check.isSome ∨ (et.check = Option.none ∧ (et.resolve (dataTruthy data) = .none ∨
      (et.resolve (dataTruthy data) ≠ .none ∧
        (lookupHandler b.kind (et.resolve (dataTruthy data)) = Option.none ∨
         ∃ h, lookupHandler b.kind (et.resolve (dataTruthy data)) = some h ∧ paramsOk h data = false))))) :
    (deliver c (fuel + 1) s d et data).1 = s := by
  rcases hcase with h | ⟨ht, h | ⟨hn, h | ⟨h, hl, hp⟩⟩⟩
  · obtain ⟨x, hx⟩ := Option.isSome_iff_exists.1 h
    rw [malformed_type_is_harmless c fuel s d b et data x hb hx]
  · rw [eventcond_none_is_harmless c fuel s d b et data hb ht ha h]
  · rw [unknown_event_is_harmless c fuel s d b et data hb ht ha hi hn hk hk2 h]
  · rw [parameter_error_is_harmless c fuel s d b et data h hb ht ha hi hn hk hk2 hl hp]

/-- While a transition of an FSM is in progress, a further transition request that reaches
    `FSM._event` (only possible through the window `with self._enable_event` around the entry action
    or the start of a zero-delay timer) is parked – exactly one – and acknowledged with True -/
theorem chained_request_is_parked (dlv : Dlv) (b : Blk) (d : Nat) (stk0 : List Frame) (s : St)
    (ns : Nat) (data : Data) (ha : s.fsmActive d = true) (hn : s.nextEv d = Option.none) :
    fsmAccept dlv b d stk0 s ns data =
      ({ s with nextEv := upd s.nextEv d (some (ns, data)) }, .ret (.bool true)) := by
  unfold fsmAccept
  simp [ha, hn]

/-- … a second request in the same transition raises EdzedCircuitError ("Forbidden event
    multiplication") inside the handler, which stops the simulation (`exception_leaving_handler_aborts`) -/
theorem second_chained_request_is_refused (dlv : Dlv) (b : Blk) (d : Nat) (stk0 : List Frame) (s : St)
    (ns : Nat) (data : Data) (nx : Nat × Data) (ha : s.fsmActive d = true) (hn : s.nextEv d = some nx) :
    fsmAccept dlv b d stk0 s ns data = (s, .exc .circuitError) := by
  unfold fsmAccept
  simp [ha, hn]

/-- an event with a transition is accepted (parked or executed: `fsmAccept`) exactly after its condition
    returned a true value, in the state the callback left … -/
theorem cond_true_accepts_event (dlv : Dlv) (b : Blk) (d : Nat) (stk0 : List Frame) (s s' : St)
    (et : EType) (data : Data) (ns : Nat) (ht : fsmTarget b (s.fstate d) et = .to ns)
    (hc : fsmCond dlv b d s et data = (s', .ret (.bool true))) :
    fsmEvent dlv b d stk0 s et data = fsmAccept dlv b d stk0 s' ns data := by
  unfold fsmEvent
  simp [ht, hc, Val.bool, Val.truthy, Atom.truthy]

/-- … a condition returning false REJECTS the event: `_event` returns False, and nothing of the FSM has
    changed beyond what the callback itself did – no transition, no parked request, `_fsm_event_active`
    untouched; the block is unlocked by the `finally` of `event()` like after any other outcome
    (`guard_balanced`, `cond_rejection_is_harmless`) -/
theorem cond_false_rejects_event (dlv : Dlv) (b : Blk) (d : Nat) (stk0 : List Frame) (s s' : St)
    (et : EType) (data : Data) (ns : Nat) (ht : fsmTarget b (s.fstate d) et = .to ns)
    (hc : fsmCond dlv b d s et data = (s', .ret (.bool false))) :
    fsmEvent dlv b d stk0 s et data = (s', .ret (.bool false)) := by
  unfold fsmEvent
  simp [ht, hc, Val.bool, Val.truthy, Atom.truthy]

/-- … an exception of the callback (incl. the refusal of an event it sent) leaves the handler: it is
    classified by `SBlock.event` (`exception_leaving_handler_aborts`) -/
theorem cond_exception_leaves_handler (dlv : Dlv) (b : Blk) (d : Nat) (stk0 : List Frame) (s s' : St)
    (et : EType) (data : Data) (ns : Nat) (x : Exc) (ht : fsmTarget b (s.fstate d) et = .to ns)
    (hc : fsmCond dlv b d s et data = (s', .exc x)) :
    fsmEvent dlv b d stk0 s et data = (s', .exc x) := by
  unfold fsmEvent
  simp [ht, hc]

/-- the callback runs INSIDE the handler, before `_fsm_event_active` is consulted: flags, frames and
    `_fsm_event_active` are the same before and after it, whatever it sends (so an event it sends that leads
    back to this FSM meets the set guard and is refused: `recursion_is_refused_and_aborts`; it is not one
    of the documented windows: `no_nested_handling` holds with the callback running in phase `handler`) -/
theorem cond_callback_runs_with_guard_set (c : Circ) (fuel : Nat) (b : Blk) (d : Nat) (s : St) (et : EType)
    (data : Data) :
    (fsmCond (deliver c fuel) b d s et data).1.active = s.active ∧
    (fsmCond (deliver c fuel) b d s et data).1.stack = s.stack ∧
    (fsmCond (deliver c fuel) b d s et data).1.fsmActive = s.fsmActive :=
  let f := (fsmCond_run .code (deliver_run fuel) trivial (stk := s.stack) b d s et data).frm rfl
  ⟨f.active, f.stack, f.fsm⟩

/-- conditions are consulted for named events of an initialised FSM only (not for Goto, not during the
    initial transition) -/
theorem cond_not_consulted (dlv : Dlv) (b : Blk) (d : Nat) (s : St) (et : EType) (data : Data)
    (h : (∃ st, et = .goto st) ∨ (s.out d).isUndef = true) :
    fsmCond dlv b d s et data = (s, .ret (.bool true)) := by
  unfold fsmCond
  rcases h with ⟨st, rfl⟩ | h
  · rfl
  · split <;> simp_all

/-- a top-level event rejected by a condition without statements: the whole `event()` call returns False
    and the state is as before – apart from the (ghost) enter/exit record of the handler: no block locked,
    no abort, no transition, no timer touched -/
theorem cond_rejection_is_harmless (c : Circ) (fuel : Nat) (s : St) (d : Nat) (b : Blk) (ev : String)
    (data : Data) (ns : Nat) (cv : CondVal)
    (hb : c.blocks[d]? = some b) (hk : b.kind = .fsm) (ha : s.active d = false) (hi : s.init d ≠ .pending)
    (ho : (s.out d).isUndef = false) (ht : fsmTarget b (s.fstate d) (.name ev) = .to ns)
    (hc : b.conds.find? (·.1 == ev) = some (ev, [], cv)) (hv : cv.eval data = false) :
    deliver c (fuel + 1) s d (.name ev) data =
      ({ s with trace := .exit d true :: .enter d (handlerDepth s.stack d + 1) (data.get? "value")
                  (windowDepth s.stack d) :: s.trace }, .ret (.bool false)) := by
  -- the condition has no statements: in the handler frame it only computes its value
  have hcond : ∀ s4 : St, s4.out = s.out → fsmCond (deliver c fuel) b d s4 (.name ev) data = (s4, .ret (.bool false)) := by
    intro s4 h4
    unfold fsmCond
    simp [h4, ho, hc, runActs, andThen, hv]
  have hbody := eventBody_ready (deliver c fuel) b d s.stack { s with active := upd s.active d true } (.name ev) data
    hi (by simp [EType.resolve])
  rw [show (EType.name ev).resolve (dataTruthy data) = .name ev from rfl] at hbody
  simp only [callHandler, hk, if_true, inHandler] at hbody
  rw [cond_false_rejects_event (deliver c fuel) b d s.stack
    { s with active := upd s.active d true, stack := ⟨d, .handler⟩ :: s.stack,
             trace := .enter d (handlerDepth s.stack d + 1) (data.get? "value") (windowDepth s.stack d) :: s.trace }
    _ (.name ev) data ns ht (hcond _ rfl)] at hbody
  rw [deliver_open c fuel s d b (.name ev) data hb rfl ha hbody]
  simp only [classify]
  congr 1
  cases s
  simp only [St.mk.injEq, and_true, true_and]
  exact upd_restore _ _ ha

/-- the window is closed again on every outcome of what runs inside it: flag and frame of the FSM
    are as before (the handler goes on with the guard set) -/
theorem window_is_closed (c : Circ) (fuel : Nat) (b : Blk) (d : Nat) (stk0 : List Frame) (s : St)
    (wb : WinBody) (hs : s.stack = ⟨d, .handler⟩ :: stk0) :
    (fsmWindow (deliver c fuel) b d stk0 s wb).1.active = s.active ∧
    (fsmWindow (deliver c fuel) b d stk0 s wb).1.stack = s.stack :=
  let f := (Run.window d (winBody_run .code (deliver_run fuel) trivial b d _ wb)).frm hs
  ⟨f.active, f.stack⟩

/-- the `duration` item of the event that caused the transition overrides the default duration of the timed
    state; absent (or None) the default applies -/
theorem duration_item_overrides_default (dflt : Nat) (q : Rat) (k : Kind) :
    effDuration Option.none dflt = dflt ∧ effDuration (some Val.none) dflt = dflt ∧
    effDuration (some (.atom (.num q k))) dflt = (if q ≤ 0 then 0 else 1) := ⟨rfl, rfl, rfl⟩

/-- a zero (or negative) duration – by default or through the `duration` item – makes the expiry a nested
    `self.event(timed_event)` INSIDE the documented window (`_start_timer` runs under `_enable_event`): it is
    the one chained transition, parked like a request of the entry action (`chained_request_is_parked`);
    a positive one only arms the timer, whose expiry is a later top-level event (`timer_expiry_is_an_event`) -/
theorem zero_duration_is_a_chained_transition (dlv : Dlv) (b : Blk) (d : Nat) (s : St) (st : Nat)
    (duration : Option Val) (ev : EType) (dur : Nat) (ht : b.timed.getD st Option.none = some (ev, dur)) :
    winBody dlv b d s (.startTimer st duration) =
      if effDuration duration dur = 0 then dlv s d ev []
      else if s.timersEnabled then ({ s with timer := upd s.timer d (some ev) }, .ret .none)
      else (s, .ret .none) := by
  unfold winBody
  simp only [ht]

/-- the expiry of a timer is an event like any other: it enters through `deliver` (guard, frames,
    refusal, abort), so all theorems above apply to timer-driven transitions; no block is left locked -/
theorem timer_expiry_is_an_event (c : Circ) (s : St) (d : Nat) (p : St × Res) (h : Idle s)
    (ht : tick c s d = some p) : Idle p.1 := by
  unfold tick at ht
  split at ht
  · cases ht
  · cases ht
    have hi : Idle { s with timer := upd s.timer d Option.none } := h
    exact hi.of_frm ((Run.seq (deliver_run c.fuel .code trivial _ ..) (.ret (.ret .none) (.refl _) nofun)).frm rfl)

/-- the initial transition of an FSM is an event as well: `init_from_value` delivers `Goto(initdef)` -/
theorem fsm_initial_transition_is_an_event (dlv : Dlv) (b : Blk) (d : Nat) (s : St) (hk : b.kind = .fsm)
    (hu : (s.out d).isUndef = true) : initFromValue dlv b d s = dlv s d (.goto 0) [] := by
  unfold initFromValue
  simp [hk, hu]

/-! ### Repeat blocks: the forward from inside the handler, the repetitions from the main task

`guard_balanced`, `no_nested_handling`, `refusal_stops_simulation` above and `fuel_suffices` below are stated for
every circuit – Repeat blocks included (`BKind.repeat`: `callHandler` runs `repeatEvent` inside the block's handler
frame, a case of `callHandler_run` in EdzedProofs/Dispatch.lean).  What follows is specific to Repeat. -/

/-- `Repeat._event` forwards the event with the block's own guard SET: the state in which the destination
    is entered has `_event_active` of the Repeat block true whenever the handler was entered by `deliver`;
    hence a destination chain that leads back to the Repeat block – or a sender that is still busy – is
    refused like any other recursion (`recursion_is_refused_and_aborts`): the forward is one step of the
    ordinary `sendEdges` on the single edge `Event(dest, etype)`, run between `set_output(0)` and the queuing -/
theorem repeat_forwards_inside_handler (dlv : Dlv) (b : Blk) (d : Nat) (s : St) (data : Data) :
    repeatEvent dlv b d s b.retype data =
      andThen (setOutput dlv b d s (.int 0)) fun s1 =>
      andThen (sendEdges dlv d s1 [repeatEdge b] (withRepeat (withOrigSource data) 0)) fun s2 =>
      ({ s2 with rcur := upd s2.rcur d (some (withOrigSource data, 0)) }, .ret .none) := by
  unfold repeatEvent
  simp

/-- … and the `set_output(0)` before the forward, with everything it triggers, leaves the guard of the Repeat
    block set: the forward starts with the block locked -/
theorem repeat_is_locked_during_forward (c : Circ) (fuel : Nat) (b : Blk) (d : Nat) (s : St) (v : Val)
    (ha : s.active d = true) : (setOutput (deliver c fuel) b d s v).1.active d = true := by
  rw [((setOutput_run .code (deliver_run fuel) trivial (stk := s.stack) b d s v).frm rfl).active]; exact ha

/-- an event of another type is ignored (logged once): no output change, nothing sent, nothing queued -/
theorem repeat_other_event_is_ignored (dlv : Dlv) (b : Blk) (d : Nat) (s : St) (et : EType) (data : Data)
    (h : et ≠ b.retype) : repeatEvent dlv b d s et data = (s, .ret .none) := by
  unfold repeatEvent
  simp [h]

/-- a forward that fails (refused recursion, unknown type, parameter error, error in the destination) leaves
    `Repeat._event` before `self._queue.put_nowait(data)`: nothing is queued, nothing will be repeated
    (the dispatch-level form of C18's `translated_refused_forward_queues_nothing`) -/
theorem repeat_failed_forward_queues_nothing (dlv : Dlv) (b : Blk) (d : Nat) (s : St) (et : EType)
    (data : Data) (x : Exc) (h : (repeatEvent dlv b d s et data).2 = .exc x) :
    (repeatEvent dlv b d s et data).1 = (setOutput dlv b d s (.int 0)).1 ∨
    (repeatEvent dlv b d s et data).1 =
      (sendEdges dlv d (setOutput dlv b d s (.int 0)).1 [repeatEdge b] (withRepeat (withOrigSource data) 0)).1 := by
  by_cases he : et = b.retype
  · -- the exception comes from `set_output(0)`, or from the forward: after the queuing `_event` returns
    subst he
    rw [repeat_forwards_inside_handler] at h ⊢
    rcases andThen_fst (setOutput dlv b d s (.int 0)) _ with h1 | h1
    · exact .inl h1
    · rw [h1] at h ⊢
      rcases andThen_fst (sendEdges dlv d (setOutput dlv b d s (.int 0)).1 [repeatEdge b] _) _ with h2 | h2
      · exact .inr h2
      · rw [h2] at h; cases h
  · rw [repeat_other_event_is_ignored dlv b d s et data he] at h; cases h

/-- **A repetition is a fresh top-level delivery**: the main task sends it from outside of every handler.
    It starts from the very flags of the idle circuit (all `_event_active` false, no `event()` frame: the
    state handed to `resendBody` is `s` with only the repetition counter updated) and leaves them false –
    whatever happened (handled, refused somewhere down the chain, failed; then the task's monitor aborts) -/
theorem repeat_resend_is_top_level (c : Circ) (s : St) (d : Nat) (p : St × Res) (h : Idle s)
    (hr : resend c s d = some p) :
    Idle p.1 ∧ ∃ b data rep, c.blocks[d]? = some b ∧ b.kind = .repeat ∧ s.rcur d = some (data, rep) ∧
      repeatGoesOn b rep = true ∧
      p = taskOutcome d (resendBody (deliver c c.fuel) b d s data (rep + 1)) ∧
      Idle { s with rcur := upd s.rcur d (some (data, rep + 1)) } := by
  refine ⟨h.of_frm ((resend_run s d p hr).frm rfl), ?_⟩
  unfold resend at hr
  split at hr
  · rename_i b data rep hb hc
    split at hr
    · rename_i hk
      simp only [Bool.and_eq_true, decide_eq_true_eq] at hk
      cases hr
      exact ⟨b, data, rep, hb, hk.1, hc, hk.2, rfl, h⟩
    · cases hr
  · cases hr

/-- every handler entered during a repetition has nesting depth 1 -/
theorem no_nested_handling_resend (c : Circ) (s : St) (d : Nat) (p : St × Res) (h : Idle s)
    (ht : s.trace = []) (hr : resend c s d = some p) : ∀ t ∈ p.1.trace, t.ok :=
  (resend_run s d p hr).traceOk rfl (h.good ht)

/-- if the chain of a repetition loops back (to the Repeat block, which is inside its handler again when it
    forwards, or to any other busy block) the event is refused and the simulation stopped -/
theorem refusal_stops_simulation_resend (c : Circ) (s : St) (d : Nat) (p : St × Res) (ht : s.trace = [])
    (hr : resend c s d = some p) (x : Nat) (hx : TItem.refused x ∈ p.1.trace) : p.1.error.isSome :=
  (resend_run s d p hr).refAbort (refAbort_nil ht) ⟨x, hx⟩

/-- an exception that ends the main task stops the simulation (`AddonAsync._task_monitor`) and ends the
    repetitions of the block -/
theorem failed_resend_aborts (d : Nat) (p : St × Res) (x : Exc) (h : p.2 = .exc x) (hx : x ≠ .outOfFuel) :
    (taskOutcome d p).1.error.isSome ∧ (taskOutcome d p).1.rcur d = Option.none ∧
    (taskOutcome d p).2 = .exc x := by
  obtain ⟨s', r⟩ := p
  cases h
  rw [taskOutcome_exc d s' x hx]
  exact ⟨abort_error _ _, upd_same _ _ _, rfl⟩

/-- the repetitions end with the simulation task (`AddonMainTask.stop_async`) -/
theorem no_resend_after_stop (c : Circ) (s : St) (d : Nat) : resend c (stopAll s) d = Option.none := by
  unfold resend stopAll
  split <;> simp_all

/-- the fuel suffices for a repetition as well -/
theorem fuel_suffices_resend (c : Circ) (s : St) (d : Nat) (p : St × Res) (hr : resend c s d = some p) :
    p.2 ≠ .exc .outOfFuel :=
  (resend_run s d p hr).noOOF rfl (phi_lt_fuel c s)

/-! ### persistent blocks: `AddonPersistence.event` around `SBlock.event`

`persistEvent` (EdzedProofs/DispatchPersist.lean) runs the action list translated from the CURRENT source of
`AddonPersistence.event` (`Gen.TrP2.eventActs`, generated for C06) with `super().event()` = the model's
`deliver`.  For every circuit, state, event, every value of `persistent` / `sync_state` and whether or not the
save fails: -/

/-- what the wrapper does, outcome by outcome of `super().event()`: an exception is re-raised, after
    persistence has been disabled when the simulation is no longer ready; otherwise the outermost call of a
    persistent, initialised block with `sync_state` saves – the flag of the block as `get_state()` sees it is
    recorded – and returns the value, or propagates the error of a failing save -/
theorem persistEvent_eq (c : Circ) (fuel : Nat) (sync saveRaises : Bool) (p : PSt) (d : Nat) (et : EType)
    (data : Data) :
    persistEvent c fuel sync saveRaises p d et data =
      if isExc (deliver c fuel p.st d et data).2 then
        ({ p with st := (deliver c fuel p.st d et data).1,
                  persistent := p.persistent && (deliver c fuel p.st d et data).1.error.isNone },
         some (deliver c fuel p.st d et data).2)
      else if (!p.nested && p.persistent && sync && !((deliver c fuel p.st d et data).1.out d).isUndef) then
        ({ p with st := (deliver c fuel p.st d et data).1,
                  saves := (deliver c fuel p.st d et data).1.active d :: p.saves },
         some (if saveRaises then .exc .other else (deliver c fuel p.st d et data).2))
      else ({ p with st := (deliver c fuel p.st d et data).1 }, some (deliver c fuel p.st d et data).2) :=
  runPersistPrims_eventActs d _ p.st p.saves ..

/-- the wrapper never leaves `_event_active` set (nor changes any flag or frame): it adds nothing between the
    `finally` of `SBlock.event` and its caller but the save -/
theorem persist_wrapper_keeps_guard (c : Circ) (fuel : Nat) (sync saveRaises : Bool) (p : PSt) (d : Nat)
    (et : EType) (data : Data) :
    (persistEvent c fuel sync saveRaises p d et data).1.st = (deliver c fuel p.st d et data).1 := by
  rw [persistEvent_eq]
  split
  · rfl
  · split <;> rfl

theorem persist_wrapper_guard_balanced (c : Circ) (fuel : Nat) (sync saveRaises : Bool) (p : PSt) (d : Nat)
    (et : EType) (data : Data) :
    (persistEvent c fuel sync saveRaises p d et data).1.st.active = p.st.active := by
  rw [persist_wrapper_keeps_guard]; exact guard_balanced c fuel p.st d et data

/-- **the save runs outside the guard**: at most one save per call, and `get_state()` then sees the block's
    own `_event_active` false – the save comes after `SBlock.event` has returned (after its `finally`), never
    for a refused or failed event, so it cannot re-enter a handler that is still running.  (A call nested in
    another `event()` of the same block does not save at all: `persist_nested_call_never_saves`.) -/
theorem persist_save_runs_outside_guard (c : Circ) (fuel : Nat) (sync saveRaises : Bool) (p : PSt) (d : Nat)
    (et : EType) (data : Data) :
    (persistEvent c fuel sync saveRaises p d et data).1.saves = p.saves ∨
    ((persistEvent c fuel sync saveRaises p d et data).1.saves = false :: p.saves ∧
      isExc (deliver c fuel p.st d et data).2 = false ∧ p.st.active d = false) := by
  rw [persistEvent_eq]
  split
  · exact .inl rfl
  · next hne =>
    split
    · -- a save: `event()` did not raise, so the block was not busy, and its flag is as before
      have hne : isExc (deliver c fuel p.st d et data).2 = false := by simpa using hne
      have hact : p.st.active d = false := by
        cases h : p.st.active d
        · rfl
        · rw [deliver_raises_of_active c fuel p.st d et data h] at hne; cases hne
      refine .inr ⟨?_, hne, hact⟩
      show (deliver c fuel p.st d et data).1.active d :: p.saves = _
      rw [guard_balanced, hact]
    · exact .inl rfl

/-- `_persist_event_active`: a wrapper call that is NESTED in another `event()` of the same block (the chained
    transition requested by an FSM entry action, a zero-length timer) never saves -- the intermediate state it
    would see stays out of the storage; only the outermost call saves -/
theorem persist_nested_call_never_saves (c : Circ) (fuel : Nat) (sync saveRaises : Bool) (p : PSt) (d : Nat)
    (et : EType) (data : Data) (hn : p.nested = true) :
    (persistEvent c fuel sync saveRaises p d et data).1.saves = p.saves := by
  rw [persistEvent_eq, hn]
  split
  · rfl
  · rfl

/-- an exception of `super().event()` is re-raised unchanged (never swallowed), after persistence has been
    disabled when the simulation is no longer ready -/
theorem persist_wrapper_reraises (c : Circ) (fuel : Nat) (sync saveRaises : Bool) (p : PSt) (d : Nat)
    (et : EType) (data : Data) (x : Exc) (h : (deliver c fuel p.st d et data).2 = .exc x) :
    (persistEvent c fuel sync saveRaises p d et data).2 = some (.exc x) ∧
    ((persistEvent c fuel sync saveRaises p d et data).1.persistent =
      (p.persistent && (deliver c fuel p.st d et data).1.error.isNone)) := by
  rw [persistEvent_eq, if_pos (by rw [h]; rfl), h]
  exact ⟨rfl, rfl⟩

/-- a handled event returns the handler's value (after the save, if any, succeeded) -/
theorem persist_wrapper_returns (c : Circ) (fuel : Nat) (sync : Bool) (p : PSt) (d : Nat)
    (et : EType) (data : Data) (v : Val) (h : (deliver c fuel p.st d et data).2 = .ret v) :
    (persistEvent c fuel sync false p d et data).2 = some (.ret v) ∧
    (persistEvent c fuel sync false p d et data).1.persistent = p.persistent := by
  rw [persistEvent_eq, if_neg (by rw [h]; exact Bool.false_ne_true), h]
  split <;> exact ⟨rfl, rfl⟩

/-- The nesting depth of `event()` calls is bounded by the circuit: with `phi s` = number of blocks
    that are not inside `event()` + number of blocks whose early initialisation is still pending +
    number of FSMs that are not inside a transition, `phi s + 1` units of fuel are never used up (every nested call lowers `phi`). -/
theorem fuel_suffices_general (c : Circ) (fuel : Nat) (s : St) (d : Nat) (et : EType) (data : Data)
    (h : phi c.n s < fuel) : (deliver c fuel s d et data).2 ≠ .exc .outOfFuel :=
  (deliver_run fuel .code trivial s.stack s d et data).noOOF rfl h

/-- `phi` is at most three times the number of blocks (per block: a handler frame, an
    early-initialisation frame, and for an FSM one request parked in its chained-transition window) … -/
theorem depth_le_blocks (c : Circ) (s : St) : phi c.n s ≤ 3 * c.n := phi_le c.n s

/-- … hence the fuel the model runs with (`3 * blocks + 1`) suffices in every state: the artefact
    `outOfFuel` never occurs, `deliver` is the real recursion -/
theorem fuel_suffices (c : Circ) (s : St) (d : Nat) (et : EType) (data : Data) :
    (deliver c c.fuel s d et data).2 ≠ .exc .outOfFuel :=
  fuel_suffices_general c c.fuel s d et data (phi_lt_fuel c s)

/-- also for the start-up loop -/
theorem fuel_suffices_init (c : Circ) (s : St) (ds : List Nat) :
    (initLoop c s ds).2 ≠ .exc .outOfFuel :=
  (initLoop_run s.stack s ds).noOOF rfl (phi_lt_fuel c s)

/-- the generated handler tables (tools/extract.py, from `_ct_handlers`) of Input and Counter: the entries the
    model's `paramsOk` classifies parameter errors by -/
theorem handler_tables_match :
    Gen.inputHandlers = [("put", ["value"], [], true)] ∧
    Gen.counterHandlers = [("dec", [], ["amount"], true), ("inc", [], ["amount"], true),
       ("put", ["value"], [], true), ("reset", [], [], true)] := ⟨rfl, rfl⟩

/-- `put` without a value is a parameter error for Input and Counter (from the generated tables) -/
theorem put_without_value_is_parameter_error (k : BKind) (hk : k = .input ∨ k = .counter) :
    ∃ h, lookupHandler k (.name "put") = some h ∧ paramsOk h [] = false := by
  rcases hk with rfl | rfl
  · exact ⟨("put", ["value"], [], true), rfl, rfl⟩
  · exact ⟨("put", ["value"], [], true), rfl, rfl⟩

/-- a running circuit: every block initialised, output None -/
def exReady : St := { (default : St) with init := fun _ => .done, out := fun _ => .none }

/-- one probe block whose handler `a` sends the event `a` to the block itself -/
def exLoop : Circ := ⟨[{ scriptA := [.send 0 Option.none], extra := [⟨0, .name "a", []⟩] }]⟩

/-- the self-loop is refused, the simulation aborted, the block not left locked; the handler was
    entered once, with depth 1 -/
example : (rawSend exLoop exReady 0 (.name "a") []).2 = .exc .circuitError
    ∧ (rawSend exLoop exReady 0 (.name "a") []).1.error = some .circuitError
    ∧ (rawSend exLoop exReady 0 (.name "a") []).1.active 0 = false
    ∧ (rawSend exLoop exReady 0 (.name "a") []).1.trace.length = 3 := by decide +kernel

/-- A -> B(try/except) -> A: B swallows the refusal, the sender gets a normal return value, and the
    simulation is stopped all the same -/
def exSwallow : Circ :=
  ⟨[{ scriptA := [.send 0 Option.none], extra := [⟨1, .name "a", []⟩] },
    { scriptA := [.trySend 0 Option.none], extra := [⟨0, .name "a", []⟩] }]⟩

example : (rawSend exSwallow exReady 0 (.name "a") []).2 = .ret .none
    ∧ (rawSend exSwallow exReady 0 (.name "a") []).1.error = some .circuitError
    ∧ (rawSend exSwallow exReady 0 (.name "a") []).1.active 0 = false
    ∧ (rawSend exSwallow exReady 0 (.name "a") []).1.active 1 = false := by decide +kernel

/-- an FSM s0 -e0-> s1 -e1-> s0 whose entry action of s1 sends e1 to the FSM itself: the documented
    chained transition; the request is parked in the window (handler entered at depth 1 with one
    suspended frame), the FSM ends in s0, nothing is refused, the simulation goes on -/
def exChain : Circ :=
  ⟨[{ kind := .fsm, nStates := 2, trans := [("e0", some 0, some 1), ("e1", some 1, some 0)],
      enterS := [[], [.rawEvent 0 (.name "e1")]] }]⟩

def exFsmReady : St :=
  { (default : St) with init := fun _ => .done, out := fun _ => .str "s0", fstate := fun _ => some 0 }

example : (rawSend exChain exFsmReady 0 (.name "e0") []).2 = .ret (.bool true)
    ∧ (rawSend exChain exFsmReady 0 (.name "e0") []).1.fstate 0 = some 0
    ∧ (rawSend exChain exFsmReady 0 (.name "e0") []).1.error = Option.none
    ∧ (rawSend exChain exFsmReady 0 (.name "e0") []).1.active 0 = false
    ∧ (rawSend exChain exFsmReady 0 (.name "e0") []).1.trace.length = 4 := by decide +kernel

/-- a timed state s1 (default 5 s, expiry -> s0): the event `e0` with `duration=0` makes the expiry a chained
    transition – the FSM is back in s0 when `event()` returns, no timer armed –; without the item the timer is
    armed and the FSM stays in s1 -/
def exDuration : Circ :=
  ⟨[{ kind := .fsm, nStates := 2, trans := [("e0", some 0, some 1), ("e1", some 1, some 0)],
      timed := [Option.none, some (.name "e1", 5)] }]⟩

example : (rawSend exDuration exFsmReady 0 (.name "e0") [("duration", .int 0)]).1.fstate 0 = some 0
    ∧ ((rawSend exDuration exFsmReady 0 (.name "e0") [("duration", .int 0)]).1.timer 0).isNone = true
    ∧ (rawSend exDuration exFsmReady 0 (.name "e0") [("duration", .int 0)]).1.error = Option.none
    ∧ (rawSend exDuration exFsmReady 0 (.name "e0") []).1.fstate 0 = some 1
    ∧ ((rawSend exDuration exFsmReady 0 (.name "e0") []).1.timer 0).isSome = true
    ∧ (rawSend exDuration exFsmReady 0 (.name "e0") [("duration", .int 0)]).1.active 0 = false := by
  decide +kernel

/-- the same FSM with an on_enter event of s1 (not the entry action) leading back to it: refused,
    the simulation is stopped -/
def exFsmLoop : Circ :=
  ⟨[{ kind := .fsm, nStates := 2, trans := [("e0", some 0, some 1), ("e1", Option.none, some 0)],
      onEnter := [[], [⟨0, .name "e1", []⟩]] }]⟩

example : (rawSend exFsmLoop exFsmReady 0 (.name "e0") []).2 = .exc .circuitError
    ∧ (rawSend exFsmLoop exFsmReady 0 (.name "e0") []).1.error = some .circuitError
    ∧ (rawSend exFsmLoop exFsmReady 0 (.name "e0") []).1.active 0 = false
    ∧ (rawSend exFsmLoop exFsmReady 0 (.name "e0") []).1.fsmActive 0 = false := by decide +kernel

/-- cond callbacks: `cond_e0` sends `put` to the Input b1 whose output event leads back to the FSM: refused
    (the FSM is locked while its condition runs), the simulation stopped, nothing locked afterwards;
    with `cond_e0` = constant False the event is rejected and nothing at all happens -/
def exCondLoop : Circ :=
  ⟨[{ kind := .fsm, nStates := 2, trans := [("e0", Option.none, some 1), ("e1", Option.none, some 0)],
      extra := [⟨1, .name "put", []⟩], conds := [("e0", [.send 0 (some (.int 1))], .const true)] },
    { kind := .input, onOutput := [⟨0, .name "e1", []⟩] }]⟩

def exCondFalse : Circ :=
  ⟨[{ kind := .fsm, nStates := 2, trans := [("e0", Option.none, some 1)], conds := [("e0", [], .item "value")] }]⟩

example : (rawSend exCondLoop exFsmReady 0 (.name "e0") []).2 = .exc .circuitError
    ∧ (rawSend exCondLoop exFsmReady 0 (.name "e0") []).1.error = some .circuitError
    ∧ (rawSend exCondLoop exFsmReady 0 (.name "e0") []).1.fstate 0 = some 0
    ∧ (rawSend exCondLoop exFsmReady 0 (.name "e0") []).1.active 0 = false
    ∧ (rawSend exCondLoop exFsmReady 0 (.name "e0") []).1.active 1 = false
    ∧ (rawSend exCondFalse exFsmReady 0 (.name "e0") [("value", .int 0)]).2 = .ret (.bool false)
    ∧ (rawSend exCondFalse exFsmReady 0 (.name "e0") [("value", .int 0)]).1.fstate 0 = some 0
    ∧ (rawSend exCondFalse exFsmReady 0 (.name "e0") [("value", .int 0)]).1.error = Option.none
    ∧ (rawSend exCondFalse exFsmReady 0 (.name "e0") [("value", .int 0)]).1.active 0 = false
    ∧ (rawSend exCondFalse exFsmReady 0 (.name "e0") [("value", .int 3)]).2 = .ret (.bool true)
    ∧ (rawSend exCondFalse exFsmReady 0 (.name "e0") [("value", .int 3)]).1.fstate 0 = some 1 := by
  decide +kernel

/-- the hypotheses of `cond_rejection_is_harmless` are satisfiable (the block of `exCondFalse`, value 0) -/
example : (exCondFalse.blocks[0]?.map fun b => fsmTarget b (exFsmReady.fstate 0) (.name "e0")) = some (.to 1)
    ∧ (CondVal.item "value").eval [("value", .int 0)] = false
    ∧ (exFsmReady.out 0).isUndef = false := by decide +kernel

/-- A -> Repeat -> A: Input b0 sends its output to the Repeat b1 whose destination is b0: the forward
    (from inside b1's handler, b0 still busy) is refused, the simulation stopped, nothing queued, nothing locked -/
def exRepLoop : Circ :=
  ⟨[{ kind := .input, onOutput := [⟨1, .name "put", []⟩] }, { kind := .repeat, rdest := 0 }]⟩

example : (rawSend exRepLoop exReady 0 (.name "put") [("value", .int 1)]).2 = .exc .circuitError
    ∧ (rawSend exRepLoop exReady 0 (.name "put") [("value", .int 1)]).1.error = some .circuitError
    ∧ ((rawSend exRepLoop exReady 0 (.name "put") [("value", .int 1)]).1.rcur 1).isNone = true
    ∧ (rawSend exRepLoop exReady 0 (.name "put") [("value", .int 1)]).1.active 0 = false
    ∧ (rawSend exRepLoop exReady 0 (.name "put") [("value", .int 1)]).1.active 1 = false
    ∧ (rawSend exRepLoop exReady 0 (.name "put") [("value", .int 1)]).1.trace.length = 5 := by decide +kernel

/-- a Repeat repeating to itself: a recursion on the Repeat block, refused at the forward -/
def exRepSelf : Circ := ⟨[{ kind := .repeat, rdest := 0 }]⟩

example : (rawSend exRepSelf exReady 0 (.name "put") []).2 = .exc .circuitError
    ∧ (rawSend exRepSelf exReady 0 (.name "put") []).1.error = some .circuitError
    ∧ (rawSend exRepSelf exReady 0 (.name "put") []).1.active 0 = false := by decide +kernel

/-- Repeat b0 -> Input b1: forwarded and queued; then two repetitions, each a top-level delivery entering
    b1's handler at depth 1; with count = 2 there is no third one; the hypotheses of
    `repeat_resend_is_top_level` / `no_nested_handling_resend` hold in the state after the first event -/
def exRepOk : Circ := ⟨[{ kind := .repeat, rdest := 1, rcount := some 2 }, { kind := .input }]⟩

def exRepQueued : St := { (rawSend exRepOk exReady 0 (.name "put") [("value", .int 7)]).1 with trace := [] }

example : Idle exRepQueued ∧ exRepQueued.trace = [] ∧ exRepQueued.out 1 = .int 7
    ∧ (exRepQueued.rcur 0).isSome = true ∧ (resend exRepOk exRepQueued 0).isSome = true := by
  refine ⟨⟨fun d => ?_, ?_⟩, rfl, ?_, ?_, ?_⟩
  · have := congrFun (guard_balanced exRepOk exRepOk.fuel exReady 0 (.name "put") [("value", .int 7)]) d
    exact this
  · exact (deliver_frm exRepOk exRepOk.fuel exReady 0 (.name "put") [("value", .int 7)]).stack
  all_goals decide +kernel

example :
    ((resend exRepOk exRepQueued 0).map fun p => (p.2, p.1.out 0, p.1.error, p.1.trace.length, p.1.active 1))
      = some (.ret .none, .int 1, Option.none, 2, false)
    ∧ (((resend exRepOk exRepQueued 0).bind fun p => resend exRepOk { p.1 with trace := [] } 0).map
        fun q => (q.1.out 0, (resend exRepOk q.1 0).isNone)) = some (.int 2, true) := by decide +kernel

/-- the loop is met by the repetition only: the repetition's own output event (0 -> 1, filtered at the
    forward by `value` = 0 being false) reaches a probe that sends to the Repeat block … which forwards to
    the Counter; no recursion here – but with the probe sending to itself it is refused: a failed repetition
    aborts (`failed_resend_aborts`) -/
def exRepLate : Circ :=
  ⟨[{ kind := .repeat, rdest := 1, retype := .name "inc", onOutput := [⟨2, .name "a", [.ifValue]⟩] },
    { kind := .counter, initdef := .int 0 },
    { scriptA := [.send 0 Option.none], extra := [⟨2, .name "b", []⟩], scriptB := [.send 0 Option.none] }]⟩

example :
    let s1 : St := { (rawSend exRepLate { exReady with out := fun _ => .int 0 } 0 (.name "inc") []).1 with trace := [] }
    s1.error = Option.none ∧
    ((resend exRepLate s1 0).map fun p => (p.2, p.1.error, (p.1.rcur 0).isNone, p.1.active 2,
        p.1.trace.any (fun t => match t with | .refused 2 => true | _ => false)))
      = some (.exc .circuitError, some .circuitError, true, false, true) := by decide +kernel

/-- `Idle`, `Inv`, `TraceOk` are satisfiable: the start state -/
example : Idle exReady ∧ Inv exReady ∧ TraceOk exReady :=
  ⟨⟨fun _ => rfl, rfl⟩, Idle.inv ⟨fun _ => rfl, rfl⟩, by intro t ht; cases ht⟩

/-- the documented window: Input b0 (initdef 1) sends its first output as `put` to the not yet
    initialised Input b1 (initdef 2); b1 initialises early *by an event to itself* while it is inside
    `event()`: its handler runs twice, one after the other, each time with depth 1; the start-up
    succeeds and nothing is locked -/
def exWindow : Circ :=
  ⟨[{ kind := .input, initdef := .int 1, onOutput := [⟨1, .name "put", []⟩] },
    { kind := .input, initdef := .int 2 }]⟩

example : (initAll exWindow St.start).2 = .ret .none
    ∧ (initAll exWindow St.start).1.trace.length = 6
    ∧ (initAll exWindow St.start).1.error = Option.none
    ∧ (initAll exWindow St.start).1.active 1 = false
    ∧ (initAll exWindow St.start).1.out 1 = .int 1 := by decide +kernel

/-- a persistent block of the running circuit `exReady`, nothing saved yet -/
def exPersistent : PSt := { st := exReady, persistent := true, saves := [] }

/-- the hypothesis of `persist_nested_call_never_saves` is satisfiable -/
example : ({ exPersistent with nested := true } : PSt).nested = true ∧ exPersistent.persistent = true := ⟨rfl, rfl⟩

/-- the persistence wrapper on the self-loop of `exLoop` (refused one level down: re-raised, nothing saved,
    persistence disabled because the simulation was aborted) and on a handled event of `exWindow` (one save,
    with the guard released) -/
example :
    (persistEvent exLoop 4 true false exPersistent 0 (.name "a") []).2 = some (.exc .circuitError)
    ∧ (persistEvent exLoop 4 true false exPersistent 0 (.name "a") []).1.persistent = false
    ∧ (persistEvent exLoop 4 true false exPersistent 0 (.name "a") []).1.saves = []
    ∧ (persistEvent exWindow 7 true false exPersistent 0 (.name "put") [("value", .int 5)]).2 = some (.ret (.bool true))
    ∧ (persistEvent exWindow 7 true false exPersistent 0 (.name "put") [("value", .int 5)]).1.saves = [false]
    ∧ (persistEvent exWindow 7 true false exPersistent 0 (.name "put") [("value", .int 5)]).1.persistent = true := by
  decide +kernel

/-- harmless outcomes exist: unknown event and missing parameter on an Input -/
example : (rawSend exWindow exReady 0 (.name "zz") []).2 = .exc .unknownEvent
    ∧ (rawSend exWindow exReady 0 (.name "put") []).2 = .exc .typeError
    ∧ (rawSend exWindow exReady 0 (.cond .none .none) []).2 = .ret .none
    ∧ (rawSend exWindow exReady 0 .empty []).2 = .exc .valueError := by decide +kernel

end Edzed.Dispatch

/-! ### tie by translation: `SBlock.event` and `Event.send`

`tools/py2lean.py` (scheme TrProg, tools/py2lean_dispatch.py) regenerates
EdzedModel/Gen/TranslatedDispatch.lean from the CURRENT Python AST of the two methods on every run: the
order of the statements, the nesting of if / while / for / try-except-finally / with, every condition and
every `return` / `raise` come from the source; only the meaning of the leaves (attribute accesses, tests,
calls) is declared, as the fields of `EventPrims` / `SendPrims`.  Here the primitives are instantiated with
the operations of the model (`evPrims`, `sendPrims` in EdzedProofs/DispatchTie.lean; the reference program
`eventRef` of `SBlock.event` is in EdzedProofs/EventRef.lean) and the translated programs are proved to BE the
model's dispatch steps, for every circuit, block, state, event and data.
A semantic edit of either method changes the generated text: `translated_…_is_reference` (closed by
`rfl`) or a lemma about the generated loops stops compiling, and with it this property. -/

namespace Edzed.TrTie
open Edzed.Dispatch Edzed.Gen.TrD

/-- the program generated from the current source of `SBlock.event` IS the reference program -/
theorem translated_event_is_reference {σ ε τ δ ν η ρ γ : Type} :
    @event σ ε τ δ ν η ρ γ = @eventRef σ ε τ δ ν η ρ γ :=
  event_eq_eventRef

/-- **The model's `deliver` IS `SBlock.event` as translated from the current source**: for every
    circuit, block, state, event type and data the translated program, run on the primitives of the
    model, computes exactly the state and the result of `deliver` (`n` = fuel of the EventCond loop, any
    number above the nesting depth of the event type). -/
theorem translated_event_is_model (c : Circ) (fuel : Nat) (b : Blk) (d : Nat) (s : St) (et : EType)
    (data : Data) (hb : c.blocks[d]? = some b) (n : Nat) (hn : EType.depth et < n) :
    toRes (event (evPrims c fuel b d s.stack) n et data s) = deliver c (fuel + 1) s d et data := by
  rw [translated_event_is_reference]
  unfold eventRef deliver
  simp only [hb, M.bind, checkPart_model]
  cases hc : et.check with
  | some x => simp [toRes]
  | none =>
    have hne : et ≠ .none := by intro h; subst h; simp [EType.check] at hc
    simp only [M.get]
    by_cases ha : s.active d = true
    · have : (evPrims c fuel b d s.stack).getActive s = true := ha
      simp only [this, ha, if_true]
      exact refusePart_model c fuel b d s.stack s
    · have ha' : s.active d = false := by simpa using ha
      have : (evPrims c fuel b d s.stack).getActive s = false := ha'
      simp only [this, ha', Bool.false_eq_true, if_false]
      have hfin := finally_model c fuel b d s.stack (bodyPart (evPrims c fuel b d s.stack) n et data)
        { s with active := upd s.active d true }
      show toRes ((M.bind (M.tryFinally (bodyPart (evPrims c fuel b d s.stack) n et data)
          (M.bind ((evPrims c fuel b d s.stack).setActive false) fun _ => M.pure ())) fun (_ : Unit) => M.pure ())
          { s with active := upd s.active d true }) = _
      rw [hfin, bodyPart_model c fuel b d s.stack n et data _ hn hne]

/-- the program generated from the current source of `Event.send` IS the reference program -/
theorem translated_send_is_reference {σ ε δ φ ψ : Type} : @send σ ε δ φ ψ = @sendRef σ ε δ φ ψ := rfl

/-- … and its filter loop: each iteration IS the hand-written step, the empty list ends the loop -/
theorem translated_filter_loop_is_reference {σ ε δ φ ψ : Type} (Q : SendPrims σ ε δ φ ψ) (f : φ)
    (fs : List φ) (data : δ) :
    send_for1 Q (f :: fs) data = filterStepRef Q (send_for1 Q fs) f data ∧
    send_for1 Q [] data = M.pure data :=
  filter_loop_unfold Q f fs data

/-- `Event.send` as translated, run on the model: the circuit check, `data['source'] = source.name`, the filters,
    then the delivery and `return True` -/
theorem send_run (dlv : Dlv) (src : Nat) (s : St) (e : Edge) (data : Data) :
    send (sendPrims dlv src e) data e.filters s =
      match applyFilters e.filters (data.set "source" (.str (blockName src))) with
      | Option.none => (s, .ret false)
      | some d' => Gen.TrD.andThen (fun _ => M.ret true) (liftUnit (dlv s e.dest e.etype d')) := by
  rw [translated_send_is_reference]
  unfold sendRef
  have h1 : (sendPrims dlv src e).sameCircuit = true := rfl
  have h2 : (sendPrims dlv src e).setSource data = data.set "source" (.str (blockName src)) := rfl
  simp only [h1, h2, Bool.not_true, Bool.false_eq_true, if_false, bind_run, filter_loop_is_model]
  cases applyFilters e.filters (data.set "source" (.str (blockName src))) <;> rfl

/-- **One step of the model's `sendEdges` IS `Event.send` as translated from the current source**: the
    circuit check, `data['source'] = source.name` BEFORE the filters, the filter loop (a mapping replaces
    the data, a false value ends the delivery with `return False`, anything else keeps the data), then
    `dest.event(etype, **data)`; an exception of the delivery propagates, otherwise the next event of
    the sender follows. -/
theorem translated_send_is_model (dlv : Dlv) (src : Nat) (s : St) (e : Edge) (es : List Edge) (data : Data) :
    sendEdges dlv src s (e :: es) data =
      andThen (toResS (send (sendPrims dlv src e) data e.filters s))
        (fun s1 => sendEdges dlv src s1 es data) := by
  rw [sendEdges, send_run]
  cases applyFilters e.filters (data.set "source" (.str (blockName src))) with
  | none => rfl
  | some d' =>
    dsimp only
    generalize dlv s e.dest e.etype d' = p
    obtain ⟨s', r⟩ := p
    cases r <;> rfl

/-- `send()` returns False exactly when a filter rejects the event (and then nothing was delivered) -/
theorem translated_send_returns_false_iff_rejected (dlv : Dlv) (src : Nat) (s : St) (e : Edge) (data : Data) :
    (send (sendPrims dlv src e) data e.filters s).2 = .ret false ↔
      applyFilters e.filters (data.set "source" (.str (blockName src))) = Option.none := by
  rw [send_run]
  cases applyFilters e.filters (data.set "source" (.str (blockName src))) with
  | none => simp
  | some d' =>
    dsimp only
    generalize dlv s e.dest e.etype d' = p
    obtain ⟨s', r⟩ := p
    cases r <;> simp [liftUnit, Gen.TrD.andThen, M.ret]

/-- the `while isinstance(etype, EventCond)` loop as translated IS the model's `EType.resolve`: `etrue`
    for a true `data.get('value')`, `efalse` otherwise, `None` ends the delivery with `return None` -/
theorem translated_eventcond_loop_is_resolve (c : Circ) (fuel : Nat) (b : Blk) (d : Nat)
    (stk0 : List Frame) (data : Data) (n : Nat) (et : EType) (s : St) (hn : EType.depth et < n)
    (het : et ≠ .none) :
    event_loop1 (evPrims c fuel b d stk0) data n et s =
      (s, match optOf (et.resolve (dataTruthy data)) with
          | Option.none => .ret Val.none
          | some e => .next e) :=
  loop_is_resolve c fuel b d stk0 data n et s hn het

/-! #### `Repeat._event` (translated for C18 by tools/py2lean_repeat.py into `Gen.TrR.repeatEventActs`) -/

/-- **The dispatch model's `repeatEvent` IS `Repeat._event` as translated from the current source**: the
    action list generated from the method (type test, `orig_source`, `set_output(0)`, the forward with
    `repeat=0`, and the queuing AFTER it), run with the dispatch meaning of the actions (`runRepActs`:
    `set_output` and the forward are the model's `setOutput` / `sendEdges`, i.e. they run inside the handler
    frame with the guard set), computes exactly `repeatEvent` – for every delivery function, block, state,
    event type and data.  An edit of the method (queue before forwarding, no forward, another order) changes
    the generated list and breaks this theorem. -/
theorem translated_repeat_event_is_dispatch_model (dlv : Dlv) (b : Blk) (d : Nat) (s : St) (et : EType)
    (data : Data) :
    runRepActs dlv b d s data (Gen.TrR.repeatEventActs (et != b.retype)) = repeatEvent dlv b d s et data := by
  unfold repeatEvent Gen.TrR.repeatEventActs
  by_cases h : (et != b.retype) = true
  · simp [h, runRepActs]
  · simp only [h, Bool.false_eq_true, if_false, runRepActs, withOrigSource]
    rfl

/-- the repetition of the main task as translated (`Gen.TrR.maintaskIter`, timeout with an empty queue):
    `repeat + 1`, `set_output(repeat)` then the send – the two actions `resendBody` performs, in this order,
    and repeating goes on exactly while `repeatGoesOn` -/
theorem translated_repeat_maintask_resend_is_dispatch_model (b : Blk) (rep : Nat) :
    Gen.TrR.maintaskIter b.rcount true rep (.timeout true) =
      some ⟨false, rep + 1, [.setOutput (rep + 1), .send (rep + 1)], repeatGoesOn b (rep + 1), false⟩ := by
  cases h : b.rcount <;> simp [Gen.TrR.maintaskIter, repeatGoesOn, h]

/-! non-vacuity: concrete deliveries evaluated through BOTH the translated program and the model -/

/-- a recursive event (the block of `exLoop` is busy): refused, `abort` called, by both -/
example :
    let s : St := { exReady with active := fun _ => true }
    let b : Blk := { scriptA := [.send 0 Option.none], extra := [⟨0, .name "a", []⟩] }
    (toRes (event (evPrims exLoop 3 b 0 s.stack) 1 (.name "a") [] s)).2 = .exc .circuitError
    ∧ (toRes (event (evPrims exLoop 3 b 0 s.stack) 1 (.name "a") [] s)).1.error = some .circuitError
    ∧ (deliver exLoop 4 s 0 (.name "a") []).2 = .exc .circuitError
    ∧ (deliver exLoop 4 s 0 (.name "a") []).1.error = some .circuitError := by decide +kernel

/-- an error inside a handler (the self-loop of `exLoop`, refused one level down): the exception leaves
    the handler, `abort`, re-raised, the guard released -- by both -/
example :
    let b : Blk := { scriptA := [.send 0 Option.none], extra := [⟨0, .name "a", []⟩] }
    (toRes (event (evPrims exLoop 3 b 0 exReady.stack) 1 (.name "a") [] exReady)).2 = .exc .circuitError
    ∧ (toRes (event (evPrims exLoop 3 b 0 exReady.stack) 1 (.name "a") [] exReady)).1.active 0 = false
    ∧ (toRes (event (evPrims exLoop 3 b 0 exReady.stack) 1 (.name "a") [] exReady)).1.error = some .circuitError
    ∧ (deliver exLoop 4 exReady 0 (.name "a") []).2 = .exc .circuitError
    ∧ (deliver exLoop 4 exReady 0 (.name "a") []).1.active 0 = false := by decide +kernel

/-- a filter rejection: `send()` returns False, nothing is delivered, the state is untouched -/
example :
    let e : Edge := ⟨0, .name "a", [.accept, .reject]⟩
    (match (send (sendPrims (deliver exLoop 3) 0 e) [] e.filters exReady).2 with
      | .ret false => true | _ => false) = true
    ∧ (send (sendPrims (deliver exLoop 3) 0 e) [] e.filters exReady).1.trace.length = 0
    ∧ (sendEdges (deliver exLoop 3) 0 exReady [e] []).2 = .ret Val.none := by decide +kernel

/-- a conditional event resolving to None through the translated loop -/
example : (toRes (event (evPrims exLoop 3 { } 0 []) 3 (.cond (.cond .none (.name "a")) .none)
    [("value", .bool true)] exReady)).2 = .ret Val.none := by decide +kernel

/-! ### tie by translation: the table of event handlers (`SBlock.__init_subclass__`)

`event()` looks a handler up in `type(self)._ct_handlers` (the primitive `lookup` of `EventPrims`).  That
table is built once per class by `SBlock.__init_subclass__`, translated by tools/py2lean_handlers.py into
EdzedModel/Gen/TranslatedHandlers.lean together with the class hierarchies (MRO, flags, names of every class
body) of the library classes.  The model of the construction is EdzedModel/Handlers.lean. -/

section handlers
open Edzed.Handlers Edzed.Gen.TrH

/-- **The class creation as translated IS the model's `buildHandlers`**: for every MRO (and whatever the
    table held before) the translated `__init_subclass__` either raises TypeError – exactly when an add-on
    follows SBlock in the MRO – or leaves exactly the model's `handlerTable` -/
theorem translated_handlers_init_subclass_is_model (mro : List ClassD) (t0 : Table) :
    toBuild (initSubclass hPrims mro t0) = buildHandlers mro := by
  unfold initSubclass buildHandlers
  have h := for1_is_model mro false []
  simp only [orderOkFrom, Bool.false_eq_true, if_false] at h
  have hsup : hPrims.superInitSubclass t0 = (t0, .next ()) := rfl
  have hres : ∀ t : Table, hPrims.tableReset t = (([] : Table), Out.next ()) := fun _ => rfl
  simp only [M.bind, hsup, hres]
  cases ho : orderOk mro with
  | true =>
    rw [h.1 ho]
    simp [toBuild, M.pure, handlerTable]
  | false =>
    have := h.2 ho
    generalize initSubclass_for1 hPrims mro false [] = p at this
    obtain ⟨t, o⟩ := p
    simp only [] at this
    subst this
    simp [toBuild]

/-- the table maps an event type to the FIRST `_event_<etype>` in MRO order among SBlock, its subclasses
    and the add-ons: a handler defined in a subclass or in an add-on overrides the inherited one, a name
    without the prefix is no handler -/
theorem translated_handlers_first_definition_in_mro_wins (mro : List ClassD) (e : String) :
    (handlerTable mro).lookup e = firstInMro mro e := by
  have := lookup_fold mro [] e
  simpa [handlerTable, Table.lookup] using this

/-- an add-on that follows SBlock in the MRO makes the class creation fail -/
theorem translated_handlers_addon_after_sblock_is_refused (pre post : List ClassD) (sb a : ClassD)
    (hsb : sb.isSBlock = true) (hpre : ∀ c ∈ pre, c.isSBlock = false) (ha : a ∈ post) (haa : a.addon = true) :
    buildHandlers (pre ++ sb :: post) = .error "TypeError" := by
  unfold buildHandlers
  rw [orderOk_split pre post sb hsb hpre]
  have : post.all (fun x => !x.addon) = false := by
    rw [Bool.eq_false_iff]
    intro h
    have := List.all_eq_true.1 h a ha
    simp [haa] at this
  simp [this]

/-- … and with the add-ons in front the class is created -/
theorem translated_handlers_addons_first_is_accepted (pre post : List ClassD) (sb : ClassD)
    (hsb : sb.isSBlock = true) (hpre : ∀ c ∈ pre, c.isSBlock = false) (hpost : ∀ c ∈ post, c.addon = false) :
    buildHandlers (pre ++ sb :: post) = .ok (handlerTable (pre ++ sb :: post)) := by
  unfold buildHandlers
  rw [orderOk_split pre post sb hsb hpre]
  have : post.all (fun x => !x.addon) = true := by
    rw [List.all_eq_true]; intro x hx; simp [hpost x hx]
  simp [this]

/-- the model's construction, run on the REAL class hierarchies (generated from the live classes), gives
    the very keys Python has in `_ct_handlers`, in the same order -/
theorem translated_handlers_library_tables :
    (handlerTable mroInput).map (·.1) = keysInput ∧ (handlerTable mroCounter).map (·.1) = keysCounter
    ∧ (handlerTable mroOutputFunc).map (·.1) = keysOutputFunc
    ∧ (handlerTable mroOutputAsync).map (·.1) = keysOutputAsync
    ∧ (handlerTable mroControlBlock).map (·.1) = keysControlBlock
    ∧ (handlerTable mroRepeat).map (·.1) = keysRepeat ∧ (handlerTable mroTimerBlk).map (·.1) = keysTimerBlk
    ∧ (handlerTable mroTimeDate).map (·.1) = keysTimeDate ∧ (handlerTable mroTimeSpan).map (·.1) = keysTimeSpan
    ∧ orderOk mroInput = true ∧ orderOk mroCounter = true ∧ orderOk mroOutputFunc = true
    ∧ orderOk mroOutputAsync = true ∧ orderOk mroTimerBlk = true := by
  obtain ⟨⟨hI, hC, hF, hA, hB, hR, hT, hD, hS⟩, _⟩ := handlerTable_library
  -- the order check looks at flags only
  exact ⟨hI, hC, hF, hA, hB, hR, hT, hD, hS, by decide +kernel⟩

/-- which method handles `put`: the class's own -/
theorem translated_handlers_put_is_own_method :
    (handlerTable mroInput).lookup "put" = some "Input._event_put"
    ∧ (handlerTable mroCounter).lookup "put" = some "Counter._event_put"
    ∧ (handlerTable mroOutputFunc).lookup "put" = some "OutputFunc._event_put" :=
  handlerTable_library.2

/-- the hierarchy a kind of block of the dispatch model stands for -/
def mroOfKind : Dispatch.BKind → Option (List ClassD)
  | .input => some mroInput
  | .counter => some mroCounter
  | .outfunc => some mroOutputFunc
  | _ => Option.none

/-- **The table the translated `event()` consults IS the table built by the translated
    `__init_subclass__`**: for Input, Counter and OutputFunc an event type has a handler in the dispatch
    model (`lookup` of `evPrims` = `lookupHandler`, tables generated by tools/extract.py from
    `_ct_handlers`) iff the table built from the class hierarchy has one -/
theorem translated_handlers_event_consults_built_table (k : Dispatch.BKind) (mro : List ClassD)
    (hk : mroOfKind k = some mro) (e : String) :
    (Dispatch.lookupHandler k (.name e)).isSome = ((handlerTable mro).lookup e).isSome := by
  obtain ⟨⟨hI, hC, hF, _⟩, _⟩ := handlerTable_library
  -- the tables of the dispatch model (tools/extract.py) have the same keys, for Counter in another order
  have perm : ∀ l1 l2 : List String, l1.Perm l2 → ∀ e, l1.contains e = l2.contains e :=
    fun l1 l2 h e => by rw [Bool.eq_iff_iff, List.contains_iff_mem, List.contains_iff_mem]; exact h.mem_iff
  cases k with
  | input =>
    simp only [mroOfKind, Option.some.injEq] at hk; subst hk
    simp only [Dispatch.lookupHandler, Dispatch.handlersOf, contains_keys, find_isSome_contains, hI]
    exact perm _ _ (by decide +kernel) e
  | counter =>
    simp only [mroOfKind, Option.some.injEq] at hk; subst hk
    simp only [Dispatch.lookupHandler, Dispatch.handlersOf, contains_keys, find_isSome_contains, hC]
    exact perm _ _ (by decide +kernel) e
  | outfunc =>
    simp only [mroOfKind, Option.some.injEq] at hk; subst hk
    simp only [Dispatch.lookupHandler, Dispatch.handlersOf, contains_keys, find_isSome_contains, hF]
    exact perm _ _ (by decide +kernel) e
  | probe => simp [mroOfKind] at hk
  | fsm => simp [mroOfKind] at hk
  | «repeat» => simp [mroOfKind] at hk

/-- non-vacuity: `Sub(AddonX, Input)` – the subclass overrides `_event_put`, the add-on contributes
    `_event_x`, `helper` is no handler; the same classes with the add-on after the SBlock side are refused -/
example :
    let sub : ClassD := ⟨"Sub", false, true, false, ["helper", "_event_put"]⟩
    let addon : ClassD := ⟨"AddonX", false, false, true, ["_event_x", "_event_put"]⟩
    let input : ClassD := ⟨"Input", false, true, false, ["_event_put"]⟩
    let sblock : ClassD := ⟨"SBlock", true, true, false, ["event", "_event"]⟩
    let block : ClassD := ⟨"Block", false, false, false, ["_event_ignored"]⟩
    (toBuild (initSubclass hPrims [sub, addon, input, sblock, block] [("stale", "x")])).toOption
      = some [("put", "Sub._event_put"), ("x", "AddonX._event_x")]
    ∧ errOf (buildHandlers [sub, input, sblock, addon, block]) = some "TypeError"
    ∧ errOf (toBuild (initSubclass hPrims [sub, input, sblock, addon, block] [])) = some "TypeError" := by
  decide +kernel

end handlers

end Edzed.TrTie
