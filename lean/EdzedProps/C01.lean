/-
C01 — combinational outputs agree with their inputs whenever the circuit is idle.

Model: EdzedModel/Simulate.lean (Circuit._simulate, eval_block, set_output's queueing, the
library CBlocks).  The theorems hold for every circuit of library blocks, every initial SBlock state,
every sequence of external events / evaluation choices / pauses — any number of SBlock changes per
burst, any evaluation order the simulator may pick, with CBlock→SBlock event feedback.  Their
statements assume `Circuit.ok` (ordered Compare thresholds, no block among its own inputs); the proofs
use the thresholds only and go through `Burst.step_inv` / `Burst.run_inv` / `Burst.pause_consistent`, which
allow self-loops.  The predicates of the statements that are not the model's (`Inv`, `Circuit.ok`, `CBlk.ok`)
are defined in EdzedProofs/Simulate.lean.
-/
import EdzedModel.Simulate
import EdzedProofs.Simulate
import EdzedModel.Gen.Translated
import EdzedProofs.SimTie
import EdzedProofs.CBlocksTie

namespace Edzed.Sim

/-- when `_simulate` starts (all CBlocks in the eval set) the invariant holds -/
theorem first_pass (c : Circuit) (outS : Nat → Val) : Inv Val.pyEq c.net (start c outS) :=
  Burst.start_inv c outS

/-- every operation preserves "each block that disagrees with its inputs is
    pending (in the eval set or downstream of a queued SBlock)" -/
theorem inv_preserved (c : Circuit) (hok : c.ok) (s : St Val) (h : Inv Val.pyEq c.net s) (op : Op) :
    Inv Val.pyEq c.net (step c s op) :=
  Burst.step_inv c (Burst.okW_of_ok c hok) s h op

/-- whenever the simulator pauses — after the first pass following
    initialisation and after every burst — every combinational block's output equals (Python `==`)
    its function applied to the current outputs of its inputs -/
theorem idle_consistent (c : Circuit) (hok : c.ok) (outS : Nat → Val) (ops : List Op)
    (s' : St Val) (hidle : idleOp c (run c (start c outS) ops) = some s')
    (b : Nat) (hb : b < c.cblocks.length) :
    (s'.outC b).pyEq (calcBlk (c.blk b) (s'.outC b) s'.outC s'.outS) = true :=
  Burst.pause_consistent c _ s' (Burst.run_inv c (Burst.okW_of_ok c hok) _ (first_pass c outS) ops) hidle b hb

/-- the hypothesis of the scheduling argument holds for every library
    block; for Compare it needs `low ≤ high`, which is exactly the constructor's check -/
theorem library_idempotent (b : CBlk) (hok : b.ok = true) (own : Val) (o e : Nat → Val) :
    calcBlk b (calcBlk b own o e) o e = calcBlk b own o e := calcBlk_idem b hok own o e

theorem not_spec (b : CBlk) (h : b.fn = .not) (src : Src) (hp : b.pos = [src]) (own : Val) (o e : Nat → Val) :
    calcBlk b own o e = Val.bool (!(src.val o e).truthy) := by
  unfold calcBlk; simp [h, hp]

theorem and_spec (b : CBlk) (h : b.fn = .and) (own : Val) (o e : Nat → Val) :
    calcBlk b own o e = Val.bool (b.pos.all fun s => (s.val o e).truthy) := by
  unfold calcBlk; simp [h, List.all_map]; rfl

theorem or_spec (b : CBlk) (h : b.fn = .or) (own : Val) (o e : Nat → Val) :
    calcBlk b own o e = Val.bool (b.pos.any fun s => (s.val o e).truthy) := by
  unfold calcBlk; simp [h, List.any_map]; rfl

theorem xor_spec (b : CBlk) (h : b.fn = .xor) (own : Val) (o e : Nat → Val) :
    calcBlk b own o e = Val.bool (((b.pos.filter fun s => (s.val o e).truthy).length) % 2 == 1) := by
  unfold calcBlk; simp [h, countTruthy, List.filter_map]; rfl

theorem override_spec (b : CBlk) (null : Val) (h : b.fn = .override null) (own : Val) (o e : Nat → Val) :
    calcBlk b own o e =
      if (lookupNamed o e b.named "override").pyEq null then lookupNamed o e b.named "input"
      else lookupNamed o e b.named "override" := by
  unfold calcBlk; simp [h]

/-- Compare: hysteresis between `low` and `high` -/
theorem compare_spec (b : CBlk) (low high : Rat) (h : b.fn = .compare low high) (hlh : low ≤ high)
    (src : Src) (hp : b.pos = [src]) (own : Val) (o e : Nat → Val) :
    let x := numOf (src.val o e)
    (high ≤ x → calcBlk b own o e = Val.bool true) ∧
    (x < low → calcBlk b own o e = Val.bool false) ∧
    (own.isUndef = false → low ≤ x → x < high → calcBlk b own o e = Val.bool own.truthy) ∧
    (own.isUndef = true → calcBlk b own o e = Val.bool (decide ((low + high) / 2 ≤ x))) := by
  intro x
  rw [calcBlk_compare b low high h, hp]
  obtain ⟨h1, h2, h3, h4⟩ := compare_hysteresis hlh own x
  exact ⟨fun hx => congrArg Val.bool (h1 hx), fun hx => congrArg Val.bool (h2 hx),
    fun hu hl hh => congrArg Val.bool (h3 hu hl hh), fun hu => congrArg Val.bool (h4 hu)⟩

/-- non-vacuity: a concrete circuit (x = s0 xor s1, y = not x) satisfies `Circuit.ok` -/
example : ∃ c : Circuit, c.ok ∧ c.cblocks.length = 2 :=
  ⟨{ cblocks := [{ fn := .xor, pos := [.s 0, .s 1] }, { fn := .not, pos := [.c 0] }],
     skinds := [.input, .input], nblocks := 4 },
   by
     intro b hb
     have : b = 0 ∨ b = 1 := by simp at hb; omega
     rcases this with rfl | rfl <;> exact ⟨rfl, by decide⟩,
   rfl⟩

end Edzed.Sim

/-! ### tie to the source by translation

tools/py2lean.py regenerates `Gen.Tr.compareCalc`, `overrideCalc`, `notCalc` from the `calc_output` methods of
`Compare`, `Override`, `Not`, and `andFunc`, `orFunc`, `xorFunc` from the functions of `And`, `Or`, `Xor`, on
every run. -/
namespace Edzed.TrTie

theorem translated_compare_is_model (low high : Rat) (own v : Val) (outC outS : Nat → Val) :
    Sim.calcBlk { fn := .compare low high, pos := [.k v] } own outC outS
      = Val.bool (Gen.Tr.compareCalc low high own (Sim.numOf v)) := by
  rw [CBlocksTie.compareCalc_eq]
  rfl

theorem translated_override_is_model (null inp ov : Val) (outC outS : Nat → Val) :
    Sim.calcBlk { fn := .override null, named := [("input", .k inp), ("override", .k ov)] } .undef outC outS
      = Gen.Tr.overrideCalc null inp ov := by
  simp [Sim.calcBlk, Sim.lookupNamed, Sim.Src.val, Gen.Tr.overrideCalc]

theorem translated_xor_is_model (pos : List Sim.Src) (own : Val) (outC outS : Nat → Val) :
    Sim.calcBlk { fn := .xor, pos := pos } own outC outS
      = Val.bool (Gen.Tr.xorFunc (pos.map (Sim.Src.val outC outS))) := by
  simp only [Sim.calcBlk, Gen.Tr.xorFunc, Sim.countTruthy]
  congr 1
  generalize (List.filter Val.truthy (List.map (Sim.Src.val outC outS) pos)).length = n
  rcases Nat.mod_two_eq_zero_or_one n with h | h <;> simp [h]

theorem translated_not_is_model (x : Sim.Src) (own : Val) (outC outS : Nat → Val) :
    Sim.calcBlk { fn := .not, pos := [x] } own outC outS = Val.bool (Gen.Tr.notCalc (x.val outC outS)) := by
  simp [Sim.calcBlk, Gen.Tr.notCalc]

theorem translated_and_is_model (pos : List Sim.Src) (own : Val) (outC outS : Nat → Val) :
    Sim.calcBlk { fn := .and, pos := pos } own outC outS
      = Val.bool (Gen.Tr.andFunc (pos.map (Sim.Src.val outC outS))) := rfl

theorem translated_or_is_model (pos : List Sim.Src) (own : Val) (outC outS : Nat → Val) :
    Sim.calcBlk { fn := .or, pos := pos } own outC outS
      = Val.bool (Gen.Tr.orFunc (pos.map (Sim.Src.val outC outS))) := rfl

/-! ### the simulator loop that C01's operations `start`, `eval b`, `idle` stand for

`Gen.TrL.simInit` / `simStep` are regenerated from the current AST of `Circuit._simulate`
(tools/py2lean_sim.py); `SimTie.simPrims` instantiates their primitives with the model (details in
EdzedProps/C10.lean, EdzedProofs/SimTie.lean). -/

open Edzed.SimTie Edzed.Gen.TrL in
/-- the first pass starts from what the CODE computes before its loop: every CBlock is in the eval set
    (so `first_pass`'s invariant holds initially), the counter is 0 -/
theorem translated_first_pass_is_start (c : Sim.Circuit) (en : (Nat → Bool) → List Nat) (outS : Nat → Val) :
    toSt (simInit (simPrims c en)).2.1 (simInit (simPrims c en)).2.2 ⟨fun _ => .undef, outS, []⟩
      = Sim.start c outS := by
  rw [simInit_eq]; rfl

open Edzed.SimTie Edzed.Gen.TrL in
/-- one pass through the body of the code's `while True:` (not at the pause) leaves the locals and the
    world exactly as C01's operation `eval b` does, for a block `b` of the eval set: the queue is drained
    BEFORE the evaluation, the block is taken out, its `oconnections` enter only when its output changed;
    the pass never suspends -/
theorem translated_iteration_is_eval_op (c : Sim.Circuit) (en : (Nat → Bool) → List Nat) (hen : Enumerates c en)
    (s : Sim.St Val) (h : pauseCond c s = false) :
    ∃ b, match simStep (simPrims c en) c.limit s.E s.cnt (worldOf s) with
      | .next (E', cnt') w' => toSt E' cnt' w' = Sim.step c s (.eval b)
      | .raise _ (E', _) w' => toSt E' s.cnt w' = Sim.step c s (.eval b)
      | .await _ => False := by
  obtain ⟨b, _, heq⟩ := simStep_j1_eq c en hen s
  refine ⟨b, ?_⟩
  rw [simStep_nopause c en s h, heq]
  rcases Burst.evalOp_cases c s b with hr | ⟨hr, _⟩ | ⟨_, hr, _⟩ <;> rw [Sim.step, hr] <;> rfl

open Edzed.SimTie in
/-- C01's operation `idle` succeeds exactly where the code's loop reaches its pause condition
    `not eval_set and queue.empty()` (after at most one `continue`) -/
theorem translated_pause_is_idle (c : Sim.Circuit) (s s' : Sim.St Val) (h : Sim.idleOp c s = some s') :
    pauseCond c (Sim.drain c.net s) = true ∧ s' = { Sim.drain c.net s with cnt := 0 } :=
  idle_pause c s s' h

/-! ### constructors and argument passing of the library CBlocks (edzed/blocklib/cblocks.py)

`Gen.TrC.*` (EdzedModel/Gen/TranslatedCBlocks.lean) is regenerated by tools/py2lean_cblocks.py from the
current source: the constructors as lists of actions in program order, `FuncBlock.calc_output` as the
call its function receives, the `start()` methods as their signature demands.  Model:
EdzedModel/CBlocks.lean; lemmas: EdzedProofs/CBlocksTie.lean. -/

section CBlocks
open Edzed.Sim Edzed.CBlocks Edzed.CBlocksTie Edzed.Gen.TrC

/-- `FuncBlock.calc_output`: for every set of connected inputs (`self.inputs` = the dict keys,
    `self._in[name]` = a value for a single input, a tuple for a group) and both `unpack` modes the
    function receives exactly the model's documented call -/
theorem translated_funcblock_calc_is_model (b : CBlk) (h : KeysOk b) (unpack : Bool) (outC outS : Nat → Val) :
    funcBlockCalc unpack (inputKeys b) (lookupArg (entries b outC outS))
      = some (funcCall b unpack outC outS) :=
  funcBlockCalc_eq b h unpack outC outS

/-- … hence the output of a FuncBlock in the simulator model (`Sim.calcBlk`) IS its function applied to the
    call the translated code makes -/
theorem translated_funcblock_output_is_function_of_call (b : CBlk) (f : Script) (u : Bool)
    (hfn : b.fn = .func f u) (h : KeysOk b) (own : Val) (outC outS : Nat → Val) :
    ∃ c, funcBlockCalc u (inputKeys b) (lookupArg (entries b outC outS)) = some c ∧
         calcBlk b own outC outS = Script.apply f u c :=
  ⟨_, funcBlockCalc_eq b h u outC outS, calcBlk_func b f u hfn h own outC outS⟩

/-- the documented shape of that call: unnamed inputs are separate positional values when `unpack` is
    true and ONE tuple when it is false; a named single input is a keyword VALUE, a named group a keyword
    TUPLE; nothing else is passed -/
theorem translated_funcblock_documented_arguments (b : CBlk) (h : KeysOk b) (outC outS : Nat → Val) :
    funcBlockCalc true (inputKeys b) (lookupArg (entries b outC outS))
      = some ⟨(b.pos.map (Src.val outC outS)).map Arg.one,
              b.named.map (fun p => (p.1, Arg.one (p.2.val outC outS)))
              ++ b.groups.map (fun g => (g.1, Arg.many (g.2.map (Src.val outC outS))))⟩ ∧
    funcBlockCalc false (inputKeys b) (lookupArg (entries b outC outS))
      = some ⟨[Arg.many (b.pos.map (Src.val outC outS))],
              b.named.map (fun p => (p.1, Arg.one (p.2.val outC outS)))
              ++ b.groups.map (fun g => (g.1, Arg.many (g.2.map (Src.val outC outS))))⟩ :=
  ⟨funcBlockCalc_eq b h true outC outS, funcBlockCalc_eq b h false outC outS⟩

/-- `FuncBlock.__init__` stores the function and the flag BEFORE the base class constructor runs, and
    `unpack` defaults to `True` (the model's `mkFunc`) -/
theorem translated_funcblock_init_is_model (f : Script) (unpack : Option Bool) :
    runCtor (funcBlockInit unpack) = .ok ([("_func", .func), ("_unpack", .bool (unpack.getD true))], true) ∧
    mkFunc f unpack = .func f (unpack.getD true) :=
  ⟨rfl, rfl⟩

theorem translated_funcblock_unpack_defaults_to_true :
    runCtor (funcBlockInit none) = .ok ([("_func", .func), ("_unpack", .bool true)], true) := rfl

/-- `And`, `Or`, `Xor` are FuncBlocks that pass `unpack=False`: their function (translated separately:
    `andFunc`, `orFunc`, `xorFunc`) receives ONE tuple of all unnamed inputs – which is how `Sim.calcBlk`
    computes them -/
theorem translated_logic_blocks_pass_one_tuple (b : CBlk) (h : KeysOk b) (outC outS : Nat → Val) :
    runCtor andInit = .ok ([("_func", .func), ("_unpack", .bool false)], true) ∧
    runCtor orInit = .ok ([("_func", .func), ("_unpack", .bool false)], true) ∧
    runCtor xorInit = .ok ([("_func", .func), ("_unpack", .bool false)], true) ∧
    (funcBlockCalc false (inputKeys b) (lookupArg (entries b outC outS))).map (·.pos)
      = some [Arg.many (b.pos.map (Src.val outC outS))] ∧
    calcBlk { b with fn := .and } .undef outC outS = Val.bool (Gen.Tr.andFunc (b.pos.map (Src.val outC outS))) ∧
    calcBlk { b with fn := .or } .undef outC outS = Val.bool (Gen.Tr.orFunc (b.pos.map (Src.val outC outS))) := by
  refine ⟨rfl, rfl, rfl, ?_, rfl, rfl⟩
  rw [funcBlockCalc_eq b h false outC outS]
  rfl

/-- `Compare.__init__` IS the model's `mkCompare`: `high < low` is tested FIRST and refused with ValueError
    (nothing is stored, the base class constructor does not run); otherwise both thresholds are stored -/
theorem translated_compare_init_is_model (low high : Rat) :
    (runCtor (compareInit low high)).map (fun _ => Fn.compare low high)
      = (mkCompare low high).mapError (fun _ => "ValueError") := by
  rw [runCtor_compareInit]
  unfold mkCompare
  by_cases h : high < low <;> simp [h, Except.map, Except.mapError]

theorem translated_compare_refuses_high_below_low (low high : Rat) (h : high < low) :
    compareInit low high = [Prim.raise "ValueError"] := by
  simp [compareInit, h]

/-- a Compare that was constructed has `low ≤ high` – the hypothesis of C01's `library_idempotent` /
    `compare_spec` is discharged by the translated constructor guard -/
theorem translated_compare_constructed_is_ok (low high : Rat) (attrs : List (String × CVal) × Bool)
    (h : runCtor (compareInit low high) = .ok attrs) :
    attrs = ([("_low", .rat low), ("_high", .rat high)], true) ∧
    (CBlk.ok { fn := .compare low high } = true) := by
  rw [runCtor_compareInit] at h
  by_cases hlt : high < low
  · simp [hlt] at h
  · simp only [hlt, ↓reduceIte, Except.ok.injEq] at h
    refine ⟨h.symm, ?_⟩
    simp only [CBlk.ok, decide_eq_true_eq]
    exact Rat.not_lt.mp hlt

/-- THE HYSTERESIS LAW from the translated code alone: for every Compare whose translated constructor
    succeeded, the translated `calc_output` gives True at or above `high`, False below `low`, keeps its
    output in between, and compares with the mean on the first evaluation -/
theorem translated_compare_hysteresis (low high : Rat) (attrs : List (String × CVal) × Bool)
    (h : runCtor (compareInit low high) = .ok attrs) (own : Val) (x : Rat) :
    (high ≤ x → Gen.Tr.compareCalc low high own x = true) ∧
    (x < low → Gen.Tr.compareCalc low high own x = false) ∧
    (own.isUndef = false → low ≤ x → x < high → Gen.Tr.compareCalc low high own x = own.truthy) ∧
    (own.isUndef = true → Gen.Tr.compareCalc low high own x = decide ((low + high) / 2 ≤ x)) := by
  have hok := (translated_compare_constructed_is_ok low high attrs h).2
  simp only [CBlk.ok, decide_eq_true_eq] at hok
  exact compareCalc_hysteresis low high hok own x

/-- `Override.__init__`: `null_value` defaults to `None` (the model's `mkOverride`) -/
theorem translated_override_init_is_model (null : Option Val) :
    runCtor (overrideInit null) = .ok ([("_null", .val (null.getD Val.none))], true) ∧
    mkOverride null = .override (null.getD Val.none) :=
  ⟨rfl, rfl⟩

/-- `start()` of Not / Compare / Override: the base class first, then exactly the inputs `Sim.calcBlk`
    reads are demanded – one unnamed input, resp. the single inputs `input` and `override` -/
theorem translated_cblock_start_signatures :
    notStart = [.superStart, .checkSignature [("_", some 1)]] ∧
    compareStart = [.superStart, .checkSignature [("_", some 1)]] ∧
    overrideStart = [.superStart, .checkSignature [("input", none), ("override", none)]] :=
  ⟨rfl, rfl, rfl⟩

/-- `FuncBlock.start` IS the model's `funcStart`: a trial call with `inspect.signature(func).bind` in the
    slot of the function decides whether the function fits the connected inputs -/
theorem translated_funcblock_start_is_model (trial : Option String) :
    runStart .user false (funcBlockStart trial) = funcStart trial :=
  runStart_funcBlockStart trial

/-- … the trial call happens with `bind` in the slot, BEFORE the base class `start()`; whatever it raises,
    the user's function is back in the slot afterwards (`finally`), and the base class is started only when
    the function fits; a mismatch (TypeError) is reported as TypeError, anything else passes unchanged -/
theorem translated_funcblock_start_restores_function (trial : Option String) :
    (∃ rest, funcBlockStart trial = .saveFunc :: .setFunc .bind :: .calcOutput :: rest) ∧
    (runStart .user false (funcBlockStart trial)).1 = .user ∧
    ((runStart .user false (funcBlockStart trial)).2.1 = true ↔ trial = none) ∧
    (∀ e, trial = some e → (runStart .user false (funcBlockStart trial)).2.2 = .error e) := by
  rw [runStart_funcBlockStart]
  refine ⟨⟨_, rfl⟩, ?_, ?_, ?_⟩
  · cases trial <;> rfl
  · cases trial <;> simp [funcStart]
  · intro e he; subst he; rfl

/-- a FuncBlock `f(s0, c0, c=s1, g=(c0, s0))` -/
def exBlk : CBlk :=
  { fn := .func .glen true, pos := [.s 0, .c 0], named := [("c", .s 1)], groups := [("g", [.c 0, .s 0])] }

example : KeysOk exBlk := by unfold KeysOk; decide

example : funcBlockCalc true (inputKeys exBlk) (lookupArg (entries exBlk (fun _ => Val.bool true) (fun _ => Val.int 3)))
    = some ⟨[.one (Val.int 3), .one (Val.bool true)],
            [("c", .one (Val.int 3)), ("g", .many [Val.bool true, Val.int 3])]⟩ := by decide +kernel

example : funcBlockCalc false (inputKeys exBlk) (lookupArg (entries exBlk (fun _ => Val.bool true) (fun _ => Val.int 3)))
    = some ⟨[.many [Val.int 3, Val.bool true]],
            [("c", .one (Val.int 3)), ("g", .many [Val.bool true, Val.int 3])]⟩ := by decide +kernel

/-- the constructor guard has both outcomes -/
example : runCtor (compareInit 1 2) = .ok ([("_low", .rat 1), ("_high", .rat 2)], true)
    ∧ runCtor (compareInit 2 2) = .ok ([("_low", .rat 2), ("_high", .rat 2)], true)
    ∧ runCtor (compareInit 2 1) = .error "ValueError" := by
  refine ⟨?_, ?_, ?_⟩
  · rw [runCtor_compareInit, if_neg (by decide +kernel)]
  · rw [runCtor_compareInit, if_neg (by decide +kernel)]
  · rw [runCtor_compareInit, if_pos (by decide +kernel)]

end CBlocks

end Edzed.TrTie
