/-
C04 — a timed state yields its timed event exactly once, on time, unless left earlier.

Model: EdzedModel/FsmTimer.lean (mirrors `FSM._ctx_event`, `_start_timer`, `_set_timer`,
`_stop_timer`, `_timer_expired`, `get_state`, `stop` with the repairs of patches/C04-*.diff, and
the loop's `call_later` handles of the FSM).  The handles are a list and `_active_timer` an
optional id; `_set_timer` appends and `_stop_timer` cancels the active handle only, so every
statement about "the" timer below is a theorem.

All statements are for every configuration (table, durations, conditions, entry actions) and every
sequence of operations (initialisation, events placed before/after the timers of their instant,
clock advances, changes of the environment flag, stop, and the restoring of a saved state with a `calc_output()`
that works, raises or returns UNDEF) — `run c {} ops`, no bound on the length.
-/
import EdzedModel.FsmTimer
import EdzedProofs.FsmTimer
import EdzedProofs.FsmTie
import EdzedProofs.FsmTimerTie
import EdzedProofs.FsmRestoreTie
import EdzedProofs.TimerBlkTie
import EdzedModel.Gen.TranslatedFsmTimer
import EdzedModel.Gen.TranslatedFsm
import EdzedModel.Gen.TranslatedTimerBlk
import EdzedModel.Gen.Constants

namespace Edzed.FsmTimer

/-- In every reachable state all non-cancelled handles of the loop that belong to
    the FSM are exactly the active one: none pending and `_active_timer = None`, or exactly one
    pending handle and `_active_timer` is that handle -/
theorem one_timer (c : Cfg) (ops : List Op) :
    (live (run c {} ops) = [] ∧ (run c {} ops).active = none) ∨
    (∃ h, live (run c {} ops) = [h] ∧ (run c {} ops).active = some h.id) := by
  rcases (inv_reach c ops).timer with h | ⟨h, hl, ha, _⟩
  · exact .inl h
  · exact .inr ⟨h, hl, ha⟩

/-- the pending timer always belongs to the present: it was armed during the current visit of the
    current state, that state is a timed state, the handle carries that state's timed event, and
    (while the simulation has not been aborted) it is not overdue; a stopped FSM has none -/
theorem pending_timer_is_current (c : Cfg) (ops : List Op) (h : Handle)
    (hm : h ∈ live (run c {} ops)) :
    h.epoch = (run c {} ops).epoch ∧
    ((run c {} ops).failed = none → (run c {} ops).now ≤ h.when) ∧
    (run c {} ops).stopped = false ∧
    ∃ q dflt, (run c {} ops).state = some q ∧ c.tbl.timedOf q = some (h.ev, dflt) := by
  exact ((inv_reach c ops).of_mem hm).2.2

/-- No stale event, and on time: every timed event that was ever delivered came from a handle
    armed during the very visit in which it was delivered (a handle armed by an earlier visit never
    delivers), and it was delivered exactly at the handle's expiry time -/
theorem no_stale_event (c : Cfg) (ops : List Op) (t : Nat) (h : Handle) (ep : Nat)
    (hx : (t, h, ep) ∈ fires (run c {} ops).log) : h.epoch = ep ∧ t = h.when := by
  have := (inv_reach c ops).logOk _ hx
  exact ⟨this.1, this.2.1⟩

/-- No two deliveries of timed events happen in the same visit of a state -/
theorem fires_at_most_once_per_visit (c : Cfg) (ops : List Op) :
    ((fires (run c {} ops).log).map (fun x => x.2.2)).Nodup :=
  (inv_reach c ops).nodup

/-- Right after `stop()` nothing is pending, and whatever happens afterwards
    (events delivered during the clean-up, the clock running on) no timer is pending and no timed
    event is delivered any more -/
theorem stop_cancels (c : Cfg) (ops ops' : List Op) :
    live (run c {} (ops ++ [.stop] ++ ops')) = [] ∧
    fires (run c {} (ops ++ [.stop] ++ ops')).log = fires (run c {} ops).log := by
  have i := inv_reach c ops
  have hrun : run c {} (ops ++ [.stop] ++ ops') = run c (stop (run c {} ops)) ops' := by
    simp [run, List.foldl_append, step]
  rw [hrun]
  have is := inv_stop i
  have r := run_stopped c ops' _ is.1 rfl
  refine ⟨(idle_of_stopped (inv_run c ops' _ is.1) r.1).1, r.2.trans ?_⟩
  exact (stopTimer_spec i.timer).2.1

/-- In a reachable state with a pending timer `h` (armed when the timed
    state was entered, see `entering_arms_timer`), letting the clock pass `h.when` (up to `t`;
    `strict` = the stimulus placed at `t` comes before the timers of `t`) while the state is kept
    delivers the timed event of this visit at `h.when`; by `fires_at_most_once_per_visit` and
    `no_stale_event` it is the only delivery of this visit and it is on time -/
theorem fires_once_on_time (c : Cfg) (ops : List Op) (h : Handle) (t : Nat) (strict : Bool)
    (hf : (run c {} ops).failed = none) (hl : live (run c {} ops) = [h])
    (hd : isDue t strict h = true) :
    (h.when, h, (run c {} ops).epoch) ∈ fires (advance c (run c {} ops) t strict).log :=
  advance_fires (inv_reach c ops) hf h hl t strict hd

/-- An accepted event (the state is left or re-entered) cancels the pending
    timer: the old handle is not pending any more and whatever is pending afterwards was armed in a
    later visit -/
theorem leave_cancels (c : Cfg) (ops : List Op) (e : TEvent) (d : EvData) (h : Handle)
    (hf : (run c {} ops).failed = none) (hm : h ∈ live (run c {} ops))
    (hr : (deliver c (run c {} ops) e d).2 = .ret true) :
    h ∉ live (deliver c (run c {} ops) e d).1 ∧
    ∀ h' ∈ live (deliver c (run c {} ops) e d).1, h.epoch < h'.epoch :=
  deliver_accepted (inv_reach c ops) hf e d h hm hr

/-- When the timer
    expires and its timed event is rejected (no transition or a false condition), the FSM stays in
    the state, in the same visit, nothing is pending, `_active_timer` is None and `get_state()`
    reports no timer -/
theorem rejected_timed_event_leaves_no_timer (c : Cfg) (ops : List Op) (h : Handle) (q : String)
    (hf : (run c {} ops).failed = none) (hm : h ∈ live (run c {} ops))
    (hq : (run c {} ops).state = some q)
    (hr : (deliver c (popTimer (run c {} ops) h) h.ev {}).2 = .ret false) :
    (fire c (run c {} ops) h).state = some q ∧
    live (fire c (run c {} ops) h) = [] ∧ (fire c (run c {} ops) h).active = none ∧
    getState (fire c (run c {} ops) h) = some (q, none) := by
  have r := fire_rejected (inv_reach c ops) hf h hm hr
  exact ⟨r.2.1.trans hq, r.1.1, r.1.2, getState_idle r.1 q (r.2.1.trans hq)⟩

/-- Whenever `get_state()` reports a timer, that
    timer is the one pending handle of the loop (so it is never a timer that has already fired or
    was cancelled), and it is not in the past -/
theorem get_state_reports_the_pending_timer (c : Cfg) (ops : List Op) (q : String) (w : Nat)
    (h : getState (run c {} ops) = some (q, some w)) :
    ∃ hd, live (run c {} ops) = [hd] ∧ hd.when = w ∧
      ((run c {} ops).failed = none → (run c {} ops).now ≤ w) := by
  have i := inv_reach c ops
  obtain ⟨hd, hl, hw, _⟩ := getState_some i q w h
  refine ⟨hd, hl, hw, fun hf => ?_⟩
  have := (pending_timer_is_current c ops hd (by rw [hl]; simp)).2.1 hf
  omega

/-- The event's 'duration' item overrides the instance's `t_STATE`, which
    overrides the class default; negative numbers count as zero -/
theorem duration_precedence (c : Cfg) (q : String) (item inst : Dur) :
    (item ≠ .none → effDur c q item = clamp item) ∧
    (c.tDur.lookup q = some inst → inst ≠ .none → effDur c q .none = clamp inst) ∧
    ((c.tDur.lookup q = none ∨ c.tDur.lookup q = some .none) →
      effDur c q .none = clamp (match c.tbl.timedOf q with | some (_, d) => d | none => .none)) ∧
    (∀ n : Int, clamp (.us n) = .us (if n < 0 then 0 else n)) := by
  refine ⟨?_, ?_, ?_, fun _ => rfl⟩
  · intro h; cases item <;> simp_all [effDur]
  · intro h1 h2; cases inst <;> simp_all [effDur, Cfg.instDur]
  · intro h; rcases h with h | h <;> simp only [effDur, Cfg.instDur, h] <;> cases c.tbl.timedOf q <;> rfl

/-- What `_start_timer` does with the effective duration (see `duration_precedence`): no duration at all is an error,
    INF_TIME sets no timer, zero or negative generates the timed event immediately (chained
    transition), a positive duration arms one handle due exactly `d` later -/
theorem start_timer_by_effective_duration (c : Cfg) (s : St) (q : String) (tev : TEvent) (item : Dur) :
    (effDur c q item = .none → startTimer c s q tev item = s.fail .circuitError) ∧
    (effDur c q item = .bad → startTimer c s q tev item = s.fail .valueError) ∧
    (effDur c q item = .inf → startTimer c s q tev item = s) ∧
    (∀ n, effDur c q item = .us n → n ≤ 0 → startTimer c s q tev item = (eventRec c s tev {}).1) ∧
    (∀ n, effDur c q item = .us n → 0 < n → s.stopped = false → live s = [] →
      live (startTimer c s q tev item) =
        [{ id := s.nextId, when := s.now + n.toNat, ev := tev, epoch := s.epoch }]) := by
  refine ⟨?_, ?_, ?_, ?_, ?_⟩
  · intro h; simp [startTimer, h]
  · intro h; simp [startTimer, h]
  · intro h; simp [startTimer, h]
  · intro n h hn; simp [startTimer, h, hn]
  · intro n h hn hs hl
    have : ¬ n ≤ 0 := by omega
    simp only [startTimer, h, this, ↓reduceIte]
    exact live_setTimer s n.toNat tev hs hl

/-- One round of the transition loop that starts without pending timer
    (the exit part has cancelled it) ends without pending timer or with exactly one handle that
    belongs to the visit just begun, carries the timed event of the entered state and is due
    strictly later; the round never delivers a timed event -/
theorem entering_arms_timer (c : Cfg) (s : St) (d : EvData) (q : String)
    (hi : live s = [] ∧ s.active = none) :
    let s' := enterState c s d q
    s'.epoch = s.epoch + 1 ∧ fires s'.log = fires s.log ∧
    ((live s' = [] ∧ s'.active = none) ∨
     ∃ h, live s' = [h] ∧ s'.active = some h.id ∧ h.epoch = s'.epoch ∧ s'.now < h.when ∧
       ∃ q' dflt, s'.state = some q' ∧ c.tbl.timedOf q' = some (h.ev, dflt)) := by
  have es := enterState_ES c s d q hi
  refine ⟨es.epoch, es.fires, ?_⟩
  rcases es.timer with h | ⟨⟨h, hl, ha, he, hw, _, hq⟩, _⟩
  · exact .inl h
  · exact .inr ⟨h, hl, ha, he, hw, hq⟩

/-- For every configuration, every state the simulation can be in when it
    restores a block (not aborted, the block not initialised) and every saved state `(q, exp, sdata)`: when
    `calc_output()` raises or yields UNDEF for the restored state -- i.e. whenever it does not deliver an output --
    the block is still not initialised afterwards, `_active_timer` is None and no handle of the FSM is pending in
    the loop.  (`hcalc` holds by definition for the modes `raises` and `undef`, see the examples below.) -/
theorem restore_failure_leaves_no_timer (c : Cfg) (ops : List Op) (q : String) (exp : Option Nat)
    (sd : Option Val) (m : CalcMode)
    (hf : (run c {} ops).failed = none) (hu : (run c {} ops).out.isUndef = true)
    (hcalc : ∀ v, calcFor c (((run c {} ops).enter q).setInput sd) m = some v → v.isUndef = true) :
    (step c (run c {} ops) (.restore q exp sd m)).1 = (restore c (run c {} ops) q exp sd m).1 ∧
    (restore c (run c {} ops) q exp sd m).1.out.isUndef = true ∧
    (restore c (run c {} ops) q exp sd m).1.active = none ∧
    live (restore c (run c {} ops) q exp sd m).1 = [] := by
  have i := inv_reach c ops
  generalize run c {} ops = s at hf hu hcalc i
  have hund : (restore c s q exp sd m).1.out.isUndef = true := by
    rcases restore_out c s q exp sd m hu with h | ⟨_, h⟩
    · exact h
    · exact hcalc _ h
  have hi := (restore_inv i hf hu q exp sd m).undef hund ((restore_fields c s q exp sd m).2.1.trans hf)
  refine ⟨?_, hund, hi.2, hi.1⟩
  simp [step, hf, hu]

/-- After a restore -- failed or not -- followed by the initialisation
    `init_from_value(initdef)` = `Goto(initdef)`, at most one handle is pending, it is the active one, and it belongs
    to the current visit of the current state (it carries that state's timed event).  With the timer started before
    the state is assigned this is FALSE: see `restoreOld` and the example below. -/
theorem restore_then_goto_has_one_live_timer (c : Cfg) (ops : List Op) (q : String) (exp : Option Nat)
    (sd : Option Val) (m : CalcMode) :
    (live (run c {} (ops ++ [.restore q exp sd m, .init])) = [] ∧
      (run c {} (ops ++ [.restore q exp sd m, .init])).active = none) ∨
    ∃ h, live (run c {} (ops ++ [.restore q exp sd m, .init])) = [h] ∧
      (run c {} (ops ++ [.restore q exp sd m, .init])).active = some h.id ∧
      h.epoch = (run c {} (ops ++ [.restore q exp sd m, .init])).epoch ∧
      ∃ q' dflt, (run c {} (ops ++ [.restore q exp sd m, .init])).state = some q' ∧
        c.tbl.timedOf q' = some (h.ev, dflt) := by
  rcases (inv_reach c (ops ++ [.restore q exp sd m, .init])).timer with h | ⟨h, hl, ha, he, _, _, hq⟩
  · exact .inl h
  · exact .inr ⟨h, hl, ha, he, hq⟩

/-- the hypotheses are satisfiable and the statements not empty: `Timer(t_on=5s, initdef='on')`, saved state
    `('on', expiry in 100 s)`, `calc_output()` raises (or returns UNDEF) during the restore: no timer afterwards, and
    after the initdef exactly one, due 5 s from now; a successful restore keeps the saved expiry -/
example :
    (∀ v, calcFor (timerCfg (.us 5000000) .none true "on") ((({} : St).enter "on").setInput none) .raises = some v →
      v.isUndef = true) ∧
    (∀ v, calcFor (timerCfg (.us 5000000) .none true "on") ((({} : St).enter "on").setInput none) .undef = some v →
      v.isUndef = true) ∧
    (let s := run (timerCfg (.us 5000000) .none true "on") {} [.restore "on" (some 100000000) none .raises]
     s.state = some "on" ∧ s.out.isUndef = true ∧ live s = [] ∧ s.active = none) ∧
    (let s := run (timerCfg (.us 5000000) .none true "on") {} [.restore "on" (some 100000000) none .raises, .init]
     (live s).map (fun h => (h.id, h.when)) = [(0, 5000000)] ∧ s.out = .bool true) ∧
    (let s := run (timerCfg (.us 5000000) .none true "on") {} [.restore "on" (some 100000000) none .undef, .init]
     (live s).map (fun h => (h.id, h.when)) = [(0, 5000000)]) ∧
    (let s := run (timerCfg (.us 5000000) .none true "on") {} [.restore "on" (some 100000000) none .normal]
     (live s).map (fun h => (h.id, h.when)) = [(0, 100000000)] ∧ s.out = .bool true) := by
  refine ⟨by intro v h; simp [calcFor] at h, by intro v h; simp [calcFor] at h; rw [← h]; rfl, ?_⟩
  decide +kernel

/-- The counterexample: with the timer started first, then state and `calc_output()` (`restoreOld`), the same
    scenario ends with TWO live handles: the one armed by
    the failed restore (id 0, due at 100 s) is orphaned -- `_active_timer` points to the new one (id 1) -- it
    survives `stop()`, and when the clock reaches its expiry it fires into the FSM: the Timer switched on at 99 s
    (due off at 104 s) gets a stale `stop` at 100 s, and as `_timer_expired` forgets `_active_timer`, the handle for
    104 s is not cancelled either and stays pending in state `off`.  `restore_then_goto_has_one_live_timer` is
    false for `restoreOld`. -/
example :
    (let s := (initOp (timerCfg (.us 5000000) .none true "on")
        (restoreOld (timerCfg (.us 5000000) .none true "on") {} "on" (some 100000000) none .raises).1).1
     (live s).map (fun h => (h.id, h.when)) = [(0, 100000000), (1, 5000000)] ∧ s.active = some 1 ∧
     (live (stop s)).map (fun h => (h.id, h.when)) = [(0, 100000000)]) ∧
    (let s := run (timerCfg (.us 5000000) .none true "on")
        (initOp (timerCfg (.us 5000000) .none true "on")
          (restoreOld (timerCfg (.us 5000000) .none true "on") {} "on" (some 100000000) none .raises).1).1
        [.ev 99000000 .after (.ev "start") {}, .advance 100000000]
     (fires s.log).map (fun x => (x.1, x.2.1.id, x.2.1.ev)) = [(5000000, 1, .ev "stop"), (100000000, 0, .ev "stop")] ∧
     s.state = some "off" ∧ (live s).map (fun h => (h.id, h.when)) = [(2, 104000000)]) := by
  decide +kernel

/-- the whole generated transition table of `Timer`: `start` leads to on and `stop` to off from
    every state, `toggle` swaps; both states are timed, on → `stop`, off → `start`, default INF -/
theorem timer_table : (∀ q ∈ timerTable.states,
      timerTable.lookup "start" q = some "on" ∧ timerTable.lookup "stop" q = some "off" ∧
      timerTable.lookup "toggle" q = some (if q == "on" then "off" else "on")) ∧
    timerTable.timedOf "on" = some (.ev "stop", .inf) ∧
    timerTable.timedOf "off" = some (.ev "start", .inf) ∧
    timerTable.states = ["off", "on"] ∧ timerTable.events = ["start", "stop", "toggle"] ∧
    timerTable.chainLimit = 3 * timerTable.states.length ∧
    Gen.timerMethods = [("cond", "start"), ("cond", "stop")] := by decide

/-- `restartable`: a not restartable Timer rejects `start` while on and `stop` while off, a
    restartable one accepts them (and thereby restarts the timer, `leave_cancels`); the other
    direction is always accepted -/
theorem timer_restartable (a b : Dur) (r : Bool) (s : St) (d : EvData) (ho : s.out.isUndef = false) :
    (s.state = some "on" →
      (resolve (timerCfg a b r) s (.ev "start") d).2 = if r then .target "on" else .reject) ∧
    (s.state = some "off" →
      (resolve (timerCfg a b r) s (.ev "stop") d).2 = if r then .target "off" else .reject) ∧
    (s.state = some "off" → (resolve (timerCfg a b r) s (.ev "start") d).2 = .target "on") ∧
    (s.state = some "on" → (resolve (timerCfg a b r) s (.ev "stop") d).2 = .target "off") := by
  have c1 := (TrTie.timer_conds a b r Gen.timerDefault s d).1
  have c2 := (TrTie.timer_conds a b r Gen.timerDefault s d).2
  have hit : ∀ name cur q, name ∈ timerTable.events → s.state = some cur → timerTable.lookup name cur = some q →
      resolve (timerCfg a b r) s (.ev name) d = _ :=
    fun name cur q he hs hl => resolve_hit (timerCfg a b r) s name cur q d he hs hl ho
  refine ⟨fun hs => ?_, fun hs => ?_, fun hs => ?_, fun hs => ?_⟩
  · rw [hit "start" "on" "on" (by decide) hs (by decide), c1, hs]; cases r <;> rfl
  · rw [hit "stop" "off" "off" (by decide) hs (by decide), c2, hs]; cases r <;> rfl
  · rw [hit "start" "off" "on" (by decide) hs (by decide), c1, hs]; cases r <;> rfl
  · rw [hit "stop" "on" "off" (by decide) hs (by decide), c2, hs]; cases r <;> rfl

/-- the durations of a Timer: `t_on` / `t_off` of the instance, else the generated default INF -/
theorem timer_durations (a b : Dur) (r : Bool) :
    effDur (timerCfg a b r) "on" .none = clamp (if a = .none then .inf else a) ∧
    effDur (timerCfg a b r) "off" .none = clamp (if b = .none then .inf else b) := by
  exact ⟨congrArg clamp (TrTie.timer_instDur a b r _).1, congrArg clamp (TrTie.timer_instDur a b r _).2⟩

/-- monostable `Timer(t_on=1s)`, not restartable: `start` at 2 s, a second `start` at 2.5 s is
    rejected and does not prolong; one `stop` is delivered at 3 s; restartable: it is at 3.5 s -/
theorem timer_monostable :
    (let s := run (timerCfg (.us 1000000) .none false) {}
        [.init, .ev 2000000 .after (.ev "start") {}, .ev 2500000 .after (.ev "start") {}, .advance 9000000]
     s.state = some "off" ∧ live s = [] ∧ s.out = .bool false ∧
     (fires s.log).map (fun x => (x.1, x.2.1.ev)) = [(3000000, .ev "stop")]) ∧
    (let s := run (timerCfg (.us 1000000) .none true) {}
        [.init, .ev 2000000 .after (.ev "start") {}, .ev 2500000 .after (.ev "start") {}, .advance 9000000]
     s.state = some "off" ∧ live s = [] ∧
     (fires s.log).map (fun x => (x.1, x.2.1.ev)) = [(3500000, .ev "stop")]) := by decide +kernel

/-- bistable `Timer()` (both durations INF): no timer is ever armed; astable
    `Timer(t_on=0.3s, t_off=0.7s)` = `t_period` with unequal halves: it toggles for ever, one event
    per visit, on time; a stimulus placed before the timers of the expiry instant (B) wins -/
theorem timer_bistable_astable :
    (let s := run (timerCfg .none .none true) {}
        [.init, .ev 5 .after (.ev "start") {}, .advance 9000000, .ev 9000001 .before (.ev "toggle") {}]
     s.state = some "off" ∧ s.nextId = 0 ∧ fires s.log = []) ∧
    (let s := run (timerCfg (.us 300000) (.us 700000) true "on") {} [.init, .advance 2299999]
     s.state = some "on" ∧ (live s).map (·.when) = [2300000] ∧
     (fires s.log).map (fun x => (x.1, x.2.1.ev)) =
       [(300000, .ev "stop"), (1000000, .ev "start"), (1300000, .ev "stop"), (2000000, .ev "start")]) ∧
    (let s := run (timerCfg (.us 300000) (.us 700000) true "on") {}
        [.init, .ev 300000 .before (.ev "start") {}, .advance 600000]
     (fires s.log).map (fun x => (x.1, x.2.1.id)) = [(600000, 1)] ∧ s.state = some "off") := by
  decide +kernel

/-- the whole generated table of `InputExp`, and its behaviour: the value is replaced by the
    `expired` value after the default duration, a per-event duration overrides it, a `put` while
    valid restarts the timer, INF never expires, no duration at all is an error -/
theorem inputExp_table_and_expiry :
    (∀ q ∈ inputExpTable.states, inputExpTable.lookup "put" q = some "valid") ∧
    inputExpTable.timedOf "valid" = some (.goto "expired", .none) ∧
    inputExpTable.timedOf "expired" = none ∧
    (let s := run (inputExpCfg (.us 500000) (.str "x") none) {}
        [.init, .ev 100 .after (.ev "put") { value := some (.int 7) },
         .ev 400000 .after (.ev "put") { value := some (.int 8) },
         .ev 1000000 .after (.ev "put") { value := some (.int 9), dur := .us 90000000 }, .advance 91000000]
     s.out = .str "x" ∧ s.state = some "expired" ∧ live s = [] ∧
     (fires s.log).map (fun x => (x.1, x.2.1.id)) = [(900000, 1), (91000000, 2)]) ∧
    (let s := run (inputExpCfg .inf (.str "x") (some (.int 1))) {} [.init, .advance 99000000]
     s.out = .int 1 ∧ s.nextId = 0) ∧
    (run (inputExpCfg .none (.str "x") (some (.int 1))) {} [.init]).failed = some .circuitError := by
  decide +kernel

/-- non-vacuity: a monostable Timer(t_on = 3 s) that is started at 1 s, restarted at 2 s with a
    per-event duration of 0.5 s, and expires at 2.5 s -/
example :
    let s := run (timerCfg (.us 3000000) .none true) {}
      [.init, .ev 1000000 .after (.ev "start") {}, .ev 2000000 .before (.ev "start") { dur := .us 500000 },
       .advance 5000000]
    s.state = some "off" ∧ live s = [] ∧
    (fires s.log).map (fun x => (x.1, x.2.1.id)) = [(2500000, 1)] := by decide +kernel

end Edzed.FsmTimer

/-! ## Tie by translation: `FSM._ctx_event`

`Gen.TrM.ctxEvent` is the Lean program that tools/py2lean_fsm.py generates from the CURRENT source of
`FSM._ctx_event` (statement order, conditions, early returns, raises, `try … finally`, the chain loop with
`continue` / `break` / `else:`, the arguments of every call).  Everything the method calls or looks up is a
field of `FsmPrims`; `TrTie.prims c` (EdzedProofs/FsmTie.lean) instantiates these fields with the
operations of the model.  The theorems say that the translated method, run on the model's operations,
computes exactly the model's `ctxEvent` (event from outside) and `post` (recursive call while
`_fsm_event_active`).  A semantic edit of the method changes the generated program and these theorems stop
compiling. -/

namespace Edzed.TrTie
open Edzed.FsmTimer Edzed.Gen.TrM

/-- how the `try:` block of `_ctx_event` ends, in terms of the model's `enterLoop` -/
def TryPost (sM : St) (r : (TSt × Loc TEvent EvData String) × Flow ErrKind Bool) : Prop :=
  ∃ loc' st', r.1 = (T st', loc') ∧
    ((r.2 = Flow.ret true ∧ st' = sM ∧ sM.failed = none) ∨
     (∃ k, r.2 = Flow.raise k ∧ st'.fail k = sM ∧ sM.failed = some k ∧
       (k = .unknownEvent → st'.failed ≠ none)))

theorem tryPost_ret {sM : St} {r : (TSt × Loc TEvent EvData String) × Flow ErrKind Bool}
    {loc' : Loc TEvent EvData String} (h : r = ((T sM, loc'), Flow.ret true)) (hf : sM.failed = none) : TryPost sM r :=
  h ▸ ⟨loc', sM, rfl, .inl ⟨rfl, rfl, hf⟩⟩

theorem tryPost_raise {st' : St} {k : ErrKind} {r : (TSt × Loc TEvent EvData String) × Flow ErrKind Bool}
    {loc' : Loc TEvent EvData String} (h : r = ((T st', loc'), Flow.raise k)) (hk : (st'.fail k).failed = some k)
    (hu : k = .unknownEvent → st'.failed ≠ none) : TryPost (st'.fail k) r :=
  h ▸ ⟨loc', st', rfl, .inr ⟨k, rfl, rfl, hk, hu⟩⟩

/-- `_ctx_event` up to its `try:` block is the model's `resolve`: the event is checked, looked up and -- for an
    initialised block -- put to the conditions; a recursive call (`_fsm_event_active`) then stores the accepted event
    in `_next_event`, a call from outside sets the flag and runs the `try:` block -/
theorem ctxEvent_eq (c : Cfg) (P : FsmPrims TSt TEvent EvData String TEvent Val Dur ErrKind) (hP : Agrees c P)
    (s : St) (e : TEvent) (d : EvData) (a en : Bool) (hf : s.failed = none) :
    Gen.TrM.ctxEvent P e d ⟨s, a, en⟩ =
      match resolve c (setCtx s d) e d with
      | (s1, .target q) =>
        if a then
          match s1.next with
          | some _ => (⟨s1, a, en⟩, .raise .circuitError)
          | none => (⟨s1.setNextEv (some (e, d, q)), a, en⟩, .ret true)
        else
          ({ (ctxEventTry0 P (⟨s1, true, en⟩, ⟨e, d, d, some q⟩)).1.1 with active := false },
           (ctxEventTry0 P (⟨s1, true, en⟩, ⟨e, d, d, some q⟩)).2)
      | (s1, .reject) => (⟨s1, a, en⟩, .ret false)
      | (s1, .unknown) => (⟨s1, a, en⟩, .raise .unknownEvent)
      | (s1, .error k) => (⟨s1, a, en⟩, .raise k) := by
  unfold Gen.TrM.ctxEvent ctxEventBody
  -- the method from `if self._fsm_event_active:` on, run once for any state and target
  refine seq_rest3 (Q := fun (body : Stmt (TSt × Loc TEvent EvData String) ErrKind Bool) =>
    (match body (⟨s, a, en⟩, ⟨e, d, d, none⟩) with
    | (sl, f) => (sl.1, f)) = _) (fun rest htail => ?_)
  have tail : ∀ (s1 : St) (q : String),
      (match rest (⟨s1, a, en⟩, ⟨e, d, d, some q⟩) with | (sl, f) => (sl.1, f)) =
        if a then
          match s1.next with
          | some _ => (⟨s1, a, en⟩, Flow.raise ErrKind.circuitError)
          | none => (⟨s1.setNextEv (some (e, d, q)), a, en⟩, Flow.ret true)
        else
          ({ (ctxEventTry0 P (⟨s1, true, en⟩, ⟨e, d, d, some q⟩)).1.1 with active := false },
           (ctxEventTry0 P (⟨s1, true, en⟩, ⟨e, d, d, some q⟩)).2) := by
    intro s1 q
    subst htail
    cases a
    · simp [trm, hP.same]
    · cases hn : s1.next <;> simp [trm, hP.same, hn]
  -- The model's outcomes (the tests of `resolve` here, `(f s).failed` behind a `lift f` elsewhere) are decided BEFORE
  -- the method is run over them, in every tie of this file: `seq a b sl` is a `match` on `a sl`; an outcome that is
  -- still open leaves that `match` stuck, and `simp` drags the stuck term through every statement that follows.
  cases e with
  | goto q =>
    by_cases hq : q ∈ c.tbl.states
    · simp [trm, hP.same, resolve, hq, hf, tail]
    · simp [trm, hP.same, resolve, hq, hf]
  | ev n =>
    by_cases hev : n ∈ c.tbl.events
    rotate_left
    · simp [trm, hP.same, resolve, hev, hf]
    · cases hst : s.state with
      | none => simp [trm, hP.same, resolve, hev, hf, hst]
      | some cur =>
        -- the two dictionary lookups that find `newstate` are the model's `Table.lookup`
        generalize hlk : matchOpt (fun sl : TSt × Loc TEvent EvData String =>
          P.transition sl.1 sl.2.v0 (P.getState sl.1)) _ _ = lk
        have hlk' : ∀ (t : TSt) (v2 : EvData) (v3 : Option String), t.st.state = some cur →
            lk (t, (⟨.ev n, d, v2, v3⟩ : Loc TEvent EvData String))
              = ((t, ⟨.ev n, d, v2, c.tbl.lookup n cur⟩), Flow.next) := by
          intro t v2 v3 ht
          subst hlk
          cases h1 : c.tbl.lookupKey n (some cur) <;> simp [trm, hP.same, ht, h1, Table.lookup]
        cases ho : c.tbl.lookup n cur with
        | none => simp [trm, hP.same, resolve, hev, hf, hst, hlk', ho]
        | some q =>
          cases hu : s.out.isUndef with
          | true => simp [trm, hP.same, resolve, hev, hf, hst, hlk', ho, hu, tail]
          | false =>
            cases hc : evalConds (setCtx s d) d (c.condsOf n) with
            | none => simp [trm, hP.same, resolve, hev, hf, hst, hlk', ho, hu, hc]
            | some r =>
              obtain ⟨s', ok⟩ := r
              cases ok
              · simp [trm, hP.same, resolve, hev, hf, hst, hlk', ho, hu, hc]
              · simp [trm, hP.same, resolve, hev, hf, hst, hlk', ho, hu, hc, tail]

/-- the recursive call of `_ctx_event` (`_fsm_event_active` is set) computes the model's `post` -/
theorem translated_post_is_model (c : Cfg) (P : FsmPrims TSt TEvent EvData String TEvent Val Dur ErrKind) (hP : Agrees c P) (s : St) (e : TEvent) (d : EvData) (en : Bool)
    (hf : s.failed = none) :
    outcomePost (Gen.TrM.ctxEvent P e d ⟨s, true, en⟩) = post c s e d := by
  rw [ctxEvent_eq c P hP s e d true en hf]
  unfold post
  generalize resolve c (setCtx s d) e d = r
  obtain ⟨s1, r⟩ := r
  cases r with
  | target q => cases hn : s1.next <;> simp [outcomePost, hn]
  | _ => rfl

/-- one round of the translated loop = `popNext` + `enterState` of the model -/
theorem translated_round (c : Cfg) (P : FsmPrims TSt TEvent EvData String TEvent Val Dur ErrKind) (hP : Agrees c P) (s : St) (loc : Loc TEvent EvData String) (q : String)
    (hf : s.failed = none) (hq : s.next = none → loc.v3 = some q) :
    ∃ loc', ((ctxEventLoop0 P (T s, loc)).1 =
        (T (enterState c (popNext s loc.v1 q).1 (popNext s loc.v1 q).2.1 (popNext s loc.v1 q).2.2), loc') ∧
      RoundEnds (enterState c (popNext s loc.v1 q).1 (popNext s loc.v1 q).2.1 (popNext s loc.v1 q).2.2)
        (ctxEventLoop0 P (T s, loc)).2)
      ∧ loc'.v1 = (popNext s loc.v1 q).2.1 ∧ loc'.v3 = some (popNext s loc.v1 q).2.2 := by
  unfold ctxEventLoop0
  -- the round from `self._state = newstate` on: entry action, timer, `continue` / `break`
  generalize hrest : seq (upd (fun sl : TSt × Loc TEvent EvData String => P.setState sl.2.v3 sl.1)) _ = rest
  have tail : ∀ (s0 : St) (l : Loc TEvent EvData String) (q0 : String), l.v3 = some q0 →
      (rest (T s0, l)).1 = (T (enterState c s0 l.v1 q0), l) ∧ RoundEnds (enterState c s0 l.v1 q0) (rest (T s0, l)).2 := by
    intro s0 l q0 hl
    obtain ⟨v0, v1, v2, v3⟩ := l
    cases hl
    subst hrest
    have hst : (runEnter c (s0.enter q0) q0).state = some q0 := (frame_runEnter _ _ _).state
    -- as in `ctxEvent_eq`: the outcomes of the entry action and of `_start_timer` are decided on the model's side first
    unfold enterState RoundEnds
    generalize hs1 : runEnter c (s0.enter q0) q0 = s1 at hst ⊢
    cases hf1 : s1.failed with
    | some k => simp [trm, hP.same, T, hs1, hf1]
    | none =>
      cases hn1 : s1.next with
      | some x => simp [trm, hP.same, T, hs1, hf1, hn1]
      | none =>
        cases ht : c.tbl.timedOf q0 with
        | none => simp [trm, hP.same, T, hs1, hf1, hn1, ht]
        | some te =>
          obtain ⟨tev, dflt⟩ := te
          generalize hs2 : startTimer c s1 q0 tev v1.dur = s2
          cases hf2 : s2.failed with
          | some k => simp [trm, hP.same, hP.startTimer, T, hs1, hf1, hn1, ht, hst, hs2, hf2]
          | none => cases hn2 : s2.next <;> simp [trm, hP.same, hP.startTimer, T, hs1, hf1, hn1, ht, hst, hs2, hf2, hn2]
  cases hn : s.next with
  | none =>
    have hp : popNext s loc.v1 q = (s, loc.v1, q) := by simp [popNext, hn]
    rw [hp, seq_next (sl1 := (T s, loc))]
    · exact ⟨loc, tail s loc q (hq hn), rfl, hq hn⟩
    · simp [trm, hP.same, hn]
  | some x =>
    obtain ⟨e', d', q'⟩ := x
    have hp : popNext s loc.v1 q = (exitCur (setCtx (s.setNextEv none) d'), d', q') := by simp [popNext, hn]
    rw [hp, seq_next (sl1 := (T (exitCur (setCtx (s.setNextEv none) d')), { loc with v0 := e', v1 := d', v3 := some q' }))]
    · exact ⟨_, tail _ _ q' rfl, rfl, rfl⟩
    · cases hs : s.state <;> simp [trm, hP.same, hn, hf, hs, exitCur]

/-- the translated `for _ in range(chainlimit): … else: raise …` = the loop of the model -/
theorem translated_loop (c : Cfg) (P : FsmPrims TSt TEvent EvData String TEvent Val Dur ErrKind) (hP : Agrees c P) : ∀ (n : Nat) (s : St) (loc : Loc TEvent EvData String) (q : String),
    s.failed = none → (s.next = none → loc.v3 = some q) →
    ∃ loc' st' fl,
      forRange (ctxEventLoop0 P) (Gen.TrM.raise (P.exc "EdzedCircuitError")) n (T s, loc)
        = ((T st', loc'), fl) ∧
      ((loopB c n s loc.v1 q = (st', true) ∧ fl = Flow.next ∧ st'.failed = none) ∨
       (∃ k, fl = Flow.raise k ∧ loopB c n s loc.v1 q = (st'.fail k, false) ∧ (st'.fail k).failed = some k ∧
         (k = .unknownEvent → st'.failed ≠ none))) := by
  intro n
  induction n with
  | zero =>
    intro s loc q hf _
    exact ⟨loc, s, Flow.raise .circuitError, by simp [forRange, Gen.TrM.raise, hP.same, prims_exc, excOf],
      .inr ⟨.circuitError, rfl, by simp [loopB], by simp [St.fail, hf], by simp⟩⟩
  | succ n ih =>
    intro s loc q hf hq
    obtain ⟨loc1, ⟨hst, hends⟩, hv1, hv3⟩ := translated_round c P hP s loc q hf hq
    unfold forRange loopB
    dsimp only
    generalize ctxEventLoop0 P (T s, loc) = r at hst hends ⊢
    obtain ⟨sl1, fl1⟩ := r
    simp only at hst hends
    subst hst
    generalize enterState c (popNext s loc.v1 q).1 (popNext s loc.v1 q).2.1 (popNext s loc.v1 q).2.2 = s2 at hends ⊢
    unfold RoundEnds at hends
    cases hf2 : s2.failed with
    | some k =>
      simp only [hf2] at hends
      subst hends
      exact ⟨loc1, s2, Flow.raise k, by simp, .inr ⟨k, rfl, by simp [fail_of_failed s2 k hf2],
        by rw [fail_of_failed s2 k hf2]; exact hf2, fun _ => by simp [hf2]⟩⟩
    | none =>
      cases hn2 : s2.next with
      | some x =>
        simp only [hf2, hn2, Option.isSome_some, if_true] at hends
        obtain ⟨loc', st', fl, heq, hres⟩ := ih s2 loc1 (popNext s loc.v1 q).2.2 hf2
          (fun h => by rw [hn2] at h; cases h)
        refine ⟨loc', st', fl, by rcases hends with h | h <;> subst h <;> simp [heq], ?_⟩
        rw [hv1] at hres
        simpa [hf2, hn2] using hres
      | none =>
        simp only [hf2, hn2, Option.isSome_none, Bool.false_eq_true, if_false] at hends
        subst hends
        exact ⟨loc1, s2, Flow.next, by simp, .inl ⟨by simp, rfl, hf2⟩⟩

/-- the `try:` block of `_ctx_event` -- exit part, the loop, output and `on_enter` events -- is `leave` followed by
    `enterLoop` -/
theorem translated_try (c : Cfg) (P : FsmPrims TSt TEvent EvData String TEvent Val Dur ErrKind) (hP : Agrees c P) (s1 : St) (loc : Loc TEvent EvData String) (q : String)
    (hf : s1.failed = none) (hn : s1.next = none) (hq : loc.v3 = some q)
    (hinit : s1.out.isUndef = false → s1.state ≠ none) :
    TryPost (enterLoop c c.tbl.chainLimit (leave s1) loc.v1 q) (ctxEventTry0 P (T s1, loc)) := by
  unfold ctxEventTry0
  -- exit action, on_exit events, _stop_timer
  refine seq_elim (sl1 := (T (leave s1), loc)) ?_ ?_
  · cases hu : s1.out.isUndef with
    | true => simp [trm, hP.same, T, leave, hu]
    | false =>
      cases hs : s1.state with
      | none => exact absurd hs (hinit hu)
      | some cur => simp [trm, hP.same, hP.stopTimer, T, leave, hu, hs, hf, (stopTimer_fields _).1]
  -- assert self._next_event is None
  refine seq_elim (sl1 := (T (leave s1), loc)) ?_ ?_
  · simp [trm, hP.same, T, (leave_fields s1).2, hn]
  obtain ⟨loc', st', fl, hloop, hres⟩ := translated_loop c P hP c.tbl.chainLimit (leave s1) loc q
    (by rw [(leave_fields s1).1]; exact hf) (fun _ => hq)
  have hforN : ∀ (body orelse : Stmt (TSt × Loc TEvent EvData String) ErrKind Bool), forN (fun sl => P.chainLimit sl.1) body orelse (T (leave s1), loc)
      = forRange body orelse c.tbl.chainLimit (T (leave s1), loc) :=
    fun _ _ => by simp [forN, hP.same, prims_chainLimit]
  rw [enterLoop_eq_loopB]
  rcases hres with ⟨hB, hfl, hnf⟩ | ⟨k, hfl, hB, hk, hu⟩
  · -- the loop ended with `break`: output and on_enter events
    subst hfl
    refine seq_elim (sl1 := (T st', loc')) (by rw [hforN]; exact hloop) ?_
    rw [hB]
    simp only [finish]
    cases hco : calcOutput c st' with
    | none =>
      dsimp only
      exact tryPost_raise (loc' := loc') (by simp [trm, hP.same, T, hco]) (by simp [St.fail, hnf]) (by simp)
    | some v =>
      have hfin : (sendOnEnter (setOut st' v)).failed = none := by
        rw [sendOnEnter_failed, setOut_failed]; exact hnf
      dsimp only
      cases huv : v.isUndef with
      | true =>
        rw [setOut_undef st' v huv] at hfin ⊢
        exact tryPost_ret (loc' := loc') (by simp [trm, hP.same, T, hco, huv, hfin]) hfin
      | false =>
        have h1 : (setOut st' v).failed = none := by rw [setOut_failed]; exact hnf
        exact tryPost_ret (loc' := loc') (by simp [trm, hP.same, T, hco, huv, hfin, h1]) hfin
  · subst hfl
    rw [seq_stop (sl1 := (T st', loc')) (f := Flow.raise k) (by rw [hforN]; exact hloop) (by simp), hB]
    exact tryPost_raise rfl hk hu

/-- The tie: `FSM._ctx_event`, as translated from the current source, run on the model's
    operations for an event arriving from outside computes exactly the model's `ctxEvent` -/
theorem translated_ctx_event_is_model (c : Cfg) (P : FsmPrims TSt TEvent EvData String TEvent Val Dur ErrKind) (hP : Agrees c P) (s : St) (e : TEvent) (d : EvData)
    (hf : s.failed = none) (hn : s.next = none) (hinit : s.out.isUndef = false → s.state ≠ none) :
    outcome (Gen.TrM.ctxEvent P e d ⟨s, false, false⟩) = FsmTimer.ctxEvent c s e d := by
  rw [ctxEvent_eq c P hP s e d false false hf]
  obtain ⟨kr, ke⟩ := resolve_kept c (setCtx s d) e d
  generalize hres : resolve c (setCtx s d) e d = r at kr ke ⊢
  obtain ⟨s1, r⟩ := r
  have hf1 : s1.failed = none := kr.failed.trans hf
  cases r with
  | unknown => simp [FsmTimer.ctxEvent, hres, outcome, hf1]
  | reject => simp [FsmTimer.ctxEvent, hres, outcome]
  | error k =>
    have : k ≠ .unknownEvent := fun h => ke (h ▸ rfl)
    simp [FsmTimer.ctxEvent, hres, outcome, this]
  | target q =>
    rw [ctxEvent_target hres]
    unfold resOf
    obtain ⟨loc', st', h1, hd⟩ := translated_try c P hP s1 ⟨e, d, d, some q⟩ q hf1 (kr.next.trans hn) rfl
      (by rw [kr.out, kr.state]; exact hinit)
    simp only [Bool.false_eq_true, if_false]
    generalize ctxEventTry0 P (T s1, (⟨e, d, d, some q⟩ : Loc TEvent EvData String)) = r at h1 hd ⊢
    obtain ⟨⟨t', l'⟩, fl⟩ := r
    cases h1
    rcases hd with ⟨rfl, rfl, hnf⟩ | ⟨k, rfl, hsM, hk, hu⟩
    · simp [outcome, hnf]
    · have hcond : ¬ (k = ErrKind.unknownEvent ∧ st'.failed = none) := fun h => hu h.1 h.2
      simp only at hsM hk
      rw [← hsM] at hk ⊢
      simp [outcome, hk, hcond]

/-! non-vacuity: a chained, timed transition evaluated through both.  `go` leads from `a` to `b`, whose
    entry action sends `Goto c` with a 'duration' item; `c` is a timed state.  The translated method and
    the model agree, the block ends in `c` with one timer armed from the chained event's duration, and the
    exit action of the intermediate state `b` read the chained event's data. -/
def exCfg : Cfg :=
  { tbl := { states := ["a", "b", "c"], events := ["go", "back"],
             trans := [("go", some "a", some "b"), ("back", none, some "a")],
             timed := [("c", .ev "back", .us 500000)], chainLimit := 9 }
    enterSend := [("b", .goto "c", .us 70000)], initState := "a" }

def exState : St := (deliver exCfg {} (.goto "a") {}).1

example :
    outcome (Gen.TrM.ctxEvent (prims exCfg) (.ev "go") { dur := .us 3 } ⟨exState, false, false⟩)
      = FsmTimer.ctxEvent exCfg exState (.ev "go") { dur := .us 3 } ∧
    (FsmTimer.ctxEvent exCfg exState (.ev "go") { dur := .us 3 }).2 = .ret true ∧
    (FsmTimer.ctxEvent exCfg exState (.ev "go") { dur := .us 3 }).1.state = some "c" ∧
    (live (FsmTimer.ctxEvent exCfg exState (.ev "go") { dur := .us 3 }).1).map (fun h => (h.when, h.ev))
      = [(70000, .ev "back")] ∧
    (.exit "b" { dur := .us 70000 }) ∈
      ((FsmTimer.ctxEvent exCfg exState (.ev "go") { dur := .us 3 }).1.log.map (·.2)) := by
  decide +kernel

/-- the same example for the recursive call: the entry action's `Goto c` while `_fsm_event_active` -/
example :
    outcomePost (Gen.TrM.ctxEvent (prims exCfg) (.goto "c") { dur := .us 70000 } ⟨exState, true, true⟩)
      = post exCfg exState (.goto "c") { dur := .us 70000 } ∧
    (post exCfg exState (.goto "c") { dur := .us 70000 }).1.next
      = some (.goto "c", { dur := .us 70000 }, "c") := by
  decide +kernel

/-- the hypotheses of `translated_ctx_event_is_model` hold in every state a running simulation can reach -/
theorem tie_hypotheses_hold_when_reachable (c : Cfg) (ops : List Op)
    (hf : (run c {} ops).failed = none) :
    (run c {} ops).next = none ∧ ((run c {} ops).out.isUndef = false → (run c {} ops).state ≠ none) :=
  quiet_run c ops {} quiet_init hf

end Edzed.TrTie

/-! ## Tie by translation: the timer methods of `fsm.FSM`

`Gen.TrT.setTimer`, `timerExpired`, `startTimer`, `stopTimer`, `stop`, `start`, `getState`, `initDuration` are the
Lean programs that tools/py2lean_fsmtimer.py generates from the CURRENT source of `_set_timer`,
`_timer_expired`, `_start_timer`, `_stop_timer`, `stop`, `start`, `get_state` and of the `t_STATE` statement
of `__init__`.  Run on the model's meaning of the event loop (`tprims`, EdzedProofs/FsmTimerTie.lean) they
compute exactly the model's `setTimer`, `fire`, `startTimer`, `stopTimer`, `stop`, `getState` and the table
`Cfg.instDur`.  `translated_fsmtimer_ctx_event_with_translated_timers` puts them in the place of the primitives
`_start_timer` / `_stop_timer` of the `_ctx_event` tie above, which then assumes nothing about these two. -/

namespace Edzed.TrTie
open Edzed.FsmTimer Edzed.Gen.TrM Edzed.Gen.TrT

theorem translated_fsmtimer_set_timer_is_model (c : Cfg) (env : TEnv) (n : Int) (tev : TEvent) (t : TSt) :
    Gen.TrT.setTimer (tprims c env) (.us n) tev t = (t.map (FsmTimer.setTimer · n.toNat tev), .ok ()) := by
  unfold Gen.TrT.setTimer setTimerBody
  cases hs : t.st.stopped <;>
    simp [trm, FsmTimer.setTimer, hs, armHandle, newHandle, St.emit]

theorem translated_fsmtimer_stop_timer_is_model (c : Cfg) (env : TEnv) (t : TSt) :
    Gen.TrT.stopTimer (tprims c env) t = (t.map FsmTimer.stopTimer, .ok ()) := by
  unfold Gen.TrT.stopTimer stopTimerBody
  cases ha : t.st.active with
  | none => simp [trm, FsmTimer.stopTimer, ha]
  | some id =>
    cases hl : handleLive t.st id <;> simp [trm, FsmTimer.stopTimer, ha, hl, cancelHandle, St.emit]
    have := map_cancel_of_not_live t.st id hl
    simp only [beq_iff_eq] at this
    exact this.symm

theorem translated_fsmtimer_start_timer_is_model (c : Cfg) (env : TEnv) (hin : env.inside = true)
    (item : Dur) (tev : TEvent) (t : TSt) (q : String)
    (hq : t.st.state = some q) (hf : t.st.failed = none) :
    failOnError (Gen.TrT.startTimer (tprims c env) item tev t)
      = lift (fun s => FsmTimer.startTimer c s q tev item) t := by
  unfold Gen.TrT.startTimer startTimerBody
  -- the method from `if duration == INF_TIME:` on, for a duration that is there
  refine seq_rest2 (Q := fun body =>
    failOnError (match runProc (body (t, (⟨item, tev⟩ : Loc_startTimer Dur TEvent))) () with | (sl, r) => (sl.1, r))
      = lift (fun s => FsmTimer.startTimer c s q tev item) t) (fun rest hrest => ?_)
  have tail : ∀ D : Dur, effDur c q item = D → D ≠ .none →
      failOnError (match runProc (rest (t, ⟨D, tev⟩)) () with | (sl, r) => (sl.1, r))
        = lift (fun s => FsmTimer.startTimer c s q tev item) t := by
    intro D hD hne
    subst hrest
    cases D with
    | none => exact absurd rfl hne
    | inf => simp [trm, failOnError, FsmTimer.startTimer, hD, hf]
    | bad => simp [trm, failOnError, FsmTimer.startTimer, hD, hf, St.fail]
    | us n =>
      by_cases hn : n ≤ 0
      · cases hf1 : (eventRec c t.st tev {}).1.failed with
        | none => simp [trm, hin, failOnError, FsmTimer.startTimer, hD, hn, cmpInt, hf1]
        | some k => simp [trm, hin, failOnError, FsmTimer.startTimer, hD, hn, cmpInt, hf1, fail_of_failed _ k hf1]
      · have hfs : (FsmTimer.setTimer t.st n.toNat tev).failed = none := by
          rw [setTimer_failed]; exact hf
        simp [trm, failOnError, FsmTimer.startTimer, hD, hn, cmpInt, translated_fsmtimer_set_timer_is_model, hfs]
  -- assert self._state is not UNDEF
  rw [seq_next (sl1 := (t, ⟨item, tev⟩))]
  rotate_left
  · simp [trm, hq]
  -- the effective duration, unless it is missing or unparsable
  cases item with
  | none =>
    cases hd : clamp (c.instDur q) with
    | none => simp [trm, failOnError, FsmTimer.startTimer, effDur, hq, hf, hd, St.fail]
    | _ =>
      rw [seq_next (sl1 := (t, ⟨clamp (c.instDur q), tev⟩))]
      · exact tail _ rfl (by rw [hd]; nofun)
      · simp [trm, hq, hd]
  | bad => simp [trm, failOnError, FsmTimer.startTimer, effDur, clamp, hf, St.fail]
  | inf =>
    rw [seq_next (sl1 := (t, ⟨.inf, tev⟩))]
    · exact tail _ rfl nofun
    · simp [trm, clamp]
  | us n =>
    rw [seq_next (sl1 := (t, ⟨clamp (.us n), tev⟩))]
    · exact tail _ rfl nofun
    · simp [trm]

theorem translated_fsmtimer_stop_is_model (c : Cfg) (env : TEnv) (t : TSt) :
    Gen.TrT.stop (tprims c env) t =
      (t.map FsmTimer.stop, if env.superFails then .error .fuel else .ok ()) := by
  unfold Gen.TrT.stop stopBody
  cases hs : env.superFails <;> simp [trm, translated_fsmtimer_stop_timer_is_model, FsmTimer.stop, hs]

/-- `stop()` switches the block's persistence off (and forbids new timers): an event that arrives during the rest of
    the clean-up cannot replace the state the simulator saved – with the timer's expiry – before it stopped the blocks
    (known finding C06-late-event-overwrites-saved-timer; the statement `self.persistent = False` is what
    `translated_fsmtimer_stop_is_model` needs for `persistOn`) -/
theorem stop_switches_persistence_off (s : St) :
    (FsmTimer.stop s).persistOn = false ∧ (FsmTimer.stop s).stopped = true := by
  simp [FsmTimer.stop]

/-- `start()`: the timers are allowed only after the base classes have started -/
theorem translated_fsmtimer_start_enables_timers (c : Cfg) (env : TEnv) (t : TSt) :
    Gen.TrT.start (tprims c env) t =
      if env.superFails then (t, .error .fuel)
      else (t.map (fun s => { s with stopped := false }), .ok ()) := by
  unfold Gen.TrT.start startBody
  cases hs : env.superFails <;> simp [trm, hs]

/-- `_timer_expired` called by the loop for the handle `h` (`loopPop`: the clock is at its time, it has left the heap) is
    the model's `fire`, whatever `_fsm_event_active` (`a`) and the `_enable_event` flag (`e`) are.  Only the block is
    compared, not how the call ends. -/
theorem translated_fsmtimer_timer_expired_is_model (c : Cfg) (s : St) (h : Handle) (a e : Bool) :
    (Gen.TrT.timerExpired (tprims c { inside := false }) h.ev ⟨loopPop s h, a, e⟩).1.st = fire c s h := by
  unfold Gen.TrT.timerExpired timerExpiredBody
  have hp : ({ loopPop s h with active := none } : St) = popTimer s h := rfl
  cases hf1 : (deliver c (popTimer s h) h.ev {}).1.failed <;> simp [trm, fire, hp, hf1]

theorem translated_fsmtimer_get_state_is_model (c : Cfg) (env : TEnv) (t : TSt) :
    Gen.TrT.getState (tprims c env) t =
      (t, match FsmTimer.getState t.st with
          | none => .error .invalidState
          | some (q, tm) => .ok (some q, tm.map (· + env.wall), t.st.input)) := by
  unfold Gen.TrT.getState getStateBody
  cases hs : t.st.state with
  | none => simp [trm, FsmTimer.getState, hs]
  | some q =>
    cases ha : t.st.active with
    | none => simp [trm, FsmTimer.getState, hs, ha]
    | some id =>
      cases hl : liveHandle t.st id <;> simp [trm, FsmTimer.getState, hs, ha, hl, handleLive]

/-- `FSM.__init__` builds the instance table of durations that the model calls `Cfg.instDur`: class default,
    overridden by a `t_STATE` argument that is not None (after `time_period`) -/
theorem translated_fsmtimer_init_duration_is_model (c : Cfg)
    (hnd : (c.tDur.map (·.1)).Nodup)
    (hall : ∀ p ∈ c.tDur, p.2 ≠ Dur.bad ∧ (c.tbl.timedOf p.1).isSome) :
    Gen.TrT.initDuration excOf timePeriodD (fun d => decide (d = Dur.none)) tblHas tblSet
      (classDurations c) c.tDur = .ok (instTable c) := by
  have htab := tableAfter_instTable c
  unfold Gen.TrT.initDuration
  split
  · refine (initDuration_fold _ ?_ c.tDur (classDurations c) hnd
      (fun p hp => ⟨(hall p hp).1, by unfold classDurations; simpa using (hall p hp).2⟩)).trans (by rw [htab])
    intro T0 q0 d0 hb hq
    cases d0 with
    | bad => exact absurd rfl hb
    | none =>
      simp only [tblHas, hq, timePeriodD, clamp]
      simp
      funext k; split
      · next h => rw [h]
      · rfl
    | inf => simp [tblHas, hq, timePeriodD, clamp]; rfl
    | us n => simp [tblHas, hq, timePeriodD, clamp]; rfl
  · next he =>
    have : c.tDur = [] := by simpa using he
    rw [← htab, this]; rfl

/-- the primitives of `_ctx_event` with `_start_timer` and `_stop_timer` replaced by their TRANSLATIONS
    (an exception leaving `_start_timer` marks the simulation as failed, like every handler error) -/
def primsT (c : Cfg) : FsmPrims TSt TEvent EvData String TEvent Val Dur ErrKind :=
  { prims c with
    startTimer := fun item tev t => failOnError (Gen.TrT.startTimer (tprims c { inside := true }) item tev t)
    stopTimer := fun t => Gen.TrT.stopTimer (tprims c { inside := true }) t }

theorem translated_fsmtimer_prims_agree (c : Cfg) : Agrees c (primsT c) := by
  refine ⟨⟨rfl, rfl, rfl, rfl, rfl, rfl, rfl, rfl, rfl, rfl, rfl, rfl, rfl, rfl, rfl, rfl, rfl, rfl, rfl, rfl,
    rfl, rfl, rfl, rfl, rfl, rfl, rfl, rfl⟩, ?_, ?_⟩
  · intro item tev t _ hf hs
    cases hq : t.st.state with
    | none => rw [hq] at hs; cases hs
    | some q =>
      show failOnError (Gen.TrT.startTimer (tprims c { inside := true }) item tev t) = (prims c).startTimer item tev t
      rw [translated_fsmtimer_start_timer_is_model c { inside := true } rfl item tev t q hq hf]
      simp [prims_startTimer, lift, TSt.map, hq]
  · intro t hf
    show Gen.TrT.stopTimer (tprims c { inside := true }) t = (prims c).stopTimer t
    rw [translated_fsmtimer_stop_timer_is_model]
    simp [prims_stopTimer, lift, (stopTimer_fields t.st).1, hf]

/-- The composed tie: `_ctx_event` as translated, calling the TRANSLATED `_start_timer` / `_stop_timer`
    (which call the translated `_set_timer`), computes the model's `ctxEvent` -/
theorem translated_fsmtimer_ctx_event_with_translated_timers (c : Cfg) (s : St) (e : TEvent) (d : EvData)
    (hf : s.failed = none) (hn : s.next = none) (hinit : s.out.isUndef = false → s.state ≠ none) :
    outcome (Gen.TrM.ctxEvent (primsT c) e d ⟨s, false, false⟩) = FsmTimer.ctxEvent c s e d :=
  translated_ctx_event_is_model c (primsT c) (translated_fsmtimer_prims_agree c) s e d hf hn hinit

/-- The composed tie for the recursive call -/
theorem translated_fsmtimer_post_with_translated_timers (c : Cfg) (s : St) (e : TEvent) (d : EvData) (en : Bool)
    (hf : s.failed = none) :
    outcomePost (Gen.TrM.ctxEvent (primsT c) e d ⟨s, true, en⟩) = post c s e d :=
  translated_post_is_model c (primsT c) (translated_fsmtimer_prims_agree c) s e d en hf

/-- non-vacuity: the chained, timed transition of the example above through the translated `_ctx_event`
    calling the translated `_start_timer` → `_set_timer`: one handle armed from the chained event's item -/
example :
    outcome (Gen.TrM.ctxEvent (primsT exCfg) (.ev "go") { dur := .us 3 } ⟨exState, false, false⟩)
      = FsmTimer.ctxEvent exCfg exState (.ev "go") { dur := .us 3 } ∧
    (live (outcome (Gen.TrM.ctxEvent (primsT exCfg) (.ev "go") { dur := .us 3 } ⟨exState, false, false⟩)).1).map
      (fun h => (h.when, h.ev)) = [(70000, .ev "back")] := by
  decide +kernel

/-- `_restore_state` (C06's subject, the same translated program): run on the meaning the primitives have in
    the model of persistent state it computes exactly `Persist.restore` for the FSM kind -- unknown state
    refused, remaining time = expiry - now, an expired state ignored (nothing restored), "cannot set a timer
    for a not timed state", then state, sdata and output, the timer re-armed for the saved expiry by the
    translated `_set_timer` once `calc_output` has delivered the output (assuming `calc_output` does not return
    UNDEF for the saved state); a restore that raises must not leave a timer behind (`restoreOutcome`) -- with the
    timer started before `calc_output` is called this theorem is false -/
theorem translated_fsmtimer_restore_is_persist_model (c : Persist.FsmCls) (cal : Val → Option Bool)
    (now : Nat) (st : String) (exp : Option Nat) (sd : Data)
    (hout : ∀ o, c.calcOut st sd = some o → o.isUndef = false) :
    restoreOutcome (Gen.TrT.restoreState (rprims c now) (st, exp, sd) {})
      = Persist.restore (.fsm c) cal now (.fsm st exp sd) := by
  unfold Gen.TrT.restoreState restoreStateBody
  by_cases hst : st ∈ c.states
  rotate_left
  · simp [trm, restoreOutcome, Persist.restore, hst]
  -- in the order of the method, which calls `calc_output()` last: where it has returned or raised before, the model's
  -- answer does not depend on `calc_output()` either
  cases exp with
  | none =>
    cases hco : c.calcOut st sd with
    | none => simp [trm, restoreOutcome, Persist.restore, hst, hco]
    | some o => simp [trm, restoreOutcome, Persist.restore, hst, hco, hout o hco]
  | some t =>
    by_cases hle : t ≤ now
    · simp [trm, cmpInt, restoreOutcome, Persist.restore, hst, remaining_le0, hle]
      cases c.calcOut st sd <;> rfl
    cases hte : c.timedEv st with
    | none =>
      simp [trm, cmpInt, restoreOutcome, Persist.restore, hst, remaining_le0, hle, hte]
      cases c.calcOut st sd <;> rfl
    | some tev =>
      cases hco : c.calcOut st sd with
      | none => simp [trm, cmpInt, restoreOutcome, Persist.restore, hst, hco, remaining_le0, hle, hte]
      | some o =>
        simp [trm, Gen.TrT.setTimer, setTimerBody, cmpInt, restoreOutcome, Persist.restore, hst, hco, remaining_le0,
          hle, hte, hout o hco]
        exact Nat.add_sub_of_le (Nat.le_of_lt (Nat.lt_of_not_le hle))

/-- result of `_restore_state` as the model reports it -/
def resExc : Res → Except ErrKind Unit
  | .err k => .error k
  | _ => .ok ()

/-- `_restore_state` run on the model's meaning of the event loop and of the block computes exactly the model's
    `restore` -- for every configuration, block state, saved state `(q, exp, sdata)` (the expiry as a wall-clock time
    stamp) and every behaviour of `calc_output()`: unknown state refused, an expired state ignored, "cannot set a
    timer for a not timed state", then state and sdata assigned, and the timer started by the translated
    `_set_timer` ONLY when `calc_output()` has returned an output (not when it raises: the exception propagates with
    state and sdata assigned and no timer; not when it returns UNDEF) -/
theorem translated_fsmtimer_restore_is_model (c : Cfg) (env : TEnv) (q : String) (exp : Option Nat)
    (sd : Option Val) (t : TSt) (hf : t.st.failed = none) :
    Gen.TrT.restoreState (tprims c env) (q, exp.map (· + env.wall), sd) t
      = (t.map (fun s => (FsmTimer.restore c s q exp sd env.calcMode).1),
         resExc (FsmTimer.restore c t.st q exp sd env.calcMode).2) := by
  unfold Gen.TrT.restoreState restoreStateBody
  by_cases hst : q ∈ c.tbl.states
  rotate_left
  · simp [trm, FsmTimer.restore, hst, resExc]
  cases exp with
  | none =>
    cases hc : calcFor c ((t.st.enter q).setInput sd) env.calcMode with
    | none => simp [trm, FsmTimer.restore, restoreTail, hst, resExc, hc]
    | some v =>
      cases hv : v.isUndef with
      | true => simp [trm, FsmTimer.restore, restoreTail, hst, resExc, hc, hv]
      | false =>
        simp [trm, FsmTimer.restore, restoreTail, hst, resExc, hc, hv, setOut_failed, hf]
  | some w =>
    by_cases hle : w ≤ t.st.now
    · simp [trm, FsmTimer.restore, hst, resExc, hle, remaining_le, cmpInt]
    cases hte : c.tbl.timedOf q with
    | none => simp [trm, FsmTimer.restore, hst, resExc, hle, remaining_le, cmpInt, hte]
    | some ed =>
      obtain ⟨ev, dflt⟩ := ed
      cases hc : calcFor c ((t.st.enter q).setInput sd) env.calcMode with
      | none => simp [trm, FsmTimer.restore, restoreTail, hst, resExc, hle, remaining_le, cmpInt, hte, hc]
      | some v =>
        cases hv : v.isUndef with
        | true => simp [trm, FsmTimer.restore, restoreTail, hst, resExc, hle, remaining_le, cmpInt, hte, hc, hv]
        | false =>
          simp [trm, FsmTimer.restore, restoreTail, hst, resExc, hle, remaining_le, cmpInt, hte, hc, hv,
            translated_fsmtimer_set_timer_is_model, remaining_toNat, setOut_failed, setTimer_failed, hf]

end Edzed.TrTie

/-! ## Tie by translation: the block `Timer`, the body of `class FSM`, `FSM.__init_subclass__`

`Gen.TrB.timerInit`, `timerCondStart`, `timerCondStop`, `timerCalcOutput` are generated by tools/py2lean_timerblk.py
from the CURRENT source of `Timer.__init__`, `Timer.cond_start`, `Timer.cond_stop`, `Timer.calc_output`
(edzed/blocklib/fsms.py); `fsmCalcOutput`, `fsmState`, `fsmInitFromValue`, `fsmClassDefaults`, `fsmDeclaredTables`,
`initSubclassActs` from `FSM.calc_output`, `FSM.state`, `FSM.init_from_value`, the body of `class FSM` and
`FSM.__init_subclass__` (edzed/fsm.py).  `Timer.__init__` is translated over an abstract mapping; here it runs on the
model's keyword arguments (`TimerKw` with `kwHas` / `kwPop` / `kwSet`, EdzedProofs/TimerBlkTie.lean), `time_period` is
`timePeriodDur` (the function itself is tied in C19), `period / 2` is `halfDur`, `super().__init__` is `fsmInitKw`.
`translated_…_is_model` say that the translated code computes the model (`timerNew`, the conditions and the output
function of `timerCfg`, `initOp`); the `timer_…` theorems are the documented behaviour of the block, derived from the
translated callbacks, the extracted tables and the model of the FSM. -/

namespace Edzed.TrTie
open Edzed.FsmTimer Edzed.Gen.TrB

/-- `restartable` defaults to True -/
theorem translated_timer_restartable_by_default : timerRestartableDefault = true := rfl

/-- `Timer(**kw, restartable=…)` through the TRANSLATED `Timer.__init__`: the keyword arguments it passes to
    `FSM.__init__` and the flag it stores make the configuration of the block -/
def timerInitCfg (kw : TimerKw) (restartable : Bool) (init : String := Gen.timerDefault) : Except ErrKind Cfg :=
  match timerInit excOf kwHas kwPop kwSet timePeriodDur halfDur fsmInitKw (fun (b : Bool) => b) restartable kw with
  | .ok (some k, some b) => .ok (timerCfg (k.tOn.getD .none) (k.tOff.getD .none) b init)
  | .ok _ => .error .fuel
  | .error e => .error e

theorem translated_timer_init_is_model (kw : TimerKw) (restartable : Bool) (init : String) :
    timerInitCfg kw restartable init = timerNew kw restartable init := by
  obtain ⟨p, a, b⟩ := kw
  unfold timerInitCfg timerInit timerNew timerKwargs
  cases p with
  | none =>
    -- `FSM.__init__` alone decides: it refuses an unparsable `t_on` / `t_off`
    by_cases h : a = some Dur.bad ∨ b = some Dur.bad <;> simp [kwHas, fsmInitKw, h]
  | some pv =>
    cases a with
    | some u => simp [kwHas]; rfl
    | none => cases b with
      | some v => simp [kwHas]; rfl
      | none => cases pv <;> simp [kwHas, kwPop, kwSet, fsmInitKw, timePeriodDur, halfDur, clamp]

/-- the model's conditions of `start` / `stop` ARE `Timer.cond_start` / `cond_stop` as translated -/
theorem translated_timer_conds_are_model (a b : Dur) (r : Bool) (init : String) (s : St) (d : EvData) :
    evalConds s d ((timerCfg a b r init).condsOf "start") = some (s, timerCondStart r s.state) ∧
    evalConds s d ((timerCfg a b r init).condsOf "stop") = some (s, timerCondStop r s.state) := by
  rw [(timer_conds a b r init s d).1, (timer_conds a b r init s d).2]
  -- the comparison may be written with the literal first
  have e : ∀ x : Option String, (x = s.state) = (s.state = x) := fun x => propext eq_comm
  constructor
  · by_cases h : s.state = some "on" <;> cases r <;> simp [timerCondStart, e, h]
  · by_cases h : s.state = some "off" <;> cases r <;> simp [timerCondStop, e, h]

/-- `Timer.calc_output` as translated, whichever way round it writes the comparison -/
theorem timerCalcOutput_eq (st : Option String) : timerCalcOutput st = (st == some "on") := by
  have e : (some "on" = st) = (st = some "on") := propext eq_comm
  by_cases h : st = some "on" <;> simp [timerCalcOutput, e, h]

/-- the model's output function of a Timer IS `Timer.calc_output` as translated (an FSM without state
    has no output yet) -/
theorem translated_timer_calc_output_is_model (a b : Dur) (r : Bool) (init : String) (s : St) :
    calcOutput (timerCfg a b r init) s =
      some (match s.state with
            | none => Val.undef
            | some _ => Val.bool (timerCalcOutput s.state)) := by
  cases hs : s.state with
  | none => simp [calcOutput, timerCfg, hs]
  | some v => simp [calcOutput, timerCfg, hs, timerCalcOutput_eq]

/-- the default `FSM.calc_output` (the state itself) and the property `FSM.state` -/
theorem translated_fsm_calc_output_is_model (c : Cfg) (s : St) (hc : c.outFn = .state) :
    calcOutput c s = some (match fsmCalcOutput s.state with
                           | none => Val.undef
                           | some q => Val.str q) ∧ fsmState s.state = s.state := by
  cases hs : s.state <;> simp [calcOutput, hc, fsmCalcOutput, fsmState, hs]

/-- `init_from_value(value)` sends `Goto(value)` without data: the model's `initOp` -/
theorem translated_fsm_init_from_value_is_model (c : Cfg) (s : St) :
    initOp c s = deliver c { s with input := c.initInput }
      (fsmInitFromValue (E := TEvent) (D := EvData) Gen.TEvent.goto {} c.initState).1
      (fsmInitFromValue (E := TEvent) (D := EvData) Gen.TEvent.goto {} c.initState).2 := rfl

/-- the body of `class FSM`: STATES / TIMERS / EVENTS default to empty, and exactly the nine `_ct_*` tables that
    `_build_tables` creates are declared -/
theorem translated_fsm_class_attributes :
    fsmClassDefaults = [("EVENTS", .emptyTuple), ("STATES", .emptyTuple), ("TIMERS", .emptyDict)] ∧
    fsmDeclaredTables.map (·.1) = ["_ct_chainlimit", "_ct_default_duration", "_ct_default_state", "_ct_events",
      "_ct_methods", "_ct_prefixes", "_ct_states", "_ct_timed_event", "_ct_transition"] := by decide

/-- `__init_subclass__`: the handler tables of the base class exist before `_build_tables` checks the event
    names against them, and an invalid table is NOT swallowed: the same error is re-raised (with a note) -/
theorem translated_fsm_init_subclass_order (buildRaises : Bool) :
    initSubclassActs buildRaises =
      [.superInitSubclass, .buildTables] ++ (if buildRaises then [.addNote, .reraise] else []) ∧
    (SubclassAct.reraise ∈ initSubclassActs buildRaises ↔ buildRaises = true) := by
  cases buildRaises <;> decide

/-- the decision is the TRANSLATED `cond_start` (through `translated_timer_conds_are_model`) -/
theorem timer_resolve_start_on (a b : Dur) (r : Bool) (init : String) (s : St) (d : EvData)
    (hs : s.state = some "on") (ho : s.out.isUndef = false) :
    resolve (timerCfg a b r init) (setCtx s d) (.ev "start") d =
      (setCtx s d, if timerCondStart r s.state then Resolved.target "on" else Resolved.reject) := by
  rw [resolve_hit (timerCfg a b r init) (setCtx s d) "start" "on" "on" d (by decide : "start" ∈ timerTable.events) hs
    (by decide : timerTable.lookup "start" "on" = some "on") ho,
    (translated_timer_conds_are_model a b r init (setCtx s d) d).1]
  rfl

/-- **`start` while on, not restartable**: the event is not accepted (`cond_start` is false) and the pending
    timer -- the very handle with its expiry time -- is untouched -/
theorem timer_start_in_on_not_restartable (a b : Dur) (init : String) (s : St) (d : EvData)
    (hs : s.state = some "on") (ho : s.out.isUndef = false) :
    timerCondStart false s.state = false ∧
    (FsmTimer.ctxEvent (timerCfg a b false init) s (.ev "start") d).2 = .ret false ∧
    live (FsmTimer.ctxEvent (timerCfg a b false init) s (.ev "start") d).1 = live s ∧
    (FsmTimer.ctxEvent (timerCfg a b false init) s (.ev "start") d).1.active = s.active := by
  have hc : timerCondStart false s.state = false := by simp [timerCondStart, hs]
  have hr := timer_resolve_start_on a b false init s d hs ho
  rw [hc] at hr
  simp only [Bool.false_eq_true, if_false] at hr
  refine ⟨hc, ?_, ?_, ?_⟩ <;> (unfold FsmTimer.ctxEvent; rw [hr]) <;> simp [live, setCtx]

/-- **`start` while on, restartable**: the event is accepted (`cond_start` is true), the pending timer is
    cancelled and a new one is armed for the full `t_on` from now -/
theorem timer_start_in_on_restartable (n : Int) (hn : 0 < n) (b : Dur) (init : String) (ops : List Op) (d : EvData)
    (hd : d.dur = Dur.none)
    (hf : (run (timerCfg (.us n) b true init) {} ops).failed = none)
    (hs : (run (timerCfg (.us n) b true init) {} ops).state = some "on")
    (ho : (run (timerCfg (.us n) b true init) {} ops).out.isUndef = false)
    (hst : (run (timerCfg (.us n) b true init) {} ops).stopped = false) :
    timerCondStart true (run (timerCfg (.us n) b true init) {} ops).state = true ∧
    (FsmTimer.ctxEvent (timerCfg (.us n) b true init) (run (timerCfg (.us n) b true init) {} ops) (.ev "start") d).2
      = .ret true ∧
    ∃ h', live (FsmTimer.ctxEvent (timerCfg (.us n) b true init) (run (timerCfg (.us n) b true init) {} ops)
              (.ev "start") d).1 = [h'] ∧
      h'.when = (run (timerCfg (.us n) b true init) {} ops).now + n.toNat ∧ h'.ev = .ev "stop" ∧
      h'.epoch = (run (timerCfg (.us n) b true init) {} ops).epoch + 1 := by
  have i := inv_reach (timerCfg (.us n) b true init) ops
  have q := quiet_run (timerCfg (.us n) b true init) ops {} quiet_init hf
  generalize run (timerCfg (.us n) b true init) {} ops = s at hf hs ho hst i q
  have hc : timerCondStart true s.state = true := by simp [timerCondStart]
  have hr := timer_resolve_start_on (.us n) b true init s d hs ho
  rw [hc] at hr
  simp only [if_true] at hr
  have i1 : Inv (timerCfg (.us n) b true init) (setCtx s d) :=
    inv_of_frame (frame_setCtx s d) rfl (fun h => h) i
  obtain ⟨hidle, -, lnow, lepoch, lstopped⟩ := leave_spec i1 (by simpa [setCtx] using hf)
  obtain ⟨lfailed, lnext⟩ := leave_fields (setCtx s d)
  have key := timer_enter_on n hn b true init (leave (setCtx s d)) d hd hidle.1
    (by rw [lnext]; simpa [setCtx] using q.1) (by rw [lfailed]; simpa [setCtx] using hf)
    (by rw [lstopped]; simpa [setCtx] using hst)
  have hce : FsmTimer.ctxEvent (timerCfg (.us n) b true init) s (.ev "start") d
      = (enterLoop (timerCfg (.us n) b true init) (timerCfg (.us n) b true init).tbl.chainLimit
          (leave (setCtx s d)) d "on", .ret true) := by
    unfold FsmTimer.ctxEvent; rw [hr]; simp only [key.1]
  rw [hce]
  have hnow : (leave (setCtx s d)).now + n.toNat = s.now + n.toNat := by rw [lnow]; rfl
  have hep : (leave (setCtx s d)).epoch + 1 = s.epoch + 1 := by rw [lepoch]; rfl
  exact ⟨hc, rfl, _, key.2, hnow, rfl, hep⟩

/-- **the output of a Timer is True exactly in state `on`**: whenever the simulation is not aborted and the
    block is initialised, the output is the translated `calc_output()` of the current state, i.e. `True` in
    `on` and `False` otherwise -/
theorem timer_output_true_exactly_in_on (a b : Dur) (r : Bool) (init : String) (ops : List Op)
    (hf : (run (timerCfg a b r init) {} ops).failed = none)
    (ho : (run (timerCfg a b r init) {} ops).out.isUndef = false) :
    (run (timerCfg a b r init) {} ops).out = .bool (timerCalcOutput (run (timerCfg a b r init) {} ops).state) ∧
    ((run (timerCfg a b r init) {} ops).out = .bool true ↔ (run (timerCfg a b r init) {} ops).state = some "on") := by
  have k := tout_run a b r init ops {} (fun _ => .inl rfl) hf
  have h1 : (run (timerCfg a b r init) {} ops).out
      = .bool (timerCalcOutput (run (timerCfg a b r init) {} ops).state) := by
    rcases k with k | k
    · rw [k] at ho; simp [Val.isUndef] at ho
    · rw [timerCalcOutput_eq]; exact k
  refine ⟨h1, ?_⟩
  rw [h1, timerCalcOutput_eq]
  by_cases hq : (run (timerCfg a b r init) {} ops).state = some "on" <;> simp [hq, Val.bool]

/-- **`t_on` / `t_off` not given or None = INF**: the translated constructor then leaves the class default
    INF in force and entering the state starts no timer (`t_period` not given) -/
theorem timer_duration_none_is_inf (kw : TimerKw) (r : Bool) (init : String) (c : Cfg)
    (h : timerInitCfg kw r init = .ok c) (hp : kw.tPeriod = none) :
    ((kw.tOn = none ∨ kw.tOn = some .none) →
      effDur c "on" .none = .inf ∧ ∀ s tev, startTimer c s "on" tev .none = s) ∧
    ((kw.tOff = none ∨ kw.tOff = some .none) →
      effDur c "off" .none = .inf ∧ ∀ s tev, startTimer c s "off" tev .none = s) := by
  rw [translated_timer_init_is_model] at h
  obtain ⟨p, a, b⟩ := kw
  cases hp
  simp only [timerNew, timerKwargs] at h
  split at h
  · cases h
  · cases h
    have hd := timer_instDur (a.getD .none) (b.getD .none) r init
    constructor
    · intro ha
      have : effDur (timerCfg (a.getD .none) (b.getD .none) r init) "on" .none = .inf := by
        show clamp _ = _
        rw [hd.1]
        rcases ha with rfl | rfl <;> rfl
      exact ⟨this, fun s tev => by simp only [startTimer, this]⟩
    · intro hb
      have : effDur (timerCfg (a.getD .none) (b.getD .none) r init) "off" .none = .inf := by
        show clamp _ = _
        rw [hd.2]
        rcases hb with rfl | rfl <;> rfl
      exact ⟨this, fun s tev => by simp only [startTimer, this]⟩

/-- **`t_period`**: the two halves -- `Timer(t_period=p)` is `Timer(t_on=p/2, t_off=p/2)` -- and `t_period` excludes
    `t_on` and `t_off` (TypeError) -/
theorem timer_period_is_two_halves (n : Int) (hn : 0 ≤ n) (kw : TimerKw) (r : Bool) (init : String) :
    timerInitCfg { tPeriod := some (.us n) } r init = .ok (timerCfg (.us (n / 2)) (.us (n / 2)) r init) ∧
    timerInitCfg { tPeriod := some (.us n) } r init = timerInitCfg { tOn := some (.us (n / 2)), tOff := some (.us (n / 2)) } r init ∧
    (kw.tPeriod.isSome = true → (kw.tOn.isSome || kw.tOff.isSome) = true →
      timerInitCfg kw r init = .error .typeError) := by
  have hn' : ¬ n < 0 := by omega
  refine ⟨?_, ?_, ?_⟩
  · rw [translated_timer_init_is_model]; simp [timerNew, timerKwargs, timePeriodDur, halfDur, clamp, hn']
  · rw [translated_timer_init_is_model, translated_timer_init_is_model]
    simp [timerNew, timerKwargs, timePeriodDur, halfDur, clamp, hn']
  · intro h1 h2
    rw [translated_timer_init_is_model]
    obtain ⟨p, a, b⟩ := kw
    cases p with
    | none => cases h1
    | some pv => simp only [timerNew, timerKwargs, h2, if_true]

/-- the hypotheses of the `timer_…` theorems above are satisfiable: a Timer(t_on=1s) that was started is on, with its
    timer pending, initialised, not stopped -/
example :
    (let s := run (timerCfg (.us 1000000) .none false) {} [.init, .ev 2000000 .after (.ev "start") {}]
     s.state = some "on" ∧ s.out.isUndef = false ∧ (live s).map (·.when) = [3000000]) ∧
    (let s := run (timerCfg (.us 1000000) .none true) {} [.init, .ev 2000000 .after (.ev "start") {}]
     s.failed = none ∧ s.state = some "on" ∧ s.out.isUndef = false ∧ s.stopped = false ∧
       (live s).map (·.when) = [3000000]) := by
  decide +kernel

/-- the constructor succeeds for the durations used -/
example : timerInitCfg {} true = .ok (timerCfg .none .none true) ∧
    timerInitCfg { tOn := some .none, tOff := some (.us 5) } false = .ok (timerCfg .none (.us 5) false) :=
  ⟨rfl, rfl⟩

end Edzed.TrTie
