/-
C15 — the finalized circuit's connection data is complete, consistent and frozen.

Model: EdzedModel/Wiring.lean (mirrors `Block.__init__`/`addblock`, `CBlock.connect`,
`_validate_blk`, the two passes of `_finalize`, `finalize` (which runs the name resolver first:
patches/C15-finalize-resolves-names.diff, in /repo), `_BlockResolver`, `input_signature`, `get_conf`).
Blocks are identified by their names (unique inside a circuit; `addBlock` refuses duplicates).
All statements hold for every reachable circuit (`Reach`); there is no bound on the number of blocks, inputs or calls.
-/
import EdzedModel.Wiring
import EdzedProofs.Wiring
import EdzedProofs.WiringSig
import EdzedModel.Gen.TranslatedSig
import EdzedModel.Gen.TranslatedVblk
import EdzedModel.Gen.TranslatedWiring
import EdzedProofs.WiringTie
import EdzedModel.Gen.TranslatedCsig
import EdzedModel.Gen.TranslatedCBlocks
import EdzedProofs.CsigTie

namespace Edzed.Wiring

/-- `c` was built through the API in any order and any number of calls — block creation, `connect`,
    `Event`/filter registration, `set_persistent_data`, `finalize` (also failed attempts, which leave a
    half-processed circuit, and retries) -/
inductive Reach : Circ → Prop where
  | empty : Reach {}
  | addBlock {c c' n k r} : Reach c → addBlock c n k r = .ok c' → Reach c'
  | connect {c c' b pos named} : Reach c → connect c b pos named = .ok c' → Reach c'
  | register {c c' r needS} : Reach c → register c r needS = .ok c' → Reach c'
  | setStorage {c c' d} : Reach c → setStorage c d = .ok c' → Reach c'
  | finalize {c} : Reach c → Reach (finalize c).1

theorem reach_good {c : Circ} (h : Reach c) : Good c := by
  induction h with
  | empty => exact good_empty
  | addBlock _ h ih => exact addBlock_good h ih
  | connect _ h ih => exact connect_good h ih
  | register _ h ih => exact register_good h ih
  | setStorage _ h ih => exact setStorage_good h ih
  | finalize _ ih => exact (finalize_good ih).1

theorem finalize_done {c w : Circ} (hr : Reach c) (h : finalize c = (w, none)) : Good w ∧ w.finalized = true := by
  have g := finalize_good (reach_good hr)
  rw [h] at g
  exact ⟨g.1, g.2 rfl⟩

/-- `wiring_biconditional`: after a successful `finalize()` of any circuit built through the API,
    for all blocks A and every CBlock B:  B ∈ A.oconnections ⇔ A ∈ B.iconnections ⇔ A feeds one
    of B's inputs.  (The first equivalence holds for every pair of names.) -/
theorem wiring_biconditional {c w : Circ} (hr : Reach c) (h : finalize c = (w, none))
    (a b : String) (cls : CCls) (hb : w.kind b = some (.c cls)) :
    (b ∈ w.oconn a ↔ a ∈ w.iconn b) ∧
    (a ∈ w.iconn b ↔ Ref.obj false a ∈ allRefs (w.inputs b)) := by
  obtain ⟨g, hf⟩ := finalize_done hr h
  have hd := g.done hf b cls hb
  refine ⟨g.inv.sym a b, fun ha => ?_, fun ha => ((hd _ ha).2 a rfl).1⟩
  obtain ⟨f, hf'⟩ := g.inv.sub a b ha
  cases f with
  | false => exact hf'
  | true => have := (hd _ hf').1; cases this

/-- the symmetric half also holds in every reachable state, finalized or not, even after a
    failed `finalize()` (no block ever claims a connection that the other side does not know,
    and every registered connection is visible in `inputs`) -/
theorem connections_consistent_always {c : Circ} (hr : Reach c) (a b : String) :
    (b ∈ c.oconn a ↔ a ∈ c.iconn b) ∧ (a ∈ c.iconn b → ∃ f, Ref.obj f a ∈ allRefs (c.inputs b)) :=
  ⟨(reach_good hr).inv.sym a b, (reach_good hr).inv.sub a b⟩

/-- `refs_resolved` (1): in the finalized circuit every input of every CBlock is a block object
    of this circuit that exists under that name, or a `Const` -/
theorem refs_resolved {c w : Circ} (hr : Reach c) (h : finalize c = (w, none))
    (b : String) (cls : CCls) (hb : w.kind b = some (.c cls)) (r : Ref)
    (hm : r ∈ allRefs (w.inputs b)) :
    (∃ a, r = .obj false a ∧ (w.kind a).isSome ∧ a ∈ w.iconn b) ∨ ∃ v, r = .const v := by
  obtain ⟨g, hf⟩ := finalize_done hr h
  obtain ⟨h1, h2⟩ := g.done hf b cls hb r hm
  cases r with
  | obj f a =>
    cases f with
    | false => exact Or.inl ⟨a, rfl, (h2 a rfl).2, (h2 a rfl).1⟩
    | true => cases h1
  | const v => exact Or.inr ⟨v, rfl⟩
  | name s => cases h1
  | val v => cases h1

/-- `refs_resolved` (2): what `_validate_blk` returns for one reference: a block object stays,
    a name becomes the existing block of exactly that name, a `Const` stays, any other value
    is wrapped into the `Const` of that value; foreign blocks and UNDEF are never accepted -/
theorem resolution_rule {c c' : Circ} {r r' : Ref} (h : validateBlk c r = .ok (c', r')) :
    r' = r.target ∧ r.okShape = true ∧ ∀ n, r' = .obj false n → (c'.kind n).isSome :=
  ⟨(validateBlk_vb h).target, (validateBlk_vb h).shape, (validateBlk_vb h).exists_⟩

/-- `refs_resolved` (3): processing one block in `_finalize` replaces its inputs position by
    position (names, group sizes and order kept) and registers all of them -/
theorem block_inputs_resolved {c c' : Circ} {b : String} (hb : (c.kind b).isSome)
    (h : finalizeBlk c b = (c', none)) :
    c'.inputs b = (c.inputs b).map (fun p => (p.1, p.2.mapT)) ∧
    (c'.inputs b).map (fun p => (p.1, p.2.sigVal)) = (c.inputs b).map (fun p => (p.1, p.2.sigVal)) ∧
    ∀ a, Ref.obj false a ∈ allRefs (c'.inputs b) → a ∈ c'.iconn b := by
  have fb := finalizeBlk_fb hb h
  have h3 := (fb.ok rfl).2
  have h1 := h3.inputs (fb.grow.res b hb)
  refine ⟨h1, ?_, fun a ha => ((h3 _ ha).2 a rfl).1⟩
  rw [h1]; simp [mapI, Inp.mapT_sigVal]

/-- `inverter_unique_shared`: a `'_not_X'` reference always resolves to THE block of that name;
    the first reference creates it (a `Not` whose only input is the name `X`, appended to the
    circuit), every later reference -- in whatever grown circuit -- finds it and creates nothing.
    Stated for every name: the same holds of `'_ctrl'`, and a name of an existing block creates nothing at all -/
theorem inverter_unique_shared {c c1 : Circ} {s : String} {r1 : Ref}
    (h : validateBlk c (.name s) = .ok (c1, r1)) :
    r1 = .obj false s ∧
    (c1 = c ∨ (c.kind s = none ∧ c1.order = c.order ++ [s] ∧
       ((c1.kind s = some .s ∧ c1.inputs = c.inputs) ∨
        (c1.kind s = some (.c .not) ∧ ∃ t, notTarget? s = some t ∧
           c1.inputs = upd c.inputs s [("_", .group [.name t])])))) ∧
    ∀ c2 : Circ, (∀ x k, c1.kind x = some k → c2.kind x = some k) →
      validateBlk c2 (.name s) = .ok (c2, r1) := by
  simp only [validateBlk] at h
  obtain ⟨e, hn⟩ := validateName_spec h
  refine ⟨e, ?_, fun c2 hk => ?_⟩
  · rcases hn.created with h0 | ⟨a1, _, a3, _, a5⟩
    · exact Or.inl h0
    · exact Or.inr ⟨a1, a3, a5⟩
  · obtain ⟨k, hk1⟩ := Option.isSome_iff_exists.mp hn.kind
    have h2 := hk s k hk1
    -- a name that is known goes straight to `findblock`, whatever it begins with
    simp [validateBlk, validateName, findblock, h2, e]

/-- `inverter_target_is_suffix`: the block an automatic inverter is connected to is named by
    EXACTLY the characters after the five-character prefix `_not_` -- nothing more is stripped,
    whatever the name begins with (`_not_tx` inverts `tx`, never `x`; `_not_north` inverts `north`) -/
theorem inverter_target_is_suffix (s t : String) :
    notTarget? s = some t ↔ s = "_not_" ++ t ∧ startsUnderscore t = false := by
  constructor
  · intro h
    refine ⟨?_, notTarget_noUnderscore h⟩
    unfold notTarget? at h
    split at h
    · next rest hs =>
      split at h
      · cases h
      · cases h
        apply String.toList_injective
        rw [hs, String.toList_append, String.toList_ofList]
        simp
    · cases h
  · rintro ⟨rfl, hu⟩
    unfold notTarget?
    have : ("_not_" ++ t).toList = '_' :: 'n' :: 'o' :: 't' :: '_' :: t.toList := by
      rw [String.toList_append]; rfl
    rw [this]
    simp only
    unfold startsUnderscore at hu
    split
    · next x tl hx => rw [hx] at hu; simp at hu
    · simp [String.ofList_toList]

/-- a duplicate of an existing name (hence a second inverter) is always refused -/
theorem duplicate_name_refused (c : Circ) (n : String) (k : BKind) (r : Bool)
    (h : (c.kind n).isSome) : ∃ e, addBlock c n k r = .error e :=
  error_of_not_ok fun c' hc => by
    rw [(addBlock_ok hc).1] at h; cases h

/-- `conf_matches_signature`: `get_conf()['inputs']` has the same input names in the same order
    as `input_signature()`, a group where the signature has a size (the same size), a single
    name where it has `None` -/
theorem conf_matches_signature (c : Circ) (b : String) (l : List (String × ConfInp))
    (sig : List (String × Option Nat))
    (h1 : getConfInputs c b = some (some l)) (h2 : inputSignature c b = .ok sig) :
    l.map (fun p => (p.1, p.2.sigVal)) = sig := by
  obtain ⟨_, h2⟩ := ok_of_guard h2
  cases h2
  unfold getConfInputs at h1
  cases hf : c.finalized with
  | false => rw [hf] at h1; cases h1
  | true =>
    rw [hf] at h1
    refine map_of_mapM (fun p q hq => ?_) _ l (Option.some.inj h1)
    obtain ⟨x, hx, rfl⟩ := Option.map_eq_some_iff.mp hq
    rw [Inp.conf_sigVal hx]

/-- in a finalized reachable circuit `get_conf()` of a connected CBlock never trips over an
    unresolved reference -/
theorem conf_defined {c : Circ} (hr : Reach c) (hf : c.finalized = true) (b : String) (cls : CCls)
    (hb : c.kind b = some (.c cls)) : getConfInputs c b ≠ some none := by
  have hd := (reach_good hr).done hf b cls hb
  obtain ⟨l, hl⟩ := mapM_some_of_forall (f := fun p : String × Inp => (p.2.conf).map fun x => (p.1, x))
    (c.inputs b) fun p hp => by
      obtain ⟨x, hx⟩ := p.2.conf_isSome fun r hr =>
        (hd r (List.mem_flatMap.mpr ⟨p, hp, hr⟩)).1
      exact ⟨(p.1, x), by rw [hx]; rfl⟩
  rw [getConfInputs, if_pos hf, hl]
  nofun

/-- `resolver_by_name`: a successful run of the resolver replaces every name held by an event or
    a filter by the block of exactly that name, which exists and is an SBlock where one is
    required; objects given directly are kept -/
theorem resolver_by_name {c w : Circ} (h : resolve c = (w, none)) :
    w.slots = c.slots.map Slot.res ∧
    ∀ sl ∈ c.slots, ∀ s, sl.ref = .name s →
      ∃ k, w.kind s = some k ∧ (sl.needS = true → k = .s) := by
  simpa using (resolveSlots_grow _ _ _ _ _ h).2 rfl

/-- after a successful `finalize()` no event or filter holds a name any more:
    `Event.dest` is available -/
theorem dest_available_after_finalize {c w : Circ} (hf : c.finalized = false)
    (h : finalize c = (w, none)) (i : Nat) (sl : Slot) (hs : w.slots[i]? = some sl) :
    ∃ n, slotDest w i = .ok n := by
  obtain ⟨c1, c2, h1, h2, rfl⟩ := finalize_ok hf h
  have hsl : c2.slots = c.slots.map Slot.res := (finalizeCore_rs h2).2.trans (resolver_by_name h1).1
  unfold slotDest
  simp only [hsl, List.getElem?_map] at hs ⊢
  cases h0 : c.slots[i]? with
  | none => rw [h0] at hs; cases hs
  | some sl0 =>
    obtain ⟨ref, ns⟩ := sl0
    cases ref with
    | name s => exact ⟨s, rfl⟩
    | obj n => exact ⟨n, rfl⟩

/-- `bad_refs_fail`: each class of invalid reference is refused with an error -/
theorem bad_refs_fail (c : Circ) :
    -- a name that is neither a block nor an automatic name
    (∀ s, c.kind s = none → startsUnderscore s = false → validateBlk c (.name s) = .error .keyError) ∧
    -- a block of another circuit; UNDEF
    (∀ n, validateBlk c (.obj true n) = .error .valueError) ∧
    validateBlk c (.val .undef) = .error .valueError ∧
    -- an event destination / IfNotIitialized control block that is a CBlock, given as object
    (∀ n cls, c.kind n = some (.c cls) → register c (.obj n) true = .error .typeError) ∧
    -- wrongly shaped connect() calls
    (∀ b pos named, pos.any Ref.isMultiple = true → ∃ e, connect c b pos named = .error e) ∧
    (∀ b, ∃ e, connect c b [] [] = .error e) ∧
    (∀ b pos named, named.any (fun p => p.1 == "_") = true → ∃ e, connect c b pos named = .error e) ∧
    (∀ b pos named, c.inputs b ≠ [] → ∃ e, connect c b pos named = .error e) ∧
    -- an unconnected block has no signature (start() of Not / Override fails)
    (∀ b esig, c.inputs b = [] → checkSignature c b esig = .error .invalidState) := by
  refine ⟨?_, fun _ => rfl, rfl, ?_, ?_, ?_, ?_, ?_, ?_⟩
  · intro s hk hs
    show validateName c s = _
    rw [validateName, hs, findblock, hk]
    rfl
  · intro n cls hk
    rw [register, hk]
    rfl
  · exact fun b pos named hm => error_of_not_ok fun c' hc => by
      obtain ⟨_, _, _, _, _, _, h, _⟩ := connect_ok hc
      rw [hm] at h; cases h
  · exact fun b => error_of_not_ok fun c' hc => by
      obtain ⟨_, _, _, _, h, _⟩ := connect_ok hc
      cases h
  · exact fun b pos named hm => error_of_not_ok fun c' hc => by
      obtain ⟨_, _, _, _, _, h, _⟩ := connect_ok hc
      rw [hm] at h; cases h
  · exact fun b pos named hm => error_of_not_ok fun c' hc => hm (connect_ok hc).2.2.2.1
  · intro b esig hb
    rw [checkSignature, inputSignature, hb]
    rfl

/-- a block whose inputs contain a foreign block or UNDEF can not be finalized -/
theorem bad_refs_fail_block {c c' : Circ} {b : String} (hb : (c.kind b).isSome)
    (h : finalizeBlk c b = (c', none)) : ∀ r ∈ allRefs (c.inputs b), r.okShape = true :=
  ((finalizeBlk_fb hb h).ok rfl).1

/-- `foreign_input_refused`: a circuit in which ANY input of ANY CBlock -- a single input, a member
    of a named or of the unnamed group, the input of a `Not` -- is a block object of another
    circuit (whatever its name, also one no block of this circuit has) or UNDEF cannot be
    finalized: `finalize()` (hence the start) fails -/
theorem foreign_input_refused {c : Circ} (hr : Reach c) (hf : c.finalized = false)
    (b : String) (cls : CCls) (hb : c.kind b = some (.c cls)) (r : Ref)
    (hm : r ∈ allRefs (c.inputs b)) (hbad : r.okShape = false) : (finalize c).2 ≠ none := by
  intro hnone
  obtain ⟨c1, c2, h1, h2, _⟩ := finalize_ok (w := (finalize c).1) hf (Prod.ext rfl hnone)
  obtain ⟨rs, hin⟩ := resolveSlots_rs h1
  have := finalizeCore_shapes (rs.wf (reach_good hr).wf) h2 b cls (rs.kind b _ hb) r
    (by rw [hin b (isSome_of_kind hb)]; exact hm)
  rw [hbad] at this; cases this

/-- every input the resolver lets through is a block of THIS circuit or a Const: the result of
    `_validate_blk` is never a foreign block, and a block it returns is registered in the circuit
    it returns -/
theorem resolved_input_is_local_or_const {c c' : Circ} {r r' : Ref}
    (h : validateBlk c r = .ok (c', r')) :
    (∃ n, r' = .obj false n ∧ (c'.kind n).isSome) ∨ ∃ v, r' = .const v := by
  have vb := validateBlk_vb h
  have hres := target_resolved r
  rw [← vb.target] at hres
  cases r' with
  | obj f n =>
    cases f with
    | false => exact Or.inl ⟨n, rfl, vb.exists_ n rfl⟩
    | true => cases hres
  | const v => exact Or.inr ⟨v, rfl⟩
  | name s => cases hres
  | val v => cases hres

/-- a destination by name that turns out to be of the wrong kind makes the resolver fail -/
theorem bad_refs_fail_wrong_kind_by_name {c w : Circ} {e : Option Err} (h : resolve c = (w, e))
    (sl : Slot) (hs : sl ∈ c.slots) (s : String) (hn : sl.ref = .name s) (hS : sl.needS = true)
    (hk : ∀ w' : Circ, (∀ x k, c.kind x = some k → w'.kind x = some k) → w'.kind s ≠ some .s) :
    e ≠ none := by
  intro he
  subst he
  obtain ⟨k, h1, h2⟩ := (resolver_by_name h).2 sl hs s hn
  have := (resolveSlots_rs h).1.kind
  exact hk w this (by rw [h1, h2 hS])

/-- `frozen_after_finalize`: in a finalized circuit no block can be added, nothing can be
    connected, the storage cannot be replaced; `finalize()` itself is idempotent -/
theorem frozen_after_finalize (c : Circ) (hf : c.finalized = true) :
    (∀ n k r, ∃ e, addBlock c n k r = .error e) ∧
    (∀ b pos named, ∃ e, connect c b pos named = .error e) ∧
    (∀ d, setStorage c d = .error .invalidState) ∧
    finalize c = (c, none) := by
  refine ⟨?_, ?_, ?_, ?_⟩
  · exact fun n k r => error_of_not_ok fun c' h => by
      have := (addBlock_ok h).2.1; rw [hf] at this; cases this
  · exact fun b pos named => error_of_not_ok fun c' h => by
      have := (connect_ok h).2.1; rw [hf] at this; cases this
  · intro d
    rcases c with ⟨_, _, _, _, _, fin, st, _, _⟩
    cases hf
    cases st <;> rfl
  · rw [finalize, if_pos hf]

/-- a successful `finalize()` sets the flag `is_finalized()` reports -/
theorem finalize_sets_flag {c w : Circ} (hr : Reach c) (h : finalize c = (w, none)) :
    w.finalized = true :=
  (finalize_done hr h).2

/-! non-vacuity: a circuit with a forward reference by name, a shared inverter shortcut and a
    Const finalizes, and the hypotheses of the theorems above are met -/
def demo : Circ :=
  let c0 : Circ := {}
  match addBlock c0 "a" (.c .any) false with
  | .error _ => c0
  | .ok c1 =>
    match connect c1 "a" [.name "_not_s", .name "_not_s", .val (.atom (.num 2 .int))] [("g", .group [.name "s"])] with
    | .error _ => c1
    | .ok c2 =>
      match addBlock c2 "s" .s false with
      | .error _ => c2
      | .ok c3 => c3

example : (finalize demo).2 = none ∧ (finalize demo).1.order = ["a", "s", "_not_s"] ∧
    (finalize demo).1.iconn "a" = ["_not_s", "s"] ∧ (finalize demo).1.oconn "s" = ["a", "_not_s"] ∧
    (finalize demo).1.kind "_not_s" = some (.c .not) := by
  decide

/-! ### the form in which a group is handed over is not an input

    `connect()` stores `tuple(inp)` for every keyword argument that `_is_multiple` accepts -- a
    tuple, a list, any other Sequence, an iterator or a generator.  In the model a group IS its
    member list; a tuple / list VALUE given for a keyword is normalised to the group of its items
    (`normInp`).  Everything after `connect` (finalisation, connection data, `get_conf`,
    `input_signature`, `check_signature`) is a function of the circuit, so it depends on the
    member lists only. -/

/-- `connect_depends_on_members`: two `connect()` calls whose keyword arguments have the same
    names and, after normalisation, the same member lists give the same circuit (or the same error) -/
theorem connect_depends_on_members (c : Circ) (b : String) (pos : List Ref) (named1 named2 : Inputs)
    (h : named1.map (fun p => (p.1, normInp p.2)) = named2.map (fun p => (p.1, normInp p.2))) :
    connect c b pos named1 = connect c b pos named2 := by
  have hlen : named1.isEmpty = named2.isEmpty := by
    have := congrArg List.length h
    simp only [List.length_map] at this
    cases named1 <;> cases named2 <;> simp_all
  have hany : named1.any (fun p => p.1 == "_") = named2.any (fun p => p.1 == "_") := by
    have e : ∀ l : Inputs, l.any (fun p => p.1 == "_") =
        (l.map (fun p => (p.1, normInp p.2))).any (fun p => p.1 == "_") := by
      intro l; rw [List.any_map]; rfl
    rw [e named1, e named2, h]
  unfold connect connectInputs
  rw [hlen, hany, h]

/-- a tuple value, a list value and the explicit group of their items are the same input -/
theorem group_forms_agree (c : Circ) (b k : String) (pos : List Ref) (l : List Atom) (rest : Inputs) :
    connect c b pos ((k, .single (.val (.tup l))) :: rest) =
      connect c b pos ((k, .group (l.map fun a => .val (.atom a))) :: rest) ∧
    connect c b pos ((k, .single (.val (.lst l))) :: rest) =
      connect c b pos ((k, .group (l.map fun a => .val (.atom a))) :: rest) :=
  ⟨connect_depends_on_members _ _ _ _ _ rfl, connect_depends_on_members _ _ _ _ _ rfl⟩

/-! ### shape of the inputs: `check_signature` (called by `start()` of Not, Override, Compare and
    of custom blocks) -/

/-- `check_signature_accepts_iff`: the check passes exactly if the block is connected, the input
    names are the expected ones and EVERY input has the expected shape: a single input where a
    single input is expected, a group -- of a size within the bounds, 0 included -- where a group
    is expected -/
theorem check_signature_accepts_iff (c : Circ) (b : String) (esig : List (String × Expect)) :
    checkSignature c b esig = .ok () ↔
      ∃ bsig, inputSignature c b = .ok bsig ∧ sameKeys bsig esig = true ∧
        ∀ p ∈ esig, ∃ v, bsig.lookup p.1 = some v ∧ p.2.accepts v := by
  rw [checkSignature_ok_iff]
  exact exists_congr fun bsig => and_congr_right fun _ => accepted_iff bsig esig

/-- a mismatch is always refused with ValueError (an unconnected block with InvalidState) -/
theorem check_signature_refuses (c : Circ) (b : String) (esig : List (String × Expect)) :
    checkSignature c b esig = .ok () ∨ checkSignature c b esig = .error .valueError ∨
    (c.inputs b = [] ∧ checkSignature c b esig = .error .invalidState) := by
  rcases inputSignature_cases c b with ⟨hi, he⟩ | ⟨bsig, hs⟩
  · exact Or.inr (Or.inr ⟨hi, by rw [checkSignature, he]⟩)
  · rw [checkSignature_eq hs]
    cases accepted bsig esig
    · exact Or.inr (Or.inl rfl)
    · exact Or.inl rfl

/-- `empty_group_is_not_single`: a group of ANY size -- also the explicitly connected empty group
    `name=()` -- where a single input is expected makes the check fail; so does a single input
    where a group (exact size or range) is expected -/
theorem empty_group_is_not_single (c : Circ) (b k : String) (esig : List (String × Expect))
    (bsig : List (String × Option Nat)) (hs : inputSignature c b = .ok bsig) :
    (∀ n, (k, Expect.single) ∈ esig → bsig.lookup k = some (some n) →
        checkSignature c b esig = .error .valueError) ∧
    (∀ e, e ≠ Expect.single → (k, e) ∈ esig → bsig.lookup k = some none →
        checkSignature c b esig = .error .valueError) := by
  have no_ok : ∀ e v, (k, e) ∈ esig → bsig.lookup k = some v → ¬ e.accepts v →
      checkSignature c b esig = .error .valueError := by
    intro e v he hl hna
    rw [checkSignature_eq hs]
    cases ha : accepted bsig esig
    · rfl
    · obtain ⟨v', hv', ha'⟩ := ((accepted_iff bsig esig).mp ha).2 (k, e) he
      rw [hl] at hv'; cases hv'
      exact absurd ha' hna
  refine ⟨fun n he hl => no_ok _ _ he hl (by simp [Expect.accepts]), fun e hne' he hl => no_ok _ _ he hl ?_⟩
  cases e with
  | single => exact absurd rfl hne'
  | exact n => simp [Expect.accepts]
  | range lo hi => simp [Expect.accepts]
  | malformed => simp [Expect.accepts]

/-- what `start()` checks for the library blocks: `Not` needs exactly one unnamed input,
    `Override` the two single inputs `input` and `override` -/
theorem library_signatures :
    expectedSig .not = some [("_", .exact 1)] ∧
    expectedSig .ovr = some [("input", .single), ("override", .single)] ∧
    ∀ esig, expectedSig (.sig esig) = some esig := ⟨rfl, rfl, fun _ => rfl⟩

example : ∃ c : Circ, checkSignature c "b" [("input", .single), ("g", .range (some 0) (some 2))] = .ok () ∧
    checkSignature c "b" [("input", .single), ("g", .single)] = .error .valueError :=
  ⟨{ inputs := fun _ => [("input", .single (.name "x")), ("g", .group [])] }, by rfl, by rfl⟩

end Edzed.Wiring

/-! ### tie to the source by translation (tools/py2lean_sig.py regenerates `Gen.Tr.sigValueDiff` from
    the inner helper `valuediff_msg` of `CBlock.check_signature`) -/
namespace Edzed.TrTie
open Edzed.Wiring

/-- Python value of an expectation: `None` | int | `(cmin, cmax)`; a malformed one has none -/
def encExpect : Expect → Option (Option (Nat ⊕ (Option Nat × Option Nat)))
  | .single => some none
  | .exact n => some (some (.inl n))
  | .range lo hi => some (some (.inr (lo, hi)))
  | .malformed => none

/-- the model's item comparison IS the translated `valuediff_msg` (for every well-formed
    expectation and every signature value, the empty group included) -/
theorem translated_valuediff_is_model (e : Expect) (v : Option Nat)
    (x : Option (Nat ⊕ (Option Nat × Option Nat))) (h : encExpect e = some x) :
    Gen.Tr.sigValueDiff v x = valueDiff e v :=
  CsigTie.valuediff_enc e v x h

/-! #### the resolver `Circuit._validate_blk` (tools/py2lean_vblk.py regenerates the decision tree
     `Gen.Tr.validateBlkTree` from the current source) -/

def vblkStartsNot (s : String) : Bool :=
  match s.toList with
  | '_' :: 'n' :: 'o' :: 't' :: '_' :: _ => true
  | _ => false

/-- `blk[5:6] == '_'` -/
def vblkSixth (s : String) : Bool :=
  match s.toList.drop 5 with
  | '_' :: _ => true
  | _ => false

def vblkStr? : Ref → Option String
  | .name s => some s
  | .val (.atom (.str s)) => some s
  | _ => none

/-- what the tests of the resolver see of the string `s` in circuit `c` -/
def vblkNameArg (c : Circ) (s : String) : Gen.Tr.VArg :=
  { isStr := true, startsUnderscore := startsUnderscore s, startsNot := vblkStartsNot s,
    sixthUnderscore := vblkSixth s, isCtrl := s == "_ctrl", nameKnown := (c.kind s).isSome }

/-- what the tests of the resolver see of a reference in circuit `c` -/
def vblkClassify (c : Circ) (r : Ref) : Gen.Tr.VArg :=
  match r with
  | .const _ => { isConst := true }
  | .obj foreign n => { isBlockObj := true, member := !foreign && (c.kind n).isSome }
  | r =>
    match vblkStr? r with
    | some s => vblkNameArg c s
    | none => {}

/-- the actions, in terms of the model's constructors -/
def vblkRun (c : Circ) (r : Ref) : Gen.Tr.VAct → Except Err (Circ × Ref)
  | .retSelf =>
    match r with
    | .const v => .ok (c, .const v)
    | .obj _ n => .ok (c, .obj false n)
    | _ => .error .typeError
  | .mkCtrl =>
    match vblkStr? r with
    | some s =>
      match addBlock c s .s true with
      | .error e => .error e
      | .ok c1 => .ok (c1, .obj false s)
    | none => .error .typeError
  | .mkNot =>
    match vblkStr? r with
    | some s =>
      match addBlock c s (.c .not) true with
      | .error e => .error e
      | .ok c1 =>
        -- `.connect(blk.removeprefix('_not_'))` on a name that starts with `_not_`
        match connect c1 s [.name (String.ofList (s.toList.drop 5))] [] with
        | .error e => .error e
        | .ok c2 => .ok (c2, .obj false s)
    | none => .error .typeError
  | .findblock =>
    match vblkStr? r with
    | some s => findblock c s
    | none => .error .typeError
  | .mkConst =>
    match r with
    | .val .undef => .error .valueError          -- `Const(UNDEF)`
    | .val v => .ok (c, .const v)
    | _ => .error .typeError
  | .raiseValueError => .error .valueError

theorem vblk_notTarget (s : String) :
    notTarget? s = if vblkStartsNot s && !vblkSixth s then some (String.ofList (s.toList.drop 5)) else none := by
  unfold notTarget? vblkStartsNot vblkSixth
  split
  · next rest heq =>
    simp only [heq, List.drop_succ_cons, List.drop_zero, Bool.true_and]
    cases rest with
    | nil => simp
    | cons a tl =>
      by_cases ha : a = '_'
      · subst ha; simp
      · simp [ha]
  · next hne =>
    split
    · next rest heq => exact absurd heq (hne rest)
    · simp

theorem vblk_name (c : Circ) (s : String) (r : Ref) (hr : vblkStr? r = some s)
    (hc : vblkClassify c r = vblkNameArg c s) :
    vblkRun c r (Gen.Tr.validateBlkTree (vblkClassify c r)) = validateName c s := by
  rw [hc]
  unfold Gen.Tr.validateBlkTree validateName vblkNameArg
  -- program and model are the same tree of tests once the model's match on `notTarget?` is an `if`; `vblkRun` is pushed
  -- through the program's `if`s before it is unfolded (unfolded first, it becomes a `match` on an `if`)
  simp only [Bool.false_eq_true, if_false, if_true, apply_ite (vblkRun c r), vblk_notTarget]
  simp only [vblkRun, hr]
  -- the conditions agree up to the order of their conjuncts and the spelling of negations
  refine ite_congr (by simp only [Bool.and_comm, pybool])
    (fun _ => ite_congr (by simp only [pybool]) (fun _ => ?_) fun _ => ?_) fun _ => rfl
  · cases addBlock c s .s true <;> rfl
  · cases vblkStartsNot s <;> cases vblkSixth s <;> simp only [pybool, ↓reduceIte]
    cases addBlock c s (.c .not) true with
    | error e => rfl
    | ok c1 => cases connect c1 s [.name (String.ofList (s.toList.drop 5))] [] <;> rfl

/-- the model's resolver IS the translated decision tree of `Circuit._validate_blk`, run on the
    classification of the reference, with the model's block / Const constructors as actions:
    same tests in the same order -- in particular membership of the OBJECT in the circuit decides
    for block objects, and the inverter is connected to `blk.removeprefix('_not_')` -/
theorem translated_validate_blk_is_model (c : Circ) (r : Ref) :
    vblkRun c r (Gen.Tr.validateBlkTree (vblkClassify c r)) = validateBlk c r := by
  cases r with
  | const v => rfl
  | name s => exact vblk_name c s _ rfl rfl
  | obj f n =>
    show vblkRun c _ (Gen.Tr.validateBlkTree { isBlockObj := true, member := !f && (c.kind n).isSome }) =
      if (f || !(c.kind n).isSome) = true then _ else _
    cases f <;> cases (c.kind n).isSome <;> rfl
  | val v =>
    cases v with
    | undef => rfl
    | tup l => rfl
    | lst l => rfl
    | atom a =>
      cases a with
      | none => rfl
      | num q k => rfl
      | str s => exact vblk_name c s _ rfl rfl

/-! #### construction and finalisation (tools/py2lean_wiring.py regenerates the programs
     `Gen.TrW.…` from the current source; EdzedProofs/WiringTie.lean interprets their primitives in the
     model: `WiringTie.prims`).  Each theorem: running the translated method on ANY circuit gives
     exactly the state and the error (or success) of the model's operation.  `KeysOK c`: the input
     names of every CBlock are distinct -- they are the keys of a Python dict. -/

open Edzed.WiringTie

/-- `_is_multiple`: a group (any Sequence but str, or an iterator) is multiple, a single reference is
    multiple exactly if it is a tuple / list value -/
theorem translated_wiring_is_multiple (kd : BKind) (a : Inp) :
    Gen.TrW.isMultiple (prims kd) a = (match a with
      | .group _ => true
      | .single r => r.isMultiple) := isMultiple_prims kd a

theorem translated_wiring_check_not_finalized (kd : BKind) (c : Circ) :
    Gen.TrW.checkNotFinalized (prims kd) c =
      (c, match Wiring.checkNotFinalized c with
          | Except.ok () => Except.ok ()
          | Except.error e => Except.error (excOf e)) := checkNotFinalized_run kd c

theorem translated_wiring_set_persistent_data (kd : BKind) (c : Circ) (d : Option Nat) :
    Gen.TrW.setPersistentData (prims kd) d c = ofExcept c (Wiring.setStorage c d) :=
  setPersistentData_run kd c d

/-- the model's block creation = the name rules of `Block.__init__`, then the translated `addblock` -/
theorem translated_wiring_addblock (kd : BKind) (c : Circ) (n : String) (reserved : Bool) :
    Wiring.addBlock c n kd reserved =
      if n.isEmpty then .error .valueError
      else if startsUnderscore n && !reserved then .error .valueError
      else match Gen.TrW.addblock (prims kd) n c with
        | (c', .ok ()) => .ok c'
        | (_, .error _) =>
          match Wiring.checkNotFinalized c with
          | .error e => .error e
          | .ok () => .error .valueError := addblock_run kd c n reserved

/-- `CBlock.connect(*pos, **named)` of a CBlock `b`: the translated statements (only-once rule, no
    inputs, the reserved name, no sequence as positional input, the unnamed group stored as given,
    every keyword argument stored as `tuple(inp)` if multiple and as is otherwise -- no other pass
    over a keyword argument) ARE the model's `connect` -/
theorem translated_wiring_connect (kd : BKind) (c : Circ) (b : String) (cls : CCls) (pos : List Ref)
    (named : Inputs) (hb : c.kind b = some (.c cls)) (hnd : (named.map (·.1)).Nodup) :
    Gen.TrW.connect (prims kd) b (pos.map Inp.single) named c = ofExcept c (Wiring.connect c b pos named) :=
  connect_run kd c b cls pos named hb hnd

/-- `_BlockResolver.register`, run for the holder object just created -/
theorem translated_wiring_register (kd : BKind) (c : Circ) (r : SRef) (needS : Bool) :
    Gen.TrW.register (prims kd) (c.slots.length, needS) (withSlots (c.slots ++ [⟨r, needS⟩]) c) =
      match Wiring.register c r needS with
      | .ok c' => (c', .ok ())
      | .error e => (withSlots (c.slots ++ [⟨r, needS⟩]) c, .error (excOf e)) := register_run kd c r needS

/-- `_BlockResolver.__init__`: a new resolver has no registration to resolve (and keeps the resolve
    function it was given, `Circuit._validate_blk`: checked by the generator) -/
theorem translated_wiring_resolver_init (kd : BKind) (c : Circ) :
    Gen.TrW.resolverInit (prims kd) c = (c, .ok ()) ∧ (prims kd).unresolved ({} : Circ) = [] :=
  ⟨rfl, rfl⟩

/-- `_BlockResolver.resolve`: every registration that holds a name, in order: resolve, check the
    type, store; the first failure ends the loop with what was stored so far -/
theorem translated_wiring_resolve (kd : BKind) (c : Circ) :
    Gen.TrW.resolve (prims kd) c = ofState (Wiring.resolve c) := resolve_run kd c

/-- `Circuit._finalize`: the translated loops ARE the model's two passes -- all CBlocks of a
    snapshot, then all `Not` blocks of a snapshot taken AFTER the first pass (so that the inverters
    it created are processed), per block: every input resolved and stored under its name, then
    every non-Const input registered in `iconnections` and in the `oconnections` of the circuit's
    block of that name -/
theorem translated_wiring_finalize_inner (kd : BKind) (c : Circ) (hk : KeysOK c) :
    Gen.TrW.finalizeInner (prims kd) c = ofState (Wiring.finalizeCore c) :=
  (finalizeInner_run kd c hk).1

/-- `Circuit.finalize`: nothing when finalized; otherwise resolver, `_finalize`, then the flag -/
theorem translated_wiring_finalize (kd : BKind) (c : Circ) (hk : KeysOK c) :
    Gen.TrW.finalize (prims kd) c = ofState (Wiring.finalize c) := finalize_run kd c hk

/-- the start (`run_forever`) completes the wiring by the resolver FOLLOWED BY `finalize()` -- also
    for a circuit that was finalized explicitly before (registrations made after that are resolved) --
    and the model's `start` is built on exactly that prefix -/
theorem translated_wiring_start (kd : BKind) (c : Circ) (hk : KeysOK c) :
    Gen.TrW.startWiring (prims kd) c = ofState (startPrefix c) ∧
    (c.stopped = false → c.order.isEmpty = false →
      Wiring.start c = (match startPrefix c with
        | (c2, some e) => ({ c2 with stopped := true }, some e)
        | (c2, none) => ({ c2 with stopped := true }, Wiring.startBlocks c2 c2.order))) :=
  ⟨startWiring_run kd c hk, start_uses_prefix c⟩

/-- `KeysOK` is kept by everything the finalisation does -/
theorem translated_wiring_keys_kept (c c' : Circ) (hk : KeysOK c) (h : Wiring.finalizeCore c = (c', none)) :
    KeysOK c' := finalizeCore_keys hk h

example : KeysOK {} := fun b cls h => by simp at h

/-! #### the signature check of combinational blocks (tools/py2lean_csig.py regenerates
     `Gen.TrCS.…`; EdzedProofs/CsigTie.lean interprets the primitives: `CsigTie.cprims`) -/

open Edzed.CsigTie

/-- `CBlock.input_signature` -/
theorem translated_csig_input_signature_is_model {V : Type} (c : Circ) (cm) (out : Ref → V) (b : String) :
    Gen.TrCS.inputSignature (cprims c cm out) (c.inputs b) =
      (match Wiring.inputSignature c b with
        | .ok l => .ok l
        | .error _ => .error .invalidState) := inputSignature_run c cm out b

/-- `setdiff_msg`: the message has a section for the unexpected names (each with what difflib
    suggests) iff there are any, then one for the missing names iff there are any -/
theorem translated_csig_setdiff_msg_is_model {V : Type} (c : Circ) (cm) (out : Ref → V) (a e : List String) :
    Gen.TrCS.setdiffMsg (cprims c cm out) a e =
      .ok (sectsOf cm (a.filter fun k => !e.contains k) (e.filter fun k => !a.contains k)) :=
  setdiffMsg_run c cm out a e

/-- `CBlock.check_signature`, for EVERY well-formed expected signature and every connection set:
    the translated statements return the block's signature exactly when the model has no diagnosis,
    and raise the ValueError the model's diagnosis describes (names / differing inputs) otherwise;
    an unconnected block raises EdzedInvalidState -/
theorem translated_csig_check_signature_is_model {V : Type} (c : Circ) (cm) (out : Ref → V) (b : String)
    (esig : List (String × Expect)) (ee : List (String × Gen.TrCS.E)) (he : encSig esig = some ee) :
    Gen.TrCS.checkSignature (cprims c cm out) (c.inputs b) ee =
      (match Wiring.checkSignatureD c b esig, Wiring.inputSignature c b with
        | .ok none, .ok bsig => .ok bsig
        | .ok (some d), _ => .error (excOfDiag cm d)
        | _, _ => .error .invalidState) := checkSignature_run c cm out b esig ee he

/-- the argument of `check_signature` in a translated `start()` (tools/py2lean_cblocks.py):
    `super().start()` first, then the check with a literal dict of `None` / sizes -/
def sigOfStart : List Gen.TrC.StartPrim → Option (List (String × Gen.TrCS.E))
  | [.superStart, .checkSignature l] => some (l.map fun p => (p.1, p.2.map Sum.inl))
  | _ => none

/-- the CALL SITES: `Not.start`, `Compare.start`, `Override.start` (translated in
    Gen/TranslatedCBlocks.lean) hand exactly the model's expectation to the `check_signature`
    translated here.  `Compare` expects `{'_': 1}` like `Not`; the model has no class of its own for it. -/
theorem translated_sig_start_call_sites :
    sigOfStart Gen.TrC.notStart = (expectedSig .not).bind encSig ∧
    sigOfStart Gen.TrC.compareStart = (expectedSig .not).bind encSig ∧
    sigOfStart Gen.TrC.overrideStart = (expectedSig .ovr).bind encSig := ⟨rfl, rfl, rfl⟩

/-- `Circuit.getblocks`: all blocks in creation order, or those of the class asked for -- the
    snapshots `_finalize` takes are the model's `cblockNames` / `notNames` -/
theorem translated_csig_getblocks_is_model {V : Type} (c : Circ) (cm) (out : Ref → V) :
    Gen.TrCS.getblocks (cprims c cm out) c.order none = .ok c.order ∧
    Gen.TrCS.getblocks (cprims c cm out) c.order (some .cblock) = .ok (cblockNames c) ∧
    Gen.TrCS.getblocks (cprims c cm out) c.order (some .not) = .ok (notNames c) := getblocks_run c cm out

/-- `CBlock.InputGetter.__getitem__` -/
theorem translated_csig_getitem_is_model {V : Type} (c : Circ) (cm) (out : Ref → V) (b name : String) :
    Gen.TrCS.inputGetterGetitem (cprims c cm out) (c.inputs b) name =
      (match Wiring.inputGet out c b name with
        | .ok v => .ok v
        | .error _ => .error .keyError) := getitem_run c cm out b name

/-- `CBlock.__init_subclass__` -/
theorem translated_csig_init_subclass_is_model (hasAddon : Bool) :
    Gen.TrCS.cblockInitSubclass hasAddon =
      (match cblockSubclassAllowed hasAddon with
        | .ok () => .ok ()
        | .error _ => .error .typeError) := by
  cases hasAddon <;> rfl

/-- a combinational block class with an SBlock add-on is refused when the class is defined -/
theorem cblock_with_addon_refused : cblockSubclassAllowed true = .error .typeError ∧
    cblockSubclassAllowed false = .ok () := ⟨rfl, rfl⟩

/-- `check_signature` raises its ValueError exactly if the block is connected and the sets of input
    names differ or some input has not the expected shape (single / group size within the bounds) -/
theorem check_signature_raises_iff (c : Circ) (b : String) (esig : List (String × Expect)) :
    (∃ d, Wiring.checkSignatureD c b esig = .ok (some d)) ↔
      ∃ bsig, Wiring.inputSignature c b = .ok bsig ∧
        ¬ (sameKeys bsig esig = true ∧ ∀ p ∈ esig, ∃ v, bsig.lookup p.1 = some v ∧ p.2.accepts v) := by
  unfold Wiring.checkSignatureD
  cases hs : Wiring.inputSignature c b with
  | error e => exact ⟨nofun, fun ⟨_, h, _⟩ => nomatch h⟩
  | ok bsig =>
    have h := (sigDiagnosis_none_iff bsig esig).trans (accepted_iff bsig esig)
    constructor
    · rintro ⟨d, hd⟩
      refine ⟨bsig, rfl, fun hm => ?_⟩
      rw [Except.ok.injEq, h.mpr hm] at hd
      cases hd
    · rintro ⟨_, hb, hn⟩
      cases hb
      cases hd : sigDiagnosis bsig esig with
      | some d => exact ⟨d, congrArg Except.ok hd⟩
      | none => exact absurd (h.mp hd) hn

/-- the "unexpected / missing" message names exactly the connected inputs that are not expected
    and the expected inputs that are not connected -/
theorem check_signature_message_names (bsig : List (String × Option Nat)) (esig : List (String × Expect))
    (u m : List String) (h : sigDiagnosis bsig esig = some (.names u m)) :
    (∀ k, k ∈ u ↔ k ∈ keysOf bsig ∧ k ∉ keysOf esig) ∧
    (∀ k, k ∈ m ↔ k ∈ keysOf esig ∧ k ∉ keysOf bsig) := by
  rw [sigDiagnosis_eq] at h
  revert h
  cases accepted bsig esig
  · cases sameKeys bsig esig
    · intro h
      cases h
      constructor <;> intro k <;> simp [List.mem_filter]
    · cases firstMalformed bsig esig <;> intro h <;> cases h
  · intro h; cases h

/-- the other message has one item for exactly the expected inputs whose shape differs -/
theorem check_signature_message_values (bsig : List (String × Option Nat)) (esig : List (String × Expect))
    (l : List String) (h : sigDiagnosis bsig esig = some (.values l)) :
    ∀ k, k ∈ l ↔ ∃ e, (k, e) ∈ esig ∧
      (match bsig.lookup k with
        | some v => valueDiff e v = true
        | none => True) := by
  have hl : l = keysOf (esig.filter (differs bsig)) := by
    rw [sigDiagnosis_eq] at h
    revert h
    cases accepted bsig esig
    · cases sameKeys bsig esig
      · intro h; cases h
      · cases firstMalformed bsig esig <;> intro h <;> cases h
        rfl
    · intro h; cases h
  subst hl
  intro k
  simp only [keysOf, List.mem_map, List.mem_filter, differs]
  constructor
  · rintro ⟨⟨k', e⟩, ⟨hm, hq⟩, rfl⟩
    refine ⟨e, hm, ?_⟩
    cases hl : bsig.lookup k' with
    | none => trivial
    | some v => simpa [hl] using hq
  · rintro ⟨e, hm, hq⟩
    refine ⟨(k, e), ⟨hm, ?_⟩, rfl⟩
    cases hl : bsig.lookup k with
    | none => simp
    | some v => simpa [hl] using hq

example : sigDiagnosis [("a", none), ("g", some 0)] [("a", .single), ("x", .exact 1)] =
    some (.names ["g"] ["x"]) := by decide

example : sigDiagnosis [("a", some 0), ("g", some 3)] [("a", .single), ("g", .range (some 0) (some 2))] =
    some (.values ["a", "g"]) := by decide

/-- `CBlock.get_conf`: the item 'type', and -- only in a finalized circuit -- the item 'inputs'
    with the name of every single input and the tuple of names of every group, in the order of
    `inputs` (an unresolved reference has no `.name`: AttributeError) -/
theorem translated_csig_get_conf_is_model {V : Type} (c : Circ) (cm) (out : Ref → V) (b : String) :
    Gen.TrCS.cblockGetConf (cprims c cm out) c.finalized (c.inputs b) =
      (match Wiring.getConfInputs c b with
        | none => .ok { type := "combinational", inputs := none }
        | some none => .error .attributeError
        | some (some l) => .ok { type := "combinational", inputs := some (l.map fun p => (p.1, confSum p.2)) }) :=
  getConf_run c cm out b

/-- what the trial call of `FuncBlock.start` raises: `bind` of the function's signature refuses the
    connected inputs with TypeError -/
def trialOf (f : FSig) (unpack : Bool) (ins : Inputs) : Option String :=
  match Wiring.funcStart f unpack ins with
  | .ok () => none
  | .error _ => some "TypeError"

/-- the CALL SITE of the binding: the translated `FuncBlock.start` (Gen/TranslatedCBlocks.lean), given
    what the trial call does for a function with signature `f`, goes on to the base class exactly
    when the function can be called with the connected inputs, and raises TypeError otherwise -- the
    user's function restored first in both cases -/
theorem translated_sig_funcblock_start_call_site (f : FSig) (unpack : Bool) (ins : Inputs) :
    Gen.TrC.funcBlockStart (trialOf f unpack ins) =
      .saveFunc :: .setFunc .bind :: .calcOutput :: .setFunc .user ::
        [if f.binds (callShape unpack ins).1 (callShape unpack ins).2 then .superStart else .raise "TypeError"] := by
  unfold trialOf Wiring.funcStart
  cases f.binds (callShape unpack ins).1 (callShape unpack ins).2 <;> rfl

/-- `FuncBlock.start` accepts exactly the connection sets the function can be called with: the
    members of the unnamed group as positional arguments (or the whole group as one argument when
    `unpack=False`) and every other input by keyword -- not more positional arguments than
    parameters unless `*args`, every keyword a parameter not yet given by position (or `**kwargs`),
    every parameter without default supplied -/
theorem funcblock_start_accepts_iff_callable (f : FSig) (unpack : Bool) (ins : Inputs) :
    Wiring.funcStart f unpack ins = .ok () ↔
      Callable f (callShape unpack ins).1 (callShape unpack ins).2 := by
  unfold Wiring.funcStart
  rw [← binds_iff]
  cases f.binds (callShape unpack ins).1 (callShape unpack ins).2 <;> simp

/-- a refusal is a TypeError -/
theorem funcblock_start_refuses_with_type_error (f : FSig) (unpack : Bool) (ins : Inputs) :
    Wiring.funcStart f unpack ins = .ok () ∨ Wiring.funcStart f unpack ins = .error .typeError := by
  unfold Wiring.funcStart
  split <;> simp

example : (Wiring.funcStart { pos := [("a", false), ("b", true)], kwonly := [("k", false)] } true
    [("_", .group [.name "x"]), ("k", .single (.name "y"))]).isOk = true := by decide

example : (Wiring.funcStart { pos := [("a", false), ("b", true)], kwonly := [("k", false)] } true
    [("_", .group [.name "x"]), ("a", .single (.name "y")), ("k", .single (.name "y"))]).isOk = false := by
  decide

example : (Wiring.funcStart { pos := [("a", false)] } false
    [("_", .group [.name "x", .name "y", .name "z"])]).isOk = true := by decide

end Edzed.TrTie
