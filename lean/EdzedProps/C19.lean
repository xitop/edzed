/-
C19 — duration strings and numbers convert consistently in both directions.

Model: EdzedModel/TimeUnits.lean (`convert`, `timePeriod`, `timestr`, `timestrApprox` on character lists and
exact rationals; mirrors edzed/utils/timeunits.py).  The renderings the theorems quantify over are defined in
EdzedProofs/TimeUnits.lean: `NumText` a number (any non-empty digit string, leading zeros allowed, optionally
`.`/`,` and a non-empty digit string); `Piece` `<whitespace> number <whitespace> letter` (either case; the
seconds' letter may be left out); `TradR` up to four pieces in the order d, h, m, s plus trailing whitespace;
`IsoR` `<ws> P [nY] [nM] [nD] [T [nH] [nM] [nS]] <ws>`; `TradP`, `IsoP` well-formed beginnings of such strings
in front of an arbitrary rest.  The unit sizes in the statements are the literal numbers of the documentation
(86400, 3600, 60); the model computes with the constants generated from edzed/utils/tconst.py, so a changed
constant breaks the proofs below.
-/
import EdzedModel.TimeUnits
import EdzedProofs.TimeUnits
import EdzedProofs.TimeUnitsTie
import EdzedModel.Gen.Constants

namespace Edzed.TimeUnits

/-- tie to the source: the generated constants are the documented unit sizes -/
theorem unit_constants :
    Gen.secPerDay = 86400 ∧ Gen.secPerHour = 3600 ∧ Gen.secPerMin = 60 := by decide

/-- **traditional format**: every rendering – any subset of the units in the order d h m s, each
    letter in either case, any ASCII whitespace in front of, between and behind numbers and letters,
    the seconds' letter optional, numbers with leading zeros, a decimal point or comma in the
    smallest unit that is present – converts to `86400 d + 3600 h + 60 m + s`. -/
theorem convert_render_trad (r : TradR) (wf : r.WF) (hfrac : fracSmallestOnly r.nums = true)
    (hne : r.NonEmpty) :
    convert r.text =
      .ok (86400 * ntVal (pnum r.d) + 3600 * ntVal (pnum r.h) + 60 * ntVal (pnum r.m) + ntVal (pnum r.s)) :=
  convert_trad_sum r wf hfrac hne

/-- the same for plain natural numbers: `"<d>d<h>h<m>m<s>s"` with any subset, case and whitespace -/
theorem convert_render_trad_nat (d h m s : Option Nat) (pre : Fin 4 → List Char) (mid : Fin 4 → List Char)
    (up : Fin 4 → Bool) (bare : Bool) (post : List Char)
    (hpre : ∀ i, allWs (pre i)) (hmid : ∀ i, allWs (mid i)) (hpost : allWs post)
    (hne : d.isSome ∨ h.isSome ∨ m.isSome ∨ s.isSome) :
    let piece (i : Fin 4) (b : Bool) (n : Nat) : Piece :=
      { pre := pre i, num := ⟨natStr n, none⟩, mid := mid i, upper := up i, bare := b }
    let r : TradR := { d := d.map (piece 0 false), h := h.map (piece 1 false), m := m.map (piece 2 false),
                       s := s.map (piece 3 bare), post := post }
    convert r.text = .ok ((86400 * d.getD 0 + 3600 * h.getD 0 + 60 * m.getD 0 + s.getD 0 : Nat) : Rat) := by
  intro piece r
  have pwf : ∀ i b n, (piece i b n).WF := fun i b n => ⟨hpre i, hmid i, natText_wf n⟩
  have owf : ∀ (o : Option Nat) i, OptWF (o.map (piece i false)) := by
    intro o i q hq
    cases o with
    | none => cases hq
    | some n => cases hq; exact ⟨pwf _ _ _, rfl⟩
  have wf : r.WF := by
    refine ⟨owf d 0, owf h 1, owf m 2, ?_, hpost⟩
    intro q hq
    cases s with
    | none => cases hq
    | some n => cases hq; exact pwf _ _ _
  have hnf : ∀ (o : Option Nat) i b, noFracText (pnum (o.map (piece i b))) = true := by
    intro o i b; cases o <;> rfl
  have hi : ∀ (o : Option Nat) i b, (pnum (o.map (piece i b))).isSome = o.isSome := by
    intro o i b; cases o <;> rfl
  have hv : ∀ (o : Option Nat) i b, ntVal (pnum (o.map (piece i b))) = ((o.getD 0 : Nat) : Rat) := by
    intro o i b
    cases o with
    | none => rfl
    | some n => exact natText_val n
  have hf : fracSmallestOnly r.nums = true := by
    apply fracSmallestOnly_cons
    simp only [r, noFracs, List.all_cons, List.all_nil, hnf, Bool.and_self]
  have hn : r.NonEmpty := by
    simp only [TradR.NonEmpty, TradR.nums, r, List.any_cons, List.any_nil, hi, Bool.or_false,
      Bool.or_eq_true]
    rcases hne with c | c | c | c
    · exact Or.inr (Or.inr (Or.inr c))
    · exact Or.inr (Or.inr (Or.inl c))
    · exact Or.inr (Or.inl c)
    · exact Or.inl c
  rw [convert_render_trad r wf hf hn]
  simp only [r, hv, Rat.natCast_add, Rat.natCast_mul]
  rfl

/-- non-vacuity / reading aid: `" 1D 02 h3m 4,50 "` is such a rendering and is worth 93784.5 s -/
example : convert [' ', '1', 'D', ' ', '0', '2', ' ', 'h', '3', 'm', ' ', '4', ',', '5', '0', ' '] = .ok (187569 / 2) := by decide +kernel

/-- **ISO 8601 format**: every rendering `P[nY][nM][nD][T[nH][nM][nS]]` with whitespace in front and
    behind, years and months zero (when present), any subset of D/H/M/S, a decimal point or comma in
    the smallest unit present, a bare `T` allowed – converts to `86400 d + 3600 h + 60 m + s`. -/
theorem convert_render_iso (r : IsoR) (wf : r.WF) (hfrac : fracSmallestOnly r.nums = true)
    (hcal : ntVal r.y = 0 ∧ ntVal r.mo = 0) (hne : r.NonEmpty) :
    convert r.text = .ok (86400 * ntVal r.d + 3600 * ntVal r.h + 60 * ntVal r.m + ntVal r.s) := by
  rw [convert_iso_eval r wf, evalGroups_ok _ ?_ (by rw [r.fracFrom_allAbsent.1, hfrac]) (by rw [r.fracFrom_allAbsent.2, hne]; rfl),
    scaledSum_scaled]
  · simp only [IsoR.groups, optVal_map_num]
  · simp only [IsoR.groups, Groups.scaled, calOK, optVal_map_num, hcal.1, hcal.2]
    rfl

example : convert [' ', 'P', '0', 'Y', '1', 'D', 'T', '0', '2', 'H', '3', 'M', '4', ',', '5', '0', 'S', ' '] = .ok (187569 / 2) := by decide +kernel

/-- the fraction may sit in whichever unit is the smallest one present, with either mark, in both
    formats (test vectors for the sub-cases d, h, m of the two theorems above) -/
example : convert ['1', ',', '5', 'd'] = .ok 129600 := by decide +kernel
example : convert ['1', 'd', ' ', '2', '.', '5', 'H'] = .ok 95400 := by decide +kernel
example : convert ['1', 'h', '1', ',', '5', 'm'] = .ok 3690 := by decide +kernel
example : convert ['P', '1', '.', '5', 'D'] = .ok 129600 := by decide +kernel
example : convert ['P', 'T', '1', ',', '5', 'H'] = .ok 5400 := by decide +kernel
example : convert ['P', 'T', '1', '.', '5', 'M'] = .ok 90 := by decide +kernel

/-- an empty or blank string is refused ("at least one element must be present") -/
theorem reject_blank (w : List Char) (hw : allWs w) : convert w = .error .empty :=
  (convert_trad_eval { post := w } ⟨optWF_none, optWF_none, optWF_none, pieceWF_none, hw⟩).trans (evalGroups_empty _ rfl)

/-- `P` and `PT` alone (with whitespace around) are refused as well -/
theorem reject_blank_iso (pre post : List Char) (hpre : allWs pre) (hpost : allWs post) (t : Bool) :
    convert (pre ++ 'P' :: ((if t then ['T'] else []) ++ post)) = .error .empty := by
  have wf : ({ pre := pre, post := post, t := t } : IsoR).WF :=
    ⟨hpre, hpost, owf_none, owf_none, owf_none, owf_none, owf_none, owf_none, fun _ => ⟨rfl, rfl, rfl⟩⟩
  have e : ({ pre := pre, post := post, t := t } : IsoR).text =
      pre ++ 'P' :: ((if t then ['T'] else []) ++ post) := by
    cases t <;> rfl
  rw [← e, convert_iso_eval _ wf]
  exact evalGroups_empty _ rfl

/-- calendar years or months other than zero are refused, whatever else the string contains -/
theorem reject_years_months (r : IsoR) (wf : r.WF) (hcal : ntVal r.y ≠ 0 ∨ ntVal r.mo ≠ 0) :
    ∃ e, convert r.text = .error e := by
  rw [convert_iso_eval r wf]
  refine evalGroups_refused _ (Or.inr ?_)
  simp only [IsoR.groups, Groups.scaled, calOK, optVal_map_num, Option.isSome_some, Option.isSome_none,
    Bool.true_or, Bool.false_or, Bool.true_and, Bool.and_true, Bool.and_eq_false_iff, beq_eq_false_iff_ne]
  exact hcal.symm

/-- `P1Y`, `P2M`: the simplest instances -/
theorem reject_years_months_nat (n : Nat) (hn : n ≠ 0) (months : Bool) :
    ∃ e, convert ('P' :: (natStr n ++ [if months then 'M' else 'Y'])) = .error e := by
  have hv : ntVal (some (natText n)) ≠ 0 := fun h => hn (by exact_mod_cast (natText_val n).symm.trans h)
  have wfn : OWF (some (natText n)) := fun t ht => by cases ht; exact natText_wf n
  cases months with
  | true =>
    have := reject_years_months { mo := some (natText n) }
      ⟨allWs_nil, allWs_nil, owf_none, wfn, owf_none, owf_none, owf_none, owf_none, fun _ => ⟨rfl, rfl, rfl⟩⟩ (Or.inr hv)
    simpa [IsoR.text, IsoR.rest, og, natText, NumText.text, fracText] using this
  | false =>
    have := reject_years_months { y := some (natText n) }
      ⟨allWs_nil, allWs_nil, wfn, owf_none, owf_none, owf_none, owf_none, owf_none, fun _ => ⟨rfl, rfl, rfl⟩⟩ (Or.inl hv)
    simpa [IsoR.text, IsoR.rest, og, natText, NumText.text, fracText] using this

/-- a fractional part anywhere but in the smallest unit that is present is refused
    (traditional format; "only the smallest unit may have a fractional part") -/
theorem reject_fraction_larger_unit (r : TradR) (wf : r.WF) (hfrac : fracSmallestOnly r.nums = false) :
    convert r.text = .error .fraction := by
  rw [convert_trad_eval r wf]
  apply evalGroups_fraction _ rfl
  rw [r.fracFrom_allAbsent.1, hfrac]

/-- the same in the ISO format (there the refusal may also be the one for years/months) -/
theorem reject_fraction_larger_unit_iso (r : IsoR) (wf : r.WF) (hfrac : fracSmallestOnly r.nums = false) :
    ∃ e, convert r.text = .error e := by
  rw [convert_iso_eval r wf]
  exact evalGroups_refused _ (Or.inl (by rw [r.fracFrom_allAbsent.1, hfrac]))

example : convert ['1', '.', '5', 'h', '3', '0', 'm'] = .error .fraction := by decide +kernel
example : convert ['1', '.', '5', 'h', '0', 'm'] = .error .fraction := by decide +kernel
example : convert ['P', '1', 'Y'] = .error .calendar := by decide +kernel

/-- any character outside the alphabet of the two formats (digits, the six ASCII whitespace
    characters, `.` `,`, `dhmsDHMS`, `P` `T` `Y`) anywhere in the string makes it invalid:
    signs, exponents, underscores, other letters, lower-case `p`/`t`/`y`, non-ASCII digits and
    spaces, ... -/
theorem reject_stray_characters (cs : List Char) (c : Char) (hc : c ∈ cs) (hbad : allowedChar c = false) :
    convert cs = .error .syntax := by
  have no : ∀ {m : Option Groups}, (∀ g, m = some g → allAllowed cs) → m = none := fun {m} h => by
    cases m with
    | none => rfl
    | some g => exact absurd (h g rfl c hc) (by rw [hbad]; exact Bool.false_ne_true)
  exact convert_syntax _ (no (matchTrad_allowed cs)) (no (matchIso_allowed cs))

/-- the hypothesis is satisfiable for the usual suspects -/
example : ['-', '+', 'e', 'E', '_', 'x', 'W', 'p', 't', 'y', ':', '/', '１', '\u00a0', '\u017f', '\u212a'].all
    (fun c => !allowedChar c) = true := by decide +kernel

/-- **repeated or misordered units, traditional format**: after any well-formed beginning `r` (pieces
    with their letters, either case, any whitespace) a further piece of a unit `v` such that `v` itself
    or a smaller unit has been used already (`1h2h`, `3 M 1 h`, `1d 5s 2D` …) makes the string invalid,
    whatever follows it. -/
theorem reject_repeated_or_misordered_units (r : TradP) (wf : r.WF) (v : TUnit)
    (hfrom : r.hasFrom v = true) (pb : Piece) (wb : pb.WF) (hb : pb.bare = false) (rest : List Char) :
    convert (r.text (pb.text v.lo v.up ++ rest)) = .error .syntax := by
  refine convert_syntax _ ?_ (matchIso_tradP r wf _ (matchIso_piece pb wb _ _ _))
  obtain ⟨e, he, -⟩ := piece_text_parts v pb wb hb rest
  rw [e]
  -- a unit still open is another unit than `v`, and takes neither letter of `v`
  exact matchTrad_stuck r wf _ wb.1 _ wb.2.2 _ wb.2.1 _
    (letter_sat v.letters.lo_ws v.letters.up_ws pb.upper) rest he
    fun u hu => (letter_iff u v _).trans (decide_eq_false fun e => by rw [e, hfrom] at hu; cases hu)

/-- **ISO format**: after any well-formed beginning `P…` or `P…T…` a further `number designator` group
    whose designator `V` may not follow any more – `V` or a later designator of the same part has been
    used (`P1D2D`, `PT3M1H`, `P1M2Y`), or `V` does not belong to that part at all (`P1H`, `PT1D`,
    `P1DT2Y`, `P1T`) – makes the string invalid, whatever follows it. -/
theorem reject_misplaced_designator_iso (r : IsoP) (wf : r.WF) (b : NumText) (wb : b.WF) (V : Char)
    (hV : numEnd V = true) (hcl : r.Closed V) (rest : List Char) :
    convert (r.text (b.text ++ V :: rest)) = .error .syntax :=
  convert_syntax _ (matchTrad_P _ _ wf.1)
    (matchIso_stuck r wf b wb V rest (b.endsAt_of_numEnd (rest := V :: rest) hV) hcl)

/-- **a second decimal mark** directly behind a number that has a fraction already (`1.5.5`, `1,5,5s`,
    `2h 3.4.5m`), after any well-formed beginning, whatever follows – traditional format -/
theorem reject_second_decimal_mark (r : TradP) (wf : r.WF) (w : List Char) (hw : allWs w)
    (t : NumText) (wt : t.WF) (hfr : t.fr.isSome = true) (c : Char) (hc : isMark c = true)
    (rest : List Char) :
    convert (r.text (w ++ (t.text ++ c :: rest))) = .error .syntax := by
  -- a decimal mark is no white space and no unit's letter
  have hcw : isWs c = false ∧ ∀ u : TUnit, u.isU c = false := by
    simp only [isMark, Bool.or_eq_true, beq_iff_eq] at hc
    rcases hc with h | h <;> subst h <;> exact ⟨by decide, fun u => by cases u <;> decide⟩
  exact convert_syntax _
    (matchTrad_stuck r wf w hw t wt [] allWs_nil c hcw.1 rest
      (by simp [NumText.EndsAt, headSat, isMark_not_digit hc, NumText.hasFrac, hfr]) fun u _ => hcw.2 u)
    (matchIso_tradP r wf _ (matchIso_digit w hw t wt _))

/-- the same in the ISO format (`PT1.5.5S`, `P1DT2,5,0H`) -/
theorem reject_second_decimal_mark_iso (r : IsoP) (wf : r.WF) (t : NumText) (wt : t.WF)
    (hfr : t.fr.isSome = true) (c : Char) (hc : isMark c = true) (rest : List Char) :
    convert (r.text (t.text ++ c :: rest)) = .error .syntax := by
  refine convert_syntax _ (matchTrad_P _ _ wf.1) (matchIso_stuck r wf t wt c rest
    (by simp [NumText.EndsAt, headSat, isMark_not_digit hc, NumText.hasFrac, hfr]) ?_)
  -- a decimal mark is no designator
  simp only [isMark, Bool.or_eq_true, beq_iff_eq] at hc
  unfold IsoP.Closed
  rcases hc with rfl | rfl <;> split <;> simp

/-- a sign anywhere makes the string invalid (durations are unsigned) -/
theorem reject_sign (cs : List Char) (h : '-' ∈ cs ∨ '+' ∈ cs) : convert cs = .error .syntax := by
  rcases h with h | h
  · exact reject_stray_characters cs '-' h (by decide)
  · exact reject_stray_characters cs '+' h (by decide)

example : convert ['3', 'm', '1', 'h'] = .error .syntax := by decide +kernel
example : convert ['1', 'h', '2', 'h'] = .error .syntax := by decide +kernel
example : convert ['1', 'd', ' ', '5', 'S', ' ', '2', 'D'] = .error .syntax := by decide +kernel
example : convert ['P', 'T', '3', 'M', '1', 'H'] = .error .syntax := by decide +kernel
example : convert ['P', '1', 'H'] = .error .syntax := by decide +kernel
example : convert ['1', '.', '5', '.', '5', 's'] = .error .syntax := by decide +kernel
example : convert ['P', 'T', '1', ',', '5', ',', '5', 'S'] = .error .syntax := by decide +kernel

/-- **timestr is the inverse of convert, integers**: for every natural number of seconds and every
    separator made of whitespace, `convert(timestr(n, sep)) = n` exactly. -/
theorem timestr_inverse_int (n : Nat) (sep : List Char) (hs : allWs sep) (prec : Nat) :
    ∃ txt, timestr (.int n) sep prec = some txt ∧ convert txt = .ok (n : Rat) := by
  refine ⟨timestrTicks n 0 sep, by simp [timestr], ?_⟩
  rw [convert_timestrTicks n 0 sep hs, div_pow_zero]

/-- **timestr is the inverse of convert, floats**: for every rational `q ≥ 0` (the exact value of a
    float), every precision and whitespace separator, `timestr` prints a string that `convert`
    maps to `roundHalfEven(q·10^prec) / 10^prec`, which is within half a unit of the last printed
    decimal place of `q`. -/
theorem timestr_inverse_frac (q : Rat) (hq : 0 ≤ q) (prec : Nat) (sep : List Char) (hs : allWs sep) :
    ∃ txt y, timestr (.float q) sep prec = some txt ∧ convert txt = .ok y ∧
      y = ((roundHalfEven (q * 10 ^ prec) : Int) : Rat) / 10 ^ prec ∧
      y - q ≤ 1 / (2 * 10 ^ prec) ∧ q - y ≤ 1 / (2 * 10 ^ prec) := by
  have hnot : ¬ q < 0 := Rat.not_lt.mpr hq
  obtain ⟨h1, h2, h3⟩ := roundTicks_bounds q hq prec
  have hp : ((10 ^ prec : Nat) : Rat) = (10 : Rat) ^ prec := by
    rw [Rat.natCast_pow]; rfl
  rw [hp] at h1 h2 h3
  refine ⟨timestrTicks (roundTicks q prec) prec sep, _, by simp [timestr, hnot],
    convert_timestrTicks _ _ sep hs, ?_, ?_, ?_⟩
  · rw [hp, h1]
  · rw [hp]; exact h2
  · rw [hp]; exact h3

/-- the carry at a rounding boundary: 59.9996 s is printed as one minute, not as 60.000 s -/
example : timestr (.float (599996 / 10000)) [] 3 = some ['1', 'm', '0', '.', '0', '0', '0', 's'] := by decide +kernel
example : timestr (.float (863999995 / 10000)) [] 3 = some ['1', 'd', '0', 'h', '0', 'm', '0', '.', '0', '0', '0', 's'] := by decide +kernel
example : timestr (.int 93784) [' '] 3 = some ['1', 'd', ' ', '2', 'h', ' ', '3', 'm', ' ', '4', 's'] := by decide +kernel

/-- the documented rounding step of `timestr_approx` for a value of this magnitude
    (0.001 s below 1 s, 0.01 s below 10 s, 0.1 s below 1 min, 1 s below 10 h, 1 min below 10 d, else 1 h) -/
def approxStep (x : Rat) : Rat :=
  if x < 1 then 1 / 1000 else if x < 10 then 1 / 100 else if x < 60 then 1 / 10
  else if x < 36000 then 1 else if x < 864000 then 60 else 3600

theorem lt_ite {c : Prop} [Decidable c] {x a b : Rat} (ha : x < a) (hb : x < b) :
    x < if c then a else b := by
  by_cases h : c
  · rw [if_pos h]; exact ha
  · rw [if_neg h]; exact hb

theorem approxStep_pos (x : Rat) : 0 < approxStep x :=
  lt_ite (by decide +kernel) (lt_ite (by decide +kernel) (lt_ite (by decide +kernel)
    (lt_ite (by decide) (lt_ite (by decide) (by decide)))))

theorem approxStep_large (x : Rat) (h : 36000 ≤ x) :
    approxStep x = if x < 864000 then 60 else 3600 := by
  have n : ∀ b : Rat, b ≤ 36000 → ¬ x < b := fun b hb => Rat.not_lt.mpr (Rat.le_trans hb h)
  unfold approxStep
  rw [if_neg (n 1 (by decide)), if_neg (n 10 (by decide)), if_neg (n 60 (by decide)),
    if_neg (n 36000 (by decide))]

theorem half_lt_self {s : Rat} (h : 0 < s) : s / 2 < s := by grind

theorem half_place_eq (q : Rat) (h : q < 36000) :
    1 / (2 * ((10 ^ places q : Nat) : Rat)) = approxStep q / 2 := by
  unfold places approxStep
  by_cases c1 : q < 1
  · rw [if_pos c1, if_pos c1]; decide +kernel
  rw [if_neg c1, if_neg c1]
  by_cases c2 : q < 10
  · rw [if_pos c2, if_pos c2]; decide +kernel
  rw [if_neg c2, if_neg c2]
  by_cases c3 : q < 60
  · rw [if_pos c3, if_pos c3]; decide +kernel
  · rw [if_neg c3, if_neg c3, if_pos h]; decide +kernel

theorem approxCoarse_error (a : AVal) :
    (approxCoarse a).a.v - a.v ≤ approxStep a.v / 2 ∧ a.v - (approxCoarse a).a.v ≤ approxStep a.v / 2 := by
  by_cases c : a.v < 36000
  · have h0 : 0 ≤ approxStep a.v / 2 :=
      Rat.div_def _ _ ▸ Rat.mul_nonneg (Rat.le_of_lt (approxStep_pos _)) (by decide +kernel)
    rw [approxCoarse_small a c, Rat.sub_self]
    exact ⟨h0, h0⟩
  · have c' := Rat.not_lt.mp c
    have hv : 0 ≤ a.v := Rat.le_trans (by decide) c'
    obtain ⟨k, oM, e, _, _, _, rfl⟩ := approxCoarse_large a c'
    rw [e, approxStep_large _ c']
    by_cases c2 : a.v < 864000
    · simp only [c2, ↓reduceIte]
      exact roundUnit_bounds a.v hv 60 (by decide)
    · simp only [c2, ↓reduceIte]
      exact roundUnit_bounds a.v hv 3600 (by decide)

/-- `timestr_approx` rounds to the nearest: the value printed differs from the argument by at most
    half the documented rounding step of the argument's magnitude class -/
theorem timestr_approx_error_half (x : Secs) (hx : 0 ≤ x.val) (sep : List Char) (hs : allWs sep) :
    ∃ txt, timestrApprox x sep = some txt ∧ convert txt = .ok (approxValue x) ∧
      approxValue x - x.val ≤ approxStep x.val / 2 ∧ x.val - approxValue x ≤ approxStep x.val / 2 := by
  cases x with
  | int n =>
    have hn : 0 ≤ n := Rat.intCast_nonneg.mp hx
    exact ⟨_, if_neg (Int.not_lt.mpr hn),
      convert_approxRender_coarse ⟨(n : Rat), false, 0⟩ (fun _ => onGrid_intCast n hn) sep hs,
      approxCoarse_error ⟨(n : Rat), false, 0⟩⟩
  | float q =>
    have hq : 0 ≤ q := hx
    refine ⟨_, if_neg (Rat.not_lt.mpr hq),
      convert_approxRender_coarse _ (approxFloat_nonneg_onGrid q hq).2 sep hs, ?_⟩
    show (approxCoarse (approxFloat q)).a.v - q ≤ approxStep q / 2 ∧
      q - (approxCoarse (approxFloat q)).a.v ≤ approxStep q / 2
    by_cases c : q < 36000
    · -- below 10 hours the value delivered by the decimal roundings is not touched any more
      obtain ⟨hv, _⟩ := approxFloat_small q hq c
      have hle : (approxFloat q).v ≤ 36000 := hv ▸ roundTo_le_natCast q _ 36000 c
      obtain ⟨_, b1, b2⟩ := roundTicks_bounds q hq (places q)
      rw [approxCoarse_val_of_le _ hle, hv, ← half_place_eq q c]
      exact ⟨b1, b2⟩
    · rw [approxFloat_large q (Rat.not_lt.mp c)]
      exact approxCoarse_error ⟨q, true, 0⟩

/-- **timestr_approx**: for every non-negative argument (an int, or the exact value of a float) and
    every whitespace separator the function prints a string that `convert` maps back to the value
    `approxValue x` it stands for (the inverse relation for the approximate rendering), and that value
    differs from the argument by less than the documented rounding step of the argument's magnitude
    class – including the carries from one class into the next
    (0.9996 → `1.00s`, 59.96 → `1m0s`, 35999.6 → `10h0m`, 863990 → `10d0h`). -/
theorem timestr_approx_error (x : Secs) (hx : 0 ≤ x.val) (sep : List Char) (hs : allWs sep) :
    ∃ txt, timestrApprox x sep = some txt ∧ convert txt = .ok (approxValue x) ∧
      approxValue x - x.val < approxStep x.val ∧ x.val - approxValue x < approxStep x.val := by
  obtain ⟨txt, h1, h2, b1, b2⟩ := timestr_approx_error_half x hx sep hs
  have hlt := half_lt_self (approxStep_pos x.val)
  exact ⟨txt, h1, h2, Std.lt_of_le_of_lt b1 hlt, Std.lt_of_le_of_lt b2 hlt⟩

example : timestrApprox (.int 863990) [] = some ['1', '0', 'd', '0', 'h'] := by decide +kernel
example : timestrApprox (.float (9996 / 1000)) [] = some ['1', '0', '.', '0', 's'] := by decide +kernel

/-- negative numbers become 0, other numbers pass through (as floats) -/
theorem negative_to_zero (q : Rat) (k : Kind) :
    timePeriod (.atom (.num q k)) = .ok (some (if q < 0 then 0 else q)) := rfl

theorem negative_number_is_zero (q : Rat) (k : Kind) (hq : q < 0) :
    timePeriod (.atom (.num q k)) = .ok (some 0) := by
  rw [negative_to_zero, if_pos hq]

/-- non-negative numbers pass through unchanged – ints, floats and also bools (the code converts
    every `int`, hence also `True`/`False`, with `float()`; bools are not refused) -/
theorem period_number_identity (q : Rat) (k : Kind) (hq : 0 ≤ q) :
    timePeriod (.atom (.num q k)) = .ok (some q) := by
  rw [negative_to_zero, if_neg (Rat.not_lt.mpr hq)]

/-- `None` stays `None` -/
theorem none_to_none : timePeriod Val.none = .ok none := rfl

/-- strings go through `convert` (a number stays that number, an error stays that error) -/
theorem period_string (s : String) :
    timePeriod (.atom (.str s)) = periodOfConvert (convert s.toList) := rfl

/-- anything else (UNDEF, tuples, lists) is a TypeError -/
theorem period_type_error (l : List Atom) :
    timePeriod .undef = .error .type ∧ timePeriod (.tup l) = .error .type ∧
      timePeriod (.lst l) = .error .type := ⟨rfl, rfl, rfl⟩

end Edzed.TimeUnits

/-! ## Tie by translation

`Gen.TrTu.*` (lean/EdzedModel/Gen/TranslatedTimeUnits.lean) is regenerated on every run from the CURRENT
Python source of edzed/utils/timeunits.py by tools/py2lean_timeunits.py: statement order, conditions,
early exits, the loop over the match groups, the order of the patterns and of the scale factors, class
boundaries, format decisions and every constant come from the AST.  Declared (EdzedModel/TimeUnitsPy.lean)
is only the meaning of built-ins, `str`/`re` methods and format specifications; the regular-expression
match itself is the model's matcher.  The theorems say that the generated definitions ARE the model's, for
all arguments – a semantic edit of the Python code breaks them (or the definition is omitted), while a
rewrite that leaves the behaviour alone has to leave them proving: how the proofs see to that is said at the
head of EdzedProofs/TimeUnitsTie.lean. -/

namespace Edzed.TrTie
open Edzed.TimeUnits

/-- `time_period`: None → None, int (incl. bool) → float, float → `max(0.0, x)`, str → `convert`,
    anything else TypeError -/
theorem translated_timeunits_time_period_is_model (v : Val) :
    Gen.TrTu.timePeriod v = timePeriod v := by
  unfold Gen.TrTu.timePeriod
  cases v with
  | undef => rfl
  | tup l => rfl
  | lst l => rfl
  | atom a =>
    cases a with
    | none => rfl
    | str s =>
      have e : timePeriod (.atom (.str s)) = periodOfConvert (convert s.toList) := rfl
      rw [e]
      simp only [Py.classOf]
      unfold Py.callConvert periodOfConvert
      generalize convert s.toList = r
      cases r <;> rfl
    | num q k =>
      have e : timePeriod (.atom (.num q k)) = .ok (some (if q < 0 then 0 else q)) := rfl
      rw [e]
      cases k <;> simp [Py.classOf, pyMax_zero]

/-- the body of the loop of `_convert` over the match groups IS the model's `addGroup`: skip an absent
    group; a decimal comma or point only while no smaller unit was present; comma → point before `float`;
    a zero value counts as present but adds nothing; years/months ≠ 0 refused; `value * factor` added -/
theorem translated_timeunits_convert_step_is_model (sm : Bool) (res : Rat) (g : Option Num) (sc : Option Nat) :
    Gen.TrTu.convertStep (res, sm) (g, sc) =
      match addGroup ⟨res, sm⟩ g sc with
      | .ok a => .ok (a.result, a.smallest)
      | .error e => .error e := tr_convertStep sm res g sc

/-- `_convert` after the regular-expression match: the traditional pattern is tried first, then the ISO
    one, no match is a ValueError; the groups are walked from the smallest unit with the factors
    `1, SEC_PER_MIN, SEC_PER_HOUR, SEC_PER_DAY, None, None`; nothing present is a ValueError -/
theorem translated_timeunits_convert_is_model (cs : List Char) :
    Gen.TrTu.convert cs = convert cs := tr_convert cs

/-- the public `convert`: `try: return _convert(tstr) except ValueError as err: raise ValueError(…{err}…)` –
    only ValueError is caught and it is re-raised with the same reason; nothing is swallowed -/
theorem translated_timeunits_convert_public_is_model (cs : List Char) :
    Gen.TrTu.convertPublic cs = convert cs := by
  unfold Gen.TrTu.convertPublic
  rw [tr_convert]
  generalize convert cs = r
  cases r <;> rfl

/-- the source text of the two regular expressions (layout of the VERBOSE form removed) and of `_NUM`, and
    their flags: what the hand-written matchers `matchTrad` / `matchIso` model.  Any edit of a pattern
    breaks this obligation. -/
theorem translated_timeunits_patterns_pinned :
    Gen.durationNum = "(\\d+(?:[.,]\\d+)?)" ∧
    Gen.durationRegexes =
      [("_RE_DURATION",
        "\\s*(?:(\\d+(?:[.,]\\d+)?)\\s*d)?\\s*(?:(\\d+(?:[.,]\\d+)?)\\s*h)?\\s*(?:(\\d+(?:[.,]\\d+)?)\\s*m)?\\s*(?:(\\d+(?:[.,]\\d+)?)\\s*s?)?\\s*",
        ["ASCII", "IGNORECASE"]),
       ("_RE_ISO_DURATION",
        "\\s*P(?:(\\d+(?:[.,]\\d+)?)Y)?(?:(\\d+(?:[.,]\\d+)?)M)?(?:(\\d+(?:[.,]\\d+)?)D)?(?:T(?:(\\d+(?:[.,]\\d+)?)H)?(?:(\\d+(?:[.,]\\d+)?)M)?(?:(\\d+(?:[.,]\\d+)?)S)?)?\\s*",
        ["ASCII"])] := ⟨rfl, rfl⟩

/-- `timestr`: negative refused; a float is rounded to `prec` places BEFORE the three `divmod`s; days only
    when non-zero, hours when days or hours are non-zero, minutes and seconds always; seconds with `prec`
    places for a float, plain for an int; joined with `sep` -/
theorem translated_timeunits_timestr_is_model (x : Secs) (sep : List Char) (prec : Nat) :
    Gen.TrTu.timestr x sep prec = timestr x sep prec := by
  refine secs_cases (motive := fun x => Gen.TrTu.timestr x sep prec = timestr x sep prec) ?_ ?_ ?_ ?_ x
  · intro n hn h1 h2
    simp only [Gen.TrTu.timestr, timestr, Py.secsVal, c19tie, *]
  · intro N hn h1 h2
    simp only [Gen.TrTu.timestr, Gen.TrTu.timestr_s1, timestr, Py.secsVal, Py.secsIsFloat, Int.toNat_natCast, c19tie, *]
    -- `↑↑N = ↑N` comes last: among the facts given to `simp` it would rewrite the sign tests out of their reach
    intro e
    rw [e, ← div_pow_zero (N : Rat)]
    exact timestr_print_core N 0 prec false sep (fun _ => rfl) (fun h => nomatch h)
  · intro q h1 h2
    simp only [Gen.TrTu.timestr, timestr, Py.secsVal, c19tie, *]
  · intro q h1 h2
    simp only [Gen.TrTu.timestr, Gen.TrTu.timestr_s1, timestr, Py.secsVal, Py.secsIsFloat, Py.pyRound2, roundTo, c19tie, *]
    exact timestr_print_core _ prec prec true sep (fun h => nomatch h) (fun _ => rfl)

/-- `timestr_approx`: the magnitude classes (1, 10, 60 s, 10 h, 10 d) with their rounding steps
    (3, 2, 1, 0 places; minutes; hours), each test made on the value rounded so far, the omission of
    seconds / minutes, and the format of the parts -/
theorem translated_timeunits_timestr_approx_is_model (x : Secs) (sep : List Char) :
    Gen.TrTu.timestrApprox x sep = timestrApprox x sep := by
  refine secs_cases (motive := fun x => Gen.TrTu.timestrApprox x sep = timestrApprox x sep) ?_ ?_ ?_ ?_ x
  · intro n hn h1 h2
    simp only [Gen.TrTu.timestrApprox, timestrApprox, Py.secsVal, c19tie, *]
  · intro N hn h1 h2
    simp only [Gen.TrTu.timestrApprox, timestrApprox, Py.secsVal, Py.secsIsFloat, Gen.TrTu.timestrApprox_s1,
      Gen.TrTu.timestrApprox_s2, c19tie, *]
    intro e
    rw [e]
    have := tr_s9 ⟨(N : Rat), false, 0⟩ Rat.natCast_nonneg 0 sep
    simp only at this
    rw [this]
    obtain ⟨g1, g2⟩ := coarse_grid ⟨(N : Rat), false, 0⟩ (fun _ => onGrid_natCast N)
    rw [approx_print _ 0 _ _ sep ?_ g1]
    intro hf
    have e := g2 hf
    rw [e] at hf
    cases hf
  · intro q h1 h2
    simp only [Gen.TrTu.timestrApprox, timestrApprox, Py.secsVal, c19tie, *]
  · intro q hq hq0
    simp only [Gen.TrTu.timestrApprox, timestrApprox, Py.secsVal, Py.secsIsFloat, Gen.TrTu.timestrApprox_s1, c19tie, *]
    -- float block, coarse block, print; left is that the program's `sprec` is the model's as long as the
    -- value is a float: then neither the coarse block nor the last float step has touched it
    rw [tr_s2_float]
    obtain ⟨h0, hg⟩ := approxFloat_nonneg_onGrid q hq0
    rw [tr_s9 (approxFloat q) h0]
    obtain ⟨g1, g2⟩ := coarse_grid (approxFloat q) hg
    rw [approx_print (approxCoarse (approxFloat q)).a _ _ _ sep ?_ g1]
    intro hf
    have e := g2 hf
    rw [e] at hf ⊢
    rw [approxFloat_eq] at hf ⊢
    rw [fstep4_float _ hf]

end Edzed.TrTie

