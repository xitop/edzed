/-
C14 — external events enter only a running circuit and are always marked as external.

Models: EdzedModel/ExtEvent.lean (ExtEvent constructor and send, block-name rules) on top of the
life-cycle model EdzedModel/ErrorReg.lean (`Circuit.is_ready`, shared with C09).  "History" = any list of
life-cycle operations (start, errors of every kind, abort, cancellation, shutdown, loop iterations).

Second half (`Edzed.TrTie`): the translated `ExtEvent.send`, constructors and circuit registry ARE the model's functions
(model EdzedModel/BlkCtor.lean, lemmas EdzedProofs/BlkCtor.lean, BlkCtorTie.lean); the reserved-name rule and the marked
default source of every constructed ExtEvent follow.
-/
import EdzedModel.ExtEvent
import EdzedProofs.DataLemmas
import EdzedProofs.ErrorReg
import EdzedProps.C09
import EdzedModel.Gen.Translated
import EdzedModel.Gen.TranslatedExt
import EdzedModel.Wiring
import EdzedProofs.BlkCtor
import EdzedProofs.BlkCtorTie

namespace Edzed.ExtEvent
open ErrorReg

/-- tie to the source: the prefix extracted from the current code is the documented one -/
theorem prefix_is_documented : pfx = ['_', 'e', 'x', 't', '_'] := by decide

theorem extPrefix_eq : Gen.extPrefix = "_ext_" := by decide

/-- `send` refuses exactly when the circuit is not ready; a refusal carries no data (nothing is
    delivered), every other outcome happens only in a ready circuit -/
theorem send_refused_iff_not_ready (s : St) (ds : String) (v : Option Val) (d : Data) :
    sendIn s ds v d = .invalidState ↔ s.ready = false := by
  unfold sendIn send
  cases s.ready
  · simp
  · simp only [Bool.not_true, Bool.false_eq_true, ↓reduceIte]
    split <;> simp

/-- for every history from a fresh circuit the circuit is ready exactly while the simulation task is inside
    its `try` block (initialising or simulating) and no error has been delivered -/
theorem ready_exactly_while_running (ops : List Op) :
    (final {} ops).ready = true ↔ ((final {} ops).phase = .tryBlock ∧ (final {} ops).error = none) := by
  have hs : Stopped (final {} ops) := Stopped.final ops {} (by simp [Stopped])
  constructor
  · intro h
    simp [St.ready] at h
    -- without an error the task has not left its `try` block, and it has begun
    exact ⟨(hs.phase_of_no_error h.2).resolve_left h.1, h.2⟩
  · intro ⟨hp, he⟩
    simp [St.ready, hp, he]

/-- before the start nothing is accepted -/
theorem refused_before_start (s : St) (h : s.phase = .notStarted) (ds : String) (v : Option Val) (d : Data) :
    sendIn s ds v d = .invalidState := by
  rw [send_refused_iff_not_ready]; simp [St.ready, h]

/-- after any kind of stop — error, abort, cancellation, shutdown — and for the rest of every history
    (aborting, cleaning up, finished) nothing is accepted -/
theorem refused_after_any_stop (s : St) (e : Err) (h : s.error = some e) (ops : List Op)
    (ds : String) (v : Option Val) (d : Data) :
    sendIn (final s ops) ds v d = .invalidState := by
  rw [send_refused_iff_not_ready]; exact not_ready_forever s e h ops

theorem refused_when_task_stopped (ops : List Op)
    (hp : (final {} ops).phase = .sleep0 ∨ (final {} ops).phase = .cleanup ∨ (final {} ops).phase = .done)
    (ds : String) (v : Option Val) (d : Data) :
    sendIn (final {} ops) ds v d = .invalidState := by
  rw [send_refused_iff_not_ready]; exact stopped_not_ready ops hp

theorem prefixed_append (src : String) : prefixed (Gen.extPrefix ++ src) = true := by
  simp only [prefixed, String.toList_append]
  exact List.isPrefixOf_iff_prefix.mpr (List.prefix_append _ _)

theorem mkSource_prefixed (s : String) : prefixed (mkSource s) = true := by
  unfold mkSource
  split
  · assumption
  · exact prefixed_append s

theorem mkSource_idempotent (s : String) : mkSource (mkSource s) = mkSource s := by
  have h := mkSource_prefixed s
  generalize mkSource s = t at h ⊢
  simp [mkSource, h]

/-- the default source stored by the constructor is marked, whatever string was given -/
theorem ctor_source_prefixed (dest : Dest) (e s : Val) (src : String) (h : ctor dest e s = .ok src) :
    prefixed src = true := by
  have key : ∀ (e s : Val), (match e with
      | .atom (.str e) =>
        if e == "" then CtorRes.typeError
        else match s with
          | .atom (.str s) => .ok (mkSource s)
          | _ => .typeError
      | _ => .typeError) = CtorRes.ok src → prefixed src = true := by
    intro e s h
    split at h
    · split at h
      · simp at h
      · split at h
        · simp only [CtorRes.ok.injEq] at h; subst h; exact mkSource_prefixed _
        · simp at h
    · simp at h
  cases dest
  case sblockObj => exact key e s h
  case sblockName => exact key e s h
  all_goals simp [ctor] at h

/-- what a delivering `send` delivers (a positional value is the item `value` of the data: `send … (some x) d` is
    `send … none (d.set "value" x)` by definition): every item but `source` as given, and a marked `source` (the default one
    being marked) -/
theorem send_delivered {ds : String} {d r : Data} (h : send true ds none d = .delivered r) :
    (∀ k, k ≠ "source" → r.get? k = d.get? k) ∧
    (prefixed ds = true → ∃ src, r.get? "source" = some (.atom (.str src)) ∧ prefixed src = true) := by
  unfold send at h
  simp only [Bool.not_true, Bool.false_eq_true, ↓reduceIte] at h
  split at h
  · injection h with h; subst h
    exact ⟨fun k hk => Data.get?_set_other _ _ _ _ hk, fun hds => ⟨ds, Data.get?_set_same _ _ _, hds⟩⟩
  · next src hsrc =>
    injection h with h; subst h
    split
    · next hp => exact ⟨fun _ _ => rfl, fun _ => ⟨src, hsrc, hp⟩⟩
    · exact ⟨fun k hk => Data.get?_set_other _ _ _ _ hk, fun _ => ⟨_, Data.get?_set_same _ _ _, prefixed_append src⟩⟩
  · cases h

/-- **every delivered external event carries a `source` item beginning with the prefix**: the default one
    or the caller's (prefixed when necessary) — for all data, all source strings, with or without value -/
theorem ext_source_prefixed (ds : String) (hds : prefixed ds = true) (v : Option Val) (d r : Data)
    (h : send true ds v d = .delivered r) :
    ∃ src, r.get? "source" = some (.atom (.str src)) ∧ prefixed src = true := by
  cases v with
  | none => exact (send_delivered h).2 hds
  | some x => exact (send_delivered (d := d.set "value" x) h).2 hds

/-- a `source` item that is not a string is refused with TypeError and nothing is delivered -/
theorem non_string_source_refused (ds : String) (d : Data) (x : Val)
    (h : d.get? "source" = some x) (hx : ∀ s, x ≠ .atom (.str s)) :
    send true ds none d = .typeError := by
  cases x with
  | atom a =>
    cases a with
    | str s => exact absurd rfl (hx s)
    | _ => simp [send, h]
  | _ => simp [send, h]

/-- a positional value becomes the `value` item -/
theorem value_becomes_item (ds : String) (x : Val) (d r : Data)
    (h : send true ds (some x) d = .delivered r) : r.get? "value" = some x :=
  ((send_delivered (d := d.set "value" x) h).1 _ (by decide)).trans (Data.get?_set_same _ _ _)

/-- all other data items arrive unchanged (every key except `source`, and `value` when a positional
    value was given) -/
theorem other_items_unchanged (ds : String) (v : Option Val) (d r : Data)
    (h : send true ds v d = .delivered r) (k : String) (hk : k ≠ "source") (hv : v.isSome → k ≠ "value") :
    r.get? k = d.get? k := by
  cases v with
  | none => exact (send_delivered h).1 k hk
  | some x => exact ((send_delivered (d := d.set "value" x) h).1 k hk).trans (Data.get?_set_other _ _ _ _ (hv rfl))

/-- a source that is already marked is not touched at all -/
theorem marked_source_kept (ds src : String) (d : Data)
    (h : d.get? "source" = some (.atom (.str src))) (hp : prefixed src = true) :
    send true ds none d = .delivered d := by
  unfold send
  simp [h, hp]

theorem not_prefix_of_head (p : List Char) (l : List Char) (h : l.head? ≠ some '_') :
    ('_' :: p).isPrefixOf l = false := by
  match l, h with
  | [], _ => rfl
  | c :: t, h =>
    have hc : ('_' == c) = false := by
      simp only [beq_eq_false_iff_ne, ne_eq]
      intro hc; apply h; simp [← hc]
    simp [List.isPrefixOf, hc]

theorem auto_name_not_marked (cls suffix : List Char) (h1 : cls ≠ ['e', 'x', 't'])
    (h2 : (['e', 'x', 't', '_'] : List Char).isPrefixOf cls = false) :
    (['_', 'e', 'x', 't', '_'] : List Char).isPrefixOf (internalSource (.auto cls suffix)) = false := by
  show (['_', 'e', 'x', 't', '_'] : List Char).isPrefixOf ('_' :: (cls ++ '_' :: suffix)) = false
  rw [List.isPrefixOf, BlkCtor.ext_prefix_iff, h2, decide_eq_false h1]
  rfl

/- Full statement (NOT provable): ∀ b, b.accepted → ¬ pfx.isPrefixOf (internalSource b).
   Counter-example: an automatically named block of a user class called `ext` (or `ext_…`) is named
   `_ext_0`; see known_findings.json.  The hypothesis below is the one the proof forces. -/
theorem internal_source_never_ext_partial (b : BlockName) (hb : b.accepted = true)
    (hcls : ∀ cls suffix, b = .auto cls suffix →
      cls ≠ ['e', 'x', 't'] ∧ (['e', 'x', 't', '_'] : List Char).isPrefixOf cls = false) :
    pfx.isPrefixOf (internalSource b) = false := by
  rw [prefix_is_documented]
  match b, hb, hcls with
  | .user n, hb, _ =>
    apply not_prefix_of_head
    simp only [BlockName.accepted, Bool.and_eq_true, bne_iff_ne, ne_eq] at hb
    exact hb.2
  | .auto cls suffix, _, hcls =>
    exact auto_name_not_marked cls suffix (hcls cls suffix rfl).1 (hcls cls suffix rfl).2
  | .ctrl, _, _ => decide
  | .notOf n, _, _ => simp [internalSource, BlockName.render, List.isPrefixOf]
  | .cron true, _, _ => decide
  | .cron false, _, _ => decide

/-- the counter-example that blocks the full statement: the automatic name of the first block of a
    class called `ext` (replayed on the implementation by the check) -/
theorem auto_named_ext_class_forges_prefix :
    (BlockName.auto ['e', 'x', 't'] ['0']).accepted = true ∧
    pfx.isPrefixOf (internalSource (.auto ['e', 'x', 't'] ['0'])) = true := by decide

/-- non-vacuity: a running circuit, a caller-given unmarked source, a positional value -/
example :
    ∃ r, sendIn (final {} [.start none]) "_ext_" (some (.int 7)) [("source", .str "sensor"), ("k", .int 1)]
        = .delivered r ∧
      r.get? "source" = some (.str "_ext_sensor") ∧ r.get? "value" = some (.int 7) ∧
      r.get? "k" = some (.int 1) := by
  refine ⟨_, rfl, ?_, ?_, ?_⟩ <;> decide

example : (final {} [.start none, .abortCall (.exc 1), .tick, .tick]).phase = .done ∧
    sendIn (final {} [.start none, .abortCall (.exc 1), .tick, .tick]) "_ext_" none [] = .invalidState := by
  decide

end Edzed.ExtEvent

/-! ### tie to the source by translation

tools/py2lean.py regenerates `Gen.Tr.isReady` from `Circuit.is_ready` and `Gen.Tr.extSource` from the assignment
`self._source = …` in `ExtEvent.__init__` on every run. -/
namespace Edzed.TrTie

theorem translated_is_ready_is_model (s : ErrorReg.St) :
    Gen.Tr.isReady (if s.phase = .notStarted then none else some ()) (s.error.map fun _ => ()) = s.ready :=
  (translated_errreg_is_ready_follows_error s).1

theorem translated_ext_source_is_model (src : String) : Gen.Tr.extSource src = ExtEvent.mkSource src := by
  unfold Gen.Tr.extSource ExtEvent.mkSource ExtEvent.prefixed
  rw [ExtEvent.prefix_is_documented]
  rw [ExtEvent.extPrefix_eq]

/-- the three outcomes of the translated `ExtEvent.send` as the model's result type -/
def sendResOf : Except Gen.TrX.ExtErr Data → ExtEvent.SendRes
  | .error .invalidState => .invalidState
  | .error .typeError => .typeError
  | .ok d => .delivered d

/-- the model's `send` IS the body of `ExtEvent.send` translated from the source; the omitted positional
    argument is the default `UNDEF` of the signature (an explicit value is never UNDEF) -/
theorem translated_ext_send_is_model (ready : Bool) (dflt : String) (value : Option Val) (data : Data)
    (hv : ∀ v, value = some v → v.isUndef = false) :
    sendResOf (Gen.TrX.extSend ready dflt (value.getD .undef) data) = ExtEvent.send ready dflt value data := by
  have hp := ExtEvent.extPrefix_eq
  have hl : "_ext_".toList = ['_', 'e', 'x', 't', '_'] := by decide
  have core : ∀ d : Data,
      sendResOf (Gen.TrX.extSend true dflt .undef d) = ExtEvent.send true dflt none d := by
    intro d
    unfold Gen.TrX.extSend ExtEvent.send
    simp only [Bool.not_true, Bool.false_eq_true, ↓reduceIte, show Val.undef.isUndef = true from rfl]
    cases hs : d.get? "source" with
    | none => simp [sendResOf, Val.str]
    | some src =>
      cases src with
      | atom a =>
        cases a with
        | str x =>
          simp only [Gen.TrX.strOf?, ExtEvent.prefixed, ExtEvent.pfx, hp, Val.str, hl]
          by_cases hx : List.isPrefixOf ['_', 'e', 'x', 't', '_'] x.toList = true <;> simp [hx, sendResOf]
        | _ => simp [Gen.TrX.strOf?, sendResOf]
      | _ => simp [Gen.TrX.strOf?, sendResOf]
  cases ready
  · rfl
  · cases value with
    | none => exact core data
    | some v =>
      have h := hv v rfl
      have e1 : Gen.TrX.extSend true dflt v data = Gen.TrX.extSend true dflt .undef (data.set "value" v) := by
        unfold Gen.TrX.extSend
        simp only [h, show Val.undef.isUndef = true from rfl, Bool.not_true, Bool.not_false,
          Bool.false_eq_true, ↓reduceIte]
      have e2 : ExtEvent.send true dflt (some v) data = ExtEvent.send true dflt none (data.set "value" v) := rfl
      simp only [Option.getD_some]
      rw [e1, e2]
      exact core _


/-! ### the constructors and the circuit registry, translated

tools/py2lean_blkctor.py regenerates `Gen/TranslatedBlkCtor.lean` from the current source of `check_name`,
`Block.__init__`, `Block.has_method`, `SBlock.__init__`, `CBlock.__init__`, `ExtEvent.__init__`,
`Const.__new__/__init__`, `Circuit.__init__`, `Circuit.is_current_task`, `get_circuit`, `reset_circuit`: programs over a
heap of objects whose leaves are parameters (`BlkCtorPy.CPrims`).  `BlkCtorTie.prims` instantiates the leaves on the
heap of `EdzedModel/BlkCtor.lean`; the theorems `translated_ctor_…_is_model` say that the
generated programs ARE the model's functions, for all arguments and all states. -/

open Edzed.BlkCtorPy Edzed.BlkCtor Edzed.BlkCtorTie

theorem translated_ctor_check_name_is_model (a : Arg Nat) (nametype : String) (w : World) :
    Gen.TrBC.checkName prims a nametype w = (w, (checkName a).map fun _ => ()) := by
  unfold Gen.TrBC.checkName checkName
  cases a.str? with
  | none => rfl
  | some s =>
    by_cases h : s = ""
    · subst h; rfl
    · simp [h, Except.map]

/-- `Circuit()` = allocation + the translated `Circuit.__init__`: the new object carries exactly the nine
    attributes of `freshCircuitAttrs`, in that order -/
theorem translated_ctor_circuit_init_is_model (w : World) :
    Gen.TrBC.circuitCall prims w = ((newCircuit w).1, .ok (newCircuit w).2) := by
  simp only [Gen.TrBC.circuitCall, Gen.TrBC.circuitInit, bind_apply, modify_apply, pure_apply, p_allocCircuit, p_setAttr,
    p_newResolver, p_boundRegister, newCircuit]
  -- nine stores into an object just allocated, under pairwise distinct names
  exact congrArg (·, _) (alloc_setAttrs w { cls := "Circuit", bases := ["Circuit"] } (freshCircuitAttrs w.heap.length)
    (freshCircuitAttrs_keys _))

theorem translated_ctor_get_circuit_is_model (w : World) :
    Gen.TrBC.getCircuit prims w = ((getCircuit w).1, .ok (some (getCircuit w).2)) := by
  unfold Gen.TrBC.getCircuit Gen.TrBC.getCircuit_j1 getCircuit
  cases hc : w.current with
  | some c => simp [hc]
  | none => simp [hc, translated_ctor_circuit_init_is_model]

theorem translated_ctor_reset_circuit_is_model (w : World) :
    Gen.TrBC.resetCircuit prims w = (resetCircuit w, .ok ()) := by
  unfold Gen.TrBC.resetCircuit resetCircuit
  cases hc : w.current with
  | none => simp [hc]
  | some c =>
    -- `abort` leaves `current` alone, and its RuntimeError is caught by `except Exception`
    cases hr : w.abortRaises <;>
      simp [hc, abort, hr, catches_exception_runtimeError, translated_ctor_circuit_init_is_model]

theorem translated_ctor_is_current_task_is_model (c : Nat) (w : World) :
    Gen.TrBC.isCurrentTask prims c w = (w, .ok (isCurrentTask w c)) := by
  unfold Gen.TrBC.isCurrentTask isCurrentTask
  cases ht : simtask w c with
  | none => simp [ht]
  | some t =>
    cases hq : w.curTask with
    | none => simp [ht, hq, catches_exception_runtimeError]
    | some cur =>
      by_cases h : some t = cur
      · subst h; simp [ht, hq]
      · have h2 : ¬ cur = some t := fun e => h e.symm
        simp [ht, hq, h, h2]

theorem translated_ctor_has_method_is_model (o : Nat) (name : String) (w : World) :
    Gen.TrBC.hasMethod prims o name w = (w, hasMethod w o name) := by
  unfold Gen.TrBC.hasMethod hasMethod
  have hex : Gen.TrBC.catches "AttributeError" "AttributeError" = true := by decide
  have hex2 : Gen.TrBC.catches "AttributeError" "RuntimeError" = false := by decide
  cases hl : lookup w o name with
  | none => simp [hl, hex]
  | some m => cases m <;> simp [hl, hex, hex2]

theorem translated_ctor_block_init_is_model (self : Nat) (name comment onOutput reserved debug : Arg Nat)
    (xkw : Kw (Arg Nat)) (w : World) :
    Gen.TrBC.blockInit prims self name comment onOutput reserved debug xkw w
      = blockInit w self name comment onOutput reserved debug xkw := by
  unfold Gen.TrBC.blockInit blockInit
  simp only [bind_apply, translated_ctor_get_circuit_is_model, modify_apply, p_setAttr]
  generalize ((getCircuit w).1.setAttr self "circuit" (AV.optobj (some (getCircuit w).2))) = w1
  by_cases hn : name.isNone = true
  · simp only [hn, blockName, Bool.not_true, Bool.false_eq_true, ↓reduceIte, bind_apply, gets_apply, p_className,
      p_selfTypeBlocks, p_nameOf, blockTail_tie, autoName, List.countP_map]
    rfl
  · simp only [hn, blockName, Bool.not_false, Bool.false_eq_true, ↓reduceIte, bind_apply,
      translated_ctor_check_name_is_model]
    unfold checkName
    cases hs : name.str? with
    | none => rfl
    | some s =>
      by_cases he : s = ""
      · subst he; rfl
      · have hst : Arg.startsWith name "_" w1 = (w1, .ok (strStartsWith s "_")) := by
          unfold Arg.startsWith; rw [hs]; rfl
        simp only [he, beq_iff_eq, ↓reduceIte, Except.map, M.andM, bind_apply, hst, pure_apply]
        cases hsw : strStartsWith s "_" <;> cases hrt : reserved.truthy <;> simp [blockTail_tie, hst, hsw, hrt]

/-- the binding of `*args / **kwargs` to the signature of `Block.__init__` and its DEFAULTS
    (`comment=""`, `on_output=None`, `_reserved=False`, `debug=False`) -/
theorem translated_ctor_block_call_is_model (self : Nat) (args : List (Arg Nat)) (kw : Kw (Arg Nat)) (w : World) :
    Gen.TrBC.blockInitCall prims self args kw w = blockInitCall w self args kw := by
  unfold Gen.TrBC.blockInitCall blockInitCall
  cases bindArgs ["name"] ["comment", "on_output", "_reserved", "debug"] false true args kw with
  | none => rfl
  | some r =>
    obtain ⟨l, extra, rest⟩ := r
    rcases l with _ | ⟨a0, l⟩
    · rfl
    · cases a0 <;> rcases l with _ | ⟨a1, _ | ⟨a2, _ | ⟨a3, _ | ⟨a4, _ | ⟨a5, l⟩⟩⟩⟩⟩ <;>
        first | rfl | (simp only [translated_ctor_block_init_is_model])

theorem translated_ctor_sblock_init_is_model (self : Nat) (args : List (Arg Nat)) (onEvery : Arg Nat)
    (kw : Kw (Arg Nat)) (w : World) :
    Gen.TrBC.sblockInit prims self args onEvery kw w = sblockInit w self args onEvery kw := by
  unfold Gen.TrBC.sblockInit Gen.TrBC.sblockInit_j1 sblockInit
  -- `M.notM`: the program may test `not has_method(…)` with the arms swapped
  simp only [bind_pure, bind_pure_unit, M.notM, bind_apply, pure_apply, translated_ctor_has_method_is_model]
  cases hasMethod w self "init_from_value" with
  | error e => rfl
  | ok has =>
    cases has <;>
      simp only [Bool.not_true, Bool.not_false, Bool.false_eq_true, ↓reduceIte, bind_apply, modify_apply, p_setAttr,
        p_eventTuple]
    all_goals
      generalize World.setAttr _ self "_event_active" _ = w1
      cases eventTuple w1 onEvery with
      | error e => rfl
      | ok ev => exact translated_ctor_block_call_is_model ..

theorem translated_ctor_sblock_call_is_model (self : Nat) (args : List (Arg Nat)) (kw : Kw (Arg Nat)) (w : World) :
    Gen.TrBC.sblockInitCall prims self args kw w = sblockInitCall w self args kw := by
  unfold Gen.TrBC.sblockInitCall sblockInitCall
  cases bindArgs [] ["on_every_output"] true true args kw with
  | none => rfl
  | some r =>
    obtain ⟨l, extra, rest⟩ := r
    rcases l with _ | ⟨a0, _ | ⟨a1, l⟩⟩ <;> try rfl
    simp only [translated_ctor_sblock_init_is_model]

theorem translated_ctor_cblock_init_is_model (self : Nat) (args : List (Arg Nat)) (kw : Kw (Arg Nat)) (w : World) :
    Gen.TrBC.cblockInit prims self args kw w = cblockInit w self args kw := by
  unfold Gen.TrBC.cblockInit cblockInit
  simp only [bind_pure_unit, bind_apply, modify_apply, p_setAttr, p_newInputGetter]
  exact translated_ctor_block_call_is_model ..

theorem translated_ctor_cblock_call_is_model (self : Nat) (args : List (Arg Nat)) (kw : Kw (Arg Nat)) (w : World) :
    Gen.TrBC.cblockInitCall prims self args kw w = cblockInitCall w self args kw := by
  unfold Gen.TrBC.cblockInitCall cblockInitCall
  cases bindArgs [] [] true true args kw with
  | none => rfl
  | some r =>
    obtain ⟨l, extra, rest⟩ := r
    rcases l with _ | ⟨a0, l⟩ <;> try rfl
    simp only [translated_ctor_cblock_init_is_model]

theorem translated_ctor_ext_init_is_model (self : Nat) (dest etype source : Arg Nat) (w : World) :
    Gen.TrBC.extInit prims self dest etype source w = extInit w self dest etype source := by
  unfold Gen.TrBC.extInit extInit extDest
  cases hd : dest.str? with
  | some n =>
    simp only [bind_apply, translated_ctor_get_circuit_is_model, deref_some, p_findblock, extTail_tie]
    cases findblock (getCircuit w).1 (getCircuit w).2 n with
    | none => rfl
    | some b => rfl
  | none =>
    -- `extTail_tie` applies here only where the program tests the class of the object first
    simp only [bind_apply, gets_apply, pure_apply, extTail_tie]
    cases dest with
    | val v => rfl
    | obj o =>
      simp only [argIsInstance, p_isInstance]
      by_cases hb : w.isInstance o "Block" = true
      · simp only [hb, ↓reduceIte, extTail_tie]; rfl
      · simp only [hb, Bool.false_eq_true, ↓reduceIte, raise_apply]

/-- the defaults of `ExtEvent(dest, etype='put', source='_ext_')` -/
theorem translated_ctor_ext_call_is_model (self : Nat) (args : List (Arg Nat)) (kw : Kw (Arg Nat)) (w : World) :
    Gen.TrBC.extInitCall prims self args kw w = extInitCall w self args kw := by
  unfold Gen.TrBC.extInitCall extInitCall
  cases bindArgs ["dest", "etype", "source"] [] false false args kw with
  | none => rfl
  | some r =>
    obtain ⟨l, extra, rest⟩ := r
    rcases l with _ | ⟨a0, l⟩
    · rfl
    · cases a0 <;> rcases l with _ | ⟨a1, _ | ⟨a2, _ | ⟨a3, l⟩⟩⟩ <;>
        first | rfl | (simp only [translated_ctor_ext_init_is_model])

/-- `Const(value)` = the translated `__new__` followed by the translated `__init__` -/
theorem translated_ctor_const_is_model (cls : String) (v : Arg Nat) (w : World) :
    Gen.TrBC.constCall prims cls v w = constCall w cls v := by
  unfold Gen.TrBC.constCall Gen.TrBC.constNew Gen.TrBC.constNew_j1 constCall
  have hk : Gen.TrBC.catches "KeyError" "KeyError" = true := by decide
  have ht : Gen.TrBC.catches "KeyError" "TypeError" = false := by decide
  have ht2 : Gen.TrBC.catches "TypeError" "TypeError" = true := by decide
  simp only [bind_apply, tryCatch_apply, p_instancesGet, pure_apply, constInit_tie]
  cases hh : hashable v
  · simp [ht, ht2, World.alloc]
    cases v.isUndef <;> rfl
  · cases hf : (w.consts.find? fun p => keyEq p.1 v).map (·.2) with
    | some o =>
      simp [hf]
      cases v.isUndef <;> rfl
    | none =>
      simp [hf, hk, World.alloc]
      cases v.isUndef <;> rfl

/-! #### the reserved names (C14: "user-defined blocks cannot have names beginning with an underscore") -/

/-- a given name beginning with `_` is refused with ValueError for EVERY falsy `_reserved` (False, None, 0, '',
    (), UNDEF …), whatever the other arguments and the state are -/
theorem translated_ctor_underscore_name_refused (w : World) (self : Nat) (s : String)
    (comment onOutput reserved debug : Arg Nat) (xkw : Kw (Arg Nat))
    (hs : strStartsWith s "_" = true) (hr : reserved.truthy = false) :
    (Gen.TrBC.blockInit prims self (.val (.str s)) comment onOutput reserved debug xkw w).2 = .error "ValueError" := by
  rw [translated_ctor_block_init_is_model]
  have hne : (s == "") = false := by
    cases he : (s == "") with
    | false => rfl
    | true =>
      have : s = "" := by simpa using he
      subst this
      exact absurd hs (by decide)
  have hn : Arg.isNone (Arg.val (Val.str s) : Arg Nat) = false := rfl
  have hst : Arg.str? (Arg.val (Val.str s) : Arg Nat) = some s := rfl
  simp [blockInit, blockName, checkName, hn, hst, hne, hs, hr]

/-- non-vacuity: `_ctrl` without `_reserved` in an empty world -/
example : outcome (Gen.TrBC.blockInit prims 0 (.val (.str "_ctrl")) (.val (.str "")) .none (.val (.bool false))
    (.val (.bool false)) [] { heap := [{ cls := "K", bases := ["K", "SBlock", "Block"] }] }).2
      = "ValueError" := by decide

/-- a name that is neither None nor a str is a TypeError, the empty string a ValueError -/
theorem translated_ctor_bad_name_refused (w : World) (self : Nat) (name comment onOutput reserved debug : Arg Nat)
    (xkw : Kw (Arg Nat)) (hn : name.isNone = false) :
    (name.str? = none →
      (Gen.TrBC.blockInit prims self name comment onOutput reserved debug xkw w).2 = .error "TypeError")
    ∧ (name.str? = some "" →
      (Gen.TrBC.blockInit prims self name comment onOutput reserved debug xkw w).2 = .error "ValueError") := by
  rw [translated_ctor_block_init_is_model]
  constructor <;> intro hs <;> simp [blockInit, blockName, checkName, hn, hs]

/-- a successful `Block.__init__` on an existing object has stored as `self.name` what the name rules
    (`BlkCtor.blockName`) give for the given name, `_reserved`, the class and the names already in the circuit -/
theorem translated_ctor_block_init_stores_name (w w' : World) (self : Nat)
    (name comment onOutput reserved debug : Arg Nat) (xkw : Kw (Arg Nat)) (hs : self < w.heap.length)
    (h : Gen.TrBC.blockInit prims self name comment onOutput reserved debug xkw w = (w', .ok ())) :
    ∃ nm cls names, blockName name reserved cls names = .ok nm ∧ w'.get? self "name" = some (.arg nm) := by
  rw [translated_ctor_block_init_is_model] at h
  exact blockInit_name_stored w w' self name comment onOutput reserved debug xkw hs h

/-- **the reserved-name rule of C14 over ALL names and ALL `_reserved` values**: a name accepted by the rules
    of `Block.__init__` begins with `_ext_` exactly when
    (a) no name was given and the class is called `ext` or `ext_…` (the automatic name `_ext_<n>`: the known
        finding C14-auto-name-of-class-ext), or
    (b) a marked name was given together with a true `_reserved` (edzed's own reserved blocks; none of them is
        called `_ext_…`).
    So without `_reserved` the only forgeable case is (a). -/
theorem translated_ctor_accepted_name_marked_iff (name reserved : Arg Nat) (cls : String) (names : List String)
    (nm : Arg Nat) (h : blockName name reserved cls names = .ok nm) :
    argMarked nm = true ↔
      (name.isNone = true ∧ (cls.toList = ['e', 'x', 't'] ∨ strStartsWith cls "ext_" = true))
      ∨ (name.isNone = false ∧ reserved.truthy = true ∧ argMarked name = true) :=
  accepted_name_marked_iff name reserved cls names nm h

/-- the case the rule does NOT exclude, exposed: the automatic name of a block of a class called `ext` is accepted
    and begins with `_ext_` -- for every state of the circuit (whatever blocks exist already) -/
theorem translated_ctor_auto_name_of_class_ext_is_marked (reserved : Arg Nat) (names : List String) :
    ∃ nm, blockName .none reserved "ext" names = .ok nm ∧ argMarked nm = true := by
  refine ⟨_, rfl, ?_⟩
  rw [accepted_name_marked_iff .none reserved "ext" names _ rfl]
  exact Or.inl ⟨rfl, Or.inl (by decide)⟩

/-- … replayed through the translated constructor: `class ext(SBlock)`, `ext(None)` in a fresh world registers
    the block `_ext_0` -/
example :
    let w0 : World := { heap := [{ cls := "ext", bases := ["ext", "SBlock", "Block"] }] }
    let r := Gen.TrBC.sblockInitCall prims 0 [Arg.none] [] w0
    outcome r.2 = "ok" ∧ r.1.nameOf 0 = "_ext_0" ∧ (r.1.blocks 1).map (·.1) = ["_ext_0"] := by decide

/-- without `_reserved` no GIVEN name is marked: (b) needs a true `_reserved` -/
theorem translated_ctor_given_name_never_marked (name reserved : Arg Nat) (cls : String) (names : List String)
    (nm : Arg Nat) (hn : name.isNone = false) (hr : reserved.truthy = false)
    (h : blockName name reserved cls names = .ok nm) : argMarked nm = false := by
  cases hm : argMarked nm with
  | false => rfl
  | true =>
    rcases (accepted_name_marked_iff name reserved cls names nm h).mp hm with h1 | h1
    · rw [hn] at h1; cases h1.1
    · rw [hr] at h1; cases h1.2.1

/-- for a name GIVEN without `_reserved` the rules of the translated `Block.__init__` are the model of the names
    that `internal_source_never_ext_partial` talks about (`BlockName.user … .accepted`) -/
theorem translated_ctor_user_name_rule_is_block_name_model (s cls : String) (names : List String) :
    (blockName (.val (.str s)) (.val (.bool false)) cls names).toOption.isSome
      = (ExtEvent.BlockName.user s.toList).accepted := by
  have hn : Arg.isNone (Arg.val (Val.str s) : Arg Nat) = false := rfl
  have hst : Arg.str? (Arg.val (Val.str s) : Arg Nat) = some s := rfl
  have hr : Arg.truthy (Arg.val (Val.bool false) : Arg Nat) = false := by decide
  have h1 : "_".toList = ['_'] := by decide
  unfold blockName checkName ExtEvent.BlockName.accepted strStartsWith
  simp only [hn, hst, hr, h1, Bool.false_eq_true, ↓reduceIte, Bool.not_false, Bool.and_true]
  by_cases h : s = ""
  · subst h; rfl
  · have hne : s.toList ≠ [] := fun e => h (String.toList_eq_nil_iff.mp e)
    cases hl : s.toList with
    | nil => exact absurd hl hne
    | cons c r =>
      have hs : (s == "") = false := by simp [h]
      by_cases hc : c = '_'
      · subst hc; simp [hs, hl, Except.toOption]
      · have h3 : ¬ '_' = c := fun e => hc e.symm
        have h4 : (some c != some '_') = true := by simp [hc]
        simp [hs, hl, h3, h4, Except.toOption]

/-- the automatic name is the one of the model of the names (`BlockName.auto`) -/
theorem translated_ctor_auto_name_is_render (cls : String) (names : List String) :
    (autoName cls names).toList = (ExtEvent.BlockName.auto cls.toList
      (pyStrNat (names.countP fun n => strStartsWith n ("_" ++ cls ++ "_"))).toList).render := by
  unfold autoName ExtEvent.BlockName.render
  simp only [String.toList_append]
  have : "_".toList = ['_'] := by decide
  rw [this]
  simp

/-- a keyword argument that begins neither with `x_` nor with `X_` is refused -/
theorem translated_ctor_refused_keyword (w : World) (self : Nat) (name comment onOutput reserved debug : Arg Nat)
    (xkw : Kw (Arg Nat)) (hbad : xkw.any (fun p => !goodKey p.1) = true) :
    ∃ w' e, Gen.TrBC.blockInit prims self name comment onOutput reserved debug xkw w = (w', .error e) := by
  rw [translated_ctor_block_init_is_model]
  exact blockInit_refuses_keyword w self name comment onOutput reserved debug xkw hbad

example : ∃ w' e, Gen.TrBC.blockInit prims 0 (.val (.str "a")) .none .none .none .none [("x_ok", .none), ("colour", .none)]
    { heap := [{ cls := "K", bases := ["K", "SBlock", "Block"] }] } = (w', .error e) :=
  translated_ctor_refused_keyword _ _ _ _ _ _ _ _ (by decide)

/-- **every constructed ExtEvent carries a marked default source**: for every `source` argument (the empty string
    included) a successful `ExtEvent.__init__` stored a str beginning with `_ext_` as `_source` -/
theorem translated_ctor_ext_source_marked (w w' : World) (self : Nat) (dest etype source : Arg Nat)
    (hs : self < w.heap.length) (h : Gen.TrBC.extInit prims self dest etype source w = (w', .ok ())) :
    ∃ s src, source.str? = some s ∧ w'.get? self "_source" = some (.str src) ∧ src = extSource s
      ∧ strStartsWith src "_ext_" = true := by
  rw [translated_ctor_ext_init_is_model] at h
  obtain ⟨s, h1, h2⟩ := extInit_source_stored w w' self dest etype source h
  exact ⟨s, extSource s, h1, h2 hs, rfl, extSource_marked s⟩

/-- a `source` that is not a str -- None included -- is refused, whatever the destination and event type -/
theorem translated_ctor_ext_non_string_source_refused (w : World) (self : Nat) (dest etype source : Arg Nat)
    (hs : source.str? = none) :
    ∃ w' e, Gen.TrBC.extInit prims self dest etype source w = (w', .error e) := by
  rw [translated_ctor_ext_init_is_model]
  exact extInit_non_string_source w self dest etype source hs

/-- `source=''` gives the bare mark; `source=None` a TypeError (non-vacuity of the two theorems above) -/
example :
    let w0 : World := { heap := [{ cls := "Circuit", bases := ["Circuit"], attrs := [("_blocks", .dict [("b", 1)])] },
                                 { cls := "K", bases := ["K", "SBlock", "Block"] }, {}], current := some 0 }
    (Gen.TrBC.extInit prims 2 (.val (.str "b")) (.val (.str "put")) (.val (.str "")) w0).1.get? 2 "_source"
        = some (.str "_ext_")
    ∧ outcome (Gen.TrBC.extInit prims 2 (.val (.str "b")) (.val (.str "put")) .none w0).2 = "TypeError"
    ∧ (Gen.TrBC.extInitCall prims 2 [.obj 1] [] w0).1.get? 2 "_source" = some (.str "_ext_") := by decide

/-- the stored source is the one of the model of `send` (`ExtEvent.mkSource`) and of the translated assignment `Gen.Tr.extSource` -/
theorem translated_ctor_ext_source_is_mkSource (s : String) :
    extSource s = ExtEvent.mkSource s ∧ extSource s = Gen.Tr.extSource s := by
  have hp := ExtEvent.extPrefix_eq
  constructor
  · unfold extSource ExtEvent.mkSource ExtEvent.prefixed ExtEvent.pfx strStartsWith
    rw [hp]
  · rw [translated_ext_source_is_model]
    unfold extSource ExtEvent.mkSource ExtEvent.prefixed ExtEvent.pfx strStartsWith
    rw [hp]

/-- the kind of destination, as the constructor model `ExtEvent.ctor` classifies it -/
def extDestKind (w : World) : Arg Nat → ExtEvent.Dest
  | .val (.atom (.str n)) =>
    match findblock (getCircuit w).1 (getCircuit w).2 n with
    | none => .unknownName
    | some b => if (getCircuit w).1.isInstance b "SBlock" then .sblockName else .cblockName
  | .obj o =>
    if w.isInstance o "Block" then (if w.isInstance o "SBlock" then .sblockObj else .cblockObj) else .notABlock
  | .val _ => .notABlock

def extCtorOutcome : ExtEvent.CtorRes → String
  | .ok _ => "ok"
  | .typeError => "TypeError"
  | .keyError => "KeyError"

/-- the translated `ExtEvent.__init__` refines the constructor model that the correspondence compares with the real
    code (`ExtEvent.ctor`: six kinds of destination x event type x source): same outcome -/
theorem translated_ctor_ext_init_refines_ctor (w : World) (self : Nat) (dest : Arg Nat) (e s : Val) :
    outcome (Gen.TrBC.extInit prims self dest (.val e) (.val s) w).2
      = extCtorOutcome (ExtEvent.ctor (extDestKind w dest) e s) := by
  rw [translated_ctor_ext_init_is_model]
  have key : ∀ (w1 : World) (d : Arg Nat), isSBlock w1 d = true →
      outcome (match (Arg.val e : Arg Nat).str? with
        | none => (w1, (Except.error "TypeError" : Except PyExc Unit))
        | some e' =>
          if e' == "" then (w1, .error "TypeError")
          else
            match (Arg.val s : Arg Nat).str? with
            | none => (w1, .error "TypeError")
            | some s' =>
              (((w1.setAttr self "_dest" (.arg d)).setAttr self "_etype" (.arg (.val e))).setAttr self "_source"
                (.str (extSource s')), .ok ())).2
        = extCtorOutcome (match e with
            | .atom (.str e) =>
              if e == "" then ExtEvent.CtorRes.typeError
              else match s with
                | .atom (.str s) => .ok (ExtEvent.mkSource s)
                | _ => .typeError
            | _ => .typeError) := by
    intro w1 d _
    rcases e with _ | a | l | l
    · rfl
    · cases a with
      | none => rfl
      | num q k => rfl
      | str e' =>
        simp only [Arg.str?]
        by_cases he : (e' == "") = true
        · simp [he, outcome, extCtorOutcome]
        · simp only [he, Bool.false_eq_true, ↓reduceIte]
          rcases s with _ | a2 | l | l
          · rfl
          · cases a2 <;> rfl
          · rfl
          · rfl
    · rfl
    · rfl
  unfold extInit extDest extDestKind
  rcases dest with v | o
  · rcases v with _ | a | l | l
    · rfl
    · cases a with
      | none => rfl
      | num q k => rfl
      | str n =>
        simp only [Arg.str?]
        cases hf : findblock (getCircuit w).1 (getCircuit w).2 n with
        | none => rfl
        | some b =>
          simp only
          by_cases hsb : (getCircuit w).1.isInstance b "SBlock" = true
          · simp only [isSBlock, hsb, Bool.not_true, Bool.false_eq_true, ↓reduceIte]
            exact key _ (.obj b) (by simp [isSBlock, hsb])
          · simp only [isSBlock, hsb, Bool.not_false, ↓reduceIte, Bool.false_eq_true]
            rfl
    · rfl
    · rfl
  · simp only [Arg.str?]
    by_cases hb : w.isInstance o "Block" = true
    · simp only [hb, ↓reduceIte]
      by_cases hsb : w.isInstance o "SBlock" = true
      · simp only [isSBlock, hsb, Bool.not_true, Bool.false_eq_true, ↓reduceIte]
        exact key _ (.obj o) (by simp [isSBlock, hsb])
      · simp only [isSBlock, hsb, Bool.not_false, ↓reduceIte, Bool.false_eq_true]
        rfl
    · simp only [hb, Bool.false_eq_true, ↓reduceIte]
      rfl


/-- **the state every other model starts from**: right after `Circuit.__init__` (translated) the circuit is not
    ready (`Circuit.is_ready()` -- the translated `Gen.Tr.isReady` -- is false), has no simulation task, no
    error, is not finalized and has no blocks: the initial `ErrorReg.St` and the initial `Wiring.Circ` -/
theorem translated_ctor_fresh_circuit_state (w w' : World) (c : Nat)
    (h : Gen.TrBC.circuitCall prims w = (w', .ok c)) :
    Gen.Tr.isReady (if w'.attrIsNone c "_simtask" then none else some ())
        (if w'.attrIsNone c "_error" then none else some ()) = false
    ∧ isReady w' c = ({} : ErrorReg.St).ready
    ∧ (w'.attrIsNone c "_simtask" = true ↔ ({} : ErrorReg.St).phase = .notStarted)
    ∧ (w'.attrIsNone c "_error" = true ↔ ({} : ErrorReg.St).error = none)
    ∧ w'.attrTruthy c "_finalized" = ({} : Wiring.Circ).finalized
    ∧ (!w'.attrIsNone c "_error") = ({} : Wiring.Circ).stopped
    ∧ (w'.blocks c).map (·.1) = ({} : Wiring.Circ).order
    ∧ isCurrentTask w' c = false := by
  rw [translated_ctor_circuit_init_is_model] at h
  simp only [Prod.mk.injEq, Except.ok.injEq] at h
  obtain ⟨h1, h2⟩ := h
  subst h1 h2
  obtain ⟨a, b, c', d, e, f⟩ := newCircuit_state w
  simp [a, b, c', d, e, f, Gen.Tr.isReady, ErrorReg.St.ready, isCurrentTask]

/-- a freshly imported module has no circuit: the model's initial world -/
theorem translated_ctor_module_starts_without_circuit :
    (Gen.TrBC.moduleCurrentCircuit : Option Nat) = ({} : World).current := rfl

/-- `get_circuit()` creates a circuit only when there is none, and then returns the same one again -/
theorem translated_ctor_get_circuit_idempotent (w : World) :
    ∃ c, (Gen.TrBC.getCircuit prims w).2 = .ok (some c)
      ∧ Gen.TrBC.getCircuit prims (Gen.TrBC.getCircuit prims w).1 = ((Gen.TrBC.getCircuit prims w).1, .ok (some c)) := by
  simp only [translated_ctor_get_circuit_is_model]
  refine ⟨_, rfl, ?_⟩
  have hc : (getCircuit w).1.current = some (getCircuit w).2 := by
    unfold getCircuit
    cases hcur : w.current <;> simp [hcur]
  generalize getCircuit w = r at hc
  obtain ⟨w1, c⟩ := r
  simp only at hc
  simp [getCircuit, hc]

/-- `reset_circuit()` with a current circuit makes a FRESH circuit the current one: not ready, without blocks,
    not finalized, without error -/
theorem translated_ctor_reset_gives_fresh_circuit (w : World) (c0 : Nat) (h : w.current = some c0) :
    ∃ c, (Gen.TrBC.resetCircuit prims w).1.current = some c
      ∧ isReady (Gen.TrBC.resetCircuit prims w).1 c = false
      ∧ (Gen.TrBC.resetCircuit prims w).1.blocks c = []
      ∧ (Gen.TrBC.resetCircuit prims w).1.attrTruthy c "_finalized" = false
      ∧ (Gen.TrBC.resetCircuit prims w).1.attrIsNone c "_error" = true := by
  simp only [translated_ctor_reset_circuit_is_model, resetCircuit, h]
  generalize (abort w c0 "EdzedCircuitError").1 = w1
  obtain ⟨a, _, c', d, e, _⟩ := newCircuit_state w1
  refine ⟨(newCircuit w1).2, rfl, ?_, ?_, ?_, ?_⟩
  · exact a
  · exact e
  · exact d
  · exact c'

/-- … and without a current circuit it does nothing (the early `return`) -/
theorem translated_ctor_reset_without_circuit (w : World) (h : w.current = none) :
    Gen.TrBC.resetCircuit prims w = (w, .ok ()) := by
  simp [translated_ctor_reset_circuit_is_model, resetCircuit, h]

/-- `has_method`: the two placeholders `dummy_method` / `dummy_async_method`, a missing attribute, a lookup that
    raises AttributeError and a non-callable attribute all count as "not defined"; only a lookup that raises
    something else makes the call itself fail -/
theorem translated_ctor_has_method_iff (o : Nat) (name : String) (w : World) :
    ((Gen.TrBC.hasMethod prims o name w).2 = .ok true ↔ lookup w o name = some .method)
    ∧ ((∃ e, (Gen.TrBC.hasMethod prims o name w).2 = .error e) ↔ lookup w o name = some .propRuntimeError) := by
  rw [translated_ctor_has_method_is_model]
  unfold hasMethod
  cases lookup w o name with
  | none => simp
  | some m => cases m <;> simp

/-- `Const(UNDEF)` is refused -/
theorem translated_ctor_const_undef_refused (cls : String) (w : World) :
    (Gen.TrBC.constCall prims cls .undef w).2 = .error "ValueError" := by
  rw [translated_ctor_const_is_model]
  simp [constCall, Arg.isUndef, Arg.undef]

/-- equal hashable values share ONE instance (`Const(1) is Const(True)`), unhashable ones never do -/
example :
    let r1 := Gen.TrBC.constCall prims "Const" (.val (.int 1)) {}
    let r2 := Gen.TrBC.constCall prims "Const" (.val (.bool true)) r1.1
    let r3 := Gen.TrBC.constCall prims "Const" (.val (.lst [])) r2.1
    let r4 := Gen.TrBC.constCall prims "Const" (.val (.lst [])) r3.1
    r1.2.toOption = some 0 ∧ r2.2.toOption = some 0 ∧ r3.2.toOption = some 1 ∧ r4.2.toOption = some 2 := by decide

end Edzed.TrTie
