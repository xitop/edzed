/-
C10 — a circuit that cannot settle is stopped with the instability error after a bounded number
of evaluations; one that settles along few paths is never reported; a pause means consistency.

Model: EdzedModel/Burst.lean (`burst`: the loop of `Circuit._simulate` between two pauses, built
from C01's `evalOp`/`idleOp` of EdzedModel/Simulate.lean, with `eval_cnt` and
`eval_limit = _MAX_EVALS_PER_BLOCK * len(circuit._blocks)`).  `choices` is the sequence of blocks
the loop takes from its eval set; every theorem holds for ALL sequences, i.e. for every
selection order `select_blk` and Python's set iteration could produce.  Networks may be cyclic,
blocks may be among their own inputs, CBlocks may send on_output events to SBlocks (feedback).  The
predicates of the statements that are not the model's (`OkW`, `Consistent`, `BurstStart`, `Ext`,
`applyExts`) are defined in EdzedProofs/Burst.lean.
-/
import EdzedModel.Burst
import EdzedProofs.Burst
import EdzedProofs.SimTie
import EdzedModel.Gen.Translated

namespace Edzed.Burst
open Edzed.Sim

/-- the limit counts ALL blocks of the circuit, times the constant generated from the source -/
theorem limit_counts_all_blocks (c : Circuit) : c.limit = Gen.maxEvalsPerBlock * c.nblocks := rfl

/-- the margin the property text speaks of ("3 x number of blocks") is what the source says -/
theorem margin_as_documented : Gen.maxEvalsPerBlock = 3 := by decide

theorem limit_three_per_block (c : Circuit) : c.limit = 3 * c.nblocks :=
  congrArg (· * c.nblocks) margin_as_documented

/-- between two pauses at most `limit` evaluations happen – whatever the network
    (cyclic, event feedback) and whatever the selection order; the instability error comes after
    exactly `limit` evaluations; and the loop cannot go on beyond that: a sequence of `limit`
    choices always ends in a pause or in the error (`illegal` = the sequence is not one the loop
    can produce). -/
theorem burst_bounded (c : Circuit) (s : St Val) (hs : BurstStart c s) (choices : List Nat) :
    (burst c s choices).evals ≤ c.limit ∧
    ((burst c s choices).fin = .unstable → (burst c s choices).evals = c.limit) ∧
    (c.limit ≤ choices.length → (burst c s choices).fin ≠ .more) := by
  have h0 := burstStart_cnt c s hs
  have := burst_count c s choices (h0 ▸ Nat.zero_le _)
  rwa [h0, Nat.zero_add, Nat.zero_add] at this

/-- the same from the middle of a burst: what was already counted plus what follows stays within
    the limit (every state of every run has `cnt ≤ limit`) -/
theorem burst_bounded_from (c : Circuit) (outS : Nat → Val) (ops : List Op) (choices : List Nat) :
    let s := run c (start c outS) ops
    s.cnt + (burst c s choices).evals ≤ c.limit ∧
    (c.limit ≤ choices.length + s.cnt → (burst c s choices).fin ≠ .more) := by
  intro s
  have := burst_count c s choices (run_cnt c _ (Nat.zero_le _) ops)
  exact ⟨this.1, Nat.add_comm _ _ ▸ this.2.2⟩

/-- whenever the simulator pauses the network is consistent: every CBlock output equals
    (Python `==`) its function of the current outputs – also for cyclic networks, self-loops and
    event feedback (C01's invariant argument, here without C01's "no block among its own inputs") -/
theorem burst_idle_consistent (c : Circuit) (hok : OkW c) (outS : Nat → Val) (ops : List Op)
    (choices : List Nat) (hidle : (burst c (run c (start c outS) ops) choices).fin = .idle) :
    Consistent c (burst c (run c (start c outS) ops) choices).st.outC
      (burst c (run c (start c outS) ops) choices).st.outS :=
  pause_consistent c _ _ (run_inv c hok _ (start_inv c outS) _)
    (run_append c _ ops _ ▸ burst_idle_run c _ choices hidle)

/-- a sequence of `limit` choices the loop can make, from a state whose counter is within the limit (every
    reachable one: `run_cnt`), ends in a pause or in the instability error: the run cannot go on
    (`burst_count`) -/
theorem full_burst_ends (c : Circuit) (s : St Val) (h0 : s.cnt ≤ c.limit) (choices : List Nat)
    (hlegal : (burst c s choices).fin ≠ .illegal) (hlen : c.limit ≤ choices.length) :
    (burst c s choices).fin = .unstable ∨ (burst c s choices).fin = .idle := by
  have hc := (burst_count c s choices h0).2.2 (Nat.le_trans hlen (Nat.le_add_left _ _))
  cases hf : (burst c s choices).fin with
  | unstable => exact .inl rfl
  | idle => exact .inr rfl
  | illegal => exact absurd hf hlegal
  | more => exact absurd hf hc

/-- if no assignment of outputs is consistent, then from every reachable
    state every sequence of `limit` choices the loop can make ends in the instability error –
    the run cannot pause (`burst_idle_consistent`) and cannot go on (`full_burst_ends`). -/
theorem unsat_is_detected (c : Circuit) (hok : OkW c) (outS : Nat → Val) (ops : List Op)
    (choices : List Nat)
    (hunsat : ∀ outC outS', ¬ Consistent c outC outS')
    (hlegal : (burst c (run c (start c outS) ops) choices).fin ≠ .illegal)
    (hlen : c.limit ≤ choices.length) :
    (burst c (run c (start c outS) ops) choices).fin = .unstable :=
  (full_burst_ends c _ (run_cnt c _ (Nat.zero_le _) ops) choices hlegal hlen).resolve_right fun hf =>
    hunsat _ _ (burst_idle_consistent c hok outS ops choices hf)

/-- the same for a network without on_output events when only the CURRENT inputs (SBlock outputs)
    admit no consistent assignment – e.g. `xor(ctrl, own output)` once `ctrl` is true -/
theorem unsat_is_detected_fixed_inputs (c : Circuit) (hok : OkW c) (hne : ∀ b, (c.blk b).events = [])
    (outS : Nat → Val) (ops : List Op) (choices : List Nat)
    (hunsat : ∀ outC, ¬ Consistent c outC (run c (start c outS) ops).outS)
    (hlegal : (burst c (run c (start c outS) ops) choices).fin ≠ .illegal)
    (hlen : c.limit ≤ choices.length) :
    (burst c (run c (start c outS) ops) choices).fin = .unstable := by
  refine (full_burst_ends c _ (run_cnt c _ (Nat.zero_le _) ops) choices hlegal hlen).resolve_right fun hf => ?_
  -- the pause leaves the SBlock outputs of the run of the choices, which are those the burst started with
  have hcons := burst_idle_consistent c hok outS ops choices hf
  rw [(idleOp_some c _ _ (burst_idle_run c _ choices hf)).2] at hcons
  exact hunsat _ (run_evals_outS c hne _ choices ▸ hcons)

/-- for any potential `P` (a block weighs at least 1 + everything a change
    of its output wakes up, directly or through its on_output events) EVERY evaluation lowers the
    weight of what is pending (eval set + queued SBlocks) by at least one – whichever block of the
    eval set was selected, whether or not its output changed. -/
theorem potential_decreases (c : Circuit) (P : Nat → Nat) (hP : IsPot c P) (s : St Val) (b : Nat)
    (ch : Bool) (v : Val) (h : (evalOp c s b).2 = .ok ch v) :
    phi c.net P (evalOp c s b).1 + 1 ≤ phi c.net P s := by
  obtain ⟨hs, _, hE, hb⟩ := evalOp_ok h
  rw [hs]
  exact evalNext_phi c P hP s b hE hb

/-- if the pending weight fits into what is left of the
    limit, no selection order leads to the instability error, and the burst makes at most that
    many evaluations.  A potential exists iff the network including its event feedback is acyclic;
    the least one is the number of paths starting in a block. -/
theorem dag_within_budget_never_unstable (c : Circuit) (P : Nat → Nat) (hP : IsPot c P) (s : St Val)
    (choices : List Nat) (h : s.cnt + phi c.net P s ≤ c.limit) :
    (burst c s choices).fin ≠ .unstable ∧ (burst c s choices).evals ≤ phi c.net P s :=
  burst_measure c (phi c.net P) (fun _ _ => True) (fun s _ _ hp => pending_phi_pos c P hP s hp)
    (fun s b _ _ _ hE hb => ⟨trivial, evalNext_phi c P hP s b hE hb⟩) s choices trivial h

/-- a burst caused by external events `es` after a pause: if the paths starting in the blocks
    connected to the changed SBlocks number at most `3 × blocks` (the documented margin), the
    circuit is never reported as unstable and the number of evaluations is at most that number
    of paths -/
theorem ext_burst_within_budget (c : Circuit) (P : Nat → Nat) (hP : IsPot c P) (s0 s : St Val)
    (hidle : idleOp c s0 = some s) (es : List Ext) (choices : List Nat)
    (h : listSum (sWeight c.net P) (es.map (·.i)) ≤ 3 * c.nblocks) :
    (burst c (applyExts c s es) choices).fin ≠ .unstable ∧
    (burst c (applyExts c s es) choices).evals ≤ listSum (sWeight c.net P) (es.map (·.i)) := by
  obtain ⟨hphi0, hcnt0⟩ := phi_idle c P s0 s hidle
  -- nothing is pending at the pause, so the events bring all the weight there is
  have hphi : phi c.net P (applyExts c s es) ≤ listSum (sWeight c.net P) (es.map (·.i)) := by
    have := phi_exts c P s es
    rwa [hphi0, Nat.zero_add] at this
  have := dag_within_budget_never_unstable c P hP (applyExts c s es) choices (by
    rw [exts_cnt, hcnt0, Nat.zero_add, limit_three_per_block]
    exact Nat.le_trans hphi h)
  exact ⟨this.1, Nat.le_trans this.2 hphi⟩

/-- the first pass (all CBlocks pending) under an arbitrary selection order: bounded by the
    number of all paths -/
theorem first_pass_within_budget (c : Circuit) (P : Nat → Nat) (hP : IsPot c P) (outS : Nat → Val)
    (choices : List Nat) (h : wsum P (fun _ => true) c.cblocks.length ≤ 3 * c.nblocks) :
    (burst c (start c outS) choices).fin ≠ .unstable ∧
    (burst c (start c outS) choices).evals ≤ wsum P (fun _ => true) c.cblocks.length := by
  have := dag_within_budget_never_unstable c P hP (start c outS) choices (by
    rw [phi_start, limit_three_per_block]
    exact (Nat.zero_add _).symm ▸ h)
  rw [phi_start] at this
  exact this

/-- the check the driver uses to decide whether the path table is a potential is sound -/
theorem path_table_check_sound (c : Circuit) (h : isPotB c (tbl (pathTable c)) = true) :
    IsPot c (tbl (pathTable c)) :=
  isPotB_sound c _ h

/-- what `select_blk` may return (the specification the correspondence validates every recorded
    choice against) is a block of the eval set – the theorems above, which hold for every such
    choice, cover it -/
theorem select_blk_choice_is_legal (c : Circuit) (E : Nat → Bool) (b : Nat) (h : selectOk c E b = true) :
    E b = true ∧ b < c.net.n :=
  ((selectOk_iff c E b).mp h).1

/-- With the choices `select_blk` makes (a block without pending inputs if there is one) a burst
    on an acyclic network whose eval set is closed under successors – the FIRST PASS in particular –
    evaluates every pending block at most once: the first pass of a DAG costs one evaluation per
    CBlock however many paths there are, and is never reported as unstable.

    Partial: stated for networks without on_output events.  The full statement (with CBlock→SBlock
    event feedback) does not hold for the code: `select_blk` looks at direct CBlock inputs only,
    so with `a --event--> s --> b` it may evaluate `b` before `a` and `b` again afterwards; for
    that case the bound is the path count of `first_pass_within_budget`. -/
theorem first_pass_select_blk_linear_partial (c : Circuit) (P : Nat → Nat) (hP : IsPot c P)
    (hne : ∀ b, (c.blk b).events = []) (outS : Nat → Val) (choices : List Nat)
    (hsel : choicesOk c (start c outS) choices = true)
    (hn : c.cblocks.length ≤ c.nblocks) :
    (burst c (start c outS) choices).fin ≠ .unstable ∧
    (burst c (start c outS) choices).evals ≤ c.cblocks.length := by
  have hcard : card (start c outS).E c.cblocks.length = c.cblocks.length := card_all _
  have := burst_select c P hP hne (start c outS) (start_closed c outS) choices hsel (by
    rw [hcard, limit_three_per_block]
    exact (Nat.zero_add _).symm ▸ Nat.le_trans hn (Nat.le_mul_of_pos_left _ (by decide)))
  rw [hcard] at this
  exact this

/-- three inverters in a ring (tests/test_simulator.py::test_instability_1) -/
def ring3 : Circuit :=
  { cblocks := [{ fn := .not, pos := [.c 2] }, { fn := .not, pos := [.c 0] }, { fn := .not, pos := [.c 1] }],
    skinds := [], nblocks := 3 }

example : OkW ring3 := by
  intro b hb
  have : b = 0 ∨ b = 1 ∨ b = 2 := by simp [ring3] at hb; omega
  rcases this with rfl | rfl | rfl <;> rfl

theorem truthy_of_pyEq_bool (a : Val) (x : Bool) (h : a.pyEq (Val.bool x) = true) : a.truthy = x := by
  cases a with
  | undef => cases h
  | tup l => cases h
  | lst l => cases h
  | atom a =>
    cases a with
    | none => cases h
    | str s => cases h
    | num q k =>
      simp only [Val.pyEq, Val.bool, Atom.pyEq, beq_iff_eq] at h
      subst h
      cases x <;> rfl

/-- the hypothesis of `unsat_is_detected` is satisfiable: the ring has no consistent assignment -/
example : ∀ outC outS, ¬ Consistent ring3 outC outS := by
  intro o e h
  have h0 := truthy_of_pyEq_bool _ _ (h 0 (by decide))
  have h1 := truthy_of_pyEq_bool _ _ (h 1 (by decide))
  have h2 := truthy_of_pyEq_bool _ _ (h 2 (by decide))
  simp only [ring3, Circuit.blk, List.getD, List.getElem?_cons_zero, List.getElem?_cons_succ,
    Option.getD_some, List.map_cons, List.map_nil, List.headD_cons, Src.val] at h0 h1 h2
  rw [h2, h1] at h0
  cases hx : (o 0).truthy <;> simp [hx] at h0

/-- … and the simulator's own run on it (select_blk's choices 0,1,2,0,…) ends with the error after
    `limit = 9` evaluations -/
example : (burst ring3 (start ring3 fun _ => .undef) [0, 1, 2, 0, 1, 2, 0, 1, 2]).fin = .unstable
    ∧ (burst ring3 (start ring3 fun _ => .undef) [0, 1, 2, 0, 1, 2, 0, 1, 2]).evals = 9 := by
  decide +kernel

/-- a diamond  s0 → c0, c1 → c2 = xor(c0, c1), with c2 sending 'put' to s1 which c3 reads -/
def diamond : Circuit :=
  { cblocks := [{ fn := .not, pos := [.s 0] }, { fn := .or, pos := [.s 0] },
                { fn := .xor, pos := [.c 0, .c 1], events := [(1, .put)] }, { fn := .not, pos := [.s 1] }],
    skinds := [.input, .input], nblocks := 6 }

/-- the hypothesis `IsPot` is satisfiable, with feedback: the path table of the diamond -/
example : IsPot diamond (tbl (pathTable diamond)) :=
  path_table_check_sound diamond (by decide +kernel)

example : pathTable diamond = [3, 3, 2, 1] := by decide +kernel

/-- the diamond without its event: hypotheses of `first_pass_select_blk_linear_partial` are
    satisfiable, choices 0,1,2,3 are choices of `select_blk` -/
def diamond0 : Circuit :=
  { cblocks := [{ fn := .not, pos := [.s 0] }, { fn := .or, pos := [.s 0] },
                { fn := .xor, pos := [.c 0, .c 1] }, { fn := .not, pos := [.s 1] }],
    skinds := [.input, .input], nblocks := 6 }

example : isPotB diamond0 (tbl (pathTable diamond0)) = true
    ∧ choicesOk diamond0 (start diamond0 fun _ => Val.bool false) [0, 1, 2, 3] = true
    ∧ choicesOk diamond0 (start diamond0 fun _ => Val.bool false) [2, 0, 1, 3] = false := by
  decide +kernel

end Edzed.Burst

namespace Edzed.TrTie
open Edzed.Sim Edzed.Burst Edzed.SimTie Edzed.Gen.TrL

/-- the model's limit IS the translated right-hand side of `eval_limit = …` in `Circuit._simulate`, with
    `len(self._blocks)` = the number of ALL blocks -/
theorem translated_eval_limit_is_model (c : Sim.Circuit) :
    Gen.Tr.evalLimit Gen.maxEvalsPerBlock c.nblocks = c.limit := rfl

/-! ### the main loop `Circuit._simulate`, translated statement by statement

`Gen.TrL.simInit` / `simStep` / `selectBlk` (EdzedModel/Gen/TranslatedSimulate.lean) are regenerated from
the current AST on every run; their primitives (`queue.empty()`, `sblk.oconnections`, `cblk.eval_block()`,
set operations, …) are parameters.  `SimTie.simPrims c en` instantiates them with the model's operations on
masks; `en` is the iteration order of Python sets – every theorem holds for EVERY enumeration.  The
theorems say that the translated code computes the model's `start`, `evalOp`, `idleOp` and respects the
model's specification `selectOk` of `select_blk`: an edit of the method that changes what it does breaks
one of them. -/

/-- the statements before `while True:` compute the model's start state: `eval_limit` = the limit over ALL
    blocks, `eval_set` = all CBlocks, `eval_cnt` = 0 -/
theorem translated_simulate_init_is_model (c : Circuit) (en : (Nat → Bool) → List Nat) (outS : Nat → Val) :
    (simInit (simPrims c en)).1 = c.limit ∧
    toSt (simInit (simPrims c en)).2.1 (simInit (simPrims c en)).2.2 ⟨fun _ => .undef, outS, []⟩
      = start c outS := by
  rw [simInit_eq]
  exact ⟨rfl, rfl⟩

/-- `select_blk`, whatever the iteration order of the set: it returns a member (never fails its `assert` on
    a non-empty set) that the model's specification allows – no pending input, or the minimum number when
    every member has some -/
theorem translated_select_blk_is_model (c : Circuit) (en : (Nat → Bool) → List Nat) (hen : Enumerates c en)
    (E : Nat → Bool) (h : ∃ b, b < c.cblocks.length ∧ E b = true) :
    ∃ r, selectBlk (simPrims c en) E = some r ∧ selectOk c E r = true :=
  selectBlk_selectOk c en hen E h

/-- … and it returns AT THE FIRST member without pending inputs (any primitives, any enumeration) -/
theorem translated_select_blk_first_zero {S Blk SBlk σ ε : Type} (P : Prims S Blk SBlk σ ε) (s : S) (z : Blk)
    (hz : (P.enum s).find? (fun x => ((P.iconnC x).filter (fun inp => P.mem inp s)).length == 0) = some z) :
    selectBlk P s = some z :=
  selectBlk_first_zero P s z hz

/-- ONE PASS through the body of `while True:` when the loop is not at its pause IS the model's `evalOp`
    (drain the queue – `continue` if nothing is to be evaluated – count, compare with the limit using `>`,
    take a block out of the set, evaluate it, add its `oconnections` only when it changed) for a block `b`
    that the specification of `select_blk` allows.  `embed` reads the model's result as the end of the
    pass: `.ok` ↦ next pass with the new locals, nothing pending ↦ `continue`, `.instability` ↦ the
    `EdzedCircuitError` raised with `eval_cnt` already incremented. -/
theorem translated_simulate_step_is_model (c : Circuit) (en : (Nat → Bool) → List Nat) (hen : Enumerates c en)
    (s : St Val) (h : pauseCond c s = false) :
    ∃ b, (anyPending c.net (drain c.net s).E = true → s.cnt + 1 ≤ c.limit →
            selectOk c (drain c.net s).E b = true) ∧
      simStep (simPrims c en) c.limit s.E s.cnt (worldOf s) = embed (evalOp c s b) := by
  rw [simStep_nopause c en s h]
  exact simStep_j1_eq c en hen s

/-- AT THE PAUSE (`not eval_set and queue.empty()`): the model's `idleOp` succeeds; the translated pass
    suspends in `await queue.get()`; and when it is resumed with the first item `i` of a queue `i :: Q'`
    (SBlock outputs `outS'` changed meanwhile by external events) the rest of the pass – `eval_cnt = 0`,
    `eval_set |= i.oconnections`, drain `Q'`, … – IS the model's `evalOp` on the state `idleOp` left
    (counter 0) with the whole queue. -/
theorem translated_simulate_pause_is_model (c : Circuit) (en : (Nat → Bool) → List Nat) (hen : Enumerates c en)
    (s : St Val) (h : pauseCond c s = true) :
    idleOp c s = some { drain c.net s with cnt := 0 } ∧
    ∃ k, simStep (simPrims c en) c.limit s.E s.cnt (worldOf s) = .await k ∧
      ∀ (i : Nat) (Q' : List Nat) (outC' outS' : Nat → Val),
        ∃ b, (anyPending c.net (drain c.net ⟨outC', outS', s.E, i :: Q', 0⟩).E = true → 0 + 1 ≤ c.limit →
                selectOk c (drain c.net ⟨outC', outS', s.E, i :: Q', 0⟩).E b = true) ∧
          k i ⟨outC', outS', Q'⟩ = embed (evalOp c ⟨outC', outS', s.E, i :: Q', 0⟩ b) := by
  refine ⟨(pause_idle c s h).1, _, simStep_pause c en s h, ?_⟩
  intro i Q' outC' outS'
  obtain ⟨b, hb, heq⟩ := simStep_j1_eq c en hen ⟨outC', outS', fun x => s.E x || (c.net.succS i).contains x, Q', 0⟩
  have hd := drain_head c outC' outS' s.E i Q' 0
  refine ⟨b, ?_, ?_⟩
  · rw [← hd]; exact hb
  · rw [← evalOp_of_drain_eq c _ _ b hd]
    exact heq

/-- conversely, whenever the model pauses (`idleOp` succeeds) the loop is at its pause condition, at the
    latest after one `continue` (the pass that drained a queue of SBlocks nobody reads) -/
theorem translated_pause_condition_is_idleOp (c : Circuit) (s s' : St Val) (h : idleOp c s = some s') :
    pauseCond c (drain c.net s) = true ∧ s' = { drain c.net s with cnt := 0 } :=
  idle_pause c s s' h

/-! non-vacuity on the diamond: two iteration orders, two different (both allowed) first choices -/

example : Enumerates Burst.diamond0 (enumAsc Burst.diamond0) ∧ Enumerates Burst.diamond0 (enumDesc Burst.diamond0) :=
  ⟨enumAsc_enumerates _, enumDesc_enumerates _⟩

example : selectBlk (simPrims Burst.diamond0 (enumAsc Burst.diamond0)) (fun b => decide (b < 4)) = some 0
    ∧ selectBlk (simPrims Burst.diamond0 (enumDesc Burst.diamond0)) (fun b => decide (b < 4)) = some 3
    ∧ selectBlk (simPrims Burst.diamond0 (enumDesc Burst.diamond0)) (fun b => b == 2 || b == 1) = some 1
    ∧ pauseCond Burst.diamond0 (start Burst.diamond0 fun _ => Val.bool false) = false := by
  decide +kernel

/-- the first pass of the translated loop on the diamond evaluates block 0 (ascending order): `eval_cnt`
    becomes 1, block 0 leaves the set, its output becomes `not False` -/
example :
    (match simStep (simPrims Burst.diamond0 (enumAsc Burst.diamond0)) Burst.diamond0.limit
        (fun b => decide (b < 4)) 0 ⟨fun _ => .undef, fun _ => Val.bool false, []⟩ with
     | .next (E, cnt) w => cnt == 1 && !E 0 && E 1 && E 2 && E 3 && (w.outC 0 == Val.bool true)
     | _ => false) = true := by
  decide +kernel

end Edzed.TrTie
