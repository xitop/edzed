/-
C17 — An Input never outputs a value that its validators reject.

Model: EdzedModel/Validate.lean (mirrors `_Validation._validate`, `Input`, `InputExp`, with the repair
patches/C17-allowed-unhashable.diff).  The validators are ARBITRARY functions (`check : Val → Val`,
`schema : Val → Except Exc Val`, `.error k` = raises an exception of class `k`) and an arbitrary `allowed` list; all
statements hold for every configuration, every value and every event sequence.
`Accepts c v w` is the acceptance condition of the property text, written without reference to the model's `validate`:
`v` is among `allowed` (when given), `check v` is a true value (when given) and `schema v` does not raise (when given)
and yields `w` (`w = v` without a schema).
-/
import EdzedModel.Validate
import EdzedProofs.Validate
import EdzedProofs.ValidateTie
import EdzedModel.Gen.Constants

namespace Edzed.Validate

/-- `v` is among the allowed values (when `allowed` is given): it is hashable and equal
    (Python `==`: `True == 1 == 1.0`) to a member -/
def Allows (c : Cfg) (v : Val) : Prop :=
  ∀ l, c.allowed = some l → v.hashable = true ∧ ∃ a ∈ l, v.pyEq a = true

/-- `check v` is a true value (when `check` is given) -/
def Checks (c : Cfg) (v : Val) : Prop :=
  ∀ f, c.check = some f → (f v).truthy = true

/-- `schema v` does not raise and returns `w` (when given); otherwise `w` is `v` itself -/
def Converts (c : Cfg) (v w : Val) : Prop :=
  match c.schema with
  | none => w = v
  | some s => s v = .ok w

def Accepts (c : Cfg) (v w : Val) : Prop := Allows c v ∧ Checks c v ∧ Converts c v w

/-- no validator accepts `v` with a proper result (a schema result UNDEF cannot be an output) -/
def Refused (c : Cfg) (v : Val) : Prop := ∀ w, Accepts c v w → w = .undef

/-- `_validate` returns `w` iff the value is accepted with conversion `w` -/
theorem validate_iff (c : Cfg) (v w : Val) : validate c v = some w ↔ Accepts c v w := by
  -- `Converts` and the right side of `converted_iff` are the same `match`, compiled twice: equal by unfolding, but `rw`
  -- does not see it
  have hc : Converts c v w ↔ converted c v = some w := (converted_iff c v w).symm
  unfold validate Accepts Allows Checks
  rw [validateT_rows, ← allowedOk_iff, ← checkOk_iff, hc]
  cases allowedOk c v <;> cases checkOk c v <;> simp

theorem validate_none (c : Cfg) (v : Val) (h : ¬ ∃ w, Accepts c v w) : validate c v = none := by
  cases hv : validate c v with
  | none => rfl
  | some w => exact absurd ⟨w, (validate_iff c v w).1 hv⟩ h

/-- membership in `allowed` does not depend on which operand of `==` is the member (CPython's set
    lookup compares the stored key with the probe; the model writes `v == a`) -/
theorem allowed_membership_symmetric (l : List Val) (v : Val) :
    inAllowed l v = (v.hashable && l.any (fun a => a.pyEq v)) := by
  unfold inAllowed
  congr 2
  funext a
  exact Val.pyEq_comm v a

/-- the put event returns True iff the value is among `allowed` ∧ `check` gives a
    true value ∧ `schema` does not raise (and yields a value that can be an output) -/
theorem accept_iff (c : Cfg) (out v : Val) :
    (put c out v).res = .ret true ↔ ∃ w, Accepts c v w ∧ w ≠ .undef := by
  rcases put_cases c out v with ⟨hv, -, hr⟩ | ⟨hv, -, hr⟩ | ⟨w, hv, hw, -, hr⟩ <;> simp [← validate_iff, *]

/-- … and returns False iff one of the three validators refuses the value -/
theorem refuse_iff (c : Cfg) (out v : Val) :
    (put c out v).res = .ret false ↔ ¬ ∃ w, Accepts c v w := by
  rcases put_cases c out v with ⟨hv, -, hr⟩ | ⟨hv, -, hr⟩ | ⟨w, hv, hw, -, hr⟩ <;> simp [← validate_iff, *]

/-- the only other outcome: the schema produced UNDEF, `set_output` refuses it, the handler fails -/
theorem abort_iff (c : Cfg) (out v : Val) :
    (put c out v).res = .abort ↔ Accepts c v .undef := by
  rcases put_cases c out v with ⟨hv, -, hr⟩ | ⟨hv, -, hr⟩ | ⟨w, hv, hw, -, hr⟩ <;> simp [← validate_iff, *]

/-- an accepted put makes the output equal (`==`) to `schema v` (or `v`); the stored object is the
    new value unless the old output already compared equal to it (`set_output` keeps it then) -/
theorem accepted_put_sets_output (c : Cfg) (out v w : Val) (h : Accepts c v w) (hw : w ≠ .undef) :
    (put c out v).out.pyEq w = true ∧
    ((put c out v).out = w ∨ ((put c out v).out = out ∧ out.pyEq w = true)) := by
  have hp := put_some c out v w ((validate_iff c v w).2 h) hw
  rw [hp.1]
  exact ⟨store_pyEq out w, (store_cases out w).symm⟩

/-- an event that does not return True leaves the output alone -/
theorem reject_changes_nothing (c : Cfg) (out v : Val) (h : (put c out v).res ≠ .ret true) :
    (put c out v).out = out := by
  rcases put_cases c out v with ⟨-, ho, -⟩ | ⟨-, ho, -⟩ | ⟨w, -, -, -, hr⟩
  · exact ho
  · exact ho
  · exact absurd hr h

/-- sequences: puts that are all refused change nothing, however many -/
theorem refused_puts_change_nothing (c : Cfg) (out : Val) (vs : List Val)
    (h : ∀ u ∈ vs, Refused c u) : run c out vs = out := by
  induction vs generalizing out with
  | nil => rfl
  | cons u us ih =>
    rw [run_cons, ih _ (fun x hx => h x (List.mem_cons_of_mem _ hx))]
    apply reject_changes_nothing
    intro ht
    obtain ⟨w, hw, hne⟩ := (accept_iff c out u).1 ht
    exact hne (h u (List.mem_cons_self) w hw)

/-- after EVERY sequence of puts the output equals the conversion of
    the last accepted put (`pre` arbitrary, `v` accepted with `w`, nothing accepted afterwards) -/
theorem output_is_last_accepted (c : Cfg) (out : Val) (pre post : List Val) (v w : Val)
    (hv : Accepts c v w) (hw : w ≠ .undef) (hpost : ∀ u ∈ post, Refused c u) :
    (run c out (pre ++ v :: post)).pyEq w = true := by
  rw [run_append, run_cons, refused_puts_change_nothing c _ post hpost]
  exact (accepted_put_sets_output c _ v w hv hw).1

/-- an output is valid w.r.t. a history of submitted values: still UNDEF, or the conversion
    `schema v` of a submitted value `v` that all validators accept -/
def ValidOut (c : Cfg) (hist : List Val) (o : Val) : Prop :=
  o = .undef ∨ ∃ v ∈ hist, Accepts c v o

theorem ValidOut.mono {c : Cfg} {h1 : List Val} {o : Val} (h : ValidOut c h1 o) (h2 : List Val) :
    ValidOut c (h1 ++ h2) o := by
  rcases h with h | ⟨x, hx, hacc⟩
  · exact .inl h
  · exact .inr ⟨x, List.mem_append_left _ hx, hacc⟩

theorem put_valid (c : Cfg) (hist : List Val) (out v : Val) (h : ValidOut c hist out) :
    ValidOut c (hist ++ [v]) (put c out v).out := by
  rcases put_cases c out v with ⟨-, h1, -⟩ | ⟨-, h1, -⟩ | ⟨w, hv, -, h1, -⟩ <;> rw [h1]
  · exact h.mono [v]
  · exact h.mono [v]
  · rcases store_cases out w with ⟨h2, _⟩ | h2 <;> rw [h2]
    · exact h.mono [v]
    · exact .inr ⟨v, by simp, (validate_iff c v w).1 hv⟩

theorem run_valid (c : Cfg) (hist : List Val) (out : Val) (vs : List Val)
    (h : ValidOut c hist out) : ValidOut c (hist ++ vs) (run c out vs) := by
  induction vs generalizing hist out with
  | nil => simpa [run_nil] using h
  | cons v vs ih =>
    rw [run_cons]
    have := ih (hist ++ [v]) _ (put_valid c hist out v h)
    simpa using this

theorem run_ne_undef (c : Cfg) (out : Val) (vs : List Val) (h : out ≠ .undef) :
    run c out vs ≠ .undef := by
  induction vs generalizing out with
  | nil => exact h
  | cons v vs ih =>
    rw [run_cons]
    apply ih
    rcases put_cases c out v with ⟨-, h1, -⟩ | ⟨-, h1, -⟩ | ⟨w, -, hw, h1, -⟩ <;> rw [h1]
    · exact h
    · exact h
    · exact store_ne_undef out w hw

/-- start-up keeps validity: whatever was restored / given as initdef, a started Input has an
    output that is the accepted conversion of one of the two -/
theorem init_valid (c : Cfg) (restored : Option Val) (initdef o : Val)
    (h : (init c restored initdef).1 = .ok o) :
    o ≠ .undef ∧ ValidOut c (restored.toList ++ [initdef]) o := by
  unfold init at h
  simp only at h
  split at h
  · cases h
  · split at h
    · cases h
    · next hne =>
      cases h
      refine ⟨fun hh => by simp [hh, Val.isUndef] at hne, ?_⟩
      have h1 : ValidOut c restored.toList (restorePut c restored).out := by
        unfold restorePut
        cases restored with
        | none => exact .inl rfl
        | some r => simpa using put_valid c [] .undef r (.inl rfl)
      unfold initdefPut
      split
      · exact put_valid c _ _ _ h1
      · exact h1.mono [initdef]

/-- over ALL histories (any restored state, any initdef, any sequence of
    puts) the output of a started Input is never UNDEF and is always the conversion `schema v` of
    a value `v` of that history which `allowed`, `check` and `schema` accept -/
theorem output_always_valid (c : Cfg) (restored : Option Val) (initdef o : Val) (vs : List Val)
    (h : (init c restored initdef).1 = .ok o) :
    run c o vs ≠ .undef ∧
    ∃ v ∈ restored.toList ++ [initdef] ++ vs, Accepts c v (run c o vs) := by
  have ⟨hne, hv⟩ := init_valid c restored initdef o h
  have h1 := run_ne_undef c o vs hne
  refine ⟨h1, ?_⟩
  rcases run_valid c _ o vs hv with h2 | h2
  · exact absurd h2 h1
  · exact h2

/-- the user's functions are called at most once each, `check` before `schema`,
    both with the submitted (unconverted) value … -/
theorem calls_shape (c : Cfg) (v : Val) : (calls c v).Sublist [.check v, .schema v] := by
  have h : ∀ {α : Type} (o : Option α) (y : Call), ((o.map fun _ => y).toList).Sublist [y] := by
    intro α o y
    cases o <;> simp
  rw [calls_rows]
  split
  · refine (h c.check _).append ?_
    split
    · exact h c.schema _
    · exact List.nil_sublist _
  · exact List.nil_sublist _

/-- … `check` only for a value that is among the allowed ones … -/
theorem check_called_iff (c : Cfg) (v x : Val) :
    Call.check x ∈ calls c v ↔ x = v ∧ c.check.isSome = true ∧ Allows c v := by
  unfold Allows
  rw [calls_rows, ← allowedOk_iff]
  cases allowedOk c v <;> cases checkOk c v <;> simp [-Option.mem_toList, -Option.map_eq_some_iff, mem_toList_const]

/-- … and `schema` last: only for a value that `allowed` and `check` have already accepted -/
theorem schema_last (c : Cfg) (v x : Val) :
    Call.schema x ∈ calls c v ↔ x = v ∧ c.schema.isSome = true ∧ Allows c v ∧ Checks c v := by
  unfold Allows Checks
  rw [calls_rows, ← allowedOk_iff, ← checkOk_iff]
  cases allowedOk c v <;> cases checkOk c v <;> simp [-Option.mem_toList, -Option.map_eq_some_iff, mem_toList_const]

/-- `allowed` with an unhashable member cannot even be turned into a set -/
theorem unhashable_allowed_refused (c : Cfg) (initdef : Val) (h : c.allowedHashable = false) :
    (construct c initdef).1 = .error .typeError := by
  simp [construct, h]

/-- the constructor of an Input with an initdef succeeds iff the initdef
    is accepted, and raises ValueError iff it is not -/
theorem bad_initdef_refused (c : Cfg) (initdef : Val) (hh : c.allowedHashable = true)
    (hi : initdef ≠ .undef) :
    ((construct c initdef).1 = .ok () ↔ ∃ w, Accepts c initdef w) ∧
    ((construct c initdef).1 = .error .valueError ↔ ¬ ∃ w, Accepts c initdef w) := by
  have hu : initdef.isUndef = false := (Val.isUndef_false_iff _).2 hi
  simp only [← validate_iff]
  unfold construct
  cases hv : validate c initdef <;> simp [hh, hu]

/-- no initdef, nothing to refuse -/
theorem no_initdef_accepted (c : Cfg) (hh : c.allowedHashable = true) :
    (construct c .undef).1 = .ok () := by
  simp [construct, hh, Val.isUndef]

/-- the constructor of an InputExp succeeds iff the
    initdef (when given) and the expired value are both accepted; what is kept are their
    conversions `inp`, `x`; otherwise it raises ValueError -/
theorem exp_constructor_iff (c : Cfg) (initdef expired : Val) (hh : c.allowedHashable = true)
    (inp : Option Val) (x : Val) :
    (constructExp c initdef expired).1 = .ok (inp, x) ↔
      ((initdef = .undef ∧ inp = none) ∨
       (initdef ≠ .undef ∧ ∃ w, Accepts c initdef w ∧ inp = some w)) ∧
      Accepts c expired x := by
  simp only [← validate_iff]
  unfold constructExp
  by_cases hi : initdef = .undef
  · subst hi
    cases hx : validate c expired <;> simp [hh, Val.isUndef, eq_comm]
  · have hu : initdef.isUndef = false := (Val.isUndef_false_iff _).2 hi
    cases hv : validate c initdef <;> cases hx : validate c expired <;>
      simp [hh, hu, hi, eq_comm]

/-- an expired value that is not accepted: ValueError, whatever the initdef -/
theorem bad_expired_refused (c : Cfg) (initdef expired : Val) (hh : c.allowedHashable = true)
    (h : ¬ ∃ w, Accepts c expired w) :
    (constructExp c initdef expired).1 = .error .valueError := by
  have hx := validate_none c expired h
  unfold constructExp
  by_cases hi : initdef.isUndef = true
  · simp [hh, hi, hx]
  · cases hv : validate c initdef <;> simp [hh, hi, hx]

/-- an initdef that is not accepted: ValueError, whatever the expired value -/
theorem exp_bad_initdef_refused (c : Cfg) (initdef expired : Val) (hh : c.allowedHashable = true)
    (hi : initdef ≠ .undef) (h : ¬ ∃ w, Accepts c initdef w) :
    (constructExp c initdef expired).1 = .error .valueError := by
  have hx := validate_none c initdef h
  have hu : initdef.isUndef = false := (Val.isUndef_false_iff _).2 hi
  simp [constructExp, hh, hu, hx]

/-- a saved state passes through the same validation – a refused one is
    ignored (start-up proceeds exactly as without saved state) … -/
theorem restore_validated (c : Cfg) (r initdef : Val) (h : ¬ ∃ w, Accepts c r w) :
    (init c (some r) initdef).1 = (init c none initdef).1 := by
  have hp := put_none c .undef r (validate_none c r h)
  have e1 : (restorePut c (some r)).out = (restorePut c none).out := hp.1
  have e2 : (restorePut c (some r)).res = (restorePut c none).res := hp.2
  unfold init
  simp only [e1, e2]

/-- … an accepted one becomes the output in its converted form (the initdef is not used then) -/
theorem restore_accepted (c : Cfg) (r initdef w : Val) (h : Accepts c r w) (hw : w ≠ .undef) :
    (init c (some r) initdef).1 = .ok w := by
  have hp := put_some c .undef r w ((validate_iff c r w).2 h) hw
  have hu : w.isUndef = false := (Val.isUndef_false_iff _).2 hw
  simp [init, restorePut, initdefPut, hp.1, hp.2, store_undef w hw, hu]

/-- the put event of an InputExp is accepted under the same condition -/
theorem exp_accept_iff (e : ExpCfg) (s : ExpState) (v : Val) :
    (putExp e s v).2.1 = true ↔ ∃ w, Accepts e.v v w := by
  simp only [← validate_iff]
  unfold putExp
  cases hv : validate e.v v <;> simp

/-- a refused put leaves state, value, output and the running timer alone -/
theorem exp_reject_changes_nothing (e : ExpCfg) (s : ExpState) (v : Val)
    (h : (putExp e s v).2.1 = false) : (putExp e s v).1 = s := by
  unfold putExp at *
  cases hv : validate e.v v <;> simp_all

/-- an accepted put stores `schema v`, makes the block 'valid', restarts the timer and shows the
    stored value at the output -/
theorem exp_accepted_put (e : ExpCfg) (s : ExpState) (v w : Val) (h : Accepts e.v v w) :
    (putExp e s v).1.st = .valid ∧ (putExp e s v).1.input = some w ∧
    (putExp e s v).1.deadline = e.duration.map (s.now + ·) ∧
    (w ≠ .undef → (putExp e s v).1.out.pyEq w = true) := by
  have hv := (validate_iff e.v v w).2 h
  unfold putExp
  simp only [hv, calcOutput, Option.getD, true_and]
  exact setOut_pyEq _ w

/-- the values submitted by an operation sequence -/
def putsOf (ops : List ExpOp) : List Val :=
  ops.filterMap fun | .put v => some v | .wait _ => none

/-- validity of an InputExp w.r.t. the submitted values: while 'valid' the stored value is the
    accepted conversion of one of them and the output equals it; when 'expired' the output equals
    the (validated) expired value -/
def ExpValid (e : ExpCfg) (hist : List Val) (s : ExpState) : Prop :=
  match s.st with
  | .valid => ∃ w, s.input = some w ∧ (∃ v ∈ hist, Accepts e.v v w) ∧
      (w ≠ .undef → s.out.pyEq w = true)
  | .expired => e.expired ≠ .undef → s.out.pyEq e.expired = true

theorem ExpValid.mono {e : ExpCfg} {h1 h2 : List Val} {s : ExpState} (h : ExpValid e h1 s) (hsub : h1 ⊆ h2) :
    ExpValid e h2 s := by
  unfold ExpValid at *
  split at h
  · obtain ⟨w, hi, ⟨v, hv, ha⟩, ho⟩ := h
    exact ⟨w, hi, ⟨v, hsub hv, ha⟩, ho⟩
  · exact h

theorem wait_valid (e : ExpCfg) (hist : List Val) (s : ExpState) (d : Nat)
    (h : ExpValid e hist s) : ExpValid e hist (wait e s d) := by
  have key : ExpValid e hist (expire e { s with now := s.now + d }) := by
    unfold ExpValid expire
    exact setOut_pyEq _ _
  unfold wait
  split
  · split
    · exact key
    · exact h
  · exact h

theorem putExp_valid (e : ExpCfg) (hist : List Val) (s : ExpState) (v : Val)
    (h : ExpValid e hist s) : ExpValid e (hist ++ [v]) (putExp e s v).1 := by
  cases hv : validate e.v v with
  | none =>
    have : (putExp e s v).1 = s := by simp [putExp, hv]
    rw [this]
    exact h.mono (List.subset_append_left ..)
  | some w =>
    have ha := (validate_iff e.v v w).1 hv
    obtain ⟨h1, h2, _, h4⟩ := exp_accepted_put e s v w ha
    unfold ExpValid
    rw [h1]
    exact ⟨w, h2, ⟨v, by simp, ha⟩, h4⟩

theorem runExp_valid (e : ExpCfg) (hist : List Val) (s : ExpState) (ops : List ExpOp)
    (h : ExpValid e hist s) : ExpValid e (hist ++ putsOf ops) (runExp e s ops) := by
  induction ops generalizing hist s with
  | nil => simpa [putsOf, runExp] using h
  | cons op ops ih =>
    rw [runExp_cons]
    cases op with
    | put v =>
      have := ih (hist ++ [v]) _ (putExp_valid e hist s v h)
      simpa [putsOf, stepExp] using this
    | wait d =>
      have := ih hist _ (wait_valid e hist s d h)
      simpa [putsOf, stepExp] using this

theorem initExp_valid (c : Cfg) (initdef : Val) (dur : Option Nat) (inp : Option Val) (x : Val) (s0 : ExpState)
    (hi : (initdef = .undef ∧ inp = none) ∨ (initdef ≠ .undef ∧ ∃ w, Accepts c initdef w ∧ inp = some w))
    (hs : initExp ⟨c, dur, x⟩ inp = some s0) : ExpValid ⟨c, dur, x⟩ [initdef] s0 := by
  rcases hi with ⟨_, rfl⟩ | ⟨_, w, hacc, rfl⟩
  · simp only [initExp] at hs
    split at hs
    · cases hs
    · cases hs
      exact fun _ => Val.pyEq_refl x
  · simp only [initExp] at hs
    split at hs
    · cases hs
    · cases hs
      exact ⟨w, rfl, ⟨initdef, List.mem_singleton_self _, hacc⟩, fun _ => Val.pyEq_refl w⟩

theorem restoreExp_valid (e : ExpCfg) (sv : SavedExp) (s : ExpState) (cl : List Call)
    (h : restoreExp e sv = (.restored s, cl)) : ExpValid e sv.input.toList s := by
  rcases sv with ⟨st, rem, input⟩
  cases st with
  | expired =>
    obtain ⟨dl, rfl⟩ := fsmRestore_restored e _ s (congrArg Prod.fst h)
    exact setOut_pyEq _ _
  | valid =>
    cases input with
    | none => simp [restoreExp] at h
    | some v =>
      cases hv : validate e.v v with
      | none => simp [restoreExp, hv] at h
      | some w =>
        simp only [restoreExp, hv] at h
        obtain ⟨dl, rfl⟩ := fsmRestore_restored e _ s (congrArg Prod.fst h)
        exact ⟨w, rfl, ⟨v, by simp, (validate_iff e.v v w).1 hv⟩, setOut_pyEq _ w⟩

theorem startExp_cases (e : ExpCfg) (inp : Option Val) (saved : Option SavedExp) :
    (startExp e inp saved).1 = initExp e inp ∨
      ∃ sv s cl, saved = some sv ∧ restoreExp e sv = (.restored s, cl) ∧ (startExp e inp saved).1 = some s := by
  unfold startExp
  cases saved with
  | none => exact .inl rfl
  | some sv =>
    simp only
    rcases hr : restoreExp e sv with ⟨res, cl⟩
    cases res with
    | restored s =>
      simp only
      split
      · exact .inl rfl
      · exact .inr ⟨sv, s, cl, rfl, hr, rfl⟩
    | ignored => exact .inl rfl
    | failed => exact .inl rfl

/-- the values a start-up can take over: the initdef and the value of the saved state -/
def startVals (initdef : Val) (saved : Option SavedExp) : List Val :=
  initdef :: (saved.bind (·.input)).toList

/-- `output_always_valid` for InputExp: from a successfully constructed and started block – started regularly or from
    ANY saved persistent state – after EVERY sequence of puts and waits: while 'valid' the value part is the accepted
    conversion of a submitted value (initdef, saved value or put) and the output equals it; when 'expired' the output
    equals the expired value, which itself passed the validation.  (`hh` follows from `hc`: a constructor that
    succeeded had a hashable `allowed`.) -/
theorem exp_output_always_valid (c : Cfg) (initdef expired : Val) (dur : Option Nat)
    (inp : Option Val) (x : Val) (saved : Option SavedExp) (s0 : ExpState) (ops : List ExpOp)
    (hc : (constructExp c initdef expired).1 = .ok (inp, x)) (hh : c.allowedHashable = true)
    (hs : (startExp ⟨c, dur, x⟩ inp saved).1 = some s0) :
    Accepts c expired x ∧
    ExpValid ⟨c, dur, x⟩ (startVals initdef saved ++ putsOf ops) (runExp ⟨c, dur, x⟩ s0 ops) := by
  have hc' := (exp_constructor_iff c initdef expired hh inp x).1 hc
  refine ⟨hc'.2, ?_⟩
  have h0 : ExpValid ⟨c, dur, x⟩ (startVals initdef saved) s0 := by
    rcases startExp_cases ⟨c, dur, x⟩ inp saved with h | ⟨sv, s, cl, rfl, hr, h⟩
    · exact (initExp_valid c initdef dur inp x s0 hc'.1 (h.symm.trans hs)).mono
        (List.cons_subset_cons _ (List.nil_subset _))
    · obtain rfl : s = s0 := Option.some.inj (h.symm.trans hs)
      exact (restoreExp_valid ⟨c, dur, x⟩ sv s cl hr).mono (List.subset_cons_self ..)
  exact runExp_valid ⟨c, dur, x⟩ _ s0 ops h0

/-- for InputExp (with patches/C17-inputexp-restore-unvalidated.diff): a saved 'valid' state whose value is
    refused by the validators (or is missing) is not restored at all – no state, no value, no timer is
    taken over – and the block gets exactly its regular initialisation -/
theorem exp_restore_validated (e : ExpCfg) (inp : Option Val) (rem : Option Int) (input : Option Val)
    (h : ∀ v, input = some v → ¬ ∃ w, Accepts e.v v w) :
    (startExp e inp (some ⟨.valid, rem, input⟩)).1 = initExp e inp := by
  cases input with
  | none => simp [startExp, restoreExp]
  | some v =>
    simp [startExp, restoreExp, validate_none e.v v (h v rfl)]

/-- … an accepted one is restored in its CONVERTED form `schema v` (as `Input._restore_state` does):
    state 'valid', value and output `w`, the timer with its remaining time (none for an infinite one) -/
theorem exp_restore_accepted (e : ExpCfg) (inp : Option Val) (rem : Option Int) (v w : Val)
    (h : Accepts e.v v w) (hw : w ≠ .undef) (hr : ∀ r, rem = some r → 0 < r) :
    (startExp e inp (some ⟨.valid, rem, some v⟩)).1 =
      some ⟨.valid, some w, w, 0, rem.map Int.toNat⟩ := by
  have hv := (validate_iff e.v v w).2 h
  have hu : w.isUndef = false := (Val.isUndef_false_iff _).2 hw
  cases rem with
  | none => simp [startExp, restoreExp, hv, fsmRestore, calcOutput, setOut, hu, store_undef w hw]
  | some r =>
    have : ¬ r ≤ 0 := by have := hr r rfl; omega
    simp [startExp, restoreExp, hv, fsmRestore, this, calcOutput, setOut, hu, store_undef w hw]

/-- … and an overdue saved state is ignored whatever its value -/
theorem exp_restore_overdue (e : ExpCfg) (inp : Option Val) (st : St) (r : Int) (input : Option Val)
    (hr : r ≤ 0) : (startExp e inp (some ⟨st, some r, input⟩)).1 = initExp e inp := by
  cases st with
  | expired => simp [startExp, restoreExp, fsmRestore, hr]
  | valid =>
    cases input with
    | none => simp [startExp, restoreExp]
    | some v => cases hv : validate e.v v <;> simp [startExp, restoreExp, hv, fsmRestore, hr]

theorem wait_input (e : ExpCfg) (s : ExpState) (d : Nat) : (wait e s d).input = s.input := by
  unfold wait
  split
  · split <;> rfl
  · rfl

theorem runExp_input_of_refused (e : ExpCfg) (ops : List ExpOp) (s : ExpState)
    (h : ∀ u, ExpOp.put u ∈ ops → ¬ ∃ w, Accepts e.v u w) : (runExp e s ops).input = s.input := by
  induction ops generalizing s with
  | nil => rfl
  | cons op ops ih =>
    rw [runExp_cons, ih _ fun u hu => h u (List.mem_cons_of_mem _ hu)]
    cases op with
    | wait d => exact wait_input e s d
    | put u =>
      have hr : (putExp e s u).2.1 = false :=
        Bool.eq_false_iff.mpr fun hb => h u List.mem_cons_self ((exp_accept_iff e s u).1 hb)
      exact congrArg ExpState.input (exp_reject_changes_nothing e s u hr)

/-- the value part after any sequence is the conversion of the last accepted put: `v` accepted
    with `w`, afterwards only waits and refused puts -/
theorem exp_value_is_last_accepted (e : ExpCfg) (s : ExpState) (pre post : List ExpOp)
    (v w : Val) (hv : Accepts e.v v w) (hpost : ∀ u ∈ putsOf post, ¬ ∃ w', Accepts e.v u w') :
    (runExp e s (pre ++ .put v :: post)).input = some w := by
  rw [runExp_append, runExp_cons,
    runExp_input_of_refused e post _ fun u hu => hpost u (List.mem_filterMap.mpr ⟨.put u, hu, rfl⟩)]
  exact (exp_accepted_put e _ v w hv).2.1

/-- if the schema function raises for `v` – an exception of ANY class
    `k` (ValueError, TypeError, KeyError, ZeroDivisionError, AttributeError, a library's own
    `Exception` subclass) – the value is refused: `_validate` reports a refusal, the put event
    returns False and the output is unchanged -/
theorem raising_schema_rejects (c : Cfg) (s : Val → Except Exc Val) (v out : Val) (k : Exc)
    (hs : c.schema = some s) (hk : s v = .error k) :
    validate c v = none ∧ (put c out v).res = .ret false ∧ (put c out v).out = out := by
  have hv : validate c v = none := by
    cases h : validate c v with
    | none => rfl
    | some w =>
      have := ((validate_iff c v w).1 h).2.2
      simp [Converts, hs, hk] at this
  exact ⟨hv, (put_none c out v hv).2, (put_none c out v hv).1⟩

/-- … likewise for an InputExp: nothing changes, not even the running timer -/
theorem exp_raising_schema_rejects (e : ExpCfg) (s : Val → Except Exc Val) (st : ExpState)
    (v : Val) (k : Exc) (hs : e.v.schema = some s) (hk : s v = .error k) :
    (putExp e st v).1 = st ∧ (putExp e st v).2.1 = false := by
  have hv := (raising_schema_rejects e.v s v .undef k hs hk).1
  simp [putExp, hv]

/-- the class of the exception is never looked at: re-labelling the exceptions of a schema by an
    arbitrary map `f` of classes changes no validation result and no call of user code -/
theorem exception_class_irrelevant (c : Cfg) (f : Exc → Exc) (v : Val) :
    validateT { c with schema := c.schema.map (fun s x => (s x).mapError f) } v = validateT c v := by
  rcases c with ⟨a, ch, sc⟩
  cases sc with
  | none => rfl
  | some s =>
    have key : ∀ x, ((s x).mapError f).toOption = (s x).toOption := by
      intro x; cases s x <;> rfl
    simp only [validateT, checkStage, schemaStage, Option.map, key]

/-- the values submitted by a sequence of puts interleaved with caller-side mutations -/
def wputs (ops : List WOp) : List Val :=
  ops.filterMap fun | .put v => some v | .mutate _ => none

/-- whatever the caller does with its own collection object after the
    block has been created (any sequence of clear / add / remove, at any points between the
    events), the block validates against the contents at construction time: its validators are
    unchanged and its output is the one the puts alone produce -/
theorem allowed_is_snapshot (w : World) (ops : List WOp) :
    (w.run ops).cfg = w.cfg ∧ (w.run ops).out = run w.cfg w.out (wputs ops) := by
  induction ops generalizing w with
  | nil => exact ⟨rfl, rfl⟩
  | cons op ops ih =>
    have h := ih (w.step op)
    cases op <;> simpa [World.run, World.step, World.put, World.mutate, wputs, run_cons] using h

/-- in particular every later validation is the validation with the construction-time set -/
theorem validate_after_caller_mutations (allowed : Option (List Val)) (check : Option (Val → Val))
    (schema : Option (Val → Except Exc Val)) (ms : List Mut) (v : Val) :
    validate ((World.new allowed check schema).run (ms.map .mutate)).cfg v =
      validate ⟨allowed, check, schema⟩ v := by
  rw [(allowed_is_snapshot _ _).1]; rfl

def ewops (ops : List EWOp) : List ExpOp :=
  ops.filterMap fun | .op o => some o | .mutate _ => none

/-- the same for an InputExp -/
theorem exp_allowed_is_snapshot (w : ExpWorld) (ops : List EWOp) :
    (w.run ops).e = w.e ∧ (w.run ops).s = runExp w.e w.s (ewops ops) := by
  induction ops generalizing w with
  | nil => exact ⟨rfl, rfl⟩
  | cons op ops ih =>
    have h := ih (w.step op)
    rcases op with (v | d) | m <;>
      simpa [ExpWorld.run, ExpWorld.step, ExpWorld.put, ExpWorld.wait, ExpWorld.mutate, ewops, runExp_cons,
        stepExp] using h

/-- the tables extracted from the current code are the ones the model implements: `Input` handles
    `put` with a required `value`; `InputExp` goes to 'valid' on `put` from any state (guarded by
    `cond_put`) and from 'valid' to 'expired' by its timer -/
theorem tables_match_model :
    Gen.inputHandlers = [("put", ["value"], [], true)] ∧
    Gen.inputExpStates = ["expired", "valid"] ∧
    Gen.inputExpTrans = [("put", none, some "valid")] ∧
    Gen.inputExpTimed = [("valid", .goto "expired", .none)] ∧
    Gen.inputExpMethods = [("cond", "put")] :=
  ⟨rfl, rfl, rfl, rfl, rfl⟩

/-- allowed {1, 2}; check refuses 2; schema maps exactly `True` to "a", `1` to 1 and raises otherwise -/
def exCfg : Cfg :=
  ⟨some [Val.int 1, Val.int 2],
   some (fun v => if v = Val.int 2 then Val.str "" else Val.int 7),
   some (fun v => if v = Val.bool true then .ok (Val.str "a") else if v = Val.int 1 then .ok (Val.int 1)
     else if v = Val.flt 1 then .error .zeroDivisionError else .error .custom)⟩

example : Accepts exCfg (Val.bool true) (Val.str "a") ∧ Val.str "a" ≠ .undef :=
  ⟨(validate_iff _ _ _).1 (by decide +kernel), by decide⟩

example : Refused exCfg (Val.int 2) ∧ Refused exCfg (.lst [.num 1 .int]) ∧ Refused exCfg (Val.flt 1) := by
  have key : ∀ v, validate exCfg v = none → Refused exCfg v := fun v hn w hw => by
    have := (validate_iff _ _ _).2 hw
    rw [hn] at this; cases this
  exact ⟨key _ (by decide +kernel), key _ (by decide +kernel), key _ (by decide +kernel)⟩

example : run exCfg (Val.int 1) [Val.bool true, Val.int 2, .lst [.num 1 .int], Val.flt 1] = Val.str "a" := by
  decide +kernel

example : (init exCfg (some (.lst [.num 1 .int])) (Val.int 1)).1 = .ok (Val.int 1) ∧
    (init exCfg (some (Val.bool true)) (Val.int 1)).1 = .ok (Val.str "a") ∧
    (construct exCfg (Val.int 2)).1 = .error .valueError ∧ exCfg.allowedHashable = true :=
  ⟨by decide +kernel, by decide +kernel, rfl, rfl⟩

example : (constructExp exCfg (Val.int 1) (Val.bool true)).1 = .ok (some (Val.int 1), Val.str "a") ∧
    (constructExp exCfg (Val.int 1) .none).1 = .error .valueError ∧
    ((initExp ⟨exCfg, some 10, Val.str "a"⟩ (some (Val.int 1))).map
      (fun s => (runExp ⟨exCfg, some 10, Val.str "a"⟩ s [.wait 4, .put (Val.int 2), .wait 7, .put (Val.bool true), .wait 4]).out))
      = some (Val.str "a") :=
  ⟨rfl, rfl, by decide +kernel⟩
/-- the caller clears and refills its set between two puts: no effect -/
example : ((World.new exCfg.allowed exCfg.check exCfg.schema).run
      [.put (Val.bool true), .mutate .clear, .mutate (.add (Val.flt 1)), .put (Val.int 1),
       .mutate (.remove (Val.int 1)), .put (Val.flt 1), .put (Val.int 3)]).out = Val.int 1 := by
  decide +kernel

/-- `exCfg`'s schema raises ZeroDivisionError for 1.0 and a custom exception for 3: both refused -/
example : validate exCfg (Val.flt 1) = none ∧ validate exCfg (Val.int 3) = none := by
  decide +kernel

end Edzed.Validate

/-! ### tie to the source by translation

`tools/py2lean_validate.py` regenerates `EdzedModel/Gen/TranslatedValidate.lean` from the CURRENT source of
`_Validation.__init__/_validate`, `Input.__init__/init_from_value/_restore_state/_event_put` and
`InputExp.__init__/cond_put/calc_output` on every run: each method becomes a program (statement order,
conditions, try/except with its exception classes, early returns, raises and call arguments from the AST)
over the object's attributes, with the calls it makes as primitives.  `ValidateTie.prims` gives the
primitives their meaning (`value in frozenset`, `frozenset(collection)`, a user callable that returns or
raises and is logged, `set_output`, `event('put')` reaching the handler); the theorems below say that the
translated programs ARE the model's definitions, for every configuration, object state and value. -/
namespace Edzed.TrTie
open Edzed.Validate Edzed.ValidateTie
open Edzed.Gen
open Edzed.Gen.TrV hiding validate calcOutput

/-- the translated `_validate` IS the model's `validateT` – the result (`w` returned / ValueError) and
    the log of the calls of user code – on every object that carries the validators of `c` -/
theorem translated_validate_is_model (c : Cfg) (o : Obj) (h : Agrees c o) (v : Val) :
    TrV.validate prims v o =
      ({ o with calls := o.calls ++ (validateT c v).2.map tagOf }, outcome (resultX (validateT c v).1)) :=
  validate_is_model c o h v

/-- … and for user callables that may raise ANY exception it is the exception-level reference
    `validateX`: allowed → check → schema in this order, each only when present; a value not in the set
    (or unhashable) and a falsy check result give ValueError; an exception of the check function leaves
    `_validate` as it is; every `Exception` of the schema becomes ValueError; the schema's result is
    returned whatever it is (also None) -/
theorem translated_validate_is_reference (o : Obj) (v : Val) :
    TrV.validate prims v o =
      ({ o with calls := o.calls ++ (validateX o.allowed o.check o.schema v).2 },
       outcome (validateX o.allowed o.check o.schema v).1) :=
  validate_eq prims prims_contains prims_callUser v o

/-- the reference restricted to the model's validators is the model -/
theorem translated_validate_reference_is_model (c : Cfg) (v : Val) :
    validateX c.allowed (c.check.map liftCheck) (c.schema.map liftSchema) v =
      (resultX (validateT c v).1, (validateT c v).2.map tagOf) :=
  validateX_model c v

/-- a schema result None is a converted value like any other -/
theorem translated_validate_schema_none_is_a_value (o : Obj) (s : Fn) (v : Val)
    (ha : o.allowed = none) (hc : o.check = none) (hs : o.schema = some s) (hn : s v = .ok Val.none) :
    (TrV.validate prims v o).2 = .ret Val.none := by
  rw [translated_validate_is_reference, ha, hc, hs]
  simp [validateX, hn, outcome]

/-- an exception raised by the check function is not turned into a refusal by `_validate` -/
theorem translated_validate_check_exception_propagates (o : Obj) (f : Fn) (v : Val) (k : PyExc)
    (ha : o.allowed = none) (hc : o.check = some f) (hk : f v = .error k) :
    (TrV.validate prims v o).2 = .raise k := by
  rw [translated_validate_is_reference, ha, hc]
  simp [validateX, hk, outcome]

/-- the translated `_event_put` IS the model's put step: new output, return value (or the failure of
    `set_output(UNDEF)`, which is outside the `try`) and the calls of user code -/
theorem translated_validate_put_is_model (c : Cfg) (o : Obj) (h : Agrees c o) (v : Val) :
    TrV.eventPut prims v o =
      ({ o with calls := o.calls ++ (put c o.output v).calls.map tagOf, output := (put c o.output v).out },
       putOutcome (put c o.output v).res) :=
  eventPut_eq prims prims_contains prims_callUser prims_setOutput c o h v

/-- the put handler with user callables that may raise anything -/
theorem translated_validate_put_is_reference (o : Obj) (v : Val) :
    TrV.eventPut prims v o =
      match validateX o.allowed o.check o.schema v with
      | (.ok w, cl) =>
        if w.isUndef then ({ o with calls := o.calls ++ cl }, .raise "ValueError")
        else ({ o with calls := o.calls ++ cl, output := store o.output w }, .ret (Val.bool true))
      | (.error k, cl) =>
        ({ o with calls := o.calls ++ cl }, if excIsA k "ValueError" then .ret (Val.bool false) else .raise k) :=
  eventPut_eqX o v

/-- `_Validation.__init__`: `schema` and `check` are stored as given; `_allowed` is None for None and
    otherwise a frozenset COPY of the contents the caller's collection has at that moment (the snapshot;
    TypeError for an unhashable member) -/
theorem translated_validate_init_takes_snapshot (sc ch : Option Fn) (al : Option Coll) (kw : Val) (o : Obj) :
    TrV.validationInit prims sc ch al kw o =
      match al with
      | none => ({ o with schema := sc, check := ch, allowed := none, initdef := kw }, .next ())
      | some coll =>
        if coll.items.all Val.hashable then
          ({ o with schema := sc, check := ch, allowed := some coll.items, initdef := kw }, .next ())
        else ({ o with schema := sc, check := ch }, .raise "TypeError") :=
  validationInit_eq prims rfl rfl sc ch al kw o

/-- `Input.__init__` IS the model's `construct` -/
theorem translated_validate_input_init_is_model (c : Cfg) (initdef : Val) (o : Obj) :
    TrV.inputInit prims (c.schema.map liftSchema) (c.check.map liftCheck) (collOf c) initdef o =
      if c.allowedHashable then
        ({ objInit c initdef o with calls := o.calls ++ (construct c initdef).2.map tagOf },
         ctorOutcome (construct c initdef).1)
      else
        ({ o with schema := c.schema.map liftSchema, check := c.check.map liftCheck },
         ctorOutcome (construct c initdef).1) :=
  inputInit_eq c initdef o

/-- `Input.init_from_value` and `_restore_state` (an alias) ARE the model's restoring / initialising put:
    the value goes through the handler of the `put` event -/
theorem translated_validate_restore_is_model (c : Cfg) (o : Obj) (h : Agrees c o) (hu : o.output = .undef)
    (r : Val) :
    TrV.inputRestoreState prims r o =
      ({ o with calls := o.calls ++ (restorePut c (some r)).calls.map tagOf,
                output := (restorePut c (some r)).out },
       initOutcome (restorePut c (some r)).res) := by
  rw [inputRestoreState_alias, inputInitFromValue_eq c o h r, hu]
  rfl

theorem translated_validate_init_from_value_is_model (c : Cfg) (o : Obj) (h : Agrees c o) (v : Val) :
    TrV.inputInitFromValue prims v o =
      ({ o with calls := o.calls ++ (put c o.output v).calls.map tagOf, output := (put c o.output v).out },
       initOutcome (put c o.output v).res) :=
  inputInitFromValue_eq c o h v

/-- `InputExp.__init__` IS the model's `constructExp` -/
theorem translated_validate_exp_init_is_model (c : Cfg) (initdef expired : Val) (o : Obj) :
    (TrV.expInit prims (c.schema.map liftSchema) (c.check.map liftCheck) (collOf c) initdef expired o).2 =
        expCtorOutcome (constructExp c initdef expired).1 ∧
    (c.allowedHashable = true →
      (TrV.expInit prims (c.schema.map liftSchema) (c.check.map liftCheck) (collOf c) initdef expired o).1.calls =
        o.calls ++ (constructExp c initdef expired).2.map tagOf) ∧
    (∀ inp e, (constructExp c initdef expired).1 = .ok (inp, e) →
      (TrV.expInit prims (c.schema.map liftSchema) (c.check.map liftCheck) (collOf c) initdef expired o).1 =
        { objInit c (initState initdef) o with
          calls := o.calls ++ (constructExp c initdef expired).2.map tagOf,
          sdataInput := if initdef.isUndef then o.sdataInput else inp,
          expired := e }) :=
  expInit_eq c initdef expired o _ rfl

/-- `InputExp._restore_state` (patches/C17-inputexp-restore-unvalidated.diff) IS the model's `restoreExp`:
    for a saved 'valid' state `sdata['input']` goes through `_validate` BEFORE `FSM._restore_state` is
    called – a missing or refused value raises and nothing (no state, no value, no timer) is restored –
    and the FSM takes over the CONVERTED value; any other state is handed to the FSM as it is -/
theorem translated_validate_exp_restore_is_model (e : ExpCfg) (o : Obj) (h : Agrees e.v o)
    (he : o.expired = e.expired) (sv : SavedExp) :
    (TrV.expRestoreState prims (savedOf sv) o).1 =
        restoredObj { o with calls := o.calls ++ (restoreExp e sv).2.map tagOf } (restoreExp e sv).1 ∧
    outKind (TrV.expRestoreState prims (savedOf sv) o).2 =
        (match (restoreExp e sv).1 with | .failed => OutKind.raises | _ => OutKind.falls) :=
  expRestoreState_eq e o h he sv

/-- `InputExp.cond_put` IS the validating part of the model's `putExp` -/
theorem translated_validate_cond_put_is_model (e : ExpCfg) (s : ExpState) (o : Obj) (h : Agrees e.v o)
    (v : Val) (hv : o.eventValue = some v) (hi : o.sdataInput = s.input) :
    TrV.condPut prims o =
      ({ o with calls := o.calls ++ (putExp e s v).2.2.map tagOf, sdataInput := (putExp e s v).1.input },
       .ret (Val.bool (putExp e s v).2.1)) :=
  condPut_eq e s o h v hv hi

/-- `InputExp.calc_output` IS the model's `calcOutput` -/
theorem translated_validate_calc_output_is_model (e : ExpCfg) (st : St) (input : Option Val) (o : Obj)
    (hs : o.state = stName st) (hi : o.sdataInput = input) (he : o.expired = e.expired)
    (hv : st = .valid → input.isSome = true) :
    TrV.calcOutput prims o = (o, .ret (Validate.calcOutput e st input)) :=
  calcOutput_eq e st input o hs hi he hv

/-- non-vacuity: an object with the validators of `exCfg` (constructed by the translated `__init__`) -/
example : Agrees exCfg (objInit exCfg (Val.int 1) {}) := objInit_agrees _ _ _

end Edzed.TrTie
