/-
C16 — event filters form an ordered pipeline that can edit or veto an event; the bundled
filters implement their documented predicates.

Model: EdzedModel/Filters.lean (mirrors the filter loop of `Event.send` and
edzed/blocklib/filters.py).  Statements are for every filter list, every event data dict,
every environment (outputs of the control blocks), every user filter / modify function
(arbitrary Lean functions) and every sequence of events (no bound on lengths).
Dictionaries are observed through `Data.get?`, i.e. the laws are dictionary laws.
-/
import EdzedModel.Filters
import EdzedProofs.Filters
import EdzedModel.Gen.Constants
import EdzedModel.Gen.Translated
import EdzedModel.Gen.TranslatedFilters
import EdzedProofs.EditLoops
import EdzedModel.Gen.TranslatedFilterObjs
import EdzedProofs.FiltersTie

namespace Edzed.Filters

/-- The reading of ONE filter result used below (`stageNext`, the data handed to the next
    stage) is the documented one: a mapping replaces the data; any other true value passes
    the dict on as the filter left it; everything else (false value, exception, mapping with
    a non-string key) hands nothing on. -/
theorem stage_reading (env : Env) (f : Filter) (d d' : Data) :
    stageNext env f d = some d' ↔
      (f.call env d).ret = .mapping d' ∨
      ∃ v, (f.call env d).ret = .other v ∧ v.truthy = true ∧ d' = (f.call env d).data := by
  unfold stageNext
  cases h : (f.call env d).ret with
  | other v =>
    by_cases hv : v.truthy = true
    · simp [hv]
      exact eq_comm
    · simp [hv]
  | _ => simp

/-- the data the destination receives is the left fold of the stages over
    the filters in the given order, each stage seeing the data produced by the previous one -/
theorem pipeline_data_is_left_fold (env : Env) (fs : List Filter) (d : Data) :
    runFilters env fs d = fs.foldlM (fun d f => stageNext env f d) d := by
  induction fs generalizing d with
  | nil => rfl
  | cons f fs ih =>
    rw [List.foldlM_cons]
    cases h : stageNext env f d with
    | some d' =>
      have := runFrom_cons_pass env f fs d d' h
      simp only [runFilters, this] at *
      exact ih d'
    | none =>
      have := (runFrom_cons_stop env f fs d h).2
      simp only [runFilters]
      rcases this with ⟨h1, _⟩ | ⟨e, h1, _⟩ <;> simp [h1]

theorem delivered_iff_runFilters (env : Env) (fs : List Filter) (d d' : Data) :
    (runFrom env fs d).2 = .delivered d' ↔ runFilters env fs d = some d' := by
  unfold runFilters
  cases (runFrom env fs d).2 <;> simp

/-- the event is delivered (and `send` returns True) iff no stage,
    fed with the data folded over the stages before it, vetoes -/
theorem pipeline_delivers_iff_no_stage_rejects (env : Env) (fs : List Filter) (d : Data) :
    (∃ d', (runFrom env fs d).2 = .delivered d') ↔
      ∀ pre f post dk, fs = pre ++ f :: post →
        pre.foldlM (fun d f => stageNext env f d) d = some dk → (stageNext env f dk).isSome = true := by
  simp only [delivered_iff_runFilters, pipeline_data_is_left_fold]
  exact foldlM_isSome_iff _ fs d

/-- the first stage that does not hand data on ends the pipeline: the
    filters after it are not called (they are returned untouched), nothing is delivered, and
    `send` returns False exactly when that stage returned a false non-mapping value
    (otherwise its exception – or the TypeError for a non-string key – leaves `send`) -/
theorem pipeline_first_rejection_ends_it (env : Env) (pre post : List Filter) (f : Filter) (d dk : Data)
    (hpre : pre.foldlM (fun d f => stageNext env f d) d = some dk)
    (hstop : stageNext env f dk = none) :
    let r := runFrom env (pre ++ f :: post) d
    (∃ pre', pre'.length = pre.length ∧ r.1 = pre' ++ (f.call env dk).filter :: post) ∧
    runFilters env (pre ++ f :: post) d = none ∧
    ((r.2 = .rejected ∧ r.2.sendResult = some false ∧
        ∃ v, (f.call env dk).ret = .other v ∧ v.truthy = false) ∨
     (∃ e, r.2 = .error e ∧ r.2.sendResult = none ∧
        ((f.call env dk).ret = .raise e ∨ (f.call env dk).ret = .badKey ∧ e = .typeError))) := by
  obtain ⟨pre', hl, hr⟩ := runFrom_append env pre (f :: post) d dk hpre
  obtain ⟨h1, h2⟩ := runFrom_cons_stop env f post dk hstop
  simp only [runFilters, hr, h1]
  refine ⟨⟨pre', hl, rfl⟩, ?_, ?_⟩
  · rcases h2 with ⟨h, _⟩ | ⟨e, h, _⟩ <;> rw [h]
  · rcases h2 with ⟨h, hv⟩ | ⟨e, h, hv⟩
    · exact Or.inl ⟨h, by rw [h]; rfl, hv⟩
    · exact Or.inr ⟨e, h, by rw [h]; rfl, hv⟩

/-- `send` returns True exactly when the event was delivered -/
theorem send_result_true_iff_delivered (o : Outcome) :
    o.sendResult = some true ↔ ∃ d, o = .delivered d := by
  cases o <;> simp [Outcome.sendResult]

/-- `send` adds the sender's name as item `source` before the first filter runs -/
theorem send_adds_source (env : Env) (fs : List Filter) (src : String) (d : Data) :
    ∃ d0, send env fs src d = runFrom env fs d0 ∧
      ∀ k, d0.get? k = if k = "source" then some (Val.str src) else d.get? k :=
  ⟨d.set "source" (Val.str src), rfl, fun k => Data.get?_set d "source" _ k⟩

/-- without filters everything is delivered unchanged -/
theorem pipeline_empty (env : Env) (d : Data) : runFrom env [] d = ([], .delivered d) := rfl

/-- logical level of the `previous` item -/
inductive Level where
  | undef | falsy | truthy
  deriving DecidableEq, Repr

def Level.of (v : Val) : Level :=
  if v.isUndef then .undef else if v.truthy then .truthy else .falsy

/-- the predicate documented in docs/filters.rst: `rise` allows False → True, `fall` allows
    True → False, `u_rise` allows UNDEF → True (None: same as `rise`), `u_fall` allows
    UNDEF → False; only explicitly allowed combinations pass -/
def edgeDoc (a : EdgeArgs) : Level → Bool → Bool
  | .falsy, true => a.rise
  | .truthy, false => a.fall
  | .undef, true => (match a.uRise with | some b => b | none => a.rise)
  | .undef, false => a.uFall
  | .falsy, false => false
  | .truthy, true => false

/-- for ALL arguments and values the filter built by the constructor passes exactly the documented
    transitions -/
theorem edge_spec_all_values (a : EdgeArgs) (p v : Val) :
    edgePass a.flags p v = edgeDoc a (Level.of p) v.truthy := by
  unfold edgePass Level.of edgeDoc EdgeArgs.flags
  cases hu : p.isUndef <;> cases hv : v.truthy <;> cases hp : p.truthy <;> first | rfl | simp

def prevSamples : List Val :=
  [.undef, Val.none, Val.bool false, Val.int 0, Val.flt 0, Val.str "", .tup [], .lst [],
   Val.bool true, Val.int 1, Val.int (-1), Val.flt (5 / 2), Val.str "x", .tup [.none], .lst [.num 0 .int]]

def valueSamples : List Val :=
  [.undef, Val.none, Val.bool false, Val.int 0, Val.str "", .tup [],
   Val.bool true, Val.int 1, Val.flt (1 / 2), Val.str "0", .lst [.none]]

/-- all 2·2·3·2 constructor argument combinations (16 flag combinations,
    `u_rise` also None) × previous ∈ {UNDEF, falsy values, truthy values} × value ∈ {falsy,
    truthy values}: the documented table, row by row, as an instance of `edge_spec_all_values`. -/
theorem edge_truth_table :
    ∀ rise fall : Bool, ∀ uRise ∈ [none, some false, some true], ∀ uFall : Bool,
    ∀ p ∈ prevSamples, ∀ v ∈ valueSamples,
      edgePass (EdgeArgs.flags ⟨rise, fall, uRise, uFall⟩) p v
        = edgeDoc ⟨rise, fall, uRise, uFall⟩ (Level.of p) v.truthy :=
  fun rise fall uRise _ uFall p _ v _ => edge_spec_all_values ⟨rise, fall, uRise, uFall⟩ p v

/-- the filter object on an event: both items are required (KeyError otherwise); the result
    is the bool of the documented predicate; the filter has no state and leaves the data alone -/
theorem edge_call_spec (env : Env) (a : EdgeArgs) (d : Data) :
    ((Filter.mkEdge a).call env d).ret =
      (match d.get? "value", d.get? "previous" with
       | some v, some p => .other (Val.bool (edgeDoc a (Level.of p) v.truthy))
       | _, _ => .raise .keyError) ∧
    ((Filter.mkEdge a).call env d).data = d ∧
    ((Filter.mkEdge a).call env d).filter = Filter.mkEdge a := by
  refine ⟨?_, rfl, rfl⟩
  simp only [Filter.mkEdge, Filter.call, edgeCall]
  cases d.get? "value" with
  | none => rfl
  | some v =>
    cases d.get? "previous" with
    | none => rfl
    | some p => simp only [edge_spec_all_values]

/-- the defaults of the constructor in the CURRENT source are the ones of the model
    (`Edge()` = nothing passes, `u_rise=None` = follow `rise`) -/
theorem edge_defaults_match_source :
    Gen.edgeDefaults =
      [("rise", some ({} : EdgeArgs).rise), ("fall", some ({} : EdgeArgs).fall),
       ("u_rise", ({} : EdgeArgs).uRise), ("u_fall", some ({} : EdgeArgs).uFall)] := rfl

/-- the event is dropped iff `previous` is UNDEF (or missing, which
    the code treats as UNDEF); every other event passes with its data untouched -/
theorem not_from_undef_spec (env : Env) (d : Data) :
    stageNext env .notFromUndef d =
      (match d.get? "previous" with
       | none => none
       | some p => if p = .undef then none else some d) := by
  simp only [stageNext, Filter.call, notFromUndefPass]
  cases d.get? "previous" with
  | none => simp [Val.bool_truthy]
  | some p => cases p <;> simp [Val.bool_truthy, Val.isUndef]

/-! ## Delta

The numbers are `XNum`: exact rationals (Python ints, bools, finite floats) and the floats +inf, -inf,
NaN with Python's rules (a difference with a NaN, and inf − inf, is NaN; every comparison with NaN is
false).  `|v − w| ≥ δ` is written `XNum.le δ (v.sub w) ∨ XNum.le δ (w.sub v)`: never true when the
difference is NaN. -/

/-- for every sequence of numbers `vs` – finite or not – (carried as item `value` of
    otherwise arbitrary event data) and every `δ`, a fresh `Delta(δ)` answers each event with a bool,
    and the value at any position passes iff nothing has passed before it (the first), or it differs
    from the LAST PASSED value before it by at least `δ` -/
theorem delta_spec (env : Env) (δ : XNum) (mk : XNum → Data)
    (hmk : ∀ x, ∃ v, (mk x).get? "value" = some v ∧ xnumOf? v = some x) (vs : List XNum) :
    ∃ flags : List Bool, flags.length = vs.length ∧
      callSeq env (Filter.mkDelta δ) (vs.map mk) = flags.map (fun b => FRes.other (Val.bool b)) ∧
      ∀ pre v b post, vs.zip flags = pre ++ (v, b) :: post →
        (b = true ↔
          (∀ p ∈ pre, p.2 = false) ∨
          ∃ pre1 w pre2, pre = pre1 ++ (w, true) :: pre2 ∧ (∀ p ∈ pre2, p.2 = false) ∧
            (XNum.le δ (v.sub w) = true ∨ XNum.le δ (w.sub v) = true)) := by
  refine ⟨deltaFlags δ none vs, deltaFlags_length δ none vs,
    callSeq_delta env δ mk hmk .undef none rfl vs, ?_⟩
  intro pre v b post hs
  rw [deltaFlags_spec δ none vs pre v b post hs, deltaPass_iff]
  cases hlp : lastPassed none pre with
  | none =>
    simp only [true_iff]
    exact Or.inl ((lastPassed_none_iff none pre).mp hlp).2
  | some w =>
    obtain ⟨l1, l2, he, hf⟩ := (lastPassed_some_iff pre w).mp hlp
    constructor
    · intro hc
      exact Or.inr ⟨l1, w, l2, he, hf, hc⟩
    · rintro (hall | ⟨p1, w', p2, he', hf', hc⟩)
      · have := (lastPassed_none_iff none pre).mpr ⟨rfl, hall⟩
        rw [hlp] at this
        cases this
      · have := (lastPassed_some_iff pre w').mpr ⟨p1, p2, he', hf'⟩
        rw [hlp] at this
        cases this
        exact hc

/-- corollary: any two consecutive passed values differ by at least `δ` -/
theorem delta_consecutive_passed_differ (env : Env) (δ : XNum) (mk : XNum → Data)
    (hmk : ∀ x, ∃ v, (mk x).get? "value" = some v ∧ xnumOf? v = some x) (vs : List XNum) :
    ∃ flags : List Bool, flags.length = vs.length ∧
      callSeq env (Filter.mkDelta δ) (vs.map mk) = flags.map (fun b => FRes.other (Val.bool b)) ∧
      ∀ l1 a c l2,
        (vs.zip flags).filterMap (fun p => if p.2 then some p.1 else none) = l1 ++ a :: c :: l2 →
        (XNum.le δ (c.sub a) = true ∨ XNum.le δ (a.sub c) = true) :=
  ⟨deltaFlags δ none vs, deltaFlags_length δ none vs,
    callSeq_delta env δ mk hmk .undef none rfl vs,
    fun l1 a c l2 h => chainFrom_adjacent δ none _ l1 l2 a c (deltaFlags_chain δ none vs) h⟩

/-- once a value has passed, a NaN value is REJECTED whatever `δ`
    is (|last − NaN| = NaN is not ≥ δ) and the filter keeps the value it remembered: what follows is
    judged against the last value that really passed.  The same for a difference inf − inf. -/
theorem delta_rejects_nan_and_keeps_last (env : Env) (δ : XNum) (last v : Val) (l x : XNum) (d : Data)
    (hu : last.isUndef = false) (hl : xnumOf? last = some l) (hv : d.get? "value" = some v)
    (hx : xnumOf? v = some x) (hnan : l.sub x = .nan) :
    ((Filter.delta δ last).call env d).ret = .other (Val.bool false) ∧
    ((Filter.delta δ last).call env d).filter = .delta δ last ∧
    ((Filter.delta δ last).call env d).data = d := by
  have hle : XNum.le δ (XNum.abs XNum.nan) = false := by cases δ <;> rfl
  simp [Filter.call, deltaCall, hv, hu, hl, hx, hnan, hle]

/-- a NaN value makes the difference NaN, and so does +inf after +inf, −inf after −inf -/
theorem delta_nan_differences (l : XNum) :
    l.sub .nan = .nan ∧ XNum.nan.sub l = .nan ∧ XNum.pinf.sub .pinf = .nan ∧ XNum.ninf.sub .ninf = .nan := by
  cases l <;> exact ⟨rfl, rfl, rfl, rfl⟩

/-- in a sequence: a NaN that is not the first value to pass never passes -/
theorem delta_nan_passes_only_first (env : Env) (δ : XNum) (mk : XNum → Data)
    (hmk : ∀ x, ∃ v, (mk x).get? "value" = some v ∧ xnumOf? v = some x) (vs : List XNum) :
    ∃ flags : List Bool, flags.length = vs.length ∧
      callSeq env (Filter.mkDelta δ) (vs.map mk) = flags.map (fun b => FRes.other (Val.bool b)) ∧
      ∀ pre b post, vs.zip flags = pre ++ (XNum.nan, b) :: post → (∃ p ∈ pre, p.2 = true) → b = false := by
  refine ⟨deltaFlags δ none vs, deltaFlags_length δ none vs,
    callSeq_delta env δ mk hmk .undef none rfl vs, ?_⟩
  intro pre b post hs ⟨p, hp, hpt⟩
  rw [deltaFlags_spec δ none vs pre .nan b post hs]
  cases hlp : lastPassed none pre with
  | none =>
    have := ((lastPassed_none_iff none pre).mp hlp).2 p hp
    rw [hpt] at this; cases this
  -- the difference of `w` and a NaN is NaN, and no `δ` is `≤` the absolute value of a NaN
  | some w => cases δ <;> cases w <;> rfl

/-- a call of Delta that raises (KeyError for a missing `value`, TypeError for a non-number compared with
    the remembered value, in the model's `deltaCall`) leaves the filter as it was -/
theorem delta_errors_keep_state (env : Env) (δ : XNum) (last : Val) (d : Data) (e : Err)
    (h : ((Filter.delta δ last).call env d).ret = .raise e) :
    ((Filter.delta δ last).call env d).filter = .delta δ last := by
  have hr : (deltaCall δ last d).2 = .raise e := h
  rcases deltaCall_keeps_last_or_passes δ last d with h1 | h1
  · exact congrArg (Filter.delta δ) h1
  · rw [h1] at hr
    cases hr

/-! ## IfOutput, IfNotIitialized (documented as NotIfInitialized) -/

/-- events pass, unchanged, exactly while the control block's output is true -/
theorem if_output_spec (env : Env) (ctrl : String) (d : Data) :
    stageNext env (.ifOutput ctrl) d = if (env ctrl).truthy then some d else none := by
  unfold stageNext
  simp only [Filter.call]
  by_cases h : (env ctrl).truthy = true
  · rw [if_pos h, if_pos h]
  · rw [if_neg h, if_neg h]; rfl

/-- events pass, unchanged, exactly while the control block is not initialised
    (its output is still UNDEF) -/
theorem if_not_initialized_spec (env : Env) (ctrl : String) (d : Data) :
    stageNext env (.ifNotInitialized ctrl) d = if env ctrl = .undef then some d else none := by
  unfold stageNext
  simp only [Filter.call]
  by_cases h : env ctrl = .undef
  · have hi : env.initialized ctrl = false := by simp [Env.initialized, h, Val.isUndef]
    rw [hi, if_pos h]; rfl
  · have hi : env.initialized ctrl = true := by
      unfold Env.initialized
      generalize env ctrl = x at h
      cases x <;> simp_all [Val.isUndef]
    rw [hi, if_neg h]; rfl

/-- `add(**kw)`: `{**data, **kw}` – the given items override -/
theorem dataedit_add_spec (env : Env) (kw d : Data) :
    ∃ d', (EditOp.add kw).apply env d = .ok d' ∧
      ∀ k, d'.get? k = match kw.get? k with | some v => some v | none => d.get? k :=
  ⟨_, rfl, get?_update d kw⟩

/-- `setdefault(**kw)`: only the missing keys are added -/
theorem dataedit_setdefault_spec (env : Env) (kw d : Data) :
    ∃ d', (EditOp.setdefault kw).apply env d = .ok d' ∧
      ∀ k, d'.get? k = match d.get? k with | some v => some v | none => kw.get? k :=
  ⟨_, rfl, get?_update kw d⟩

/-- `add_output(key, source)`: `data[key] = source.output` -/
theorem dataedit_add_output_spec (env : Env) (key src : String) (d : Data) :
    ∃ d', (EditOp.addOutput key src).apply env d = .ok d' ∧
      ∀ k, d'.get? k = if k = key then some (env src) else d.get? k :=
  ⟨_, rfl, Data.get?_set d key _⟩

/-- `copy(src, dst)`: `data[dst] = data[src]`; a missing `src` is a KeyError -/
theorem dataedit_copy_spec (env : Env) (src dst : String) (d : Data) :
    match d.get? src with
    | none => (EditOp.copy src dst).apply env d = .error (.raise .keyError)
    | some v => ∃ d', (EditOp.copy src dst).apply env d = .ok d' ∧
        ∀ k, d'.get? k = if k = dst then some v else d.get? k := by
  cases h : d.get? src with
  | none => simp [EditOp.apply, h]
  | some v => exact ⟨d.set dst v, by simp [EditOp.apply, h], Data.get?_set d dst v⟩

/-- `rename(src, dst)`: like copy, then `src` is deleted (so `rename(k, k)` removes `k`) -/
theorem dataedit_rename_spec (env : Env) (src dst : String) (d : Data) :
    match d.get? src with
    | none => (EditOp.rename src dst).apply env d = .error (.raise .keyError)
    | some v => ∃ d', (EditOp.rename src dst).apply env d = .ok d' ∧
        ∀ k, d'.get? k = if k = src then none else if k = dst then some v else d.get? k := by
  cases h : d.get? src with
  | none => simp [EditOp.apply, h]
  | some v =>
    refine ⟨(d.set dst v).erase src, by simp [EditOp.apply, h], fun k => ?_⟩
    rw [Data.get?_erase, Data.get?_set]

/-- `delete(*keys)`: the listed keys disappear, missing ones are ignored -/
theorem dataedit_delete_spec (env : Env) (keys : List String) (d : Data) :
    ∃ d', (EditOp.delete keys).apply env d = .ok d' ∧
      ∀ k, d'.get? k = if k ∈ keys then none else d.get? k :=
  ⟨_, rfl, get?_eraseAll keys d⟩

/-- `permit(*keys)`: everything but the listed keys disappears -/
theorem dataedit_permit_spec (env : Env) (keys : List String) (d : Data) :
    ∃ d', (EditOp.permit keys).apply env d = .ok d' ∧
      ∀ k, d'.get? k = if k ∈ keys then d.get? k else none :=
  ⟨_, rfl, get?_keepOnly keys d⟩

/-- `modify(key, func)` with an ordinary return value: `data[key] = func(data[key])`;
    a missing key is a KeyError, an exception of `func` propagates -/
theorem dataedit_modify_spec (env : Env) (key : String) (f : Val → ModRes) (d : Data) :
    match d.get? key with
    | none => (EditOp.modify key f).apply env d = .error (.raise .keyError)
    | some cur =>
      match f cur with
      | .value v => ∃ d', (EditOp.modify key f).apply env d = .ok d' ∧
          ∀ k, d'.get? k = if k = key then some v else d.get? k
      | .delete => ∃ d', (EditOp.modify key f).apply env d = .ok d' ∧
          ∀ k, d'.get? k = if k = key then none else d.get? k
      | .reject => (EditOp.modify key f).apply env d = .error .reject
      | .raise e => (EditOp.modify key f).apply env d = .error (.raise e) := by
  split
  · next h => simp [EditOp.apply, h]
  · next cur h =>
    split
    · next v hf => exact ⟨d.set key v, by simp [EditOp.apply, h, hf], Data.get?_set d key v⟩
    · next hf => exact ⟨d.erase key, by simp [EditOp.apply, h, hf], Data.get?_erase d key⟩
    · next hf => simp [EditOp.apply, h, hf]
    · next e hf => simp [EditOp.apply, h, hf]

/-- the model has exactly the operations the CURRENT source has -/
theorem dataedit_ops_match_source :
    Gen.dataEditOps = ["add", "add_output", "copy", "delete", "modify", "permit", "rename", "setdefault"] ∧
    ∀ op : EditOp, op.pyName ∈ Gen.dataEditOps := by
  refine ⟨rfl, fun op => ?_⟩
  cases op <;> simp [EditOp.pyName, Gen.dataEditOps]

/-- a chain is the left-to-right Kleisli composition of its
    operations: the empty chain is the identity, a one-element chain is the operation, and
    `chain (a ++ b) = chain a >=> chain b` -/
theorem dataedit_chain_is_fold (env : Env) :
    chain env [] = pure ∧
    (∀ op, chain env [op] = op.apply env) ∧
    ∀ a b, chain env (a ++ b) = (chain env a >=> chain env b) := by
  refine ⟨rfl, fun op => funext (chain_singleton env op), fun a b => funext fun d => ?_⟩
  rw [chain_append]; rfl

/-- a chain used as a filter: its result replaces the event data; REJECT makes the filter
    return None; an exception propagates -/
theorem dataedit_filter_spec (env : Env) (ops : List EditOp) (d : Data) :
    ((Filter.dataEdit ops).call env d).ret =
      (match chain env ops d with
       | .ok d' => .mapping d'
       | .error .reject => .other Val.none
       | .error (.raise e) => .raise e) ∧
    stageNext env (.dataEdit ops) d = (match chain env ops d with | .ok d' => some d' | .error _ => none) := by
  constructor
  · rfl
  · simp only [stageNext, Filter.call, dataEditCall]
    cases h : chain env ops d with
    | ok d' => rfl
    | error s => cases s <;> simp [Val.none, Val.truthy, Atom.truthy]

/-- inside any chain, at the point where `func` returns
    `DataEdit.REJECT` the chain stops (the operations after it have no effect), the filter
    returns None and an Event with this filter is not delivered: `send` returns False;
    where it returns `DataEdit.DELETE` exactly that item disappears and the chain goes on -/
theorem modify_reject_delete (env : Env) (pre post : List EditOp) (key : String) (f : Val → ModRes)
    (d dk : Data) (cur : Val) (hpre : chain env pre d = .ok dk) (hcur : dk.get? key = some cur) :
    (f cur = .reject →
      chain env (pre ++ .modify key f :: post) d = .error .reject ∧
      ((Filter.dataEdit (pre ++ .modify key f :: post)).call env d).ret = .other Val.none ∧
      ∀ fs, (runFrom env (.dataEdit (pre ++ .modify key f :: post) :: fs) d).2 = .rejected) ∧
    (f cur = .delete →
      ∃ dk', (∀ k, dk'.get? k = if k = key then none else dk.get? k) ∧
        chain env (pre ++ .modify key f :: post) d = chain env post dk') := by
  have hch : chain env (pre ++ .modify key f :: post) d = chain env (.modify key f :: post) dk := by
    rw [chain_append, hpre]
    rfl
  constructor
  · intro hf
    have h1 : chain env (pre ++ .modify key f :: post) d = .error .reject := by
      simp [hch, chain, EditOp.apply, hcur, hf]
    refine ⟨h1, by simp [Filter.call, dataEditCall, h1], fun fs => ?_⟩
    rw [runFrom]
    simp [Filter.call, dataEditCall, h1, Val.none, Val.truthy, Atom.truthy]
  · intro hf
    refine ⟨dk.erase key, Data.get?_erase dk key, ?_⟩
    simp [hch, chain, EditOp.apply, hcur, hf]

/-- a pipeline that edits, passes and finally delivers; and one vetoed by its second stage -/
example :
    runFilters (fun _ => Val.int 1)
      [.dataEdit [.add [("x", Val.int 3)], .rename "value" "v"], .ifOutput "ctl", Filter.mkEdge { rise := true }]
      [("previous", .undef), ("value", Val.int 1)] = none ∧
    runFilters (fun _ => Val.int 1)
      [.dataEdit [.add [("x", Val.int 3)], .copy "value" "v"], .ifOutput "ctl", Filter.mkEdge { rise := true }]
      [("previous", .undef), ("value", Val.int 1)]
      = some [("previous", .undef), ("value", Val.int 1), ("x", Val.int 3), ("v", Val.int 1)] := by
  decide +kernel

/-- Delta(2) on 0, 1, 2, 3, 4: passes 0, 2, 4 – 3 is compared with 2 (last passed), not with 2.x -/
example :
    callSeq (fun _ => .undef) (Filter.mkDelta (.fin 2))
      ([0, 1, 2, 3, 4].map fun q => [("value", Val.flt q)])
      = [true, false, true, false, true].map (fun b => FRes.other (Val.bool b)) := by
  decide +kernel

/-- a NaN in the middle: Delta(1) on 0, 1.5, NaN, 1.9, +inf, +inf, 2.5 passes 0, 1.5, +inf – the NaN is
    rejected, 1.9 is judged against 1.5 (not against the NaN), the second +inf is rejected (inf − inf is
    NaN) and 2.5 is judged against +inf -/
example :
    callSeq (fun _ => .undef) (Filter.mkDelta (.fin 1))
      ([XNum.fin 0, .fin (3 / 2), .nan, .fin (19 / 10), .pinf, .pinf, .fin (5 / 2)].map
        fun x => [("value", x.toVal)])
      = [true, true, false, false, true, false, true].map (fun b => FRes.other (Val.bool b)) := by
  decide +kernel

/-- … and a NaN that comes FIRST passes and then nothing passes any more (every difference is NaN) -/
example :
    callSeq (fun _ => .undef) (Filter.mkDelta (.fin 0))
      ([XNum.nan, .fin 5, .nan, .pinf].map fun x => [("value", x.toVal)])
      = [true, false, false, false].map (fun b => FRes.other (Val.bool b)) := by
  decide +kernel

/-- the hypothesis of `delta_spec` is satisfiable (all four kinds of numbers) -/
example : ∀ x : XNum, ∃ v, (Data.get? [("value", x.toVal)] "value") = some v ∧ xnumOf? v = some x := by
  intro x
  refine ⟨x.toVal, by simp [Data.get?_cons], ?_⟩
  cases x <;> first | rfl | decide

/-- the hypotheses of `delta_rejects_nan_and_keeps_last` -/
example : (Val.flt 3).isUndef = false ∧ xnumOf? (Val.flt 3) = some (.fin 3) ∧
    Data.get? [("value", nanVal)] "value" = some nanVal ∧ xnumOf? nanVal = some .nan ∧
    (XNum.fin 3).sub .nan = .nan := by decide +kernel

/-- hypotheses of `modify_reject_delete` -/
example : chain (fun _ => .undef) [.add [("a", Val.int 0)]] [] = .ok [("a", Val.int 0)] ∧
    Data.get? [("a", Val.int 0)] "a" = some (Val.int 0) := ⟨rfl, by decide +kernel⟩

end Edzed.Filters

/-! ### tie to the source by translation (tools/py2lean.py regenerates `Gen.Tr.edgeCall` from `Edge.__call__`) -/
namespace Edzed.TrTie

/-- the model's Edge predicate IS the translated body of `Edge.__call__` -/
theorem translated_edge_is_model (fl : Filters.EdgeFlags) (previous value : Val) :
    Gen.Tr.edgeCall fl.rise fl.fall fl.urise fl.ufall previous value = Filters.edgePass fl previous value := by
  -- both sides are boolean functions of the three tests on the values and the four flags:
  -- compared on all 128 combinations, whatever shape the method's conditions have
  unfold Gen.Tr.edgeCall Filters.edgePass
  rcases fl with ⟨r, f, ur, uf⟩
  simp only []
  generalize previous.isUndef = u
  generalize value.truthy = t
  generalize previous.truthy = p
  revert r f ur uf u t p
  decide

/-! The edit functions that the `DataEdit` operations append to `_editlist`, translated from the source
(`Gen.TrF.edit…`), ARE the model's `EditOp.apply`. -/

open Filters in
theorem translated_edit_add_is_model (env : Filters.Env) (kw d : Data) :
    Gen.TrF.editAdd d kw = (EditOp.add kw).apply env d := rfl

open Filters in
theorem translated_edit_setdefault_is_model (env : Filters.Env) (kw d : Data) :
    Gen.TrF.editSetdefault d kw = (EditOp.setdefault kw).apply env d := rfl

open Filters in
/-- `out` is the output of the source block at the time of the call -/
theorem translated_edit_add_output_is_model (env : Filters.Env) (key src : String) (d : Data) :
    Gen.TrF.editAddOutput d key (env src) = (EditOp.addOutput key src).apply env d := rfl

open Filters in
theorem translated_edit_copy_is_model (env : Filters.Env) (src dst : String) (d : Data) :
    Gen.TrF.editCopy d src dst = (EditOp.copy src dst).apply env d := by
  cases h : d.get? src <;> simp [Gen.TrF.editCopy, EditOp.apply, h]

open Filters in
theorem translated_edit_rename_is_model (env : Filters.Env) (src dst : String) (d : Data) :
    Gen.TrF.editRename d src dst = (EditOp.rename src dst).apply env d := by
  cases h : d.get? src with
  | none => simp [Gen.TrF.editRename, EditOp.apply, h]
  | some v =>
    simp [Gen.TrF.editRename, EditOp.apply, h, Data.has_set_of_has d dst src v (Data.has_of_get?_some h)]

open Filters in
theorem translated_edit_delete_is_model (env : Filters.Env) (keys : List String) (d : Data) :
    Gen.TrF.editDelete d keys = (EditOp.delete keys).apply env d := by
  simp only [Gen.TrF.editDelete, EditOp.apply]
  rw [delete_fold _ (fun _ _ => rfl)]

open Filters in
/-- the user's function is arbitrary (`f`); a KeyError of `del data[key]` cannot occur after the
    successful lookup -/
theorem translated_edit_modify_is_model (env : Filters.Env) (key : String) (f : Val → ModRes) (d : Data) :
    Gen.TrF.editModify d key f = (EditOp.modify key f).apply env d := by
  cases h : d.get? key with
  | none => simp [Gen.TrF.editModify, EditOp.apply, h]
  | some cur =>
    have hh := Data.has_of_get?_some h
    cases hf : f cur <;>
      simp [Gen.TrF.editModify, EditOp.apply, h, hf, Gen.TrF.mrIsReject, Gen.TrF.mrIsDelete, Gen.TrF.mrVal, hh]

open Filters in
/-- a Python dict has unique keys (`Nodup`): the loop over the snapshot `list(data)` then never fails
    and leaves exactly the permitted items -/
theorem translated_edit_permit_is_model (env : Filters.Env) (keys : List String) (d : Data)
    (hd : (d.map (·.1)).Nodup) :
    Gen.TrF.editPermit d keys = (EditOp.permit keys).apply env d := by
  simp only [Gen.TrF.editPermit, EditOp.apply]
  rw [permit_fold _ keys (d.map (·.1)) d hd (Data.has_of_mem_keys d) ?_, permit_filter]
  intro data key h
  cases hc : keys.contains key <;> simp [hc, h]

/-- `not_from_undef` -/
theorem translated_not_from_undef_is_model (d : Data) :
    Gen.Tr.notFromUndef d = Filters.notFromUndefPass d := by
  unfold Gen.Tr.notFromUndef Filters.notFromUndefPass
  cases d.get? "previous" <;> rfl


/-! ### the filter OBJECTS (Gen/TranslatedFilterObjs.lean, tools/py2lean_filters.py) -/

section FilterObjects
open Filters

/-- what `Edge.__init__` stores (`self._rise = bool(rise)` … `self._urise = bool(u_rise) if u_rise is not
    None else self._rise` …), translated from the source for ARBITRARY argument objects, IS the model's
    `EdgeArgs.flags` of their reading: truth values, `u_rise` absent iff it is the object None -/
theorem translated_filters_edge_init_is_model (rise fall uRise uFall : Val) :
    Gen.TrFo.edgeInit rise fall uRise uFall = (c16EdgeArgs rise fall uRise uFall).flags := by
  unfold Gen.TrFo.edgeInit c16EdgeArgs EdgeArgs.flags
  by_cases h : uRise = Val.none <;> simp [h]

theorem translated_filters_edge_init_of_args (a : EdgeArgs) :
    Gen.TrFo.edgeInit (Val.bool a.rise) (Val.bool a.fall) (c16OptBoolVal a.uRise) (Val.bool a.uFall) = a.flags := by
  have hn : ∀ b, Val.bool b ≠ Val.none := fun b => by cases b <;> decide
  rw [translated_filters_edge_init_is_model]
  rcases a with ⟨r, f, ur, uf⟩
  cases ur <;> simp [c16EdgeArgs, c16OptBoolVal, Val.bool_truthy, hn]

/-- the defaults of the constructor's signature ARE the defaults of the model's `EdgeArgs`; hence `Edge()`
    with any subset of its arguments builds the model's filter -/
theorem translated_filters_edge_defaults_is_model :
    Gen.TrFo.edgeInitDefaults = ({} : EdgeArgs) ∧
    ∀ a : EdgeArgs, Filter.edge (Gen.TrFo.edgeInit (Val.bool a.rise) (Val.bool a.fall) (c16OptBoolVal a.uRise)
      (Val.bool a.uFall)) = Filter.mkEdge a := by
  refine ⟨rfl, fun a => ?_⟩
  rw [translated_filters_edge_init_of_args]; rfl

/-- `Delta.__init__`: the new object remembers `delta` and has not passed anything yet (`_last = UNDEF`):
    it IS the model's fresh Delta filter -/
theorem translated_filters_delta_init_is_model (δ : XNum) :
    Gen.TrFo.deltaInit δ = (δ, Val.undef) ∧
    Filter.delta (Gen.TrFo.deltaInit δ).1 (Gen.TrFo.deltaInit δ).2 = Filter.mkDelta δ := ⟨rfl, rfl⟩

/-- the operation methods of `DataEdit` and its constructor: each appends exactly one edit function (checked by
    the translator) and takes its parameters in the order in which the model's `EditOp` constructors and the
    `translated_edit_…` theorems read them (`copy/rename (src, dst)`, `add_output (key, source)`,
    `modify (key, func)`, `*args` / `**kwargs` for the rest) -/
theorem translated_filters_op_signatures :
    Gen.TrFo.dataEditOpSignatures =
      [("__init__", []), ("add", ["**kwargs"]), ("add_output", ["key", "source"]), ("copy", ["src", "dst"]),
       ("delete", ["*args"]), ("modify", ["key", "func"]), ("permit", ["*args"]), ("rename", ["src", "dst"]),
       ("setdefault", ["**kwargs"])] ∧
    Gen.TrFo.dataEditOpSignatures.map (·.1) = "__init__" :: Gen.dataEditOps :=
  ⟨rfl, rfl⟩

set_option linter.unusedSimpArgs false in
/-- `Delta.__call__`, translated from the source (the item lookup, `self._last is UNDEF or
    abs(self._last - value) >= self._delta`, the assignment of `_last` only when the value passes, the
    TypeError of a non-number), IS the model's `deltaCall`: the same remembered value and the same result –
    over numbers that include +inf, −inf and NaN, where `abs(…) >= delta` and `not (abs(…) < delta)` are
    different tests (a rewrite into the early-return form with `<` lets a NaN pass and is NOT this model) -/
theorem translated_filters_delta_call_is_model (δ : XNum) (last : Val) (d : Data) :
    Gen.TrFo.deltaCall δ last d = Filters.deltaCall δ last d := by
  unfold Gen.TrFo.deltaCall Filters.deltaCall
  cases d.get? "value" with
  | none => rfl
  | some v =>
    cases hu : last.isUndef
    · simp only [Bool.false_eq_true, Bool.not_false, Bool.not_true, if_true, if_false]
      -- both conversions are decided before anything is compared: the program converts the operands of `-` in the
      -- order in which the source writes them, the model `last` first
      rcases xnumOf? last with _ | l <;> rcases xnumOf? v with _ | q
      · rfl
      · rfl
      · rfl
      -- the symmetry is not needed for `abs(last - value)`; it is there for a source that writes
      -- `abs(value - last)` (hence the linter option)
      · by_cases hc : XNum.le δ (XNum.abs (l.sub q)) = true <;> simp [hc, c16_xabs_sub_comm q l]
    · rfl

/-- … and therefore the model's Delta filter object steps exactly like the translated method -/
theorem translated_filters_delta_filter_is_model (env : Env) (δ : XNum) (last : Val) (d : Data) :
    ((Filter.delta δ last).call env d).filter = .delta δ (Gen.TrFo.deltaCall δ last d).1 ∧
    ((Filter.delta δ last).call env d).ret = (Gen.TrFo.deltaCall δ last d).2 ∧
    ((Filter.delta δ last).call env d).data = d := by
  rw [translated_filters_delta_call_is_model]; exact ⟨rfl, rfl, rfl⟩

/-- `IfOutput.__call__` (`data if self._ctrl_blk.output else None`) -/
theorem translated_filters_if_output_is_model (env : Env) (ctrl : String) (d : Data) :
    Gen.TrFo.ifOutputCall (env ctrl) d = ((Filter.ifOutput ctrl).call env d).ret := rfl

/-- `IfNotIitialized.__call__` (`None if self._ctrl_blk.is_initialized() else data`) with the translated
    `SBlock.is_initialized` (`self._output is not UNDEF`) -/
theorem translated_filters_if_not_initialized_is_model (env : Env) (ctrl : String) (d : Data) :
    Gen.TrFo.ifNotInitCall (Gen.TrFo.isInitialized (env ctrl)) d = ((Filter.ifNotInitialized ctrl).call env d).ret ∧
    Gen.TrFo.isInitialized (env ctrl) = env.initialized ctrl := ⟨rfl, rfl⟩

/-- the loop of `DataEdit.__call__` (`for func in self._editlist: data = func(data); if not isinstance(data,
    MutableMapping): break` … `return data`), translated as structural recursion over the edit list, IS the
    model's `chain`: the first result that is not a mapping (None = REJECT) or the first exception ends it and
    is what the call returns -/
theorem translated_filters_dataedit_loop_is_chain (env : Env) (ops : List EditOp) (d : Data) :
    Gen.TrFo.dataEditCall (c16ApplyEdit env) ops d = Gen.TrFo.editResult (chain env ops d) := by
  unfold Gen.TrFo.dataEditCall
  induction ops generalizing d with
  | nil => rfl
  | cons op ops ih =>
    rw [Gen.TrFo.dataEditCall_for1, chain]
    unfold c16ApplyEdit
    cases h : op.apply env d with
    | ok d' => simp only [Gen.TrFo.editResult]; exact ih d'
    | error s => cases s <;> rfl

/-- `DataEdit.__call__` as translated IS the result of the model's DataEdit filter -/
theorem translated_filters_dataedit_call_is_model (env : Env) (ops : List EditOp) (d : Data) :
    Gen.TrFo.dataEditCall (c16ApplyEdit env) ops d = ((Filter.dataEdit ops).call env d).ret := by
  rw [translated_filters_dataedit_loop_is_chain]
  exact (c16_dataEditCall_eq env ops d).symm

/-- the edit function called by the loop is, operation by operation, the translated edit function
    (`Gen.TrF.edit…`, theorems `translated_edit_…_is_model` above): the path `DataEdit.__call__` → edit
    function is translated code -/
theorem translated_filters_apply_edit_is_translated (env : Env) (d : Data) :
    (∀ kw, c16ApplyEdit env (.add kw) d = Gen.TrFo.editResult (Gen.TrF.editAdd d kw)) ∧
    (∀ kw, c16ApplyEdit env (.setdefault kw) d = Gen.TrFo.editResult (Gen.TrF.editSetdefault d kw)) ∧
    (∀ k b, c16ApplyEdit env (.addOutput k b) d = Gen.TrFo.editResult (Gen.TrF.editAddOutput d k (env b))) ∧
    (∀ a b, c16ApplyEdit env (.copy a b) d = Gen.TrFo.editResult (Gen.TrF.editCopy d a b)) ∧
    (∀ a b, c16ApplyEdit env (.rename a b) d = Gen.TrFo.editResult (Gen.TrF.editRename d a b)) ∧
    (∀ ks, c16ApplyEdit env (.delete ks) d = Gen.TrFo.editResult (Gen.TrF.editDelete d ks)) ∧
    (∀ k f, c16ApplyEdit env (.modify k f) d = Gen.TrFo.editResult (Gen.TrF.editModify d k f)) ∧
    (∀ ks, (d.map (·.1)).Nodup →
      c16ApplyEdit env (.permit ks) d = Gen.TrFo.editResult (Gen.TrF.editPermit d ks)) := by
  unfold c16ApplyEdit
  refine ⟨fun kw => ?_, fun kw => ?_, fun k b => ?_, fun a b => ?_, fun a b => ?_, fun ks => ?_,
    fun k f => ?_, fun ks h => ?_⟩
  · rw [translated_edit_add_is_model env]
  · rw [translated_edit_setdefault_is_model env]
  · rw [translated_edit_add_output_is_model env]
  · rw [translated_edit_copy_is_model env]
  · rw [translated_edit_rename_is_model env]
  · rw [translated_edit_delete_is_model env]
  · rw [translated_edit_modify_is_model env]
  · rw [translated_edit_permit_is_model env ks d h]

/-- the bundled filters never modify the dict in place: the first conjunct of `PlainFilter` (the second, no exception,
    does not hold for all of them) -/
theorem translated_filters_bundled_keep_dict (env : Env) (f : Filter) (d : Data)
    (hf : ∀ g, f ≠ .user g) : (f.call env d).data = d := by
  cases f with
  | user g => exact absurd rfl (hf g)
  | _ => rfl

/-- **the filter loop of `Event.send` as translated from the current source (C11's `Gen.TrD.send_for1`),
    with its leaves read through THIS model's `Filter.call`, IS the model's `runFrom`** – for filters that
    return (no exception) and leave the dict alone, which is how the translated loop treats `efilter(data)` -/
theorem translated_filters_send_loop_is_runFrom (env : Env) (src : String) (fs : List Filter)
    (hp : ∀ f ∈ fs, PlainFilter env f) (d : Data) (s : List Data) :
    Gen.TrD.send_for1 (c16SendPrims env src) fs d s = (s, c16LoopOut (runFrom env fs d).2) := by
  induction fs generalizing d with
  | nil => rfl
  | cons f fs ih =>
    have hf := hp f (by simp)
    have ih' := fun d => ih (fun g hg => hp g (by simp [hg])) d
    rw [Gen.TrD.send_for1, runFrom]
    have happ : (c16SendPrims env src).applyFilter f d = Gen.TrD.M.pure (f.call env d).ret := rfl
    have hpb : ∀ {α β : Type} (a : α) (k : α → Gen.TrD.M (List Data) Err Bool β),
        Gen.TrD.M.bind (Gen.TrD.M.pure a) k = k a := fun _ _ => rfl
    rw [happ, hpb]
    cases hr : (f.call env d).ret with
    | mapping m => exact ih' m
    | other v =>
      by_cases hv : v.truthy = true
      · simp only [c16SendPrims, hv, Bool.false_eq_true, if_false, if_true, Bool.not_true]
        rw [(hf d).1]
        exact ih' d
      · have hv' : v.truthy = false := by simpa using hv
        simp [c16SendPrims, hv', Gen.TrD.M.ret, c16LoopOut]
    | badKey => rfl
    | raise e => exact absurd hr ((hf d).2 e)

/-- … and the whole translated `Event.send`: the destination receives the delivered data exactly once and
    `send` returns True, or nothing and False, as the model's `send` says -/
theorem translated_filters_send_is_model (env : Env) (src : String) (fs : List Filter)
    (hp : ∀ f ∈ fs, PlainFilter env f) (d : Data) :
    Gen.TrD.send (c16SendPrims env src) d fs [] =
      (match (Filters.send env fs src d).2 with
       | .delivered d' => ([d'], .ret true)
       | .rejected => ([], .ret false)
       | .error e => ([], .raise e)) := by
  unfold Gen.TrD.send Filters.send
  have h1 : (c16SendPrims env src).sameCircuit = true := rfl
  have h2 : (c16SendPrims env src).setSource d = d.set "source" (Val.str src) := rfl
  simp only [h1, h2, Bool.not_true, Bool.false_eq_true, if_false, Gen.TrD.M.bind,
    translated_filters_send_loop_is_runFrom env src fs hp]
  cases (runFrom env fs (d.set "source" (Val.str src))).2 with
  | delivered d' => simp [c16LoopOut, c16SendPrims, Gen.TrD.M.ret]
  | rejected => rfl
  | error e => rfl

/-- `_dualmethod.__get__` as translated, with `cls()` = the empty DataEdit object and the bound operation
    = "append the one edit function and return the object" (checked by `dataEditOpSignatures`), IS the
    model's `dataEditOp` -/
theorem translated_filters_dualmethod_is_model (inst : Option (List EditOp)) (op : EditOp) :
    Gen.TrFo.dualGet dataEditNew (fun obj => obj ++ [op]) inst = dataEditOp inst op := by
  cases inst <;> rfl

/-- called on the CLASS (`instance is None`) the operation runs on a fresh object made by `cls()`;
    called on an INSTANCE it runs on THAT instance (no new object) -/
theorem translated_filters_dualmethod_class_or_instance {ι μ : Type} (newInstance : ι) (bind : ι → μ) :
    Gen.TrFo.dualGet newInstance bind none = bind newInstance ∧
    ∀ obj, Gen.TrFo.dualGet newInstance bind (some obj) = bind obj := ⟨rfl, fun _ => rfl⟩

/-- hence `DataEdit.a(…).b(…).c(…)` – the first operation on the class, the others on the object it
    returned – is ONE object whose edit list is `[a, b, c]` in call order -/
theorem translated_filters_chained_operations_build_the_edit_list (op : EditOp) (ops : List EditOp) :
    (op :: ops).foldl (fun acc o => some (Gen.TrFo.dualGet dataEditNew (fun obj => obj ++ [o]) acc)) none
      = some (op :: ops) := by
  have h : ∀ (l : List EditOp) (rest : List EditOp),
      rest.foldl (fun acc o => some (Gen.TrFo.dualGet dataEditNew (fun obj => obj ++ [o]) acc)) (some l)
        = some (l ++ rest) := by
    intro l rest
    induction rest generalizing l with
    | nil => simp
    | cons o rest ih =>
      rw [List.foldl_cons]
      have : Gen.TrFo.dualGet dataEditNew (fun obj => obj ++ [o]) (some l) = l ++ [o] := rfl
      rw [this, ih]; simp
  rw [List.foldl_cons]
  have : Gen.TrFo.dualGet dataEditNew (fun obj => obj ++ [op]) none = [op] := rfl
  rw [this, h]; rfl

/-- the markers `DataEdit.DELETE` / `DataEdit.REJECT` are two separate fresh objects (`object()`): identical
    to nothing a function can otherwise return and not to each other – the model's `ModRes.delete` /
    `ModRes.reject` next to `ModRes.value v` -/
theorem translated_filters_sentinels :
    Gen.TrFo.dataEditSentinels = [("DELETE", "object()"), ("REJECT", "object()")] := rfl

/-- `IfOutput.__init__` stores the reference in `_ctrl_blk` and registers that attribute with the circuit's
    resolver without a type requirement beyond the resolver's default (any `Block`) -/
theorem translated_filters_if_output_init_is_model :
    Gen.TrFo.ifOutputInit = ifOutputRef ∧ Gen.TrFo.resolverDefaultBlockType = .block := ⟨rfl, rfl⟩

/-- `IfNotIitialized.__init__` registers the reference with `block_type=block.SBlock` -/
theorem translated_filters_if_not_initialized_init_is_model :
    Gen.TrFo.ifNotInitInit = ifNotInitializedRef := rfl

/-- consequences stated outright: a combinational block is refused as the control block of
    `IfNotIitialized` (TypeError), a sequential one accepted; `IfOutput` takes every block -/
theorem translated_filters_control_block_type_requirement (ctrl : String) :
    Gen.TrFo.ifNotInitInit.blockType.admits .cblock = false ∧
    Gen.TrFo.ifNotInitInit.blockType.admits .sblock = true ∧
    (∀ k, Gen.TrFo.ifOutputInit.blockType.admits k = true) ∧
    Filter.mkIfNotInitialized .cblock ctrl = .error .typeError ∧
    Filter.mkIfNotInitialized .sblock ctrl = .ok (.ifNotInitialized ctrl) ∧
    (∀ k, Filter.mkIfOutput k ctrl = .ok (.ifOutput ctrl)) := by
  refine ⟨rfl, rfl, fun k => by cases k <;> rfl, rfl, rfl, fun k => by cases k <;> rfl⟩

/-- the attribute that is assigned, the attribute that is registered and the attribute `__call__` asserts
    on (and reads: `self._ctrl_blk.output` / `.is_initialized()` in the translated calls) are the same, and
    `__call__` asserts exactly the registered block type -/
theorem translated_filters_control_refs_consistent :
    Gen.TrFo.ifOutputInit.stored = Gen.TrFo.ifOutputInit.registered ∧
    Gen.TrFo.ifOutputAsserts = some (Gen.TrFo.ifOutputInit.registered, Gen.TrFo.ifOutputInit.blockType) ∧
    Gen.TrFo.ifNotInitInit.stored = Gen.TrFo.ifNotInitInit.registered ∧
    Gen.TrFo.ifNotInitAsserts = some (Gen.TrFo.ifNotInitInit.registered, Gen.TrFo.ifNotInitInit.blockType) :=
  ⟨rfl, rfl, rfl, rfl⟩

/-- non-vacuity: a pipeline of plain filters -/
example : ∀ f ∈ [Filters.Filter.notFromUndef, .ifOutput "c", .dataEdit [.add [("a", Val.int 1)]]],
    PlainFilter (fun _ => Val.int 1) f := by
  intro f hf d
  simp only [List.mem_cons, List.mem_nil_iff, or_false] at hf
  rcases hf with h | h | h <;> subst h
  · exact ⟨rfl, fun e h => by simp [Filters.Filter.call] at h⟩
  · refine ⟨rfl, fun e h => ?_⟩
    simp only [Filters.Filter.call] at h
    split at h <;> cases h
  · refine ⟨rfl, fun e h => ?_⟩
    simp [Filters.Filter.call, Filters.dataEditCall, Filters.chain, Filters.EditOp.apply] at h

end FilterObjects

end Edzed.TrTie
