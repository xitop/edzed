/-
C05 — after start-up every block has a valid output, taken from the documented sources.

Model: EdzedModel/Init.lean (`exec` = the synchronous call tree of `init_sblock` / `SBlock.event` /
`set_output`, `phase0 … firstPass` = the phases of `run_forever`, `runTasks`/`schedule` = `_run_tasks`,
`waitInit` = `wait_init` with its `_error` test, patches/C05-wait-init-after-failure.diff).
The statements hold for every configuration `c` (any number of blocks, any scripts, any on_output topology incl.
cycles, any completion times, any recursion budget), except the two closure theorems with both directions
(`initialised_iff_closure_sync_partial`, `order_independent_success_sync_partial`), which assume `Hyp`, no
asynchronous routine and a recursion budget that was not exhausted.  The ties of the translated start-up code are
in the namespace `TrTie`.
-/
import EdzedModel.Init
import EdzedProofs.Init
import EdzedProofs.InitOrder
import EdzedProofs.InitAsyncOrder
import EdzedProofs.InitClosure
import EdzedProofs.InitTie
import EdzedProofs.InitSbTie
import EdzedProofs.InitSbEarly
import EdzedProofs.AsyncInitTie

namespace Edzed.Init

/-- `wait_init()` returned normally ⇒ every block's output differs from UNDEF -- the sequential blocks AND
    the combinational blocks (every one of them has been evaluated in the first pass) --, the simulation is
    running (`is_ready()`), and the first evaluation pass has been done without a failure -/
theorem wait_init_ok_implies_valid (c : Cfg) (v : View) (hv : v.of (run c))
    (h : waitInit v = .returned) :
    (∀ b, b < c.n → (run c).out b ≠ .undef) ∧
    ((run c).cout.length = c.cblocks.length ∧ ∀ o ∈ (run c).cout, o ≠ .undef) ∧
    (run c).running = true ∧ (run c).firstPassDone = true ∧ c.cblocks.any CScript.fails = false := by
  have hnf : (run c).failed = false := by rw [← hv.2.1]; exact not_error_of_returned h
  have hok : (run c).ok = true := by
    rw [failed_eq_not_ok] at hnf; simpa using hnf
  obtain ⟨_, hall, hcb⟩ := (run_ok_iff c).mp hok
  refine ⟨?_, ?_, by simp [St.running, hnf], ?_, hcb⟩
  · rw [run_of_ok c hok]; exact (allInitialised_iff c _).mp hall
  · rw [run_of_ok c hok]
    refine ⟨List.length_map _, fun o ho hu => ?_⟩
    obtain ⟨x, hx, rfl⟩ := List.mem_map.mp ho
    -- a script that does not fail returns a value other than UNDEF
    have hf : x.fails = false := by simpa using List.any_eq_false.mp hcb x hx
    cases x with
    | raises => cases hf
    | returns w => simp only [CScript.value] at hu; rw [hu] at hf; cases hf
  · rw [run_of_ok c hok]

example : ∃ c v, View.of (run c) v ∧ waitInit v = .returned :=
  ⟨{ n := 1, blk := fun _ => { initdef := some (Val.int 1, .direct) }, fuel := 8 },
   ⟨true, false, false⟩, by unfold View.of; decide +kernel, by decide +kernel⟩

/-- if a block is still uninitialised after the last phase, or the very first evaluation fails, or the
    initialisation failed earlier, or a recursive event was refused at any moment of the initialisation
    (even if the exception was swallowed, e.g. by `init_from_persistent_data`), then the simulation is not
    running and a released `wait_init()` raises -/
theorem failed_init_raises (c : Cfg) (v : View) (hv : v.of (run c)) (hw : waitInit v ≠ .waiting)
    (h : allInitialised c (syncPhase c (afterAsync c)) = false ∨ c.cblocks.any CScript.fails = true ∨
         (afterCheck c).failed = true ∨ (∃ d, Entry.refused d ∈ (run c).log)) :
    waitInit v = .raised ∧ (run c).running = false := by
  have hf : (run c).failed = true := by
    rw [failed_eq_not_ok]
    cases hok : (run c).ok with
    | false => rfl
    | true =>
      obtain ⟨fok, hall, hcb⟩ := (run_ok_iff c).mp hok
      rcases h with h | h | h | h
      · rw [hall] at h; cases h
      · rw [hcb] at h; cases h
      · rw [failed_eq_not_ok, show (afterCheck c).ok = true from (check_ok_iff c _).mpr ⟨fok, hall⟩] at h
        cases h
      · rw [not_ok_of_aborted ((run_inv c).rf h)] at hok; cases hok
  exact ⟨waitInit_raised (by rw [hv.2.1, hf]) hw, by simp [St.running, hf]⟩

/-- a refused recursive event sets the error register at once, whoever catches the exception
    (patches/C11-refused-recursion-aborts.diff) -/
theorem refused_recursion_sets_error (c : Cfg) (d : Nat) (h : Entry.refused d ∈ (run c).log) :
    (run c).aborted = true ∧ (run c).running = false := by
  have ha := (run_inv c).rf ⟨d, h⟩
  exact ⟨ha, by simp [St.running, St.failed, ha]⟩

/-- a refusal that is swallowed: the restore of block 1 (via its own event) starts an
    event loop 1 → 0 → 2 → 1 inside `init_from_persistent_data`; the start-up fails -/
example : ∃ c, Entry.refused 1 ∈ (run c).log ∧ (run c).failed = true ∧ (run c).errorKind = some "CircuitError" :=
  ⟨{ n := 3, blk := fun i =>
      if i = 0 then { dests := [2] }
      else if i = 1 then { persist := .restores (Val.int 13) .viaEvent, dests := [0] }
      else { persist := .restores (Val.int 12) .direct, dests := [1] },
     fuel := 64 }, by decide +kernel, by decide +kernel, by decide +kernel⟩

example : ∃ c, c.cblocks.any CScript.fails = true ∧ (run c).initDone = true ∧ (run c).failed = true :=
  ⟨{ n := 1, blk := fun _ => { initdef := some (Val.int 1, .direct) }, cblocks := [.raises], fuel := 8 },
   by decide +kernel, by decide +kernel, by decide +kernel⟩

/-- a combinational block whose function returns UNDEF in the first pass makes the start-up fail
    (`eval_block` tests for UNDEF before its `previous == value` fast path) -/
theorem undef_in_first_pass_fails (c : Cfg) (h : CScript.returns .undef ∈ c.cblocks) :
    (run c).running = false := by
  have hany : c.cblocks.any CScript.fails = true := List.any_eq_true.mpr ⟨_, h, rfl⟩
  cases hok : (run c).ok with
  | false => simp [St.running, failed_eq_not_ok, hok]
  | true => rw [((run_ok_iff c).mp hok).2.2] at hany; cases hany

example : ∃ c, CScript.returns .undef ∈ c.cblocks ∧ (run c).initDone = true ∧ (run c).failed = true :=
  ⟨{ n := 1, blk := fun _ => { initdef := some (Val.int 1, .direct) },
     cblocks := [.returns (Val.int 3), .returns .undef], fuel := 8 }, by decide +kernel, by decide +kernel, by decide +kernel⟩

/-- defect #2 of DESIGN.md section 5, as a fact about the code BEFORE the repair: there is a start-up whose
    first evaluation pass fails and a moment (the clean-up is still running) at which the unrepaired
    `wait_init` returns normally -/
theorem legacy_wait_init_returns_after_failed_first_pass :
    ∃ c v, View.of (run c) v ∧ (run c).failed = true ∧ waitInitLegacy v = .returned ∧
      waitInit v = .raised :=
  ⟨{ n := 1, blk := fun _ => { initdef := some (Val.int 1, .direct) }, cblocks := [.raises], fuel := 8 },
   ⟨true, false, true⟩, by unfold View.of; decide +kernel, by decide +kernel, by decide +kernel, by decide +kernel⟩

/-- Per block the calls of `_restore_state` (P), `init_async` (A), `init_regular` (R) and
    `init_from_value(initdef)` (D) form a sublist of [P, A, R, D] -- each at most once, in the documented order.
    The one exception, exactly as the code behaves: a block whose step 2 had already been begun when
    `_init_sblocks_async` collected its tasks (`init_steps_completed` 2 or -2 after `_init_sblocks_sync_1`; only an
    incoming event, which runs the pending synchronous steps first, does that) and which was still
    uninitialised gets its `init_async` afterwards: its calls form a sublist of [P, R, D, A], and no synchronous
    routine follows.  Holds for every topology and whatever events arrive during the initialisation. -/
theorem source_order (c : Cfg) (b : Nat) :
    (proj4 b (run c).log).Sublist [.P, .A, .R, .D] ∨
    ((proj4 b (run c).log).Sublist [.P, .R, .D, .A] ∧
      ((afterSync1 c).steps b = 2 ∨ (afterSync1 c).steps b = -2)) := by
  -- the log: what the synchronous pieces wrote before and after the tasks were created
  have w := growWalk c (fun _ => True) (fun _ _ => trivial) (fun _ _ _ _ => trivial)
  obtain ⟨g1, g2⟩ := w.run (w.exec (Grow.initBody w) c.fuel)
  obtain ⟨e0, he0, hn0, _⟩ := g1.ext
  obtain ⟨e1, he1, hn1, _⟩ := g2.ext
  have hlog1 : (afterSync1 c).log = e0 := by simpa [init] using he0
  have hlog : (run c).log = e0 ++ asyncEntries c (afterSync1 c) ++ e1 := by
    rw [he1, started, hlog1]
  obtain ⟨n, hpa4, hn⟩ := proj4_asyncEntries c (afterSync1 c) b
  have hp3 : proj b (run c).log = proj b e0 ++ proj b e1 := by
    rw [hlog, proj_append, proj_append, proj_asyncEntries, List.append_nil]
  have hp4 : proj4 b (run c).log = (proj b e0).map embed ++ List.replicate n .A ++ (proj b e1).map embed := by
    rw [hlog]
    simp only [proj4, List.filterMap_append] at hpa4 ⊢
    rw [hpa4]
    have a0 := proj4_noasync b e0 (fun x hx => (hn0 x hx).2)
    have a1 := proj4_noasync b e1 (fun x hx => (hn1 x hx).2)
    simp only [proj4] at a0 a1
    rw [a0, a1]
  have hfin := shape_sublist _ _ (run_fits c b)
  rw [hp3] at hfin
  rcases hn with rfl | ⟨rfl, hok, hmem⟩
  · -- no init_async for this block
    left
    rw [hp4]
    simpa using sublist_prd_embed _ hfin
  · -- init_async was started
    have hm := (move_pieces c b).2
    have hp2 : proj b (started c (afterSync1 c)).log = proj b e0 := by
      rw [started, proj_append, proj_asyncEntries, List.append_nil, hlog1]
    have hnz : (afterSync1 c).steps b ≠ 0 :=
      syncPhase_ne_zero c (phase0 c init) hok b ((mem_eligible c _ b).mp hmem).1
    have hJ1 := (move_pieces c b).1.shape (init_fits b)
    rw [hlog1] at hJ1
    rw [hp4]
    rcases hJ1 with ⟨hk, _⟩ | ⟨hk, hl⟩ | ⟨hk, hl⟩
    · exact absurd hk hnz
    · -- step 1 done, step 2 not yet begun: the restore comes before, the rest after
      left
      have hcp := hm.count_P hnz
      rw [hp3, hp2, List.count_append] at hcp
      exact order_before _ _ hl (by omega) hfin
    · -- step 2 had been begun by an event: nothing synchronous happens any more
      right
      have hkk := (hm.keep (s := started c (afterSync1 c)) (by show (afterSync1 c).steps b ≠ 0; omega)
        (by show (afterSync1 c).steps b ≠ 1; omega)).2
      rw [hp3, hp2] at hkk
      have hl2e : proj b e1 = [] := by simpa using hkk
      rw [hl2e]
      have hsub : (proj b e0).Sublist [.P, .R, .D] := by
        have := hfin; rw [hl2e] at this; simpa using this
      rw [List.map_nil, List.append_nil]
      exact ⟨order_after _ hsub, by omega⟩

/-- every initialisation routine -- `init_async` included -- runs at most once per block -/
theorem routine_at_most_once (c : Cfg) (b : Nat) (k : SK4) :
    (proj4 b (run c).log).count k ≤ 1 := by
  -- a sublist of a list without repetitions
  rcases source_order c b with h | ⟨h, _⟩
  · exact Nat.le_trans (h.count_le k) (List.nodup_iff_count.mp (by decide) k)
  · exact Nat.le_trans (h.count_le k) (List.nodup_iff_count.mp (by decide) k)

/-- the synchronous routines alone: restore, init_regular, initdef in this order, each at most once -/
theorem sync_source_order (c : Cfg) (b : Nat) :
    (proj b (run c).log).Sublist [.P, .R, .D] :=
  shape_sublist _ _ (run_fits c b)

/-- the documented order occurs: a plain block with all four sources -/
example : ∃ c, proj4 0 (run c).log = [.P, .A, .R, .D] :=
  ⟨{ n := 1, blk := fun _ => { persist := .raises, async := .fails 5, timeout := 10,
                               initdef := some (Val.int 1, .direct) }, fuel := 16 }, by decide +kernel⟩

/-- ... and so does the other one: a block that an event reached during `_init_sblocks_sync_1` while its
    `init_regular` raises (swallowed by the sender's restore) -/
example : ∃ c, proj4 1 (run c).log = [.R, .A] ∧ (afterSync1 c).steps 1 = -2 :=
  ⟨{ n := 2, blk := fun i =>
      if i = 0 then { persist := .restores (Val.int 1) .direct, dests := [1] }
      else { regular := .raises, async := .returns (Val.int 9) 5, timeout := 10 },
     fuel := 32 }, by decide +kernel, by decide +kernel⟩

/-- the steps reached and the calls made go together: a block that completed both steps has called
    `init_regular` exactly once -/
theorem completed_steps_called_regular (c : Cfg) (b : Nat) (h : (run c).steps b = 2) :
    (proj b (run c).log).count .R = 1 := by
  have := run_fits c b
  rw [h, shape2] at this
  rcases this with e | e | e | e <;> rw [e] <;> decide

example : ∃ c, proj 0 (run c).log = [.P, .R, .D] :=
  ⟨{ n := 1, blk := fun _ => { persist := .raises, initdef := some (Val.int 1, .viaEvent), dests := [0] },
     fuel := 16 }, by decide +kernel⟩

/-! ### InitAsync: the initdef is used iff the coroutine did not deliver -- whatever the initdef's truth value

`Regular.quietNone` is `InitAsync.init_regular`; the block is uninitialised at step 2 iff `init_async` has not
set the output (failed, timed out, cancelled).  The three theorems describe step 2 of `init_sblock` completely. -/

/-- not delivered, an initdef was given (ANY value `v`: 0, False, '' and None included): the output None is NOT
    set, `init_from_value(initdef)` is called -/
theorem initasync_initdef_used_if_not_delivered (c : Cfg) (rec : Call → St → St) (b : Nat) (s : St) (v : Val)
    (how : How) (hq : (c.blk b).regular = .quietNone) (hd : (c.blk b).initdef = some (v, how))
    (hok : s.ok = true) (hu : (s.out b).isUndef = true) :
    step2 c rec b s =
      (if !(rec (applyCall how b v) (((s.setSteps b (-2)).push (.regular b)).push (.initdef b true))).ok
       then rec (applyCall how b v) (((s.setSteps b (-2)).push (.regular b)).push (.initdef b true))
       else (rec (applyCall how b v)
         (((s.setSteps b (-2)).push (.regular b)).push (.initdef b true))).setSteps b 2) := by
  unfold step2
  rw [regularBody_quietNone c rec b _ hq]
  have hn : (c.blk b).initdef.isNone = false := by rw [hd]; rfl
  simp only [hn, Bool.false_eq_true, and_false, if_false, push_ok, setSteps_ok, hok, Bool.not_true]
  unfold initdefBody
  simp [hd, hu]

/-- delivered: neither None nor the initdef is applied -/
theorem initasync_initdef_unused_if_delivered (c : Cfg) (rec : Call → St → St) (b : Nat) (s : St)
    (hq : (c.blk b).regular = .quietNone) (hok : s.ok = true) (hu : (s.out b).isUndef = false) :
    step2 c rec b s = ((s.setSteps b (-2)).push (.regular b)).setSteps b 2 := by
  unfold step2
  rw [regularBody_quietNone c rec b _ hq]
  simp only [push_out, setSteps_out, hu, Bool.false_eq_true, false_and, if_false, push_ok, setSteps_ok, hok,
    Bool.not_true]
  unfold initdefBody
  cases hd : (c.blk b).initdef with
  | none => simp [hok]
  | some p => obtain ⟨v, h⟩ := p; simp [hu, hok]

/-- the output None without output events is set only when NO initdef was given -/
theorem initasync_none_only_without_initdef (c : Cfg) (rec : Call → St → St) (b : Nat) (s : St)
    (hq : (c.blk b).regular = .quietNone) (hd : (c.blk b).initdef = Option.none)
    (hok : s.ok = true) (hu : (s.out b).isUndef = true) :
    step2 c rec b s = (((s.setSteps b (-2)).push (.regular b)).setOut b Val.none).setSteps b 2 := by
  unfold step2
  rw [regularBody_quietNone c rec b _ hq]
  have hn : (c.blk b).initdef.isNone = true := by rw [hd]; rfl
  simp only [hn, push_out, setSteps_out, hu, and_self, if_true, setOut_ok, push_ok, setSteps_ok, hok,
    Bool.not_true, Bool.false_eq_true, if_false]
  unfold initdefBody
  simp [hd, hok]

/-- a failing coroutine, the falsy default 0 and a destination that only the event can initialise:
    the default is used and forwarded, start-up succeeds -/
example : ∃ c, (run c).failed = false ∧ (run c).out 0 = Val.int 0 ∧ (run c).out 1 = Val.int 0 ∧
    Entry.initdef 0 true ∈ (run c).log :=
  ⟨{ n := 2, blk := fun i => if i = 0 then { async := .fails 5, timeout := 10, regular := .quietNone,
                                             initdef := some (Val.int 0, .direct), dests := [1] } else {},
     fuel := 32 }, by decide +kernel, by decide +kernel, by decide +kernel, by decide +kernel⟩

namespace TrTie

/-- the model's `quietNone` IS the translated `InitAsync.init_regular` applied to the block's output and initdef
    (guard, the `Block.is_initialized` it calls, and the action list are taken from the current source by
    tools/py2lean_init.py; names are resolved through the MRO / module globals, not by spelling): a changed guard --
    e.g. the truth value of the initdef instead of `is not UNDEF` -- changes the generated definition and this
    theorem stops compiling -/
theorem translated_initasync_regular_is_model (c : Cfg) (rec : Call → St → St) (b : Nat) (a : St)
    (hq : (c.blk b).regular = .quietNone)
    (hv : ∀ v h, (c.blk b).initdef = some (v, h) → v.isUndef = false) :
    regularBody c rec b a =
      applyActs rec b (Edzed.Gen.TrInit.initAsyncRegular (a.out b) (initdefVal (c.blk b))) false a := by
  rw [regularBody_quietNone c rec b a hq]
  unfold Edzed.Gen.TrInit.initAsyncRegular Edzed.Gen.TrInit.isInitialized initdefVal
  cases hd : (c.blk b).initdef with
  | none => cases hu : (a.out b).isUndef <;> simp [applyActs, Val.isUndef]
  | some p =>
    obtain ⟨v, h⟩ := p
    have := hv v h hd
    cases hu : (a.out b).isUndef <;> simp [applyActs, this]

/-! #### `Circuit.init_sblock`, `_init_sblocks_sync_1`, `_init_sblocks_sync_2` (tools/py2lean_initsb.py) -/

open Edzed.Gen.TrD Edzed.Gen.TrI

/-- the program generated from the current source of `Circuit.init_sblock` IS the reference program
    (steps, conditions, order of the routines, the `try` around them): definitionally -/
theorem translated_init_sblock_is_reference {σ ε β : Type} :
    @init_sblock σ ε β = @isbRef σ ε β := rfl

theorem translated_init_sblocks_sync_1_is_reference {σ ε β : Type} (P : InitPrims σ ε β) :
    init_sblocks_sync_1 P = sync1Ref P := by
  have h1 : ∀ l, init_sblocks_sync_1_for1 P l = initLoop P l := by
    intro l; induction l with
    | nil => rfl
    | cons a r ih => simp only [init_sblocks_sync_1_for1, initLoop, ih]
  unfold init_sblocks_sync_1 sync1Ref
  rw [h1]

theorem translated_init_sblocks_sync_2_is_reference {σ ε β : Type} (P : InitPrims σ ε β) (fuel : Nat) :
    init_sblocks_sync_2 P fuel = sync2Ref P fuel := by
  have h1 : ∀ l, init_sblocks_sync_2_for1 P l = initLoop P l := by
    intro l; induction l with
    | nil => rfl
    | cons a r ih => simp only [init_sblocks_sync_2_for1, initLoop, ih]
  have h2 : ∀ l, init_sblocks_sync_2_for2 P l = checkLoop P l := by
    intro l; induction l with
    | nil => rfl
    | cons a r ih => simp only [init_sblocks_sync_2_for2, checkLoop, ih]
  have h3 : ∀ l, init_sblocks_sync_2_for3 P l = saveLoop P l := by
    intro l; induction l with
    | nil => rfl
    | cons a r ih => simp only [init_sblocks_sync_2_for3, saveLoop, ih]
  have h4 : ∀ n, init_sblocks_sync_2_loop4 P n = drainLoop P n := by
    intro n; induction n with
    | zero => rfl
    | succ k ih => simp only [init_sblocks_sync_2_loop4, drainLoop, ih]
  unfold init_sblocks_sync_2 sync2Ref
  simp only [h1, h2, h3, h4]

/-- the translated `init_sblock`, run with the routines of block `b` as operations of the model, IS the model's
    `initBody` -- in every run in which no routine (and nothing it triggers) calls `Circuit.abort()` -/
theorem translated_init_sblock_is_model (c : Cfg) (rec : Call → St → St) (b : Nat) (full : Bool) (s : St)
    (hok : s.ok = true) (hna : (initBody c rec b full s).aborted = false) :
    runM (init_sblock (isbPrims c rec) b full) s = initBody c rec b full s := by
  rw [translated_init_sblock_is_reference, isbRef_code c rec b full s ((ok_iff s).mp hok).1]
  exact (init_agree c rec b full s ((ok_iff s).mp hok).1).1 hna

/-- ... hence it is one step of the model's call tree -/
theorem translated_init_sblock_is_exec (c : Cfg) (fuel : Nat) (b : Nat) (full : Bool) (s : St)
    (hok : s.ok = true) (hna : (exec c (fuel + 1) (.initS b full) s).aborted = false) :
    runM (init_sblock (isbPrims c (exec c fuel)) b full) s = exec c (fuel + 1) (.initS b full) s := by
  rw [exec_initS c fuel b full s hok] at hna ⊢
  exact translated_init_sblock_is_model c (exec c fuel) b full s hok hna

/-- The abort case.  After a routine has called `Circuit.abort()` (through an event handler or a monitored
    task) the Python code goes on -- the remaining routines of the block still run --, the model stops at the
    abort.  Not an equality: both end in a state whose error register is set, i.e. the start-up fails
    (`failed_init_raises`) and nothing the code still did is observed. -/
theorem translated_init_sblock_after_abort_partial (c : Cfg) (rec : Call → St → St)
    (hst : ∀ call s, s.aborted = true → (rec call s).aborted = true) (b : Nat) (full : Bool) (s : St)
    (hok : s.ok = true) (hab : (initBody c rec b full s).aborted = true) :
    (runM (init_sblock (isbPrims c rec) b full) s).aborted = true := by
  rw [translated_init_sblock_is_reference, isbRef_code c rec b full s ((ok_iff s).mp hok).1]
  exact (init_agree c rec b full s ((ok_iff s).mp hok).1).2 hst hab

/-- the hypothesis of the abort case holds for the model's call tree -/
theorem translated_init_sblock_exec_keeps_abort (c : Cfg) (fuel : Nat) :
    ∀ call s, s.aborted = true → (exec c fuel call s).aborted = true := by
  intro call s hs
  rw [exec_not_ok c fuel call s (not_ok_of_aborted hs)]; exact hs

/-- `_init_sblocks_sync_1` translated IS the model's synchronous phase (blocks in creation order,
    `init_sblock(blk, full=False)` = `.initS b false`; it ends at the first exception) -/
theorem translated_init_sblocks_sync_1_is_model (c : Cfg) (s : St) (hs : s.exc = Option.none) :
    runM (init_sblocks_sync_1 (isbPrims c (exec c c.fuel))) s = syncPhase c s := by
  rw [translated_init_sblocks_sync_1_is_reference, runM_eq, sync1Ref, bind_run, andThen_pure_unit]
  exact (congrArg fin (initLoop_lift c _ s hs)).trans (lift_fin _ s)

/-- `_init_sblocks_sync_2` translated IS the second synchronous phase followed by the all-initialised test --
    when nothing has aborted (after an abort the code still runs the test loop, the model has stopped).
    Outside the model, instantiated as absent: the storage, `save_persistent_state`, the queue of changed blocks -/
theorem translated_init_sblocks_sync_2_is_model (c : Cfg) (fuel : Nat) (s : St) (hs : s.exc = Option.none)
    (hna : (syncPhase c s).aborted = false) :
    runM (init_sblocks_sync_2 (isbPrims c (exec c c.fuel)) (fuel + 1)) s = check c (syncPhase c s) := by
  rw [translated_init_sblocks_sync_2_is_reference]
  rw [runM_eq]
  unfold sync2Ref
  have hb : (isbPrims c (exec c c.fuel)).sblocks = List.range c.n := rfl
  have hst : ∀ t, (isbPrims c (exec c c.fuel)).hasStorage t = false := fun _ => rfl
  have hq : ∀ t, (isbPrims c (exec c c.fuel)).queueEmpty t = true := fun _ => rfl
  have hsp : (fun s => (List.range c.n).foldl (fun s b => exec c c.fuel (.initS b false) s) s) = syncPhase c := rfl
  simp only [trd, hb, initLoop_lift c _ s hs, hsp, andThen_lift, checkLoop_model, drainLoop, hst, hq, fin_ite, lift_fin,
    Bool.false_eq_true, if_false, Bool.not_true]
  -- the code tests for an exception, the model for `ok`
  generalize syncPhase c s = a at hna ⊢
  unfold check allInitialised
  cases hx : a.exc with
  | some e => rw [show a.ok = false by simp [St.ok, hx]]; rfl
  | none => rw [(ok_iff a).mpr ⟨hx, hna⟩]; rfl

/-- the early-initialisation call site: the part `if 0 <= init_steps_completed < 2: with _enable_event:
    init_sblock(self, full=True)` of the translated `SBlock.event` (C11's reference program `initPart`), run with
    the C05 primitives, is the early-initialisation step of the model's `eventBody` -/
theorem translated_event_early_init_is_model (rec : Call → St → St) (d : Nat) (s : St)
    (ha : s.active d = true) :
    fin (Edzed.TrTie.initPart (earlyPrims rec d) s) =
      if 0 ≤ s.steps d ∧ s.steps d < 2
      then (rec (.initS d true) (s.setActive d false)).setActive d true
      else s := by
  rw [initPart_earlyPrims, ha]

/-- ... and that part IS in the program generated from the current source of `SBlock.event`: the translated
    `event` is the reference program `eventRef`, whose body starts with `initPart` (the obligation of C11's
    `translated_event_is_reference`; the guard `0 <= init_steps_completed < 2` and the call
    `init_sblock(self, full=True)` belong to the start-up) -/
theorem translated_event_early_init_site_is_reference {σ ε τ δ ν η ρ γ : Type} :
    @Edzed.Gen.TrD.event σ ε τ δ ν η ρ γ = @Edzed.TrTie.eventRef σ ε τ δ ν η ρ γ :=
  Edzed.TrTie.event_eq_eventRef

/-! #### the init waiter (`AddonAsyncInit`), `InitAsync`, `ValuePoll`, constant `init_regular`s, `get_state`,
     `_enable_event` (tools/py2lean_asyncinit.py → Gen/TranslatedAsyncInit.lean, model EdzedModel/AsyncInit.lean)

Each program is a closed term: it is run through the stage equations `interp_act`, `interp_ite`,
`interp_setOutput_last` (EdzedProofs/AsyncInitTie.lean) and the tests it meets are decided by cases. -/

section asyncinit
open Edzed.AsyncInit Edzed.Gen.TrAI

/-- `AddonAsyncInit.__init__ / start / set_output / init_async` translated ARE the model's waiter operations -/
theorem translated_asyncinit_addon_is_model (env : Env) (o : Obj) (v : Val) :
    interp env 8 asyncInit_init o v = .done (aiInit o) Option.none ∧
    interp env 8 asyncInit_start o v = .done (aiStart o) Option.none ∧
    interp env 8 asyncInit_set_output o v = aiSetOutput o v ∧
    interp env 8 asyncInit_init_async o v = aiInitAsync o := by
  refine ⟨rfl, rfl, ?_, ?_⟩
  · unfold aiSetOutput
    refine (interp_act env 7 _ _ o v).trans ((plain_then o v _).trans ?_)
    cases sblockSetOutput o v with
    | error c => rfl
    | ok o1 =>
      -- the record is opened: with `ev` a constructor both sides are literals and `rfl` decides
      rcases o1 with ⟨ev, out, oe, iv, fs, cs, bs, ac, sv, tr⟩
      rcases ev with _ | _ | _ <;> rfl
  · rcases o with ⟨ev, out, oe, iv, fs, cs, bs, ac, sv, tr⟩
    rcases ev with _ | _ | _ <;> rfl

/-- `InitAsync.__init__ / init_async / init_from_value` translated ARE the model's -/
theorem translated_asyncinit_initasync_is_model (env : Env) (o : Obj) (v : Val) (hc : env.asyncInitClass = false) :
    interp env 8 initAsync_init o v = iaInit env o ∧
    interp env 8 initAsync_init_async o v = iaInitAsync env o ∧
    interp env 8 initAsync_init_from_value o v = plainSetOutput o v := by
  refine ⟨?_, ?_, (interp_setOutput_last env 6 _ o v).trans (by rw [hc]; rfl)⟩
  · rcases env with ⟨value, polled, isCoro, coroResult, isSeq, nonEmpty, period, cls⟩
    cases isSeq <;> cases nonEmpty <;> rfl
  · refine (interp_act env 7 _ _ o v).trans ((interp_act env 6 _ _ _ _).trans ?_)
    exact (interp_setOutput_last env 4 _ _ _).trans (by rw [hc]; rfl)

/-- `ValuePoll.__init__ / _maintask (one pass of its loop) / init_from_value` translated ARE the model's -/
theorem translated_asyncinit_valuepoll_is_model (env : Env) (o : Obj) (v : Val) (hc : env.asyncInitClass = true) :
    interp env 8 valuePoll_init o v = vpInit env o ∧
    interp env 12 valuePoll_maintask o v = vpPass env o ∧
    interp env 8 valuePoll_init_from_value o v = aiSetOutput o v := by
  refine ⟨?_, ?_, (interp_setOutput_last env 6 _ o v).trans (by rw [hc]; rfl)⟩
  · unfold vpInit
    refine (interp_act env 7 _ _ o v).trans ((interp_act env 6 _ _ _ _).trans ?_)
    -- after the two stores the source tests the period, in one `if` or several: the interpreter runs on under
    -- what decides the tests (`Except.map` is met when a test is written with `not`)
    cases hp : env.periodOfInterval with
    | none => simp [interp, doAct, evalCond, Except.map, hp]
    | some p => by_cases hle : p ≤ 0 <;> simp [interp, doAct, evalCond, Except.map, hp, hle]
  · unfold vpPass
    -- `set_output` stays folded: program and model are the same function of its outcome
    cases hco : env.polledIsCoro <;> cases hv : env.polled.isUndef <;>
      simp only [valuePoll_maintask, interp, doAct, evalCond, Except.map, argVal, hc, hco, hv, List.append_nil,
        List.nil_append, List.cons_append, if_true, if_false, Bool.not_true, Bool.not_false, Bool.false_eq_true] <;>
      first | rfl | (cases aiSetOutput _ env.polled <;> rfl)

/-- the one-line `init_regular` of ControlBlock / Repeat / OutputAsync / OutputFunc: `set_output` of the constant
    None / 0 / 0 / False (a `Regular.sets` script of the start-up model) -/
theorem translated_asyncinit_const_init_regular_is_model (env : Env) (o : Obj) (v : Val)
    (hc : env.asyncInitClass = false) :
    interp env 8 controlBlock_init_regular o v = plainSetOutput o Val.none ∧
    interp env 8 repeat_init_regular o v = plainSetOutput o (Val.int 0) ∧
    interp env 8 outputAsync_init_regular o v = plainSetOutput o (Val.int 0) ∧
    interp env 8 outputFunc_init_regular o v = plainSetOutput o (Val.bool false) := by
  have h : ∀ w, (if env.asyncInitClass then aiSetOutput o w else plainSetOutput o w) = plainSetOutput o w :=
    fun w => by rw [hc]; rfl
  exact ⟨(interp_setOutput_last env 6 _ o v).trans (h _), (interp_setOutput_last env 6 _ o v).trans (h _),
    (interp_setOutput_last env 6 _ o v).trans (h _), (interp_setOutput_last env 6 _ o v).trans (h _)⟩

/-- the default `SBlock.get_state` and the `_enable_event` context manager -/
theorem translated_asyncinit_get_state_enable_event_is_model (env : Env) (o : Obj) (v : Val) :
    interp env 8 sblock_get_state o v = getState o ∧
    interp env 8 enableEvent_init o v = .done { o with blockStored := true } Option.none ∧
    interp env 8 enableEvent_enter o v = .done (eeEnter o) Option.none ∧
    interp env 8 enableEvent_exit o v = eeExit o := by
  refine ⟨?_, rfl, rfl, ?_⟩
  · unfold getState
    refine (interp_ite env 7 _ _ _ _ o v).trans ?_
    cases hu : o.out.isUndef <;> simp only [evalCond, hu] <;> rfl
  · rcases o with ⟨ev, out, oe, iv, fs, cs, bs, ac, sv, tr⟩
    cases sv <;> rfl

/-- the waiter of a started block is released by the first `set_output` of a value other than UNDEF -- and only
    by that: UNDEF is refused and leaves the waiter (and everything else) alone -/
theorem asyncinit_waiter_released_exactly_on_first_output (o : Obj) (v : Val) (hs : o.ev = some false) :
    (v.isUndef = false →
      (aiSetOutput o v).isDone = true ∧ (aiSetOutput o v).obj.ev = some true ∧
      (aiSetOutput o v).obj.out.pyEq v = true) ∧
    (v.isUndef = true → aiSetOutput o v = .raised "ValueError" o) := by
  constructor
  · intro hv
    cases hq : o.out.pyEq v <;>
      simp [aiSetOutput, sblockSetOutput, hv, hs, hq, Outcome.isDone, Outcome.obj, Val.pyEq_refl v]
  · intro hv; simp [aiSetOutput, sblockSetOutput, hv]

/-- later outputs leave the released waiter as it is (it is never re-armed) -/
theorem asyncinit_waiter_stays_released (o : Obj) (v : Val) (hs : o.ev = some true) (hv : v.isUndef = false) :
    (aiSetOutput o v).isDone = true ∧ (aiSetOutput o v).obj.ev = some true := by
  cases hq : o.out.pyEq v <;> simp [aiSetOutput, sblockSetOutput, hv, hs, hq, Outcome.isDone, Outcome.obj]

/-- `init_async` of the add-on returns iff the waiter has been released; before that it stays suspended -/
theorem asyncinit_init_async_returns_iff_released (o : Obj) :
    ((aiInitAsync o).isDone = true ↔ o.ev = some true) ∧ (o.ev = some false → aiInitAsync o = .blocked o) := by
  constructor
  · cases he : o.ev with
    | none => simp [aiInitAsync, he, Outcome.isDone]
    | some b => cases b <;> simp [aiInitAsync, he, Outcome.isDone]
  · intro h; simp [aiInitAsync, h]

/-- ValuePoll: a poll result UNDEF is skipped (output and waiter untouched); any other result of a started,
    still waiting block becomes its output and releases the waiter, so that `init_async` returns -/
theorem valuepoll_poll_initialises_undef_skipped (env : Env) (o : Obj) (hs : o.ev = some false) :
    (env.polled.isUndef = true →
      (vpPass env o).isAgain = true ∧ (vpPass env o).obj.out = o.out ∧ (vpPass env o).obj.ev = o.ev) ∧
    (env.polled.isUndef = false →
      (vpPass env o).isAgain = true ∧ (vpPass env o).obj.out.pyEq env.polled = true ∧
      (vpPass env o).obj.ev = some true ∧ (aiInitAsync (vpPass env o).obj).isDone = true) := by
  constructor
  · intro hv; simp [vpPass, hv, Outcome.isAgain, Outcome.obj]
  · intro hv
    cases hq : o.out.pyEq env.polled <;>
      simp [vpPass, hv, hq, aiSetOutput, sblockSetOutput, hs, Outcome.isAgain, Outcome.obj, aiInitAsync,
        Outcome.isDone, Val.pyEq_refl env.polled]

/-- ValuePoll's interval must be a positive period, InitAsync's `init_coro` a non-empty sequence -/
theorem valuepoll_interval_must_be_positive (env : Env) (o : Obj) :
    (vpInit env o).isDone = true ↔ ∃ p, env.periodOfInterval = some p ∧ ¬ p ≤ 0 := by
  unfold vpInit
  cases hp : env.periodOfInterval with
  | none => simp [Outcome.isDone]
  | some p => by_cases hle : p ≤ 0 <;> simp [hle, Outcome.isDone]

theorem initasync_init_coro_must_be_nonempty_sequence (env : Env) (o : Obj) :
    (iaInit env o).isDone = true ↔ (env.coroIsSequence = true ∧ env.coroNonEmpty = true) := by
  unfold iaInit
  cases env.coroIsSequence <;> cases env.coroNonEmpty <;> simp [Outcome.isDone]

/-- the source order of an InitAsync block over the TRANSLATED programs: when `init_async` has delivered a value
    its `init_regular` (Gen/TranslatedInit.lean) does nothing, so `init_sblock` leaves the delivered value alone
    (`translated_init_sblock_is_model`: initdef only if still uninitialised); when it has not, `init_regular` sets
    None only if there is no initdef -/
theorem initasync_delivered_value_survives_init_regular (env : Env) (o o' : Obj) (initdef : Val)
    (h : iaInitAsync env o = .done o' Option.none) :
    Edzed.Gen.TrInit.initAsyncRegular o'.out initdef = [] := by
  have hv : env.coroResult.isUndef = false := by
    cases hu : env.coroResult.isUndef with
    | false => rfl
    | true => simp [iaInitAsync, plainSetOutput, sblockSetOutput, hu] at h
  have ho : o'.out.isUndef = false := by
    cases hq : o.out.pyEq env.coroResult with
    | true =>
      simp [iaInitAsync, plainSetOutput, sblockSetOutput, hv, hq] at h
      rw [← h]; exact Val.pyEq_not_undef _ _ hq hv
    | false =>
      simp [iaInitAsync, plainSetOutput, sblockSetOutput, hv, hq] at h
      rw [← h]; exact hv
  simp [Edzed.Gen.TrInit.initAsyncRegular, Edzed.Gen.TrInit.isInitialized, ho]

/-- `get_state` of an initialised block is its output; an uninitialised block has no state -/
theorem get_state_default (o : Obj) :
    (o.out.isUndef = false → getState o = .done o (some o.out)) ∧
    (o.out.isUndef = true → getState o = .raised "EdzedInvalidState" o) := by
  constructor <;> intro h <;> simp [getState, h]

/-- `with self._enable_event:` clears the recursion guard and puts back what it found -/
theorem enable_event_restores_flag (o : Obj) :
    (eeEnter o).active = false ∧ eeExit (eeEnter o) = .done { eeEnter o with active := o.active } Option.none := by
  simp [eeEnter, eeExit]

/-- ... which is what the early-initialisation site of the start-up model assumes (`earlyPrims`) -/
theorem enable_event_matches_early_init_site (rec : Call → St → St) (d : Nat) (s : St) (o : Obj)
    (ha : o.active = s.active d) :
    ((earlyPrims rec d).enableEnter s).1.active d = (eeEnter o).active ∧
    (eeEnter o).saved = some (s.active d) := by
  simp [earlyPrims, eeEnter, St.setActive, upd, ha]

example : ∃ o v, o.ev = some false ∧ v.isUndef = false ∧
    aiSetOutput o v = .done { o with ev := some true, out := v, trace := [.output v true] } Option.none :=
  ⟨{ ev := some false }, Val.int 5, rfl, rfl, by decide +kernel⟩

end asyncinit

/-- the states of the hypotheses exist: a block with all three synchronous sources, initialised early -/
example : ∃ c s, s.ok = true ∧ (initBody c (exec c 8) 0 true s).aborted = false ∧
    runM (init_sblock (isbPrims c (exec c 8)) 0 true) s = initBody c (exec c 8) 0 true s :=
  ⟨{ n := 1, blk := fun _ => { persist := .raises, regular := .sets (Val.int 3),
                               initdef := some (Val.int 1, .direct) }, fuel := 9 },
   init, rfl, by decide +kernel, translated_init_sblock_is_model _ _ _ _ _ rfl (by decide +kernel)⟩

end TrTie

/-- `init_async` is started only for a block that is still uninitialised and has a positive `init_timeout` -/
theorem async_only_if (c : Cfg) (b : Nat) (u : Bool) (t : Int)
    (h : Entry.async b u t ∈ (run c).log) : u = true ∧ t > 0 :=
  (run_inv c).log _ h

/-- `init_from_value(initdef)` is called only while the block is uninitialised -/
theorem initdef_only_if_uninitialised (c : Cfg) (b : Nat) (u : Bool)
    (h : Entry.initdef b u ∈ (run c).log) : u = true :=
  (run_inv c).log _ h

/-- an event handler never runs in a block with pending synchronous steps (`init_steps_completed` 0 or 1):
    the pending steps are run first -/
theorem event_runs_pending_steps_first (c : Cfg) (b : Nat) (v : Val) (k : Int)
    (h : Entry.handle b v k ∈ (run c).log) : k < 0 ∨ 2 ≤ k := by
  have := (run_inv c).log _ h
  simp only [EntryOK] at this
  omega

example : ∃ c b v, Entry.handle b v 2 ∈ (run c).log :=
  ⟨{ n := 2, blk := fun i => if i = 0 then { initdef := some (Val.int 1, .direct), dests := [1] } else {},
     fuel := 16 }, 1, Val.int 1, by decide +kernel⟩

/-- the asynchronous phase never takes longer than the largest `init_timeout` of the started routines --
    for ANY completion times, tie outcomes and list order -/
theorem bounded_wait (tasks : List Task) : (schedule tasks).1 ≤ maxTimeout tasks := by
  rw [schedule_fst]
  have := (runTasks_bounds (sortDesc tasks) 0).2
  rw [sortDesc, maxTimeout_sortBy, Nat.zero_max] at this
  exact this

/-- the same bound for the waiting loop alone, whatever the order of the list -/
theorem run_tasks_bounded (now : Nat) (l : List Task) :
    now ≤ (runTasks now l).1 ∧ (runTasks now l).1 ≤ max now (maxTimeout l) :=
  runTasks_bounds l now

/-- Order independence, necessary direction only.  Full statement (validated by the correspondence over all
    creation orders and by the oracle, NOT proved): for acyclic on_output topologies and routines that do not
    raise, start-up succeeds iff every block is in `Reach` = the closure of the blocks with an own source under
    the edges.  Proved: a block gets an output only if it is in that closure -- for every topology, cyclic or
    not; `Reach` is defined from the scripts and edges alone, so this condition cannot depend on the creation
    order. -/
theorem order_independent_success_partial (c : Cfg) (v : View) (hv : v.of (run c))
    (h : waitInit v = .returned) : ∀ b, b < c.n → Reach c b := by
  intro b hb
  exact (run_inv c).out b ((wait_init_ok_implies_valid c v hv h).1 b hb)

/-- Order independence, both directions, for circuits whose blocks have synchronous sources only (persistent
    state, `init_regular`, initdef, a value set by the block's task right after `start()`; no `init_async`):
    if the init-event topology is ACYCLIC (`rk` grows along every on_output edge), no routine raises and the
    script values are defined (`Hyp`), then -- for EVERY creation order, since `c` is arbitrary and `Reach`
    is defined by scripts and edges alone -- after `_init_sblocks_sync_2` no error has occurred and the
    initialised blocks are EXACTLY the closure of the blocks with an own source under the edges.
    (`NF`: the model's recursion budget was not exhausted; `hwf`: only the circuit's blocks have scripts.)
    Not proved: the same with asynchronous routines (which of them complete in time is decided by
    `_run_tasks`; with exact ties between a completion and another block's timeout the model itself is order
    dependent) -- validated by the oracle over all creation orders. -/
theorem initialised_iff_closure_sync_partial (c : Cfg) (rk : Nat → Nat) (hyp : Hyp c rk)
    (hsync : ∀ b, (c.blk b).async = .none) (hwf : ∀ b, OwnSource (c.blk b) → b < c.n)
    (hnf : NF (syncPhase c (afterAsync c))) :
    (syncPhase c (afterAsync c)).ok = true ∧
    ∀ b, ((syncPhase c (afterAsync c)).out b ≠ .undef ↔ Reach c b) := by
  have hm3 := (monoWalk c).syncPhase (exec_mono c c.fuel) (afterAsync c)
  have hm2 : Mono (afterSync1 c) (afterAsync c) := asyncPhase_mono c _
  have hm1 := (monoWalk c).syncPhase (exec_mono c c.fuel) (phase0 c init)
  have hnf1 : NF (afterSync1 c) := hm2.nf (hm3.nf hnf)
  obtain ⟨t0, hstart⟩ := phase0_top c rk hyp (List.range c.n) init (init_top c) (hm1.nf hnf1)
  obtain ⟨t1, _⟩ := sync_top c rk hyp (List.range c.n) (phase0 c init) t0 hnf1
  have hnz1 : ∀ b, b < c.n → (afterSync1 c).steps b ≠ 0 :=
    fun b hb => syncPhase_ne_zero c (phase0 c init) t1.ok b hb
  have e2 : afterAsync c = { afterSync1 c with elapsed := 0 } := asyncPhase_sync c _ hsync t1.ok
  have t2 : Top c (afterAsync c) := by
    rw [e2]; exact Top.of_eq t1 t1.ok rfl rfl rfl (fun _ => rfl)
  have hnz2 : ∀ b ∈ List.range c.n, (afterAsync c).steps b ≠ 0 := by
    intro b hb; rw [e2]; exact hnz1 b (List.mem_range.mp hb)
  obtain ⟨t3, hall⟩ := sync_top c rk hyp (List.range c.n) (afterAsync c) t2 hnf
  have h2 : ∀ b, b < c.n → (syncPhase c (afterAsync c)).steps b = 2 :=
    fun b hb => hall hnz2 b (List.mem_range.mpr hb)
  refine ⟨t3.ok, fun b => ⟨?_, ?_⟩⟩
  · exact (afterSync2_inv c).out b
  · intro hr
    induction hr with
    | own x hsrc =>
      have hx := hwf x hsrc
      have hs2 := h2 x hx
      rcases hsrc with ⟨v, hh, e⟩ | ⟨v, f, e⟩ | ⟨v, e⟩ | ⟨v, e⟩ | e | e | e
      · exact t3.sourced.saved x (Or.inr (Or.inr hs2)) ⟨v, hh, e⟩
      · rw [hsync x] at e; cases e
      · exact t3.sourced.own x hs2 (Or.inl ⟨v, e⟩)
      · exact t3.sourced.own x hs2 (Or.inr (Or.inl ⟨v, e⟩))
      · exact absurd e (hyp.noQuiet x)
      · exact t3.sourced.own x hs2 (Or.inr (Or.inr e))
      · exact ((hm1.trans hm2).trans hm3).out x (hstart x (List.mem_range.mpr hx) e)
    | edge a x _ hmem ih => exact t3.cl a ih x hmem

/-- ... hence start-up succeeds iff the closure covers all blocks and the first evaluation pass does not
    fail: a condition in which the creation order does not occur -/
theorem order_independent_success_sync_partial (c : Cfg) (rk : Nat → Nat) (hyp : Hyp c rk)
    (hsync : ∀ b, (c.blk b).async = .none) (hwf : ∀ b, OwnSource (c.blk b) → b < c.n)
    (hnf : NF (syncPhase c (afterAsync c))) :
    (run c).failed = false ↔ ((∀ b, b < c.n → Reach c b) ∧ c.cblocks.any CScript.fails = false) := by
  obtain ⟨fok, hiff⟩ := initialised_iff_closure_sync_partial c rk hyp hsync hwf hnf
  have e : (run c).failed = false ↔ (run c).ok = true := by
    rw [failed_eq_not_ok]; cases (run c).ok <;> simp
  rw [e, run_ok_iff, allInitialised_iff]
  exact ⟨fun h => ⟨fun b hb => (hiff b).mp (h.2.1 b hb), h.2.2⟩,
    fun h => ⟨fok, fun b hb => (hiff b).mpr (h.1 b hb), h.2⟩⟩

/-- the hypotheses are satisfiable: a chain 0 → 1 → 2 whose first block has an initdef -/
example : ∃ c rk, Hyp c rk ∧ (∀ b, (c.blk b).async = .none) ∧ (∀ b, OwnSource (c.blk b) → b < c.n) ∧
    NF (syncPhase c (afterAsync c)) ∧ (run c).failed = false := by
  refine ⟨{ n := 3, blk := fun
      | 0 => { initdef := some (Val.int 1, .direct), dests := [1] }
      | 1 => { dests := [2] }
      | _ => {}, fuel := 64 }, id, ?_, ?_, ?_, by unfold NF; decide +kernel, by decide +kernel⟩
  · -- the only script value is the initdef of block 0
    refine ⟨fun b d hd => ?_, ?_, ?_, ?_, ?_, ?_, fun b v h hd => ?_, ?_⟩
    · rcases b with _ | _ | b <;> cases hd <;> first | decide | (next h => cases h)
    · intro b h; rcases b with _ | _ | b <;> cases h
    · intro b h; rcases b with _ | _ | b <;> cases h
    · intro b v h hp; rcases b with _ | _ | b <;> cases hp
    · intro b v hp; rcases b with _ | _ | b <;> cases hp
    · intro b v hp; rcases b with _ | _ | b <;> cases hp
    · rcases b with _ | _ | b <;> cases hd
      rfl
    · intro b v hp; rcases b with _ | _ | b <;> cases hp
  · intro b; rcases b with _ | _ | b <;> rfl
  · intro b hs
    rcases b with _ | _ | b
    · decide
    · decide
    · rcases hs with ⟨_, _, h⟩ | ⟨_, _, h⟩ | ⟨_, h⟩ | ⟨_, h⟩ | h | h | h <;> cases h

/-- a block without any source of its own and without an incoming edge makes every start-up fail -/
theorem unreachable_block_fails (c : Cfg) (b : Nat) (hb : b < c.n) (hn : ¬ Reach c b)
    (v : View) (hv : v.of (run c)) : waitInit v ≠ .returned :=
  fun h => hn (order_independent_success_partial c v hv h b hb)

end Edzed.Init
