/-
C06 — the saved state always matches the last completed event and survives a restart.

The model (EdzedModel/Persist.lean, lemmas in EdzedProofs/Persist.lean): histories of a `Fresh` circuit (start, events,
timers, the stop in its two steps `stopBegin` / `stopEnd`, restart), the start-up that follows `on_output` links, a
storage that fails, nested calls of the event wrapper.  These statements hold for every circuit (any blocks, any FSM tables
that pass `_build_tables`), every initial storage, calendar predicate `env`, history (`List Op`, no bound) and instant.
In `TrTie`, the translated `AddonPersistence` methods, `_check_persistent_data`, the stop fragment of `run_forever`,
`looptimes` and the cron `get_state` against the model; `FSM._restore_state` is tied to `Persist.restore` in C04
(`translated_fsmtimer_restore_is_persist_model`).  The FSM part of the model mirrors `_timer_expired` clearing
`_active_timer` before it delivers the timed event (patches/C04-timer-state-after-fire.diff, which is in /repo).
-/
import EdzedModel.Persist
import EdzedProofs.Persist
import EdzedProofs.ListLoops
import EdzedModel.Gen.TranslatedPersist
import EdzedModel.Gen.TranslatedPersist2
import EdzedModel.Gen.TranslatedCronCfg

namespace Edzed.Persist

/-- a circuit as the application builds it: not started, every block has its own key
    (`str(block)`, never `edzed-…`), FSM tables accepted by `_build_tables`, blocks uninitialised -/
structure Fresh0 (c : Circ) : Prop where
  idle : c.phase = .idle
  nodup : (keys c.blocks).Nodup
  plain : ∀ k ∈ keys c.blocks, reserved k = false
  valid : ∀ b ∈ c.blocks, KindValid b.kind
  uninit : ∀ b ∈ c.blocks, b.dyn.inited = false
  untouched : ∀ b ∈ c.blocks, b.steps = 0 ∧ b.restored = false

/-- …without events between the blocks: `Circ.start` and the histories do not follow `on_output` links, so the
    theorems about them are stated for link-free circuits only (no proof needs `nolinks`; nothing relates
    `Circ.start` to `Circ.startL`, the start-up of circuits WITH links, treated further down) -/
structure Fresh (c : Circ) : Prop extends Fresh0 c where
  nolinks : ∀ b ∈ c.blocks, b.link = none

def freshCheck (c : Circ) : Bool :=
  c.phase == .idle && decide (keys c.blocks).Nodup && (keys c.blocks).all (fun k => !reserved k) &&
  c.blocks.all fun b =>
    (match b.kind with | .fsm cl => cl.valid | _ => true) && !b.dyn.inited && b.steps == 0 && !b.restored &&
    b.link.isNone

theorem Fresh.of_check {c : Circ} (h : freshCheck c = true) : Fresh c := by
  simp only [freshCheck, Bool.and_eq_true, beq_iff_eq, decide_eq_true_eq, List.all_eq_true, Bool.not_eq_true',
    Option.isNone_iff_eq_none] at h
  obtain ⟨⟨⟨hid, hn⟩, hpl⟩, hb⟩ := h
  refine ⟨⟨hid, hn, hpl, fun b hm => ?_, fun b hm => (hb b hm).1.1.1.2, fun b hm => ⟨(hb b hm).1.1.2, (hb b hm).1.2⟩⟩,
    fun b hm => (hb b hm).2⟩
  have := (hb b hm).1.1.1.1
  cases hk : b.kind <;> simp only [hk] at this <;> first | trivial | exact this

theorem Fresh.inv {c : Circ} (h : Fresh c) (cal : Val → Option Bool) (now : Time) (mode : StartMode) :
    Inv (c.start cal now mode) :=
  inv_start c cal now mode h.idle h.nodup h.plain h.valid h.uninit

/-- the circuits the history theorems speak of are in order -/
theorem Fresh.inv_run {c : Circ} (h : Fresh c) (env : Time → Val → Option Bool) (now : Time) (ops : List Op) :
    Inv (run env (c.start (env now) now .ok) ops) :=
  Persist.inv_run env ops (h.inv (env now) now .ok)

/-- `storage_refines_state`, part 1: after a successful initialisation the storage holds the state
    of EVERY persistent block (sync_state or not) -/
theorem storage_holds_state_after_init (c0 : Circ) (h0 : Fresh c0) (cal : Val → Option Bool) (now : Time)
    (hr : (c0.start cal now .ok).phase = .running) :
    ∀ b ∈ (c0.start cal now .ok).blocks, b.persistent = true →
      (c0.start cal now .ok).store.get? b.key = getState b.kind b.dyn := by
  obtain ⟨hbl, _, _, _, hcase⟩ := start_shape c0 cal now h0.idle
  rcases hcase with ⟨_, hst, _, _⟩ | ⟨hph, _⟩
  · intro b hb hp
    rw [hst, ← hbl]
    exact saveAll_mem _ (h0.inv cal now .ok).nodup _ hb hp
  · rw [hph] at hr; cases hr

/-- `storage_refines_state`, part 2: for every history, after initialisation and after every event
    (handled, rejected with an exception, or delivered by a timer) the storage slot of every
    block with `persistent and sync_state` holds exactly `get_state()` of that block -/
theorem storage_refines_state (env : Time → Val → Option Bool) (c0 : Circ) (h0 : Fresh c0) (now : Time)
    (ops : List Op) :
    let c := run env (c0.start (env now) now .ok) ops
    (c.phase = .running ∨ c.phase = .aborted) →
    ∀ b ∈ c.blocks, b.persistent = true → b.sync = true → c.store.get? b.key = getState b.kind b.dyn :=
  fun hg => (h0.inv_run env now ops).synced (good_of_ready hg)

/-- one step by itself: a handled event of a block with `persistent and sync_state` ends with
    the block's new state in its slot (in any circuit state, reachable or not) -/
theorem handled_event_is_saved (c c' : Circ) (cal : Val → Option Bool) (i : Nat) (ev : Ev) (v : Val)
    (h : c.event cal i ev = some (c', .ret v)) :
    ∀ b, c.blocks[i]? = some b → b.persistent = true → b.sync = true →
      ∃ b', c'.blocks[i]? = some b' ∧ b'.key = b.key ∧ c'.store.get? b.key = getState b'.kind b'.dyn := by
  intro b hb hp hsy
  obtain ⟨_, b1, d, hb1, _, rfl⟩ := event_wrapped h
  obtain rfl := Option.some.inj (hb.symm.trans hb1)
  refine ⟨_, List.getElem?_set_self (List.getElem?_eq_some_iff.mp hb).1, rfl, ?_⟩
  rw [wrapped_store, if_pos ⟨rfl, by rw [hp, hsy]; rfl⟩]

/-- `frozen_after_handler_error`: when the handler of block `i` fails in a history, the slot of that
    block keeps, for the rest of the run and through the stop, the content it had before the failing
    event (= the state after the last completed event, by `storage_refines_state`) -/
theorem frozen_after_handler_error (env : Time → Val → Option Bool) (c0 : Circ) (h0 : Fresh c0) (now : Time)
    (ops : List Op) (cal : Val → Option Bool) (i : Nat) (ev : Ev) (c1 : Circ) (b : Blk)
    (hb : (run env (c0.start (env now) now .ok) ops).blocks[i]? = some b)
    (h : (run env (c0.start (env now) now .ok) ops).event cal i ev = some (c1, .handlerError))
    (later : List Op) (t : Time) :
    (run env c1 later).store.get? b.key = (run env (c0.start (env now) now .ok) ops).store.get? b.key ∧
    ((run env c1 later).stop t).store.get? b.key = (run env (c0.start (env now) now .ok) ops).store.get? b.key := by
  have hi := h0.inv_run env now ops
  generalize run env (c0.start (env now) now .ok) ops = c at hi hb h
  have hres : reserved b.key = false := hi.plain _ (List.mem_map_of_mem (List.mem_of_getElem? hb))
  have hf := frozen_of_handler_error hi.nodup hb h
  have hf' := hf.frame (frame_run env later c1)
  exact ⟨hf'.2, by rw [stop_store]; exact (frozen_stopBegin hf' hres t).2⟩

/-- `no_write_on_failed_start`: when `abort()` precedes the start nothing at all is touched; when a
    block's `start()` raises only the unused entries are removed (sanctioned by the property) —
    no block state and no stop time is written, whatever time the failure is noticed -/
theorem no_write_on_failed_start (c0 : Circ) (h0 : Fresh c0) (cal : Val → Option Bool) (now t : Time) :
    ((c0.start cal now .abortedBefore).stop t).store = c0.store ∧
    ((c0.start cal now .startRaises).stop t).store = cleanUnused c0.store c0.blocks := by
  constructor <;> simp [Circ.start, Circ.stop, Circ.stopBegin, Circ.stopEnd, h0.idle]

/-- `stop_begin_saves_all_with_timestamp`: for every history of a circuit whose start went through, when the
    stop begins at `t` — before the first `await` of the clean-up — the storage holds the state of EVERY
    persistent block and the stop time `t` (the instant the stop began, not the end of the clean-up) -/
theorem stop_begin_saves_all_with_timestamp (env : Time → Val → Option Bool) (c0 : Circ) (h0 : Fresh c0)
    (now : Time) (ops : List Op) (t : Time) :
    let c := run env (c0.start (env now) now .ok) ops
    (c.stopBegin t).store.get? stopKey = some (.ts t) ∧
    (∀ b ∈ c.blocks, b.persistent = true → (c.stopBegin t).store.get? b.key = getState b.kind b.dyn) ∧
    (c.stopBegin t).blocks = c.blocks := by
  intro c
  have hi : Inv c := h0.inv_run env now ops
  have hl : Live c := (live_start c0 (env now) now h0.idle).frame (frame_run env ops _)
  obtain ⟨hts, hsaved⟩ := stopBegin_saves hl hi.nodup t
  exact ⟨hts, fun b hb hp => hsaved b hb hp (key_ne_stopKey (hi.plain _ (List.mem_map_of_mem hb))),
    stopBegin_blocks c t⟩

/-- `stop_saves_all_with_timestamp`: for every history of a circuit whose start went through, the stop
    at time `t` leaves the state of EVERY persistent block (sync_state or not) and the stop time -/
theorem stop_saves_all_with_timestamp (env : Time → Val → Option Bool) (c0 : Circ) (h0 : Fresh c0) (now : Time)
    (ops : List Op) (t : Time) :
    let c := run env (c0.start (env now) now .ok) ops
    (c.stop t).store.get? stopKey = some (.ts t) ∧
    ∀ b ∈ c.blocks, b.persistent = true → (c.stop t).store.get? b.key = getState b.kind b.dyn := by
  intro c
  obtain ⟨hts, hsaved, _⟩ := stop_begin_saves_all_with_timestamp env c0 h0 now ops t
  rw [stop_store]
  exact ⟨hts, hsaved⟩

/-- `expired_timer_discarded`: a saved FSM state whose timer ran out during the downtime (expiry at or
    before the restart instant) is not restored -/
theorem expired_timer_discarded (c : FsmCls) (st : String) (t : Time) (sd : Data) (cal : Val → Option Bool)
    (now' : Time) (h : t ≤ now') : restore (.fsm c) cal now' (.fsm st (some t) sd) = none := by
  simp only [restore]
  split
  · rfl
  · split
    · rfl
    · simp

/-- `expiration_rule`: the saved state is disregarded iff `expiration` is set and either is `≤ 0` or the
    recorded stop time plus `expiration` lies before the restart instant; without a valid stop time
    a positive expiration is not checked -/
theorem expiration_rule (x : Option Int) (ts : Option Time) (now' : Time) :
    expired x ts now' = true ↔
      ∃ e, x = some e ∧ (e ≤ 0 ∨ ∃ t, ts = some t ∧ (t : Int) + e < (now' : Int)) := by
  unfold expired
  cases x with
  | none => simp
  | some e =>
    by_cases he : e ≤ 0
    · simp [he]
    · cases ts with
      | none => simp [he]
      | some t => simp [he]

/-- what `init_from_persistent_data` hands to the block -/
theorem load_rule (b : Blk) (store : Storage) (ts : Option Time) (cal : Val → Option Bool) (now' : Time)
    (e : Entry) (hp : b.persistent = true) (he : store.get? b.key = some e) :
    load b store ts cal now' = if expired b.expiration ts now' then none else restore b.kind cal now' e := by
  simp [load, hp, he]

/-- how the restored block relates to the saved one -/
def Same (k : Kind) (cal : Val → Option Bool) (d d' : Dyn) : Prop :=
  d'.inited = true ∧
  match k with
  | .fsm _ => d'.fstate = d.fstate ∧ d'.sdata = d.sdata ∧ d'.out = d.out ∧ d'.timer = d.timer ∧ d'.entered = []
  | .cal _ => d'.value = d.value ∧ ∃ o, cal d.value = some o ∧ d'.out = .bool o
  | _ => d'.value = d.value ∧ d'.out = d.out

/-- the round trip `restore (get_state b) ≈ b` of every kind.  Input: same value, same output.  Counter: the same
    (the restored value passes through `_setmod` again).  TimeDate / TimeSpan: same configuration, the output is what
    the calendar says at the restart.  FSM (generic, Timer, InputExp): same state, same `sdata`, same output, NO entry
    action run; the timer — if one is running and has not run out yet — expires at the same absolute time and
    delivers the same event -/
theorem round_trip (k : Kind) (d : Dyn) (hd : DynOk k d) (cal : Val → Option Bool)
    (now' : Time) (hrun : ∀ t tev, d.timer = some (t, tev) → now' < t)
    (hcal : ∀ i, k = .cal i → (cal d.value).isSome = true) :
    ∃ e d', getState k d = some e ∧ restore k cal now' e = some d' ∧ Same k cal d d' := by
  obtain ⟨hi, hd⟩ := hd
  cases k with
  | input i =>
    refine ⟨.val d.value, { inited := true, value := d.value, out := d.value }, by simp [getState, hi], ?_,
      rfl, rfl, hd.1.symm⟩
    simp [restore, hd.2.1, hd.2.2.1, hd.2.2.2.1]
  | counter m i =>
    obtain ⟨⟨v, hv⟩, ho, _⟩ := hd
    have hrr : reduce m (reduce m v) = reduce m v := by
      cases m with
      | none => rfl
      | some m => exact Int.fmod_fmod v m
    refine ⟨.val d.value, { inited := true, value := d.value, out := d.value }, by simp [getState, hi], ?_,
      rfl, rfl, ho.symm⟩
    rw [hv]
    simp only [restore, intOf_int, hrr]
  | cal i =>
    obtain ⟨o, ho⟩ := Option.isSome_iff_exists.mp (hcal i rfl)
    refine ⟨.val d.value, { inited := true, value := d.value, out := .bool o }, by simp [getState, hi], ?_,
      rfl, rfl, o, ho, rfl⟩
    simp [restore, ho]
  | fsm c =>
    obtain ⟨hs0, ho, ht⟩ := hd
    have hs : d.fstate ∈ c.states := by simpa using hs0
    refine ⟨.fsm d.fstate (d.timer.map (·.1)) d.sdata, ?_⟩
    cases htm : d.timer with
    | none =>
      refine ⟨{ inited := true, fstate := d.fstate, sdata := d.sdata, out := d.out }, by simp [getState, hi, htm],
        ?_, rfl, rfl, rfl, rfl, htm.symm, rfl⟩
      simp [restore, hs, ho]
    | some p =>
      obtain ⟨t, tev⟩ := p
      refine ⟨{ inited := true, fstate := d.fstate, sdata := d.sdata, out := d.out, timer := some (t, tev) },
        by simp [getState, hi, htm], ?_, rfl, rfl, rfl, rfl, htm.symm, rfl⟩
      simp [restore, hs, ho, ht t tev htm, Nat.not_le.mpr (hrun t tev htm)]

/-- the core of a restart: a new circuit `c2` that finds, under the key of a block `b` with `persistent and sync_state`
    of a circuit in order, what that circuit holds there - not expired, the timer not run out - comes up with `b`'s
    state -/
theorem restart_restores_block {c : Circ} (hi : Inv c) (hg : Good c) {b : Blk} (hb : b ∈ c.blocks)
    (hp : b.persistent = true) (hsy : b.sync = true) (c2 : Circ) (hidle : c2.phase = .idle)
    (hslot : c2.store.get? b.key = c.store.get? b.key) (cal : Val → Option Bool) (now' : Time)
    (j : Nat) (b2 : Blk) (hb2 : c2.blocks[j]? = some b2) (hk : b2.key = b.key) (hkind : b2.kind = b.kind)
    (hp2 : b2.persistent = true) (hexp : expired b2.expiration (readTs c2.store) now' = false)
    (hrun : ∀ t tev, b.dyn.timer = some (t, tev) → now' < t)
    (hcal : ∀ i, b.kind = .cal i → (cal b.dyn.value).isSome = true) :
    ∃ b2', (c2.start cal now' .ok).blocks[j]? = some b2' ∧ b2'.key = b.key ∧ Same b.kind cal b.dyn b2'.dyn := by
  obtain ⟨e, d', he, hre, hsame⟩ := round_trip b.kind b.dyn (hi.ok hg b hb (Or.inr hp)) cal now' hrun hcal
  have hstore' : c2.store.get? b2.key = some e := by rw [hk, hslot, hi.synced hg b hb hp hsy, he]
  have hload : load b2 (cleanUnused c2.store c2.blocks) (readTs c2.store) cal now' = some d' := by
    rw [load_cleanUnused b2 c2.blocks (List.mem_of_getElem? hb2), load_rule b2 _ _ cal now' e hp2 hstore',
      hexp, hkind]
    simpa using hre
  have h1 : (pass1 c2.blocks (cleanUnused c2.store c2.blocks) (readTs c2.store) cal now')[j]?
      = some { b2 with dyn := d', restored := true } := by
    simp [pass1, List.getElem?_map, hb2, hload]
  have h2' := (pass2_spec cal now' _ rfl).inited h1 hsame.1
  refine ⟨{ b2 with dyn := d', restored := true }, ?_, hk, hsame⟩
  rw [(start_shape c2 cal now' hidle).1]
  exact h2'

/-- `restart_from_any_snapshot`: take ANY history of a circuit and the storage as it is at that point
    (a crash point: the circuit is running or an error is pending).  A new circuit `c2` over that
    storage — any blocks, any settings — is started at any later instant `now'`.  Every block `b2`
    of it that is persistent and has the key and kind of a block `b` of the first circuit with
    `persistent and sync_state` comes up, when the saved state is neither expired nor its timer ran
    out, in the state of `b` at the crash point: same state/sdata/output, timer at the same
    absolute time, no entry action run (TimeDate/TimeSpan: same configuration, output per calendar).  -/
theorem restart_from_any_snapshot (env : Time → Val → Option Bool) (c0 : Circ) (h0 : Fresh c0) (now : Time)
    (ops : List Op) (c2 : Circ) (h2 : Fresh c2) (cal : Val → Option Bool) (now' : Time) :
    let c := run env (c0.start (env now) now .ok) ops
    (c.phase = .running ∨ c.phase = .aborted) → c2.store = c.store →
    ∀ b ∈ c.blocks, b.persistent = true → b.sync = true →
    ∀ (j : Nat) (b2 : Blk), c2.blocks[j]? = some b2 → b2.key = b.key → b2.kind = b.kind → b2.persistent = true →
      expired b2.expiration (readTs c.store) now' = false →
      (∀ t tev, b.dyn.timer = some (t, tev) → now' < t) →
      (∀ i, b.kind = .cal i → (cal b.dyn.value).isSome = true) →
      ∃ b2', (c2.start cal now' .ok).blocks[j]? = some b2' ∧ b2'.key = b.key ∧ Same b.kind cal b.dyn b2'.dyn := by
  intro c hg0 hst b hb hp hsy j b2 hb2 hk hkind hp2 hexp hrun hcal
  exact restart_restores_block (h0.inv_run env now ops) (good_of_ready hg0) hb hp hsy c2 h2.idle
    (by rw [hst]) cal now' j b2 hb2 hk hkind hp2 (by rw [hst]; exact hexp) hrun hcal

/-- …and a state that is expired, or whose timer ran out, is discarded in favour of the normal
    initialisation (stated for a second start that succeeds) -/
theorem expired_state_discarded (c2 : Circ) (h2 : Fresh c2) (cal : Val → Option Bool) (now' : Time)
    (j : Nat) (b2 : Blk) (hb2 : c2.blocks[j]? = some b2)
    (hdis : expired b2.expiration (readTs c2.store) now' = true ∨
      ∃ st t sd, c2.store.get? b2.key = some (.fsm st (some t) sd) ∧ t ≤ now' ∧ ∃ cl, b2.kind = .fsm cl)
    (hrun : (c2.start cal now' .ok).phase = .running) :
    (c2.start cal now' .ok).blocks[j]? = some { b2 with dyn := (regularInit b2.kind cal now').1 } := by
  have hload : load b2 (cleanUnused c2.store c2.blocks) (readTs c2.store) cal now' = none := by
    rw [load_cleanUnused b2 c2.blocks (List.mem_of_getElem? hb2)]
    fun_cases load b2 c2.store (readTs c2.store) cal now'
    · rfl
    · rfl
    · rfl
    · -- the entry is handed to `_restore_state`: it is not expired, so its timer ran out
      next e he hx =>
      rcases hdis with hx' | ⟨st, t, sd, hst, ht, cl, hcl⟩
      · exact absurd hx' hx
      · obtain rfl := Option.some.inj (he.symm.trans hst)
        rw [hcl]
        exact expired_timer_discarded cl st t sd cal now' ht
  have h1 : (pass1 c2.blocks (cleanUnused c2.store c2.blocks) (readTs c2.store) cal now')[j]? = some b2 := by
    simp [pass1, List.getElem?_map, hb2, hload]
  have hun : b2.dyn.inited = false := h2.uninit b2 (List.mem_of_getElem? hb2)
  obtain ⟨hbl, _, _, _, hcase⟩ := start_shape c2 cal now' h2.idle
  rcases hcase with ⟨_, _, hok, _⟩ | ⟨hph, _⟩
  · rw [hbl]
    exact (pass2_spec cal now' _ rfl).fresh hok h1 hun
  · rw [hph] at hrun; cases hrun

/-- `stamp_of_this_stop_survives_cleanup`: whatever happens during the clean-up (events, timers firing, time
    passing — `later`) and however it ends (`complete` or interrupted: the simulation task cancelled while
    it awaits a `stop_async`), the storage holds the time stamp of THIS stop: the instant `t` it began.
    Hence the next start reads `persistent_ts = t` in both cases. -/
theorem stamp_of_this_stop_survives_cleanup (env : Time → Val → Option Bool) (c0 : Circ) (h0 : Fresh c0)
    (now : Time) (ops : List Op) (t : Time) (later : List Op) (t' : Time) (complete : Bool) :
    let c := run env (c0.start (env now) now .ok) ops
    let s := ((run env (c.stopBegin t) later).stopEnd t' complete).store
    s.get? stopKey = some (.ts t) ∧ readTs s = some t := by
  intro c s
  have hi : Inv (c.stopBegin t) := inv_stopBegin (h0.inv_run env now ops) t
  have hst := (stop_begin_saves_all_with_timestamp env c0 h0 now ops t).1
  have hf := (frozen_stamp hi.plain).frame (frame_run env later _)
  have : s.get? stopKey = some (.ts t) := by
    show ((run env (c.stopBegin t) later).stopEnd t' complete).store.get? stopKey = _
    rw [stopEnd_store, hf.2]; exact hst
  exact ⟨this, by simp [readTs, this]⟩

/-- the end of the clean-up writes nothing: an interrupted stop leaves exactly the storage of a completed one -/
theorem interrupted_stop_leaves_same_storage (c : Circ) (t1 t2 : Time) :
    (c.stopEnd t1 false).store = (c.stopEnd t2 true).store := by
  rw [stopEnd_store, stopEnd_store]

/-- so the next start's expiration decision after an interrupted stop is the decision after an
    uninterrupted one: the age is measured from the instant this stop began -/
theorem expiration_decision_after_any_stop (env : Time → Val → Option Bool) (c0 : Circ) (h0 : Fresh c0)
    (now : Time) (ops : List Op) (t : Time) (later : List Op) (t' : Time) (complete : Bool)
    (x : Option Int) (now' : Time) :
    let c := run env (c0.start (env now) now .ok) ops
    expired x (readTs ((run env (c.stopBegin t) later).stopEnd t' complete).store) now' = expired x (some t) now' := by
  intro c
  rw [(stamp_of_this_stop_survives_cleanup env c0 h0 now ops t later t' complete).2]

/-- the new stamp is not older than the one found at the start (when that one was not in the future and
    the clock did not go back): time stamps of consecutive stops never decrease -/
theorem stamp_monotone (env : Time → Val → Option Bool) (c0 : Circ) (h0 : Fresh c0) (now : Time)
    (ops : List Op) (t t0 : Time)
    (hold : readTs c0.store = some t0) (hpast : t0 ≤ now)
    (hclock : (run env (c0.start (env now) now .ok) ops).now ≤ t) :
    (run env (c0.start (env now) now .ok) ops).ts = some t0 ∧ t0 ≤ t := by
  obtain ⟨_, hnow, hts, _⟩ := start_shape c0 (env now) now h0.idle
  have hf := frame_run env ops (c0.start (env now) now .ok)
  have h2 := hf.now
  rw [hnow] at h2
  exact ⟨by rw [hf.ts, hts, hold], Nat.le_trans hpast (Nat.le_trans h2 hclock)⟩

/-- sync_state blocks go on being saved during the clean-up: in every state of it the slot of a block with
    `persistent and sync_state` holds its current state -/
theorem storage_refines_state_during_cleanup (env : Time → Val → Option Bool) (c0 : Circ) (h0 : Fresh c0)
    (now : Time) (ops : List Op) (t : Time) (later : List Op) :
    let c := run env ((run env (c0.start (env now) now .ok) ops).stopBegin t) later
    c.phase = .stopping →
    ∀ b ∈ c.blocks, b.persistent = true → b.sync = true → c.store.get? b.key = getState b.kind b.dyn :=
  fun hg => (inv_run env later (inv_stopBegin (h0.inv_run env now ops) t)).synced
    (Or.inr (Or.inr hg))

/-- …and a persistent block WITHOUT sync_state keeps, through the whole clean-up and however it ends, exactly
    the state that was saved when the stop began -/
theorem unsynced_block_keeps_stop_state (env : Time → Val → Option Bool) (c0 : Circ) (h0 : Fresh c0)
    (now : Time) (ops : List Op) (t : Time) (later : List Op) (t' : Time) (complete : Bool) :
    let c := run env (c0.start (env now) now .ok) ops
    ∀ b ∈ c.blocks, b.persistent = true → b.sync = false →
      ((run env (c.stopBegin t) later).stopEnd t' complete).store.get? b.key = getState b.kind b.dyn := by
  intro c b hb hp hsy
  have hi : Inv c := h0.inv_run env now ops
  obtain ⟨_, hsaved, hblocks⟩ := stop_begin_saves_all_with_timestamp env c0 h0 now ops t
  have hq : Quiet b.key (getState b.kind b.dyn) (c.stopBegin t) := by
    refine ⟨?_, hsaved b hb hp⟩
    intro x hx hk
    rw [hblocks] at hx
    have : x = b := mem_key_inj hi.nodup hx hb hk
    rw [this, hsy]; simp
  rw [stopEnd_store]
  exact (hq.frame (frame_run env later _)).2

/-- `restart_after_any_stop`: the storage left by a stop whose clean-up was interrupted (or not), with any
    events in between, restores — subject to expiration measured from the instant `t` the stop began —
    every `persistent and sync_state` block in the state it had when the clean-up ended -/
theorem restart_after_any_stop (env : Time → Val → Option Bool) (c0 : Circ) (h0 : Fresh c0) (now : Time)
    (ops : List Op) (t : Time) (later : List Op) (t' : Time) (complete : Bool)
    (c2 : Circ) (h2 : Fresh c2) (cal : Val → Option Bool) (now' : Time) :
    let c := run env ((run env (c0.start (env now) now .ok) ops).stopBegin t) later
    c.phase = .stopping → c2.store = (c.stopEnd t' complete).store →
    ∀ b ∈ c.blocks, b.persistent = true → b.sync = true →
    ∀ (j : Nat) (b2 : Blk), c2.blocks[j]? = some b2 → b2.key = b.key → b2.kind = b.kind → b2.persistent = true →
      expired b2.expiration (some t) now' = false →
      (∀ t tev, b.dyn.timer = some (t, tev) → now' < t) →
      (∀ i, b.kind = .cal i → (cal b.dyn.value).isSome = true) →
      ∃ b2', (c2.start cal now' .ok).blocks[j]? = some b2' ∧ b2'.key = b.key ∧ Same b.kind cal b.dyn b2'.dyn := by
  intro c hph hst b hb hp hsy j b2 hb2 hk hkind hp2 hexp hrun hcal
  have hts := (stamp_of_this_stop_survives_cleanup env c0 h0 now ops t later t' complete).2
  exact restart_restores_block (inv_run env later (inv_stopBegin (h0.inv_run env now ops) t))
    (Or.inr (Or.inr hph)) hb hp hsy c2 h2.idle (by rw [hst, stopEnd_store]) cal now' j b2 hb2 hk hkind hp2
    (by rw [hst, hts]; exact hexp) hrun hcal

/-- `unused_removed_reserved_kept`: after the start (successful or failing in a `start()`), an entry whose
    key is neither reserved nor the key of a persistent block is gone; every reserved entry —
    the old stop time included — is exactly as it was -/
theorem unused_removed_reserved_kept (c0 : Circ) (h0 : Fresh c0) (cal : Val → Option Bool) (now : Time)
    (mode : StartMode) (hm : mode ≠ .abortedBefore) (k : String) :
    (reserved k = true → (c0.start cal now mode).store.get? k = c0.store.get? k) ∧
    (reserved k = false → (∀ b ∈ c0.blocks, b.persistent = true → b.key ≠ k) →
      (c0.start cal now mode).store.get? k = none) := by
  have hres : reserved k = true → (cleanUnused c0.store c0.blocks).get? k = c0.store.get? k :=
    fun h => cleanUnused_keeps _ _ _ (Or.inl h)
  cases mode with
  | abortedBefore => exact absurd rfl hm
  | startRaises =>
    simp only [Circ.start, h0.idle, bne_self_eq_false, Bool.false_eq_true, if_false]
    exact ⟨hres, cleanUnused_removes _ _ _⟩
  | ok =>
    obtain ⟨_, _, _, _, hcase⟩ := start_shape c0 cal now h0.idle
    rcases hcase with ⟨_, hst, _, _⟩ | ⟨_, hst⟩ <;> rw [hst]
    · -- the save after the initialisation writes the slots of persistent blocks only
      constructor
      · intro hr
        rw [saveAll_other]
        · exact hres hr
        · intro b hb _ heq
          have : reserved b.key = false :=
            h0.plain _ (by rw [← keys_initPasses c0 cal now]; exact List.mem_map_of_mem hb)
          rw [← heq, hr] at this; cases this
      · intro hr hun
        rw [saveAll_other]
        · exact cleanUnused_removes _ _ _ hr hun
        · intro b hb hpb heq
          obtain ⟨y, hy, hy1, hy2⟩ := initPasses_pers c0 cal now b hb hpb
          exact hun y hy hy1 (hy2.trans heq.symm)
    · exact ⟨hres, cleanUnused_removes _ _ _⟩

/-- `AddonPersistence.event` tests `is_initialized()` before the sync save (patches/C06-sync-save-on-uninitialized.diff,
    finding C06-sync-save-on-uninitialized): the sync save after an event that leaves the block uninitialised
    (a conditional event resolved to "no event" arriving before the block's early initialisation) does not
    touch the storage — the entry saved by the previous run stays until it is restored -/
theorem sync_save_skips_uninitialised_block (s : Storage) (b : Blk) (h : b.dyn.inited = false) :
    syncSave s b = s := by
  simp [syncSave, h]

/-- an `on_output` event through an `EventCond` that resolves to `None` changes nothing at all -/
theorem conditional_no_event_changes_nothing (ts : Option Time) (cal : Val → Option Bool) (now : Time)
    (S : IState) (i : Nat) (b : Blk) (l : Link) (hb : S.blocks[i]? = some b) (hl : b.link = some l)
    (hc : (if b.dyn.out.truthy then l.etrue else l.efalse) = false) : emit ts cal now S i = S := by
  unfold emit
  simp only [hb, hl, hc, Bool.false_eq_true, if_false]

theorem startL_shape (c : Circ) (h : Fresh0 c) (cal : Val → Option Bool) (now : Time) :
    ∃ S : IState, IInv (readTs c.store) cal now c.blocks (cleanUnused c.store c.blocks) S ∧
      (c.startL cal now).blocks = S.blocks ∧
      (((c.startL cal now).phase = .running ∧ (c.startL cal now).store = saveAll S.store S.blocks ∧
          ∀ b ∈ S.blocks, b.dyn.inited = true) ∨
       ((c.startL cal now).phase = .failed ∧ (c.startL cal now).store = S.store)) := by
  have hf : ∀ b ∈ c.blocks, b.restored = false := fun b hb => (h.untouched b hb).2
  have hs : ∀ b ∈ c.blocks, b.steps = 0 := fun b hb => (h.untouched b hb).1
  have hI0 := iinv_initial (ts := readTs c.store) (cal := cal) (now := now) hs (cleanUnused c.store c.blocks)
  have hI1 := iinv_foldl (turn1 (readTs c.store) cal now) (fun S i hI => iinv_turn1 h.nodup hf hI i)
    (List.range c.blocks.length) hI0
  have hI2 := iinv_foldl (turn2 (readTs c.store) cal now) (fun S i hI => iinv_turn2 h.nodup hf hI i)
    (List.range c.blocks.length) hI1
  unfold Circ.startL
  simp only [h.idle, bne_self_eq_false, Bool.false_eq_true, if_false]
  generalize List.foldl (turn2 (readTs c.store) cal now) _ _ = S2 at hI2
  refine ⟨S2, hI2, ?_, ?_⟩
  · split <;> rfl
  · split
    · next hc =>
      simp only [Bool.and_eq_true, List.all_eq_true, decide_eq_true_eq] at hc
      exact Or.inl ⟨rfl, rfl, hc.2⟩
    · exact Or.inr ⟨rfl, rfl⟩

/-- `startup_restores_every_valid_entry`: after a successful start-up — whatever `on_output` events (plain or
    conditional, resolved to an event or to none) the blocks sent each other while they were restored, and
    in whatever order the blocks were created — block `j` was restored from the storage exactly when its
    entry in the ORIGINAL storage was present, not expired and accepted by `_restore_state`: a condition
    that mentions neither the other blocks nor the creation order -/
theorem startup_restores_every_valid_entry (c : Circ) (h : Fresh0 c) (cal : Val → Option Bool) (now : Time)
    (hrun : (c.startL cal now).phase = .running) (j : Nat) (b0 b : Blk)
    (hb0 : c.blocks[j]? = some b0) (hb : (c.startL cal now).blocks[j]? = some b) :
    b.key = b0.key ∧ (b.restored = true ↔ (load b0 c.store (readTs c.store) cal now).isSome = true) := by
  obtain ⟨S, hI, hbl, hcase⟩ := startL_shape c h cal now
  rw [hbl] at hb
  rcases hcase with ⟨_, _, hall⟩ | ⟨hph, _⟩
  · have hsteps : b.steps ≠ 0 := by
      intro h0
      have := (hI.untouched j b hb h0).1
      have hun := h.uninit b (List.mem_of_getElem? this)
      rw [hall b (List.mem_of_getElem? hb)] at hun; simp at hun
    obtain ⟨b0', h1, h2, h3⟩ := hI.touched j b hb hsteps
    rw [hb0] at h1; simp only [Option.some.injEq] at h1; subst h1
    rw [load_cleanUnused b0 c.blocks (List.mem_of_getElem? hb0)] at h3
    exact ⟨h2, h3⟩
  · rw [hph] at hrun; simp at hrun

/-- after a successful start-up the storage holds the state of every persistent block -/
theorem startup_saves_all (c : Circ) (h : Fresh0 c) (cal : Val → Option Bool) (now : Time)
    (hrun : (c.startL cal now).phase = .running) :
    ∀ b ∈ (c.startL cal now).blocks, b.persistent = true →
      (c.startL cal now).store.get? b.key = getState b.kind b.dyn := by
  obtain ⟨S, hI, hbl, hcase⟩ := startL_shape c h cal now
  rcases hcase with ⟨_, hst, _⟩ | ⟨hph, _⟩
  · intro b hb hp
    rw [hbl] at hb
    rw [hst]
    exact saveAll_mem _ (by rw [hI.keys]; exact h.nodup) _ hb hp
  · rw [hph] at hrun; simp at hrun

/-- …and when the start-up fails, the entry of every persistent block that was not reached is still what the
    previous run saved -/
theorem failed_startup_keeps_untouched_entries (c : Circ) (h : Fresh0 c) (cal : Val → Option Bool) (now : Time)
    (hfail : (c.startL cal now).phase = .failed) (j : Nat) (b : Blk)
    (hb : (c.startL cal now).blocks[j]? = some b) (hs : b.steps = 0) (hp : b.persistent = true) :
    (c.startL cal now).store.get? b.key = c.store.get? b.key := by
  obtain ⟨S, hI, hbl, hcase⟩ := startL_shape c h cal now
  rw [hbl] at hb
  rcases hcase with ⟨hph, _, _⟩ | ⟨_, hst⟩
  · rw [hph] at hfail; simp at hfail
  · obtain ⟨h1, h2⟩ := hI.untouched j b hb hs
    rw [hst, h2]
    exact cleanUnused_keeps _ _ _ (Or.inr ⟨b, List.mem_of_getElem? h1, hp, rfl⟩)

/-- a failing WRITE is suppressed by `save_persistent_state`: no exception leaves it as long as the `pop` that
    removes the stale entry works, and then no stale entry stays -/
theorem write_fault_is_suppressed (f : Faults) (s : Storage) (b : Blk) (hr : f.remove = false) :
    (saveBlkF f s b).2 = false ∧
    (f.write = true → b.persistent = true → (saveBlkF f s b).1.get? b.key = none) := by
  unfold saveBlkF
  cases hp : b.persistent <;> cases hg : getState b.kind b.dyn <;> cases hw : f.write <;>
    simp [hr, Storage.get?_erase_same]

/-- …but the `pop` itself is not protected: with writes AND removals failing the exception leaves the method
    (what the code does; "Suppress errors" of the docstring does not hold for this case) -/
theorem double_fault_leaves_save (f : Faults) (s : Storage) (b : Blk) (hw : f.write = true) (hr : f.remove = true)
    (hp : b.persistent = true) : saveBlkF f s b = (s, true) := by
  unfold saveBlkF
  cases hg : getState b.kind b.dyn <;> simp [hp, hw, hr]

/-- `event_unaffected_by_storage_fault`: on a storage whose writes (and reads, and iteration) fail — as long as
    `pop` works — an event gives the caller exactly what it gives on a working storage: the handler's result or
    the handler's exception, never an exception of the storage; the blocks and the phase of the circuit are those
    of the fault-free run (the simulation is not aborted by the fault) -/
theorem event_unaffected_by_storage_fault (c c' : Circ) (f : Faults) (hr : f.remove = false)
    (cal : Val → Option Bool) (i : Nat) (ev : Ev) (r : ResF) (h : c.eventF f cal i ev = some (c', r)) :
    ∃ c0 r0, c.event cal i ev = some (c0, r0) ∧ r = .res r0 ∧ c'.blocks = c0.blocks ∧ c'.phase = c0.phase := by
  obtain ⟨c0, r0, he, hcase⟩ := eventF_some h
  refine ⟨c0, r0, he, ?_⟩
  rcases hcase with ⟨v, rfl, hres⟩ | ⟨_, rfl, rfl⟩
  · cases hb' : c0.blocks[i]? with
    | none => rw [resave_none hb'] at hres; cases hres; exact ⟨rfl, rfl, rfl⟩
    | some b' =>
      -- the save is attempted; with a working `pop` no exception leaves it
      rw [resave_some hb', (write_fault_is_suppressed f c.store b' hr).1] at hres
      split at hres <;> cases hres <;> exact ⟨rfl, rfl, rfl⟩
  · exact ⟨rfl, rfl, rfl⟩

/-- `next_save_after_outage_stores_state`: once the storage works again, the next handled event of a block with
    `persistent and sync_state` leaves the block's CURRENT state in its slot — whatever the outage did to the slot -/
theorem next_save_after_outage_stores_state (c c' : Circ) (cal : Val → Option Bool) (i : Nat) (ev : Ev) (v : Val)
    (b' : Blk) (h : c.eventF {} cal i ev = some (c', .res (.ret v))) (hb' : c'.blocks[i]? = some b')
    (hp : b'.persistent = true) (hs : b'.sync = true) (hi : b'.dyn.inited = true) :
    c'.store.get? b'.key = getState b'.kind b'.dyn := by
  obtain ⟨c0, r0, -, hcase⟩ := eventF_some h
  rcases hcase with ⟨v0, rfl, hres⟩ | ⟨hne, -, hr⟩
  · cases hb0 : c0.blocks[i]? with
    | none => rw [resave_none hb0] at hres; cases hres; rw [hb0] at hb'; cases hb'
    | some b0 =>
      rw [resave_some hb0, saveBlkF_nofault] at hres
      split at hres <;> cases hres <;> obtain rfl := Option.some.inj (hb0.symm.trans hb')
      · exact saveBlk_same c.store b0 hp
      · next hc => rw [hp, hs, hi] at hc; exact absurd rfl hc
  · cases hr; exact absurd rfl (hne v)

/-- `stop_on_failing_storage` (the save-and-stamp section of `run_forever` is inside a `try` whose handler only logs,
    patches/C08-storage-fault-at-stop-skips-cleanup.diff): a storage fault
    at the stop does not end in an exception — whatever fails, the clean-up begins (`stopping`) with the blocks as
    they are, and its end leaves the circuit `stopped` with every timer cancelled.  The storage then holds what was
    written before the fault: with working writes and no save letting an exception out, the stop time of THIS stop;
    with failing writes the stop-time slot is untouched (no stamp, or the stale one of the previous run) -/
theorem stop_on_failing_storage (c : Circ) (f : Faults) (t : Time)
    (hph : c.phase = .running ∨ c.phase = .aborted) (hok : c.startOk = true)
    (hkeys : ∀ b ∈ c.blocks, b.key ≠ stopKey) :
    (c.stopBeginF f t).phase = .stopping ∧ (c.stopBeginF f t).blocks = c.blocks ∧
    ((c.stopBeginF f t).stopEnd t true).phase = .stopped ∧
    (∀ b ∈ ((c.stopBeginF f t).stopEnd t true).blocks, b.dyn.timer = none) ∧
    (f.write = false → (saveAllF f c.store c.blocks).2 = false →
      (c.stopBeginF f t).store.get? stopKey = some (.ts t)) ∧
    (f.write = true → (c.stopBeginF f t).store.get? stopKey = c.store.get? stopKey) := by
  have heq := stopBeginF_eq (hph.elim Or.inl (Or.inr ∘ Or.inl)) f t
  have hp : (c.stopBeginF f t).phase = .stopping := by
    rw [heq]; rcases hph with h | h <;> simp [h]
  have hend := stopEnd_complete (Or.inl hp) t
  refine ⟨hp, by rw [heq], hend.1, fun b hb => (hend.2 b hb).1, ?_, ?_⟩
  · intro hw hs
    rw [heq]
    simp only [hok, hs, hw, Bool.or_self, Bool.false_eq_true, if_false, if_true]
    exact Storage.get?_set_same ..
  · intro hw
    rw [heq]
    simp only [hok, hw, Bool.or_true, if_true]
    exact saveAllF_ne f _ _ (fun b hb => (hkeys b hb).symm)

/-- the start on a storage whose reads fail: an entry that cannot be read is treated as absent (the error is
    suppressed, the block is initialised normally), while an exception of `_check_persistent_data` — the read of
    the stop time, `keys()`, a `del` of the purge: none is protected — ends the start before any block is started
    and leaves blocks and storage as they were -/
theorem start_on_failing_storage (c : Circ) (f : Faults) (cal : Val → Option Bool) (now : Time)
    (hidle : c.phase = .idle) :
    (∀ b : Blk, b.key ∈ f.read → ∀ ts, load b (c.store.filter (fun p => !(f.read.contains p.1))) ts cal now = none) ∧
    (checkRaises f c.store c.blocks = true →
      (c.startF f cal now).phase = .stopped ∧ (c.startF f cal now).blocks = c.blocks ∧
      (c.startF f cal now).store = c.store ∧ (c.startF f cal now).startOk = false) := by
  constructor
  · intro b hb ts
    unfold load
    have : Storage.get? (c.store.filter (fun p => !(f.read.contains p.1))) b.key = none := by
      rw [Storage.get?_filterKey (fun k => !(f.read.contains k))]
      simp [hb]
    rw [this]
    split <;> rfl
  · intro hc
    unfold Circ.startF
    simp [hidle, hc]

def exCls : FsmCls :=
  { states := ["s0", "s1"], trans := [("e0", none, "s1"), ("tk", some "s0", "s1")],
    timers := [("s1", some 1000000, .ev "tk")], conds := [], enters := [], outMode := .state,
    initState := "s0", initSdata := [] }

def exCirc : Circ :=
  { blocks := [{ key := "<Input 'i'>", kind := .input (.int 0), persistent := true, sync := true, expiration := none },
               { key := "<GFsm 'f'>", kind := .fsm exCls, persistent := true, sync := true, expiration := some 5000000 }],
    store := [("edzed-app", .val (.int 1)), ("<Input 'gone'>", .val (.int 5))] }

example : Fresh exCirc := Fresh.of_check (by decide +kernel)

/-- the history of finding C04-timer-state-after-fire: enter the timed state, the timed event fires and is refused (no transition
    from `s1`): the slot then holds the state WITHOUT a timer, and a restart restores `s1` -/
example :
    let c := run (fun _ _ => none) (exCirc.start (fun _ => none) 100 .ok) [.ev 1 (.named "e0" none), .fire 1]
    c.phase = .running ∧ c.store.get? "<GFsm 'f'>" = some (.fsm "s1" none []) ∧
    c.store.get? "<Input 'gone'>" = none ∧ c.store.get? "edzed-app" = some (.val (.int 1)) := by
  decide +kernel

/-- the start-up of finding C06-sync-save-on-uninitialized: `src` (restored value 0, falsy) is created first and sends
    `EventCond('put', None)` to `dst`; both are restored — `dst` keeps `'saved'` -/
def exLink : Circ :=
  { blocks := [{ key := "<Input 'src'>", kind := .input (.int 5), persistent := true, sync := true, expiration := none,
                 link := some ⟨1, true, false⟩ },
               { key := "<Input 'dst'>", kind := .input (.str "dflt"), persistent := true, sync := true,
                 expiration := none }],
    store := [("<Input 'src'>", .val (.int 0)), ("<Input 'dst'>", .val (.str "saved"))] }

example :
    let c := exLink.startL (fun _ => none) 100
    c.phase = .running ∧ c.blocks.map (·.restored) = [true, true] ∧
    c.blocks.map (·.dyn.out) = [.int 0, .str "saved"] ∧ c.store.get? "<Input 'dst'>" = some (.val (.str "saved")) := by
  decide +kernel

/-! ### nested events: chained transitions requested by entry actions

`AddonPersistence.event` is the outermost `event()` of a persistent block, so the `self.event(…)` with which an FSM
entry action requests a chained transition re-enters it in the MIDDLE of the outer transition (finding
C06-nested-event-saves-intermediate-state: a wrapper that saves there stores an intermediate state).  `Circ.eventN` / `Circ.fireN` - what
the driver executes for every event and timer firing - run every wrapper call the event contains (`blockMids`: the
block's state when each nested call returned) and log the storage after every write: the crash points inside an
event. -/

/-- `nested_event_never_saves`: a call of the wrapper made while another `event()` of the block is active writes
    nothing, whatever state the block is in and however many such calls an event contains; the circuit and result
    of an event with all its nested calls are those of `Circ.event`; and a save happens only when the OUTERMOST
    `event()` of the block returns: an event writes at most once, the write is the last thing it does (the storage
    it leaves is the final one) and the event was handled without error - an event that raises writes nothing -/
theorem nested_event_never_saves (c : Circ) (cal : Val → Option Bool) (i : Nat) (ev : Ev) :
    (∀ (s : Storage) (b : Blk), wrapperSave true s b = (s, false) ∧ syncSaveN true s b = s) ∧
    (∀ (s : Storage) (b : Blk) (mids : List Dyn) (log : List Storage), nestedSaves b mids s log = (s, log)) ∧
    (c.eventN cal i ev).map (fun x => (x.1, x.2.1)) = c.event cal i ev ∧
    (c.fireN cal i).map (fun x => (x.1, x.2.1)) = c.fire cal i ∧
    (∀ c' r ws, c.eventN cal i ev = some (c', r, ws) →
      (ws = [] ∧ c'.store = c.store) ∨ (∃ v, r = .ret v ∧ ws = [c'.store])) :=
  ⟨fun s b => ⟨wrapperSave_nested s b, rfl⟩, fun s b mids log => nestedSaves_writes_nothing b mids s log,
   eventN_is_event c cal i ev, fireN_is_fire c cal i, fun _ _ _ h => eventN_writes h⟩

/-- `storage_never_holds_intermediate_state`: for every circuit, initial storage and history (events, chained
    transitions, failing entry actions, timer firings), at EVERY write made while the next event is handled the
    storage holds, for every block with `persistent and sync_state` (the block handling the event included), the
    block's state after that completed event - never a state the block only passes through - and a write is made
    only by an event that was handled without error; an event that fails leaves the storage as it was after the
    last completed event -/
theorem storage_never_holds_intermediate_state (env : Time → Val → Option Bool) (c0 : Circ) (h0 : Fresh c0)
    (now : Time) (ops : List Op) (cal : Val → Option Bool) (i : Nat) (ev : Ev) (c' : Circ) (r : Res)
    (ws : List Storage)
    (h : (run env (c0.start (env now) now .ok) ops).eventN cal i ev = some (c', r, ws)) :
    (∀ s ∈ ws, (∃ v, r = .ret v) ∧
      ((c'.phase = .running ∨ c'.phase = .aborted) →
        ∀ b ∈ c'.blocks, b.persistent = true → b.sync = true → s.get? b.key = getState b.kind b.dyn)) ∧
    ((∀ v, r ≠ .ret v) → ws = [] ∧ c'.store = (run env (c0.start (env now) now .ok) ops).store) := by
  have hi := h0.inv_run env now ops
  generalize run env (c0.start (env now) now .ok) ops = c at hi h
  have hi' : Inv c' := inv_event hi (by rw [← eventN_is_event, h]; rfl)
  rcases eventN_writes h with ⟨rfl, hs⟩ | ⟨v, rfl, rfl⟩
  · exact ⟨fun s hs => by simp at hs, fun _ => ⟨rfl, hs⟩⟩
  · refine ⟨fun s hs => ?_, fun hne => absurd rfl (hne v)⟩
    simp only [List.mem_singleton] at hs
    subst hs
    exact ⟨⟨v, rfl⟩, fun hg => hi'.synced (good_of_ready hg)⟩

/-- the same for a timer firing -/
theorem storage_never_holds_intermediate_state_fire (env : Time → Val → Option Bool) (c0 : Circ) (h0 : Fresh c0)
    (now : Time) (ops : List Op) (cal : Val → Option Bool) (i : Nat) (c' : Circ) (r : Res) (ws : List Storage)
    (h : (run env (c0.start (env now) now .ok) ops).fireN cal i = some (c', r, ws)) :
    ∀ s ∈ ws, (∃ v, r = .ret v) ∧ s = c'.store ∧
      ((c'.phase = .running ∨ c'.phase = .aborted) →
        ∀ b ∈ c'.blocks, b.persistent = true → b.sync = true → s.get? b.key = getState b.kind b.dyn) := by
  have hi := h0.inv_run env now ops
  generalize run env (c0.start (env now) now .ok) ops = c at hi h
  have hf : c.fire cal i = some (c', r) := by rw [← fireN_is_fire, h]; rfl
  have hi' : Inv c' := inv_fire hi hf
  rcases fireN_writes h with rfl | ⟨v, rfl, rfl⟩
  · nofun
  · intro s hs
    obtain rfl := List.mem_singleton.mp hs
    exact ⟨⟨v, rfl⟩, rfl, fun hg => hi'.synced (good_of_ready hg)⟩

/-- the FSM of finding C06-nested-event-saves-intermediate-state: `go: A → X`, `next: X → Y`, `enter_X` requests `next` with an event to its own block;
    `yFails`: `enter_Y` raises -/
def exChainCls (yFails : Bool) : FsmCls :=
  { states := ["A", "X", "Y"], trans := [("go", some "A", "X"), ("next", some "X", "Y"), ("back", none, "A")],
    timers := [("Y", some 1000000, .ev "back")], conds := [],
    enters := [("X", .chain "next")] ++ (if yFails then [("Y", .raise)] else []),
    outMode := .state, initState := "A", initSdata := [] }

def exChain (yFails : Bool) : Circ :=
  { blocks := [{ key := "<Chain 'f'>", kind := .fsm (exChainCls yFails), persistent := true, sync := true,
                 expiration := none }],
    store := [] }

/-- the hypotheses are satisfiable, and the statement is not empty: the chained transition `A → X → Y` contains one
    nested call of the wrapper, made in the intermediate state `X`; the event writes once, `Y` with its timer -/
example :
    Fresh (exChain false) ∧
    (blockMids (.fsm (exChainCls false)) 5 (((exChain false).start (fun _ => none) 0 .ok).blocks.map (·.dyn)).head!
      (.named "go" none)).map (·.fstate) = ["X"] ∧
    (((exChain false).start (fun _ => none) 0 .ok).eventN (fun _ => none) 0 (.named "go" none)).map
      (fun x => (x.2.1, x.2.2.map (·.get? "<Chain 'f'>"), x.1.blocks.map (·.dyn.entered)))
      = some (.ret (.bool true), [some (.fsm "Y" (some 1000000) [])], [["A", "X", "Y"]]) := by
  exact ⟨Fresh.of_check (by decide +kernel), by decide +kernel, by decide +kernel⟩

/-- …and when `enter_Y` fails nothing is written: the storage keeps `A`, the state after the last completed event -/
example :
    (((exChain true).start (fun _ => none) 0 .ok).eventN (fun _ => none) 0 (.named "go" none)).map
      (fun x => (x.2.1, x.2.2.length, x.1.store.get? "<Chain 'f'>", x.1.blocks.map (·.dyn.fstate)))
      = some (.handlerError, 0, some (.fsm "A" none []), ["Y"]) := by
  decide +kernel

end Edzed.Persist

namespace Edzed.TrTie
open Edzed

/-- `_restore_state` is called exactly when the entry was found and the model's expiration test says
    "not expired" (the model counts integer microseconds, the code float seconds: the comparison is the
    same linear one); a failing storage and a missing entry restore nothing -/
theorem translated_restore_decision_is_model (expiration : Option Int) (ts : Option Nat) (now : Nat)
    (lookup : Gen.TrP.Lookup) :
    (Gen.TrP.Prim.restore ∈ Gen.TrP.restoreActs lookup
        (expiration.map (fun x => (x : Rat))) (ts.map (fun t => (t : Rat))) (now : Rat))
      ↔ (lookup = .found ∧ Persist.expired expiration ts now = false) := by
  have hle : ∀ x : Int, ((x : Rat) ≤ 0) ↔ x ≤ 0 := fun x => by exact_mod_cast Iff.rfl
  have hlt : ∀ (t : Nat) (x : Int), ((t : Rat) + (x : Rat) < (now : Rat)) ↔ (t : Int) + x < (now : Int) :=
    fun t x => by exact_mod_cast Iff.rfl
  unfold Gen.TrP.restoreActs Persist.expired
  cases lookup
  · cases expiration with
    | none => simp
    | some x =>
      by_cases h : x ≤ 0
      · simp [hle, h]
      · cases ts with
        | none => simp [hle, h]
        | some t => by_cases h2 : (t : Int) + x < (now : Int) <;> simp [hle, hlt, h, h2]
  · simp
  · simp

/-- the model's `load` restores only under that decision -/
theorem load_only_if_translated_decision (b : Persist.Blk) (store : Persist.Storage) (ts : Option Nat)
    (cal : Val → Option Bool) (now : Nat) (d : Persist.Dyn) (h : Persist.load b store ts cal now = some d) :
    Gen.TrP.Prim.restore ∈ Gen.TrP.restoreActs .found
      (b.expiration.map (fun x => (x : Rat))) (ts.map (fun t => (t : Rat))) (now : Rat) := by
  rw [translated_restore_decision_is_model]
  refine ⟨rfl, ?_⟩
  unfold Persist.load at h
  cases hp : b.persistent <;> simp [hp] at h
  cases hs : store.get? b.key <;> simp [hs] at h
  cases he : Persist.expired b.expiration ts now <;> simp [he] at h
  rfl

/-! #### `AddonPersistence.event`, `save_persistent_state`, `Circuit._check_persistent_data` and the save / stamp part
of `Circuit.run_forever`, translated by tools/py2lean_persist.py (Gen/TranslatedPersist2.lean).  Every access to the
storage is a primitive that MAY RAISE, so its position relative to the `try` blocks is part of the translation.
The four parts are referred to below as (a) the `event` wrapper, (b) `save_persistent_state`,
(c) `_check_persistent_data`, (d) the stop fragment of `run_forever`. -/

open Persist Gen.TrP2

/-- meaning of the primitives of `save_persistent_state` on the storage: `e` is what `get_state()` returns
    (`none`: it raises); an operation that `fails` has no effect; the flag: an exception left the method -/
def runSave (key : String) (e : Option Entry) : List Prim → Storage × Bool → Storage × Bool
  | [], s => s
  | .setItem :: r, (s, x) => runSave key e r ((match e with | some v => s.set key v | none => s), x)
  | .popKey :: r, (s, x) => runSave key e r (s.erase key, x)
  | .propagate :: _, (s, _) => (s, true)
  | _ :: r, s => runSave key e r s

/-- (b) the translated `save_persistent_state` on a storage with faults `f` IS the model's `saveBlkF`: nothing
    unless persistent; the state is stored under the key; an exception of `get_state()` OR OF THE WRITE is
    suppressed and the entry removed; only an exception of that removing `pop` leaves the method -/
theorem translated_persist_save_is_model (f : Faults) (s : Storage) (b : Blk) :
    runSave b.key (getState b.kind b.dyn)
      (saveActs b.persistent (getState b.kind b.dyn).isNone f.write f.remove) (s, false) = saveBlkF f s b := by
  unfold saveActs saveBlkF
  cases b.persistent <;> cases getState b.kind b.dyn <;> cases f.write <;> cases f.remove <;> rfl

/-- …on a working storage that is `saveBlk` -/
theorem translated_persist_save_without_faults (s : Storage) (b : Blk) :
    runSave b.key (getState b.kind b.dyn) (saveActs b.persistent (getState b.kind b.dyn).isNone false false) (s, false)
      = (saveBlk s b, false) := by
  have := translated_persist_save_is_model {} s b
  rw [saveBlkF_nofault] at this
  exact this

/-- the wrapper's state: the block's `persistent` flag, the storage, "an exception leaves `event()` although the
    handler returned" -/
structure WSt where
  persistent : Bool
  store : Storage
  raised : Bool := false

/-- meaning of the primitives of `AddonPersistence.event`; `b` is the block as the handler left it; the `save`
    primitive — also when it `fails` — is the TRANSLATED `save_persistent_state` on the storage with faults `f` -/
def runEvent (f : Faults) (b : Blk) : List Prim → WSt → WSt
  | [], s => s
  | .disable :: r, s => runEvent f b r { s with persistent := false }
  | .save :: r, s =>
    runEvent f b r { s with store := (runSave b.key (getState b.kind b.dyn)
      (saveActs s.persistent (getState b.kind b.dyn).isNone f.write f.remove) (s.store, false)).1 }
  | .fails .save :: r, s =>
    runEvent f b r { s with store := (runSave b.key (getState b.kind b.dyn)
      (saveActs s.persistent (getState b.kind b.dyn).isNone f.write f.remove) (s.store, false)).1 }
  | .propagate :: _, s => { s with raised := true }
  | _ :: r, s => runEvent f b r s

/-- (a) the translated wrapper on every path, started with the block's flag `p`: when the handler raised, persistence
    is switched off iff the circuit is not ready, and nothing is saved; when it returned, the translated
    `save_persistent_state` runs exactly in the outermost call of an initialised block with `persistent and sync_state`,
    and an exception leaves `event()` iff that save lets one out -/
theorem runEvent_eventActs (f : Faults) (b : Blk) (s : Storage) (sr p ready sy ini svr nested : Bool) :
    runEvent f b (eventActs sr p ready sy ini svr nested) ⟨p, s, false⟩ =
      if sr then ⟨p && ready, s, false⟩
      else if !nested && p && sy && ini then
        ⟨p, (runSave b.key (getState b.kind b.dyn) (saveActs p (getState b.kind b.dyn).isNone f.write f.remove)
          (s, false)).1, svr⟩
      else ⟨p, s, false⟩ := by
  cases sr
  · cases nested <;> cases p <;> cases sy <;> cases ini <;> try rfl
    -- what is left is the call that saves
    cases svr <;> rfl
  · cases p <;> cases ready <;> rfl

/-- (a) success path on a storage with faults `f`: after `super().event` returned, the wrapper saves exactly when
    it is the OUTERMOST `event()` of the block (`nested` = the flag `_persist_event_active` at entry;
    patches/C06-nested-event-saves-intermediate-state.diff) and `persistent ∧ sync_state ∧ is_initialized()`
    (patches/C06-sync-save-on-uninitialized.diff); the storage afterwards is the model's `saveBlkF`, and an exception leaves `event()` iff that
    save lets one out -/
theorem translated_persist_event_success_is_model (f : Faults) (s : Storage) (b : Blk) (ready nested : Bool) :
    runEvent f b (eventActs false b.persistent ready b.sync b.dyn.inited (saveBlkF f s b).2 nested)
        ⟨b.persistent, s, false⟩
      = (if !nested && b.persistent && b.sync && b.dyn.inited
         then ⟨b.persistent, (saveBlkF f s b).1, (saveBlkF f s b).2⟩
         else ⟨b.persistent, s, false⟩) := by
  rw [runEvent_eventActs, translated_persist_save_is_model]
  rfl

/-- …on a working storage that is the model's `syncSaveN` (the outermost call: `syncSave`), and the handler's
    result is returned -/
theorem translated_persist_event_success_without_faults (s : Storage) (b : Blk) (ready nested : Bool) :
    runEvent {} b (eventActs false b.persistent ready b.sync b.dyn.inited false nested) ⟨b.persistent, s, false⟩
      = ⟨b.persistent, syncSaveN nested s b, false⟩ ∧
    (eventActs false b.persistent ready b.sync b.dyn.inited false nested).head? = some .enter ∧
    (eventActs false b.persistent ready b.sync b.dyn.inited false nested).getLast? = some .ret := by
  have h := translated_persist_event_success_is_model {} s b ready nested
  rw [saveBlkF_nofault] at h
  refine ⟨h.trans ?_, rfl, ?_⟩
  · cases nested
    · simp only [syncSaveN, syncSave, Bool.not_false, Bool.true_and, Bool.false_eq_true, if_false]
      split <;> rfl
    · rfl
  · unfold eventActs
    simp only [Bool.false_eq_true, if_false]
    repeat' split
    all_goals rfl

/-- (a) exception path: nothing is saved, persistence is switched off iff the block is persistent and the
    circuit is not ready (`persistent := persistent ∧ ready`, the model's rule), the exception is re-raised -/
theorem translated_persist_event_failure_is_model (f : Faults) (s : Storage) (b : Blk)
    (p ready sy ini sr nested : Bool) :
    runEvent f b (eventActs true p ready sy ini sr nested) ⟨p, s, false⟩ = ⟨p && ready, s, false⟩ ∧
    (eventActs true p ready sy ini sr nested).getLast? = some .reraise :=
  ⟨runEvent_eventActs .., by cases p <;> cases ready <;> rfl⟩

/-- the flag `_persist_event_active` along the action list: `enter` sets it, `leave` puts the entry value back -/
def runFlag (nested : Bool) : List Prim → Bool → Bool
  | [], a => a
  | .enter :: r, _ => runFlag nested r true
  | .leave :: r, _ => runFlag nested r nested
  | _ :: r, a => runFlag nested r a

/-- is the flag set whenever `super().event` is called (attempted)? -/
def flagAtSuper (nested : Bool) : List Prim → Bool → Option Bool
  | [], _ => none
  | .enter :: r, _ => flagAtSuper nested r true
  | .leave :: r, _ => flagAtSuper nested r nested
  | .superEvent :: _, a => some a
  | .fails .superEvent :: _, a => some a
  | _ :: r, a => flagAtSuper nested r a

/-- the nesting flag is sound: on every path (handler returned or raised, save done, failed or skipped) the flag
    is set while `super().event` runs - so an `event()` the handler sends to its own block finds `nested = True` -
    and has its entry value again when `event()` is left; a block no `event()` has entered yet has it cleared (the
    class attribute).  Hence `nested` is true exactly in the calls made while another `event()` of the block is
    active, whatever `_enable_event` does to `_event_active`. -/
theorem translated_persist_event_flag_is_balanced (sr p ready sy ini svr nested : Bool) :
    runFlag nested (eventActs sr p ready sy ini svr nested) nested = nested ∧
    flagAtSuper nested (eventActs sr p ready sy ini svr nested) nested = some true ∧
    eventFlagDefault = false := by
  unfold eventActs
  -- on every path through the translated method the list of actions is a concrete one
  refine ⟨?_, ?_, rfl⟩ <;> repeat' split
  all_goals rfl

/-- `nested_event_never_saves` at the level of the translated code: a nested call of the wrapper contains no
    `save` action at all, whatever the handler, the flags and the storage do; the storage stays as it was -/
theorem translated_persist_nested_event_never_saves (f : Faults) (b : Blk) (sr p ready sy ini svr : Bool)
    (w : WSt) :
    (eventActs sr p ready sy ini svr true).all (fun a => match a with
      | .save => false | .fails .save => false | _ => true) = true ∧
    (runEvent f b (eventActs sr p ready sy ini svr true) w).store = w.store := by
  unfold eventActs
  constructor <;> repeat' split
  -- a path is a concrete list of actions without a save; the paths that save have a test that `nested` makes false,
  -- however the source writes it
  all_goals first | rfl | simp_all

/-- (a) the model's wrapper on a failing storage (`resave`, used by `Circ.eventF` / `Circ.fireF`) IS the
    translated wrapper: same storage, and `saveError` exactly when an exception leaves the translated `event()` -/
theorem translated_persist_event_on_failing_storage_is_model (c c' : Circ) (f : Faults) (i : Nat) (v : Val)
    (b' : Blk) (hb' : c'.blocks[i]? = some b') (ready : Bool) :
    resave c c' f i v =
      (let w := runEvent f b' (eventActs false b'.persistent ready b'.sync b'.dyn.inited (saveBlkF f c.store b').2 false)
        ⟨b'.persistent, c.store, false⟩
       if b'.persistent && b'.sync && b'.dyn.inited then
         ({ c' with store := w.store }, if w.raised then .saveError else .res (.ret v))
       else (c', .res (.ret v))) := by
  have h := translated_persist_event_success_is_model f c.store b' ready false
  simp only [Bool.not_false, Bool.true_and] at h
  unfold resave
  simp only [hb', h]
  cases hc : (b'.persistent && b'.sync && b'.dyn.inited)
  · simp
  · simp only [if_true]
    cases hx : saveBlkF f c.store b' with
    | mk s x => cases x <;> simp

/-- (a) the model's run-time wrapper `Circ.event` IS the translated wrapper on a working storage: with
    `superRaises` = "the handler's result is an exception", `ready` = `is_ready()` after the event, the block's flag
    and the storage after `Circ.event` are what the translated action list computes -/
theorem translated_persist_event_is_circ_event (c c' : Circ) (cal : Val → Option Bool) (i : Nat)
    (ev : Ev) (r : Res) (b b' : Blk)
    (h : c.event cal i ev = some (c', r)) (hb : c.blocks[i]? = some b) (hb' : c'.blocks[i]? = some b')
    (hin : b'.dyn.inited = true) :
    runEvent {} b' (eventActs (match r with | .ret _ => false | _ => true) b.persistent c'.ready b.sync
      b'.dyn.inited false false) ⟨b.persistent, c.store, false⟩ = ⟨b'.persistent, c'.store, false⟩ := by
  obtain ⟨_, b1, d, hb1, _, rfl⟩ := event_wrapped h
  obtain rfl := Option.some.inj (hb.symm.trans hb1)
  have hfail := fun bb rd ini =>
    (translated_persist_event_failure_is_model {} c.store bb b.persistent rd b.sync ini false false).1
  cases r <;>
    obtain rfl := Option.some.inj ((List.getElem?_set_self (List.getElem?_eq_some_iff.mp hb).1).symm.trans hb')
  · refine ((translated_persist_event_success_without_faults c.store { b with dyn := d } _ false).1).trans ?_
    simp only [syncSaveN, syncSave, show d.inited = true from hin, Bool.and_true, Bool.false_eq_true, if_false]
    rfl
  · exact hfail _ _ _
  · exact hfail _ _ _
  · refine (hfail _ _ _).trans ?_
    by_cases hr : c.phase = .running <;> simp [Circ.ready, Circ.wrapped, wrapPers, hr]

/-- the read of the stop time on a storage with faults -/
def stampRead (f : Faults) (s : Storage) : StampRead :=
  if f.read.contains stopKey then .failed else
  match s.get? stopKey with
  | none => .missing
  | some e => .found e

/-- the keys the translated `_check_persistent_data` deletes: the keys of the storage that belong to no persistent
    block, and of those the ones that are not reserved -/
def purged (s : Storage) (bs : List Blk) : List String :=
  ((s.map (·.1)).filter fun k => !(persistentKeys bs).contains k).filter fun k => !reserved k

theorem mem_purged {s : Storage} {bs : List Blk} {k : String} :
    k ∈ purged s bs ↔ (∃ p ∈ s, p.1 = k) ∧ (reserved k || (persistentKeys bs).contains k) = false := by
  simp only [purged, List.mem_filter, List.mem_map, Bool.not_eq_true', Bool.or_eq_false_iff]
  exact ⟨fun h => ⟨h.1.1, h.2, h.1.2⟩, fun h => ⟨⟨h.1, h.2.2⟩, h.2.1⟩⟩

theorem cleanUnused_eq_purge (s : Storage) (bs : List Blk) :
    cleanUnused s bs = s.filter (fun p => !((purged s bs).contains p.1)) := by
  unfold cleanUnused
  apply List.filter_congr
  intro p hp
  cases h : (reserved p.1 || (persistentKeys bs).contains p.1)
  · rw [List.contains_eq_mem, decide_eq_true (mem_purged.mpr ⟨⟨p, hp, rfl⟩, h⟩)]; rfl
  · rw [List.contains_eq_mem, decide_eq_false fun hm => by rw [(mem_purged.mp hm).2] at h; cases h]; rfl

theorem purged_isEmpty (s : Storage) (bs : List Blk) :
    (purged s bs).isEmpty = !(s.any fun p => !(reserved p.1 || (persistentKeys bs).contains p.1)) := by
  rw [Bool.eq_iff_iff]
  simp only [List.isEmpty_iff, List.eq_nil_iff_forall_not_mem, mem_purged, Bool.not_eq_true', List.any_eq_false]
  constructor
  · intro h p hp hq
    exact h p.1 ⟨⟨p, hp, rfl⟩, hq⟩
  · rintro h k ⟨⟨p, hp, rfl⟩, hq⟩
    exact h p hp hq

/-- the part of `_check_persistent_data` after the read of the stop time, `x` being what was read -/
theorem check_body (f : Faults) (s : Storage) (bs : List Blk) (x : Option Time) :
    if f.iter || (f.remove && s.any (fun p => !(reserved p.1 || (persistentKeys bs).contains p.1))) then
      (if f.iter then CheckOut.error else
        if f.remove && !(purged s bs).isEmpty then .error else .checked x (purged s bs)) = .error
    else
      ∃ deleted, (if f.iter then CheckOut.error else
        if f.remove && !(purged s bs).isEmpty then .error else .checked x (purged s bs)) = .checked x deleted ∧
        cleanUnused s bs = s.filter (fun p => !(deleted.contains p.1)) := by
  rw [purged_isEmpty, Bool.not_not]
  cases f.iter
  · cases (f.remove && s.any fun p => !(reserved p.1 || (persistentKeys bs).contains p.1))
    · exact ⟨_, rfl, cleanUnused_eq_purge s bs⟩
    · rfl
  · rfl

/-- (c) `_check_persistent_data` with a storage that may fail: it raises exactly when the model's `checkRaises` says
    so (an unreadable stop time, a failing `keys()`, a failing `del` when there is something to purge — none of
    them is caught); otherwise `persistent_ts` is the model's `readTs` and the entries that remain are exactly the
    model's `cleanUnused` (keys of persistent blocks and reserved `edzed-…` keys) -/
theorem translated_persist_check_is_model (f : Faults) (s : Storage) (bs : List Blk) :
    if checkRaises f s bs then
      checkPersistentData true (stampRead f s) (s.map (·.1)) bs f.iter f.remove = .error
    else
      ∃ deleted, checkPersistentData true (stampRead f s) (s.map (·.1)) bs f.iter f.remove
          = .checked (readTs s) deleted ∧
        cleanUnused s bs = s.filter (fun p => !(deleted.contains p.1)) := by
  have hp : ∀ x, _ := check_body f s bs
  unfold purged persistentKeys reserved at hp
  unfold checkPersistentData readTs checkRaises stampRead
  simp only [Bool.not_true, Bool.false_eq_true, if_false, foldl_append_if, List.nil_append]
  cases f.read.contains stopKey
  · simp only [Bool.false_or, Bool.false_eq_true, if_false]
    rcases s.get? stopKey with _ | e
    · exact hp none
    · cases e
      · exact hp none
      · exact hp none
      · exact hp _
  · rfl

/-- (c) without a storage nothing is read or removed: every persistent block gets `persistent = False` -/
theorem translated_persist_check_without_storage (st : StampRead) (ks : List String)
    (bs : List Blk) (ir dr : Bool) :
    checkPersistentData false st ks bs ir dr = .noStorage (bs.filter (·.persistent)) := by
  unfold checkPersistentData
  cases h : (bs.filter (·.persistent)) <;> simp_all

/-- meaning of the primitives of the stop fragment on a storage with faults `f`, up to the first `await` of the
    clean-up; the flag: an exception leaves `run_forever` BEFORE the clean-up (`translated_persist_stop_is_model`: never) -/
def runStop (f : Faults) (t : Nat) : List Prim → Circ × Bool → Circ × Bool
  | [], c => c
  | .saveAll :: r, (c, x) => runStop f t r ({ c with store := (saveAllF f c.store c.blocks).1 }, x)
  | .fails .saveAll :: r, (c, x) => runStop f t r ({ c with store := (saveAllF f c.store c.blocks).1 }, x)
  | .stamp :: r, (c, x) => runStop f t r ({ c with store := c.store.set stopKey (.ts t) }, x)
  | .cleanup :: _, (c, x) =>
    ({ c with now := t, phase := if c.phase == .failed then .stoppingF else .stopping }, x)
  | .propagate :: _, (c, _) => ({ c with now := t, phase := .stopped }, true)
  | _ :: r, c => runStop f t r c

/-- (d) ORDER: all saves, then the stop time, then the first await of the clean-up; a save that lets an exception
    out, or a failing stop-time write, ends the save-and-stamp section (the handler only logs) and the clean-up
    FOLLOWS all the same (patches/C08-storage-fault-at-stop-skips-cleanup.diff); nothing but the clean-up when the
    start did not go through or there is no storage; nothing when no block was started -/
theorem translated_persist_stop_order (so hs sr wr : Bool) :
    stopActs true true true false false = [.saveAll, .stamp, .cleanup] ∧
    stopActs true true true true wr = [.fails .saveAll, .cleanup] ∧
    stopActs true true true false true = [.saveAll, .fails .stamp, .cleanup] ∧
    stopActs true false hs sr wr = [.cleanup] ∧ stopActs true so false sr wr = [.cleanup] ∧
    stopActs false so hs sr wr = [] := by
  unfold stopActs
  cases so <;> cases hs <;> cases sr <;> cases wr <;> simp

/-- (d) the translated fragment, run up to the first await on a storage with faults `f`, IS the model's
    `stopBeginF`, and no exception leaves it -/
theorem translated_persist_stop_is_model (f : Faults) (c : Circ) (t : Nat)
    (hph : c.phase = .running ∨ c.phase = .aborted ∨ c.phase = .failed) :
    runStop f t (stopActs true c.startOk true (saveAllF f c.store c.blocks).2 f.write) (c, false)
      = (c.stopBeginF f t, false) := by
  rw [stopBeginF_eq hph]
  unfold stopActs
  obtain ⟨bs, st, ts, now, ph, ok, started⟩ := c
  cases ok
  · rfl
  · cases (saveAllF f st bs).2 <;> cases f.write <;> rfl

/-- …on a working storage that is `stopBegin` -/
theorem translated_persist_stop_without_faults (c : Circ) (t : Nat)
    (hph : c.phase = .running ∨ c.phase = .aborted ∨ c.phase = .failed) :
    runStop {} t (stopActs true c.startOk true false false) (c, false) = (c.stopBegin t, false) := by
  have h := translated_persist_stop_is_model {} c t hph
  rw [saveAllF_nofault, stopBeginF_nofault] at h
  exact h

/-- `_get_timediff` IS the midpoint of the two Unix readings minus the loop reading taken between them; with the
    readings of one instant it is the offset "wall clock minus loop clock" of the model's virtual wall clock -/
theorem translated_looptimes_timediff_is_model (u1 l u2 : Rat) :
    getTimediff u1 l u2 = (u1 + u2) / 2 - l ∧ getTimediff u1 l u1 = u1 - l := by
  constructor <;> simp only [getTimediff] <;> grind

/-- direction of the two conversions: loop → Unix ADDS the difference, Unix → loop SUBTRACTS it; a given
    `timediff` is used as it is, `None` means a fresh `_get_timediff()` -/
theorem translated_looptimes_direction (x d u1 l u2 : Rat) :
    loopToUnixtime x (some d) u1 l u2 = x + d ∧ unixToLooptime x (some d) u1 l u2 = x - d ∧
    loopToUnixtime x none u1 l u2 = x + getTimediff u1 l u2 ∧
    unixToLooptime x none u1 l u2 = x - getTimediff u1 l u2 := by
  refine ⟨?_, ?_, ?_, ?_⟩ <;> simp only [loopToUnixtime, unixToLooptime] <;> grind

/-- `unix_to_looptime ∘ loop_to_unixtime = id` (and the other way round) for a fixed `timediff`, and for a fixed
    triple of clock readings -/
theorem translated_looptimes_roundtrip (x d u1 l u2 v1 m v2 : Rat) :
    unixToLooptime (loopToUnixtime x (some d) u1 l u2) (some d) v1 m v2 = x ∧
    loopToUnixtime (unixToLooptime x (some d) u1 l u2) (some d) v1 m v2 = x ∧
    unixToLooptime (loopToUnixtime x none u1 l u2) none u1 l u2 = x := by
  refine ⟨?_, ?_, ?_⟩ <;> simp only [loopToUnixtime, unixToLooptime] <;> grind

/-- a restored timer keeps its ABSOLUTE expiry: `get_state` saved `E = loop_to_unixtime(when)`; `_restore_state`
    computes the remaining time on the SAME (Unix) clock, `remaining = E - time.time()`, and `call_later(remaining)` at
    loop time `l'` creates a handle whose own `loop_to_unixtime` is `E` again — whatever the new loop's time base -/
theorem translated_looptimes_restart_preserves_expiry (when_ u l u' l' : Rat) :
    loopToUnixtime (l' + (loopToUnixtime when_ none u l u - u')) none u' l' u' = loopToUnixtime when_ none u l u := by
  simp only [loopToUnixtime, getTimediff]; grind

/-- the model's virtual wall clock is "loop clock + offset": the saved expiry of a handle due at loop time `when_` is
    the model's absolute wall-clock expiry `when_ + off` -/
theorem translated_looptimes_is_model_wall_clock (when_ l off : Rat) :
    loopToUnixtime when_ none (l + off) l (l + off) = when_ + off := by
  simp only [loopToUnixtime, getTimediff]; grind

/-- the translated constructor IS the model's `mkBlk`: truthiness of `persistent` / `sync_state`, `time_period` of
    `expiration` (which may refuse the value), the key -/
theorem translated_persist_init_is_model (key : String) (kind : Persist.Kind) (p sy e : Val) (link : Option Link) :
    (persistInit TimeUnits.timePeriod (.ok ()) key p sy e).map
        (fun a => (a.key, a.persistent, a.sync_state, a.expiration.map usOf))
      = (mkBlk key kind { persistent := p, syncState := sy, expiration := e } link).map
        (fun b => (b.key, b.persistent, b.sync, b.expiration)) := by
  unfold persistInit mkBlk
  cases h : TimeUnits.timePeriod e <;> rfl

/-- the defaults of the signature are the model's: not persistent, sync_state on, no expiration -/
theorem translated_persist_init_defaults (key : String) :
    persistInitDefaults = (({} : PArgs).persistent, ({} : PArgs).syncState, ({} : PArgs).expiration) ∧
    (persistInit TimeUnits.timePeriod (.ok ()) key persistInitDefaults.1 persistInitDefaults.2.1
      persistInitDefaults.2.2).map (fun a => (a.persistent, a.sync_state, a.expiration)) = .ok (false, true, none) := by
  constructor <;> rfl

/-- `expiration` None, 0 (or less) and a positive duration are kept apart: None stays None (never expires), a number
    `≤ 0` becomes 0 (the saved state is always disregarded), a positive number of seconds is kept -/
theorem translated_persist_init_expiration_kinds (key : String) (p sy : Val) (q : Rat) (k : Edzed.Kind) (ts : Option Time)
    (now : Time) :
    (persistInit TimeUnits.timePeriod (.ok ()) key p sy Val.none).map (·.expiration) = .ok none ∧
    (q ≤ 0 → (persistInit TimeUnits.timePeriod (.ok ()) key p sy (.atom (.num q k))).map (·.expiration) = .ok (some 0)) ∧
    (0 < q → (persistInit TimeUnits.timePeriod (.ok ()) key p sy (.atom (.num q k))).map (·.expiration) = .ok (some q)) ∧
    expired none ts now = false ∧ expired (some (usOf 0)) ts now = true := by
  have h : TimeUnits.timePeriod (.atom (.num q k)) = .ok (some (if q < 0 then 0 else q)) := rfl
  refine ⟨rfl, fun hq => ?_, fun hq => ?_, rfl, ?_⟩
  · have h0 : (if q < 0 then 0 else q) = 0 := by
      split
      · rfl
      · next hn => exact Rat.le_antisymm hq (Rat.not_lt.mp hn)
    simp only [persistInit, h, h0]; rfl
  · simp only [persistInit, h, if_neg (Rat.not_lt.mpr (Rat.le_of_lt hq))]; rfl
  · have h0 : usOf 0 = 0 := by decide +kernel
    rw [h0]; simp [expired]

/-- a value `time_period` refuses makes the constructor raise BEFORE `super().__init__` is reached -/
theorem translated_persist_init_refusal_comes_first (key : String) (p sy e : Val) (err : TimeUnits.PErr)
    (h : TimeUnits.timePeriod e = .error err) (superInit : Except TimeUnits.PErr Unit) :
    (persistInit TimeUnits.timePeriod superInit key p sy e).map (fun _ => ()) = .error err := by
  simp [persistInit, h, bind, Except.bind, Except.map]

/-- `persistent=False` (any falsy value, and the default): no key is ever written — neither by
    `save_persistent_state` nor by the event wrapper, on any storage -/
theorem translated_persist_not_persistent_never_writes (key : String) (p sy e : Val) (a : PersistAttrs)
    (h : persistInit TimeUnits.timePeriod (.ok ()) key p sy e = .ok a) (hp : p.truthy = false)
    (f : Faults) (b : Blk) (st : Option Entry) (g w r sr ready ini nested : Bool) (s : Storage) :
    a.persistent = false ∧
    runSave key st (saveActs a.persistent g w r) (s, false) = (s, false) ∧
    (runEvent f b (eventActs false a.persistent ready a.sync_state ini sr nested) ⟨a.persistent, s, false⟩).store = s := by
  have ha : a.persistent = false := by
    unfold persistInit at h
    cases ht : TimeUnits.timePeriod e with
    | error x => rw [ht] at h; cases h
    | ok x =>
      rw [ht] at h
      obtain rfl := Except.ok.inj h
      exact hp
  rw [ha]
  exact ⟨rfl, rfl, by rw [runEvent_eventActs]; cases nested <;> rfl⟩

/-- the translated `InputExp.on_enter_expired` removes `sdata['input']` and does nothing else.  (The method exists,
    but no FSM hook of that name is ever looked up - `enter_expired` would be - so the model has no counterpart and
    never applies it; the statement says only what the method computes.) -/
theorem translated_inputexp_on_enter_expired_is_model (sd : Data) :
    inputExpOnEnterExpired sd = sd.erase "input" := rfl

/-- non-vacuity: a concrete constructor call -/
example : (persistInit TimeUnits.timePeriod (.ok ()) "<Input 'i'>" (Val.int 1) (Val.str "") (Val.flt (-3/2))).map
    (fun a => (a.persistent, a.sync_state, a.expiration)) = .ok (true, false, some 0) := by
  have ok_of_toOption : ∀ {x : Except TimeUnits.PErr (Bool × Bool × Option Rat)} {v}, x.toOption = some v → x = .ok v := by
    intro x v h
    cases x
    · cases h
    · exact congrArg Except.ok (Option.some.inj h)
  exact ok_of_toOption (by decide +kernel)

/-! ### `get_state()` of the cron clients (finding C06-uninitialised-cal-state-saved)

`TimeDate.get_state` / `TimeSpan.get_state` are translated by tools/py2lean_cron_cfg.py together with the state of
initialisation of the block (`tdGetStateOpt`, `tsGetStateOpt`: `none` = EdzedInvalidState).  The model's `getState`
answers `none` for EVERY uninitialised block, hence `saveBlk` removes the entry and a restart initialises the block
from its arguments.  Both methods raise for an uninitialised block (patches of finding C06-uninitialised-cal-state-saved);
methods without that guard translate to definitions that answer `some …` for an uninitialised block, which the two
theorems below exclude. -/

open Gen.TrCronCfg in
/-- `get_state()` of an uninitialised TimeDate / TimeSpan raises, as the model's `getState` says of every kind -/
theorem translated_croncfg_get_state_of_uninitialised_block_raises
    {TA DA SA TI DI SI TL DL SL ε : Type} (P : CfgPrims TA DA SA TI DI SI TL DL SL ε)
    (t : Option TI) (d : Option DI) (w : Option (List Int)) (x : SI) (i : Val) (dyn : Dyn) (h : dyn.inited = false) :
    tdGetStateOpt P false t d w = none ∧ tsGetStateOpt P false x = none ∧ getState (.cal i) dyn = none := by
  refine ⟨rfl, rfl, ?_⟩
  simp [getState, h]

open Gen.TrCronCfg in
/-- … and they answer exactly when the model does: the translated methods are defined iff the block is initialised,
    and then they are the translated `_export3` / `as_list()` of the stored configuration -/
theorem translated_croncfg_get_state_defined_iff_model
    {TA DA SA TI DI SI TL DL SL ε : Type} (P : CfgPrims TA DA SA TI DI SI TL DL SL ε)
    (t : Option TI) (d : Option DI) (w : Option (List Int)) (x : SI) (i : Val) (dyn : Dyn) :
    (tdGetStateOpt P dyn.inited t d w).isSome = (getState (.cal i) dyn).isSome ∧
    (tsGetStateOpt P dyn.inited x).isSome = (getState (.cal i) dyn).isSome ∧
    (dyn.inited = true → tdGetStateOpt P dyn.inited t d w = some (export3 P t d w) ∧
      tsGetStateOpt P dyn.inited x = some (P.spanAsList x)) := by
  cases h : dyn.inited <;> simp [tdGetStateOpt, tsGetStateOpt, tdGetState, tsGetState, getState, h]

/-- consequence for the final save of `run_forever`: the entry of an uninitialised persistent block of ANY kind is
    removed, never written -/
theorem uninitialised_block_is_never_saved (s : Storage) (b : Blk) (hp : b.persistent = true)
    (hi : b.dyn.inited = false) : saveBlk s b = s.erase b.key := by
  simp [saveBlk, hp, getState, hi]

/-! ### a stopped FSM does not save any more (finding C06-late-event-overwrites-saved-timer)

`FSM.stop()` cancels the timer; an event that reaches the block afterwards (sent by the `stop()` of another block:
the blocks without asynchronous clean-up are stopped in set order) would make `AddonPersistence.event` save the
state WITHOUT the timer over what `run_forever` saved before it stopped the blocks – a restart would then restore a
timed state that never expires.  Hence `stop()` switches the block's persistence off (translated statement
`self.persistent = False`, tied in C04: `translated_fsmtimer_stop_is_model`, `stop_switches_persistence_off`). -/

/-- after a complete clean-up every FSM block has its persistence switched off, every other block keeps its flag -/
theorem stopped_fsm_is_not_persistent (c : Circ) (t : Time) (hp : c.phase = .stopping ∨ c.phase = .stoppingF)
    (hs : c.started = true) (b : Blk) (hb : b ∈ (c.stopEnd t true).blocks) :
    (∀ k, b.kind = .fsm k → b.persistent = false) ∧ b.dyn.timer = none := by
  obtain ⟨htimer, hpers⟩ := (stopEnd_complete hp t).2 b hb
  exact ⟨fun k hk => hpers k hk hs, htimer⟩

/-- … and whatever an event does to such a block afterwards, neither `save_persistent_state` nor the sync save writes:
    the entry saved when the stop began is what a restart finds -/
theorem stopped_fsm_never_overwrites_saved_state (s : Storage) (b : Blk) (hp : b.persistent = false) (d : Dyn) :
    saveBlk s { b with dyn := d } = s ∧ syncSave s { b with dyn := d } = s := by
  simp [saveBlk, syncSave, hp]

/-- the final save of a start-up that failed DURING the initialisation (`start_ok` set, phase `failed`):
    afterwards the storage holds, for every persistent block, exactly what `get_state()` answers - the state of an
    initialised block, and NO entry for a block that was never initialised (whatever the storage held before), so
    that a restart initialises it from its arguments -/
theorem failed_init_final_save (c : Circ) (t : Time) (hph : c.phase = .failed) (hok : c.startOk = true)
    (hn : (keys c.blocks).Nodup) (b : Blk) (hb : b ∈ c.blocks) (hp : b.persistent = true) (hk : b.key ≠ stopKey) :
    (c.stopBegin t).store.get? b.key = getState b.kind b.dyn ∧
    (b.dyn.inited = false → (c.stopBegin t).store.get? b.key = none) := by
  have h1 := (stopBegin_saves ⟨hok, Or.inr (Or.inr hph)⟩ hn t).2 b hb hp hk
  refine ⟨h1, fun hi => ?_⟩
  rw [h1]; simp [getState, hi]

end Edzed.TrTie
