/-
C08 — every started block is stopped exactly once; asynchronous clean-up first and bounded;
clean-up errors isolated; stop_data last; neither restart nor modification afterwards; no task,
timer or helper outlives the simulation.

Model: EdzedModel/Lifecycle.lean (`runForever`), mirroring `Circuit.run_forever`,
`_stop_sblocks`, `_run_tasks`, `run()`, `AddonMainTask`, `FSM.stop`, `OutputFunc/OutputAsync.stop`
with the repairs of patches/C08-*.diff and patches/C04-no-timer-after-stop.diff.
Every statement is for EVERY configuration `c`: any number of blocks of any kind, any fault
script (all `f…` flags, main task failure instants), any durations and time-outs, any
termination cause and instant, and any order `c.oa`/`c.os` in which the two sets of blocks are
iterated (`runForever c = some r` says exactly that the orders enumerate the right sets).
`stops`, `starteds`, `sabs`, `saes`, `outsOf` (EdzedProofs/Lifecycle.lean) read the stop() calls,
returned start() calls, stop_async begins/ends and output-function calls off the trace.
-/
import EdzedModel.Lifecycle
import EdzedProofs.Lifecycle
import EdzedProofs.LifecycleTie

namespace Edzed.Lifecycle

/-- `stop_exactly_started`: the multiset of stop() calls is the set of blocks whose start()
    returned — for every fault script, termination cause and stop order -/
theorem stop_exactly_started (c : Cfg) (r : Result) (h : runForever c = some r) :
    (stops r.trace).Perm (starteds r.trace) ∧ (starteds r.trace).Nodup := by
  rcases run_cases h with ⟨_, rfl⟩ | ⟨_, hA, hS, rfl⟩
  · exact ⟨.refl _, .nil⟩
  · obtain ⟨h1, h2, _, _⟩ := trace_observers c
    rw [h1, h2]
    exact ⟨(hA.append hS).trans (List.filter_append_perm _ _), plan_started c ▸ startLoop_nodup 0 c.blocks⟩

/-- which blocks these are: a block's start() returns iff neither it nor an earlier block raises
    in start() -/
theorem started_iff_no_start_fault (c : Cfg) (r : Result) (h : runForever c = some r)
    (hb : c.cause.before = false) (k : Nat) :
    k ∈ starteds r.trace ↔ k < c.blocks.length ∧ ∀ j, j ≤ k → (blk c.blocks j).fStart = false := by
  obtain ⟨_, _, rfl⟩ := run_eq c r h hb
  rw [(trace_observers c).2.1, plan_started, startLoop_mem]
  simp [blk]

/-- `async_before_sync`: the trace splits into a part that contains every stop(), stop_async
    begin and end of the blocks with asynchronous clean-up, and a later part that consists of the
    stop() calls of the remaining blocks (and their stop_data output calls) only -/
theorem async_before_sync (c : Cfg) (r : Result) (h : runForever c = some r) :
    ∃ pre post, r.trace = pre ++ post ∧
      (∀ k, Ev.stop k ∈ pre → (blk c.blocks k).asyncStop = true) ∧
      (∀ e ∈ post, (∃ k, e = .stop k ∧ (blk c.blocks k).asyncStop = false) ∨ ∃ k b, e = .out k b) := by
  rcases run_cases h with ⟨_, rfl⟩ | ⟨_, hA, hS, rfl⟩
  · exact ⟨[], [], rfl, by simp, by simp⟩
  · obtain ⟨a, b, d, ht, ha, _, _, hb', hd⟩ := trace_parts c
    refine ⟨a ++ b, d, ht, ?_, ?_⟩
    · intro k hk
      have := mem_stops hk
      rw [stops_append, ha, hb', List.append_nil] at this
      exact ((hA.mem_iff.trans mem_setA).1 this).2
    · intro e he
      rcases hd e he with ⟨k, hk, rfl⟩ | ⟨k, sd, rfl⟩
      · exact .inl ⟨k, rfl, ((hS.mem_iff.trans mem_setS).1 hk).2⟩
      · exact .inr ⟨k, sd, rfl⟩

/-- stop_async is begun and ended exactly once for exactly the
    started blocks with asynchronous clean-up, after all their stop() calls (`pre` holds them,
    no stop_async event) -/
theorem stop_async_awaited (c : Cfg) (r : Result) (h : runForever c = some r) (hb : c.cause.before = false) :
    (sabs r.trace).Perm (setA c.blocks r.started) ∧ (saes r.trace).Perm (setA c.blocks r.started) ∧
    ∃ pre post, r.trace = pre ++ post ∧ sabs pre = [] ∧ saes pre = [] ∧
      (stops pre).Perm (setA c.blocks r.started) := by
  obtain ⟨hA, _, rfl⟩ := run_eq c r h hb
  obtain ⟨_, _, h3, h4⟩ := trace_observers c
  rw [h3]
  obtain ⟨a, b, d, ht, ha, hsab, hsae, _, _⟩ := trace_parts c
  exact ⟨hA, h4.trans hA, a, b ++ d, by rw [ht, List.append_assoc], hsab, hsae, ha ▸ hA⟩

/-- the clean-up ends within the longest stop_timeout of the
    started blocks after the simulation was terminated -/
theorem stop_async_bounded (c : Cfg) (r : Result) (h : runForever c = some r) (hb : c.cause.before = false)
    (M : Nat) (hM : ∀ k ∈ r.started, (blk c.blocks k).stopTimeout ≤ M) :
    r.endTime ≤ r.termTime + M := by
  obtain ⟨hA, _, rfl⟩ := run_eq c r h hb
  exact Nat.add_le_add_left (stopSblocks_dur _ _ _ _ _ _ _ M fun k hk => hM k ((hA.mem_iff.trans mem_setA).1 hk).1) _

/-- `cleanup_error_isolated`: the stop() calls and the stop_async begins are the given
    enumerations of the two sets of started blocks, whatever the `fStop` / `fStopAsync` scripts
    (and every other fault script) say: an error in one block's clean-up removes no other block's
    clean-up.  The sets depend on kinds, stop_timeouts and the start() faults only. -/
theorem cleanup_error_isolated (c : Cfg) (r : Result) (h : runForever c = some r)
    (hb : c.cause.before = false) :
    stops r.trace = c.oa ++ c.os ∧ sabs r.trace = c.oa ∧
    c.oa.Perm ((startLoop 0 c.blocks).2.1.filter fun k => (blk c.blocks k).asyncStop) ∧
    c.os.Perm ((startLoop 0 c.blocks).2.1.filter fun k => !(blk c.blocks k).asyncStop) := by
  obtain ⟨hA, hS, rfl⟩ := run_eq c r h hb
  exact ⟨(trace_observers c).1, (trace_observers c).2.2.1, hA, hS⟩

/-- changing the clean-up fault scripts of any blocks changes neither which blocks are started
    nor the two sets, so the same orders stay admissible and give the same stop() calls -/
theorem cleanup_faults_irrelevant (c c' : Cfg) (r : Result) (h : runForever c = some r)
    (hb : c.cause.before = false) (hc : c'.cause = c.cause) (hoa : c'.oa = c.oa) (hos : c'.os = c.os)
    (hbl : SameButCleanup c.blocks c'.blocks) :
    ∃ r', runForever c' = some r' ∧ stops r'.trace = stops r.trace ∧ sabs r'.trace = sabs r.trace ∧
      r'.started = r.started := by
  exact same_partition_same_stops c c' r h hb (by rw [hc]; exact hb) hoa hos hbl.toStartStop

/-- the "save the persistent state" step of run_forever (before `_stop_sblocks`) does not change
    which blocks are stopped: making any blocks persistent or not – whatever their state is when
    the simulation is terminated, initialised or not, entry in the storage or not – keeps the
    same stop orders admissible and gives the same stop() calls, stop_async begins and started set -/
theorem save_step_irrelevant (c c' : Cfg) (r : Result) (h : runForever c = some r)
    (hb : c.cause.before = false) (hc : c'.cause = c.cause) (hoa : c'.oa = c.oa) (hos : c'.os = c.os)
    (hbl : SameButPersistence c.blocks c'.blocks) :
    ∃ r', runForever c' = some r' ∧ stops r'.trace = stops r.trace ∧ sabs r'.trace = sabs r.trace ∧
      r'.started = r.started :=
  same_partition_same_stops c c' r h hb (by rw [hc]; exact hb) hoa hos hbl.toStartStop

/-- … the storage afterwards is what `saveStep` computes, and whatever that is the started blocks are
    stopped (the result's trace, task table and timers do not mention the storage) -/
theorem save_step_total (c : Cfg) (r : Result) (h : runForever c = some r) (hb : c.cause.before = false) :
    r.storage = saveStep c.storageFault c.blocks (consumePending (plan c))
      (storageAtStop c.blocks (consumePending (plan c))) ∧
    (stops r.trace).Perm r.started := by
  obtain ⟨h1, _⟩ := stop_exactly_started c r h
  obtain ⟨_, _, rfl⟩ := run_eq c r h hb
  exact ⟨rfl, ((trace_observers c).2.1 ▸ h1 : (stops _).Perm (plan c).started)⟩

/-- whatever the persistent storage does when the simulation is being stopped – it works, its
    `__setitem__` raises, its `pop` raises as well – the run is the same except for the storage's
    contents: the same events (every started block stopped exactly once, see
    `stop_exactly_started`), the same recorded error raised at the end, the same (empty) task
    table and timers, the same end time.  (Repaired behaviour,
    patches/C08-storage-fault-at-stop-skips-cleanup.diff: the save section of run_forever is
    inside a `try … except Exception: log`.) -/
theorem storage_fault_irrelevant (c : Cfg) (r : Result) (h : runForever c = some r) (f : SFault) :
    ∃ r', runForever { c with storageFault := f } = some r' ∧ r' = { r with storage := r'.storage } := by
  rcases run_cases h with ⟨hb, rfl⟩ | ⟨hb, hA, hS, rfl⟩
  · exact ⟨_, by unfold runForever; rw [if_pos hb], rfl⟩
  · exact ⟨_, run_of_perm (c := { c with storageFault := f }) hb hA hS, rfl⟩

/-- the helper task of `wait_init()` (`asyncio.create_task(self._init_done.wait())`) lives no longer than the
    call: whoever awaits wait_init() – an application task, a supporting coroutine that `run()`
    cancels, a task cancelled from outside at any instant `t` while the circuit keeps running – and
    whatever terminates the simulation, the helper is not in the task table when run_forever has
    finished, it is gone by the end of the simulation (`endTime`), and it is gone at `t` when the
    caller was cancelled at `t` -/
theorem helper_lives_no_longer_than_call (c : Cfg) (r : Result) (h : runForever c = some r) :
    Task.helper ∉ r.tasks ∧ helperAt r.helperSpan r.endTime = false ∧
    (∀ t, c.waiter = .cancelled t → helperAt r.helperSpan t = false) ∧
    (∀ a b, r.helperSpan = some (a, b) → b ≤ r.endTime) := by
  rcases run_cases h with ⟨_, rfl⟩ | ⟨_, _, _, rfl⟩
  · simp [helperAt]
  · have hsp := fun a b (h : (finishResult c (plan c)).helperSpan = some (a, b)) => helperSpanOf_end h
    exact ⟨by simp [finishResult], helperAt_of_le fun a b h => (hsp a b h).1,
      fun t ht => helperAt_of_le fun a b h => (hsp a b h).2 t ht, fun a b h => (hsp a b h).1⟩

/-
Full statement: the same without `hno`.  It is FALSE for the code (known finding
C08-outputfunc-event-after-stop, mirrored by the model's `chain`): when another OutputFunc `j` with
stop_data has `on_success = Event(k)` and `k` is stopped before `j`, `k`'s function is called with the
result of `j`'s stop_data after `k`'s own stop_data -- see the example below the theorem.
-/
/-- `stop_data_last` (OutputFunc): for a started OutputFunc block with stop_data that is not the
    destination of another stop_data OutputFunc's on_success event (`NoStopDataSender`), the calls of
    its output function end with the stop_data call, and that is the only stop_data call – for
    every fault script, cause and stop order -/
theorem stop_data_last_partial (c : Cfg) (r : Result) (h : runForever c = some r) (hb : c.cause.before = false)
    (k : Nat) (hk : k ∈ r.started) (hf : (blk c.blocks k).kind = .outf)
    (hsd : (blk c.blocks k).stopData = true) (hno : NoStopDataSender c.blocks k) :
    ∃ pre, outsOf k r.trace = pre ++ [true] ∧ ∀ x ∈ pre, x = false := by
  obtain ⟨_, hS, rfl⟩ := run_eq c r h hb
  have hnd : c.os.Nodup :=
    hS.nodup_iff.2 (plan_started c ▸ (startLoop_nodup 0 c.blocks).sublist List.filter_sublist)
  have hmem : k ∈ c.os := (hS.mem_iff.trans mem_setS).2 ⟨hk, by simp [Blk.asyncStop, hf]⟩
  refine ⟨outsOf k (plan c).puts, ?_, outsOf_puts c k⟩
  rw [outsOf_trace, outsOf_seg2_ne _ _ _ k (by rw [hf]; decide), List.append_nil]
  simp only [outsOf_stopEvs _ _ _ hno, hf, hsd, and_true]
  rw [flatMap_ite_eq _ _ _ hnd hmem]

/-- … and the known finding, as the model has it: OutputFunc 1 (stop_data, on_success -> block 0),
    OutputFunc 0 (stop_data) stopped first: block 0's function is called once more after its stop_data -/
example : ∃ r, runForever
    { blocks := [{ kind := .outf, stopData := true }, { kind := .outf, stopData := true, onSuccess := some 0 }],
      cause := { kind := .shutdown, time := 205 }, oa := [], os := [0, 1] } = some r ∧
    outsOf 0 r.trace = [false, false, true, false] ∧ stops r.trace = [0, 1] := by
  refine ⟨_, rfl, ?_⟩
  decide +kernel

/-- `caller_cancel_does_not_reach_cleanup`: a SECOND termination cause that arrives while the
    clean-up is in progress – the task awaiting `shutdown()` is cancelled (directly, or by `run()`
    because another supporting coroutine returned or failed), `abort()`, SIGTERM, another
    `shutdown()` – at whatever instant, changes nothing of the run: the clean-up plan is the same,
    hence (`stop_exactly_started`) every started block is still stopped exactly once.  The reason is
    `Second.cancelsSimtask`: none of them cancels the simulation task (the repaired `shutdown()`
    does not forward its caller's cancellation: `translated_errreg_shutdown_caller_cancel_not_forwarded`) -/
theorem caller_cancel_does_not_reach_cleanup (c : Cfg) (x : Option (Second × Nat)) :
    runForever { c with cause := { c.cause with second := x } } = runForever c ∧
    ∀ r, runForever { c with cause := { c.cause with second := x } } = some r →
      (stops r.trace).Perm (starteds r.trace) := by
  have h1 : runForever { c with cause := { c.cause with second := x } } = runForever c := by
    unfold runForever
    cases c.cause.before
    · exact (finish_eq _ _).trans (finish_eq c (plan c)).symm
    · rfl
  exact ⟨h1, fun r hr => (stop_exactly_started _ r hr).1⟩

/-- non-vacuity: the caller of shutdown() is cancelled 52 ms into a clean-up that takes 200 ms -/
example : ∃ r, runForever
    { blocks := [{ kind := .aplain, stopDur := 200, stopTimeout := 1003 }, {}],
      cause := { kind := .shutdown, time := 205, second := some (.callerCancel, 52) }, oa := [0], os := [1] } = some r ∧
    stops r.trace = [0, 1] ∧ r.endTime = 405 ∧ r.tasks = [] := by
  refine ⟨_, rfl, ?_⟩
  decide +kernel

/-- `no_restart_no_modify`: when run_forever has finished – for whatever reason – the
    simulation task is done and `_error` is set: a second run_forever() and any modification of
    the circuit (`check_not_finalized`) are refused -/
theorem no_restart_no_modify (c : Cfg) (r : Result) (h : runForever c = some r) :
    restart r = none ∧ modify r = none := by
  rcases run_cases h with ⟨_, rfl⟩ | ⟨_, _, _, rfl⟩ <;> exact ⟨rfl, rfl⟩

/-- `no_live_task_at_end`: the task table of the model – the main tasks and control tasks of the started
    blocks (the wait_init helper is taken out by `finish` itself; init_async and stop_async tasks are not
    entered in it) – is empty when run_forever returns, for every fault script, cause, instant and stop order.
    Hypothesis = the exclusion of DESIGN.md section 6:
    no block with a main/control task has its asynchronous clean-up disabled (stop_timeout 0). -/
theorem no_live_task_at_end (c : Cfg) (r : Result) (h : runForever c = some r)
    (hcfg : ∀ k, (blk c.blocks k).hasMain = true ∨ (blk c.blocks k).hasCtrl = true →
      0 < (blk c.blocks k).stopTimeout) :
    r.tasks = [] := by
  rcases run_cases h with ⟨_, rfl⟩ | ⟨_, hA, _, rfl⟩
  · rfl
  apply List.eq_nil_iff_forall_not_mem.2
  intro t ht
  simp only [finishResult, List.mem_filter, List.mem_append, bne_iff_ne, ne_eq, Bool.not_eq_true'] at ht
  obtain ⟨⟨ht1, ht2⟩, ht3⟩ := ht
  rcases ht1 with ht1 | ht1
  · obtain ⟨k, hk, htk⟩ := mem_blockTasks ht1
    have hoa : (blk c.blocks k).hasMain = true ∨ (blk c.blocks k).hasCtrl = true → k ∈ c.oa := fun hk' =>
      (hA.mem_iff.trans mem_setA).2 ⟨hk, Blk.asyncStop_of_task hk' (hcfg k hk')⟩
    rcases htk with ⟨rfl, hm⟩ | ⟨rfl, hc⟩
    · simp [Task.cleanedBy, hoa (.inl hm)] at ht2
    · simp [Task.cleanedBy, hoa (.inr hc)] at ht2
  · split at ht1
    · simp only [List.mem_singleton] at ht1
      exact ht3 ht1
    · simp at ht1

/-- `no_live_timer_at_end`: no FSM timer handle is pending when run_forever returns – for every
    fault script (in particular a start() failure between an OutputFunc and the timer its
    stop_data event addresses), cause, instant and stop order: a timer is armed only for a block
    between its start() and its stop(), and every started block is stopped -/
theorem no_live_timer_at_end (c : Cfg) (r : Result) (h : runForever c = some r) :
    r.timers = [] := by
  rcases run_cases h with ⟨_, rfl⟩ | ⟨_, hA, hS, rfl⟩
  · rfl
  have hsync : ∀ j, j ∈ (plan c).started → (blk c.blocks j).kind = .timer → j ∈ c.os ∧ j ∉ c.oa := by
    intro j hj hk
    have hna : (blk c.blocks j).asyncStop = false := by simp [Blk.asyncStop, hk]
    exact ⟨(hS.mem_iff.trans mem_setS).2 ⟨hj, hna⟩, fun hoa => Bool.false_ne_true (hna.symm.trans ((hA.mem_iff.trans mem_setA).1 hoa).2)⟩
  have h0 : TimersOk c.blocks { timers := (plan c).timers, stopped := c.oa, started := (plan c).started } := by
    intro x hx
    obtain ⟨hk, hs⟩ := plan_timers_mem c hx
    exact ⟨hk, hs, (hsync x hs hk).2⟩
  apply List.eq_nil_iff_forall_not_mem.2
  intro x hx
  obtain ⟨hk, hs, hn⟩ := h0.stopSyncAll c.os x hx
  rw [(stopSyncAll_stopped_started ..).1] at hn
  rw [(stopSyncAll_stopped_started ..).2] at hs
  exact hn (List.mem_append_left _ (List.mem_reverse.2 (hsync x hs hk).1))

/-- the partition of `_stop_sblocks` mirrors `has stop_async ∧ stop_timeout > 0`: a started block
    that derives from AddonAsync but has no stop_async (kind `ainit`: init_async only) or whose
    asynchronous clean-up is disabled (stop_timeout 0) is stopped with the synchronous set –
    stop() is called, stop_async is not -/
theorem async_capable_without_cleanup_is_stopped (c : Cfg) (r : Result) (h : runForever c = some r)
    (hb : c.cause.before = false) (k : Nat) (hk : k ∈ r.started)
    (hkind : (blk c.blocks k).kind = .ainit ∨ (blk c.blocks k).stopTimeout = 0) :
    k ∈ stops r.trace ∧ k ∉ sabs r.trace ∧ k ∉ saes r.trace := by
  obtain ⟨hA, hS, rfl⟩ := run_eq c r h hb
  obtain ⟨h1, _, h3, h4⟩ := trace_observers c
  have hna : (blk c.blocks k).asyncStop = false := by
    rcases hkind with hk' | hk' <;> simp [Blk.asyncStop, hk']
  have hos : k ∈ c.os := (hS.mem_iff.trans mem_setS).2 ⟨hk, hna⟩
  have hoa : k ∉ c.oa := fun hmem => Bool.false_ne_true (hna.symm.trans ((hA.mem_iff.trans mem_setA).1 hmem).2)
  exact ⟨by rw [h1]; simp [hos], by rw [h3]; exact hoa, fun hmem => hoa (h4.mem_iff.1 hmem)⟩

/-- the rule of run_forever that keeps a pending cancellation away from the clean-up: whatever
    the plan says, the clean-up starts without one (and therefore runs to its end, `finish_eq` – all theorems
    above hold for the inner causes followed by an exception as well) -/
theorem pending_cancel_consumed (p : Plan) : (consumePending p).pendingCancel = false := rfl

/-- non-vacuity: three blocks (async probe, timer in a timed state, OutputFunc with stop_data
    whose on_success starts the timer), handler error while running, the OutputFunc stopped
    AFTER the timer: all three stopped once, stop_data delivered, nothing left -/
example : ∃ r, runForever
    { blocks := [{ kind := .async, stopDur := 10, stopTimeout := 100, fStopAsync := true },
                 { kind := .timer, armed := true },
                 { kind := .outf, stopData := true, onSuccess := some 1, fStop := true }],
      cause := { kind := .handlerErr, time := 205 }, waitInit := true, oa := [0], os := [1, 2] } = some r ∧
    stops r.trace = [0, 1, 2] ∧ outsOf 2 r.trace = [false, true] ∧ r.tasks = [] ∧ r.timers = [] ∧
    r.endTime = 215 := by
  refine ⟨_, rfl, ?_⟩
  decide +kernel

/-- example configuration: async probe, CBlock, init_async-only block, AddonAsync block with
    stop_timeout 0; 'shutdown' control event from inside the simulator task followed by an exception -/
abbrev exInner : Cfg :=
  { blocks := [{ kind := .async, stopDur := 10, stopTimeout := 100 }, { kind := .cblock },
               { kind := .ainit, hasInitAsync := true, initDur := 5, initTimeout := 50 },
               { kind := .aplain, stopTimeout := 0 }],
    cause := { kind := .innerShutdown, time := 805, raiseAfter := true },
    oa := [0], os := [3, 1, 2] }

/-- non-vacuity of the inner cause: a cancellation IS pending at the end of the try block, in a
    circuit with an asynchronous clean-up: everything is stopped, nothing is left -/
example : (plan exInner).pendingCancel = true ∧
    ∃ r, runForever exInner = some r ∧
      stops r.trace = [0, 3, 1, 2] ∧ sabs r.trace = [0] ∧ r.tasks = [] ∧ r.error = some .cancelled := by
  refine ⟨by decide +kernel, _, rfl, ?_⟩
  decide +kernel

/-- example configuration for the save step: the init_regular of block 1 raises, so the persistent
    blocks 2 (entry in the storage) and 3 (no entry, first run) are started but never initialised;
    block 0 is persistent and initialised -/
abbrev exSave : Cfg :=
  { blocks := [{ persistent := true }, { fInitRegular := true },
               { persistent := true, restored := true, fRestore := true, selfInit := false, hasInitdef := true },
               { persistent := true, selfInit := false, hasInitdef := true },
               { kind := .async, stopDur := 10, stopTimeout := 100 }],
    cause := { kind := .shutdown, time := 205 }, oa := [4], os := [3, 0, 2, 1] }

/-- non-vacuity of the save step: the stale entry of block 2 is removed, block 3 has none, block
    0 is saved – and all five started blocks are stopped -/
example : ∃ r, runForever exSave = some r ∧ r.phase = .initFailed ∧ r.storage = [0] ∧
    stops r.trace = [4, 3, 0, 2, 1] ∧ r.tasks = [] := by
  refine ⟨_, rfl, ?_⟩
  decide +kernel

/-! ### the repaired `_run_tasks` waits for the tasks it cancels
    (patches/C08-run-tasks-awaits-cancelled.diff) -/

theorem awaitJobs_cancelled (limit : Option Nat) (T now : Nat) (js : List Job)
    (hlim : ∀ l, limit = some l → now ≤ l) (h : (awaitJobs limit T now js).2.2 = true) :
    (∃ l j, limit = some l ∧ j ∈ js ∧
      (⟨j.k, l + j.cdur, .cancelled⟩ : JobEnd) ∈ (awaitJobs limit T now js).1 ∧
      l + j.cdur ≤ (awaitJobs limit T now js).2.1 ∧
      (awaitJobs limit T now js).2.1 ≤ max (l + j.cdur) T) ∧
    now ≤ (awaitJobs limit T now js).2.1 ∧
    ∀ e ∈ (awaitJobs limit T now js).1, e.time ≤ (awaitJobs limit T now js).2.1 := by
  induction js generalizing now with
  | nil => simp [awaitJobs] at h
  | cons j js ih =>
    rcases awaitJobs_cons limit T now j js with ⟨e, now', he, _, ht, hn, _, _, hl⟩ | ⟨l, hl, he⟩
    · rw [he] at h ⊢
      obtain ⟨⟨l, x, h1, h2, h3, h4⟩, h5, h6⟩ := ih now' (fun l h => hl l h (hlim l h)) h
      refine ⟨⟨l, x, h1, List.mem_cons_of_mem _ h2, List.mem_cons_of_mem _ h3, h4⟩, Nat.le_trans hn h5, ?_⟩
      intro y hy
      simp only [List.mem_cons] at hy
      rcases hy with rfl | hy
      · exact Nat.le_trans ht h5
      · exact h6 y hy
    · rw [he]
      refine ⟨⟨l, j, hl, by simp, by simp, le_lastEnd _ _, (lastEnd_le_iff _ _ _).2 ⟨Nat.le_max_left _ _, fun e he => ?_⟩⟩,
        Nat.le_trans (Nat.le_trans (hlim l hl) (Nat.le_add_right _ _)) (le_lastEnd _ _), fun e he => ?_⟩
      · obtain ⟨x, _, rfl⟩ := List.mem_map.1 he
        exact atCancel_time_le _ _ x
      · rcases List.mem_cons.1 he with rfl | he
        · exact le_lastEnd _ _
        · exact mem_le_lastEnd he

theorem awaitJobs_no_pending (limit : Option Nat) (T now : Nat) (js : List Job)
    (h0 : ∀ j ∈ js, j.cdur = 0) : ∀ e ∈ (awaitJobs limit T now js).1, e.res ≠ .pending := by
  have hfin : ∀ j : Job, j.fin ≠ .pending := by intro j; unfold Job.fin; split <;> simp
  induction js generalizing now with
  | nil => simp [awaitJobs]
  | cons j js ih =>
    have h0' : ∀ x ∈ js, x.cdur = 0 := fun x hx => h0 x (by simp [hx])
    rcases awaitJobs_cons limit T now j js with ⟨e, now', he, _, _, _, _, hr, _⟩ | ⟨l, _, he⟩
    · rw [he]
      intro x hx
      simp only [List.mem_cons] at hx
      rcases hx with rfl | hx
      · rcases hr with hr | hr
        · rw [hr]; exact hfin j
        · simp [hr]
      · exact ih now' h0' x hx
    · rw [he]
      intro e he
      simp only [List.mem_cons, List.mem_map] at he
      rcases he with rfl | ⟨x, hx, rfl⟩
      · simp
      · cases hd : x.doneBy (l + j.cdur) with
        | true => rw [atCancel_of_done T hd]; exact hfin x
        | false =>
          rw [atCancel_of_not_done T hd, Job.cancelEnd, if_pos (by rw [h0' x hx]; omega)]
          simp

/-- **the cancelled tasks are awaited**: when `_run_tasks` is cancelled, nothing – cancelled,
    pending or ended before – has an end later than the instant `_run_tasks` itself ends (the
    instant the CancelledError leaves it), and no task is left running behind (`.pending`) if the
    cancelled tasks end at once (`cdur = 0`, i.e. no `await` in their clean-up).  In general a task
    is `.pending` exactly when its `cdur` does not fit into the longest time-out (`Job.cancelEnd`):
    the wait is bounded, see `cancelled_run_tasks_bounded`. -/
theorem cancelled_jobs_are_awaited (limit : Option Nat) (js : List Job)
    (h : (runTasks limit js).2.2 = true) :
    (∀ e ∈ (runTasks limit js).1, e.time ≤ (runTasks limit js).2.1) ∧
    ((∀ j ∈ js, j.cdur = 0) → ∀ e ∈ (runTasks limit js).1, e.res ≠ .pending) := by
  refine ⟨(awaitJobs_cancelled limit _ 0 _ (fun l _ => Nat.zero_le l) h).2.2, ?_⟩
  intro h0
  exact awaitJobs_no_pending limit _ 0 _ (fun j hj => h0 j ((sortJobs_perm js).mem_iff.1 hj))

/-- **the wait is bounded**: a `_run_tasks` cancelled at `l` was awaiting some job `j`, which ends
    at `l + j.cdur`; `_run_tasks` ends then or later, but not later than the longest time-out
    (counted from the creation of the tasks) -/
theorem cancelled_run_tasks_bounded (l : Nat) (js : List Job)
    (h : (runTasks (some l) js).2.2 = true) :
    ∃ j ∈ js, (⟨j.k, l + j.cdur, .cancelled⟩ : JobEnd) ∈ (runTasks (some l) js).1 ∧
      l + j.cdur ≤ (runTasks (some l) js).2.1 ∧
      (runTasks (some l) js).2.1 ≤ max (l + j.cdur) (deadline (sortJobs js)) := by
  obtain ⟨⟨l', j, h1, h2, h3, h4, h5⟩, _⟩ := awaitJobs_cancelled (some l) _ 0 _ (fun l _ => Nat.zero_le l) h
  simp only [Option.some.injEq] at h1
  subst h1
  exact ⟨j, (sortJobs_perm js).mem_iff.1 h2, h3, h4, h5⟩

/-- three init tasks, `_run_tasks` cancelled at 2 while awaiting task 0 (time-out 9): task 0 needs 1
    to finish, then task 1 (cancelled at 3) needs 4 and task 2 needs 20 – more than the longest
    time-out allows: `_run_tasks` ends at 9 with task 2 still pending -/
def exJobs : List Job :=
  [⟨0, some 5, 9, true, 1⟩, ⟨1, none, 6, true, 4⟩, ⟨2, some 8, 3, true, 20⟩]

theorem exJobs_sorted : sortJobs exJobs = exJobs := by
  unfold sortJobs; exact List.mergeSort_of_pairwise (by decide)

example : runTasks (some 2) exJobs =
    ([⟨0, 3, .cancelled⟩, ⟨1, 7, .cancelled⟩, ⟨2, 9, .pending⟩], 9, true) := by
  rw [runTasks, exJobs_sorted]; decide +kernel

theorem exJobs_cancelled : (runTasks (some 2) exJobs).2.2 = true := by
  rw [runTasks, exJobs_sorted]; decide +kernel

/-- `cancelled_jobs_are_awaited` is not vacuous: its hypothesis holds for `exJobs` -/
example : ∀ e ∈ (runTasks (some 2) exJobs).1, e.time ≤ (runTasks (some 2) exJobs).2.1 :=
  (cancelled_jobs_are_awaited (some 2) exJobs exJobs_cancelled).1

/-- `cancelled_run_tasks_bounded` is not vacuous -/
example : ∃ j ∈ exJobs, (runTasks (some 2) exJobs).2.1 ≤ max (2 + j.cdur) (deadline (sortJobs exJobs)) := by
  obtain ⟨j, hj, _, _, h⟩ := cancelled_run_tasks_bounded 2 exJobs exJobs_cancelled
  exact ⟨j, hj, h⟩

/-- … and with tasks that end at once when cancelled everything is over at the instant of the
    cancellation, nothing is pending -/
def exJobs0 : List Job :=
  [⟨0, some 5, 9, true, 0⟩, ⟨1, none, 6, true, 0⟩, ⟨2, some 8, 3, true, 0⟩]

theorem exJobs0_sorted : sortJobs exJobs0 = exJobs0 := by
  unfold sortJobs; exact List.mergeSort_of_pairwise (by decide)

example : runTasks (some 2) exJobs0 =
    ([⟨0, 2, .cancelled⟩, ⟨1, 2, .cancelled⟩, ⟨2, 2, .cancelled⟩], 2, true) := by
  rw [runTasks, exJobs0_sorted]; decide +kernel

example : ∀ e ∈ (runTasks (some 2) exJobs0).1, e.res ≠ .pending :=
  (cancelled_jobs_are_awaited (some 2) exJobs0 (by rw [runTasks, exJobs0_sorted]; decide +kernel)).2
    (by decide)

end Edzed.Lifecycle

/-!
### Tie by translation (tools/py2lean_lifecycle.py → Gen/TranslatedLifecycle.lean)

`Gen.TrL.runTasks`, `stopSblocks`, `initSblocksAsync`, `runForever` are generated from the CURRENT
source of `Circuit._run_tasks`, `_stop_sblocks`, `_init_sblocks_async`, `run_forever`: the order of
the statements, the conditions, the loops, which exception classes are caught where, what is
re-raised – `await X` being a call of the primitive X that returns, raises or is interrupted by a
cancellation.  EdzedProofs/LifecycleTie.lean instantiates the primitives with the model's
operations; the theorems say that the translated programs compute the model's steps.
-/
namespace Edzed.TrTie
open Edzed Edzed.Lifecycle Edzed.LifecycleTie Edzed.Gen Edzed.Gen.TrD

/-- `_run_tasks` IS the model's `awaitJobs` over the jobs sorted from the longest time-out: run on
    freshly created tasks (`limit` = the instant at which the awaiting task is cancelled, if ever)
    it ends at the same instant, every task has the fate the model gives it (returned / raised /
    cancelled by its time-out with the remaining-time expression `timeout - get_time() + start_time`
    / cancelled together with `_run_tasks`, the OTHER unfinished tasks included, which are then WAITED
    FOR – `asyncio.wait(<all tasks>, timeout=btt_list[0][2] - get_time() + start_time)` after the
    cancel loop and before the `raise`: each ends `cdur` after its cancellation or is `.pending` at the
    bound), and it re-raises the CancelledError exactly when the model's loop is cancelled, otherwise
    returns -/
theorem translated_lifecycle_run_tasks_is_model (limit : Option Nat) (js : List Job)
    (hnd : (js.map (·.k)).Nodup) :
    ∃ s' o, TrL.runTasks (rtPrims limit) js ⟨0, fun _ => none⟩ = (s', o) ∧
      s'.now = (runTasks limit js).2.1 ∧
      (sortJobs js).map (fateOf s') = (runTasks limit js).1 ∧
      ((runTasks limit js).2.2 = true → o = .raise .cancelled) ∧
      ((runTasks limit js).2.2 = false → o = .next ()) := by
  have hnd' : ((sortJobs js).map (·.k)).Nodup :=
    (((sortJobs_perm js).map (·.k)).nodup_iff).2 hnd
  have hinv : Inv limit [] (sortJobs js) ⟨0, fun _ => none⟩ := ⟨fun _ _ => rfl, by simp, fun l _ => Nat.zero_le l⟩
  obtain ⟨s', o, h1, h2, h3, _, h5, h6⟩ :=
    loop_spec limit (sortJobs js) hnd' (sortJobs js) [] ⟨0, fun _ => none⟩ 0 (by simp) hinv
  unfold TrL.runTasks
  simp only [bind_apply, Int.natCast_zero, h1]
  cases hc : (runTasks limit js).2.2 with
  | true =>
    have ho := h5 hc
    subst ho
    exact ⟨s', _, rfl, h2, h3, fun _ => rfl, by simp⟩
  | false =>
    obtain ⟨n, ho⟩ := h6 hc
    subst ho
    refine ⟨s', .next (), ?_, h2, h3, by simp, fun _ => rfl⟩
    simp only []
    split <;> rfl

/-- `_stop_sblocks` IS the model's `stopSblocks`: the asynchronous set is `has stop_async ∧
    stop_timeout > 0` among the AddonAsync blocks, the rest is the synchronous set; stop() of the
    asynchronous set (errors suppressed), the yield, the stop_async tasks awaited by `_run_tasks`,
    then stop() of the rest (errors suppressed) – same trace, same timer state, same duration, for
    every order `en` in which the sets are iterated -/
theorem translated_lifecycle_stop_sblocks_is_model (bs : List Blk) (failed inited started timers0 : List Nat)
    (en : List Nat → List Nat) (hen : ∀ l, (en l).Perm l) :
    TrL.stopSblocks (sbPrims bs failed inited en (en (setA bs started))) started
        ⟨[], { timers := timers0, stopped := [], started := started }, 0⟩ =
      (⟨(Lifecycle.stopSblocks bs failed inited started timers0 (en (setA bs started)) (en (setS bs started))).trace,
        (Lifecycle.stopSblocks bs failed inited started timers0 (en (setA bs started)) (en (setS bs started))).st,
        (Lifecycle.stopSblocks bs failed inited started timers0 (en (setA bs started)) (en (setS bs started))).dur⟩,
       .next ()) := by
  have hA : ∀ k ∈ en (setA bs started), (blk bs k).asyncStop = true := fun k hk =>
    (((hen _).mem_iff.trans mem_setA).1 hk).2
  have hS : ∀ k ∈ en (setS bs started), (blk bs k).asyncStop = false := fun k hk =>
    (((hen _).mem_iff.trans mem_setS).1 hk).2
  unfold TrL.stopSblocks
  rw [async_filter_eq bs started _ (fun k => by simp only [Blk.asyncStop]; cases (blk bs k).kind <;> simp)]
  simp only [sync_filter_eq]
  by_cases hemp : setA bs started = []
  · have hoa : en [] = [] := List.Perm.eq_nil (hen [])
    simp only [hemp, pybool, ↓reduceIte, decide_len_pos, len_pos, bind_apply, pure_apply]
    rw [sb_for2 _ _ _ _ _ _ _ hS]
    simp [Lifecycle.stopSblocks, hoa, hemp, runTasks, awaitJobs, sortJobs, sortEnds]
  · have hne : (setA bs started).isEmpty = false := by
      cases h : setA bs started with
      | nil => exact absurd h hemp
      | cons _ _ => rfl
    simp only [hne, pybool, ↓reduceIte, decide_len_pos, len_pos, bind_apply, pure_apply]
    rw [sb_for1 _ _ _ _ _ _ _ hA]
    simp only [asyncSegs_eq]
    rw [sb_for2 _ _ _ _ _ _ _ hS]
    simp [Lifecycle.stopSblocks, seg3, seg4, ends]

/-- `_init_sblocks_async` hands exactly the model's `initJobs` (uninitialised AddonAsync blocks with
    init_async and init_timeout > 0, in creation order) to `_run_tasks`, and nothing when there is none -/
theorem translated_lifecycle_init_async_is_model (bs : List Blk) :
    TrL.initSblocksAsync (iaPrims bs) {} =
      (⟨if (initJobs bs).isEmpty then none else some (initJobs bs)⟩, .next ()) := by
  unfold TrL.initSblocksAsync
  simp only [trd]
  -- the comprehension selects the blocks that want their `init_async` run, however its condition is written
  generalize hsel : List.filter _ (iaPrims bs).asyncBlocks = sel
  have hs : sel = List.filter (fun k => (blk bs k).wantsInitAsync) (List.range bs.length) := by
    rw [← hsel, List.filter_filter]
    apply List.filter_congr
    intro k _
    simp only [Blk.wantsInitAsync]
    cases ((blk bs k).kind == .async || (blk bs k).kind == .ainit) <;> cases (blk bs k).restoredOk <;> simp
  rw [hs, ← initJobs_eq]
  cases h : (initJobs bs).isEmpty <;> simp_all [trd]

/-
Full statement: the same without `c.blocks.isEmpty = false`.  The model has no "The circuit is
empty" error (the harness never builds an empty circuit); `translated_lifecycle_empty_circuit_fails`
below says what the translated program does then.
-/
/-- `run_forever` IS the model's `runForever`: with the try block left where the model's plan says
    (start() failure, request at the yield after the start loop, cancellation during the async
    initialisation, initialisation error, evaluation error, termination of the running circuit –
    also by a control event inside the simulation task followed by an exception, which leaves a
    cancellation pending), the translated skeleton collects `started_blocks`, sets `start_ok`, records
    the first error, swallows the pending cancellation, saves the states iff `start_ok`, stops exactly
    `started_blocks` and raises the recorded error: same events, started set, `start_ok`, error,
    storage, pending timers and end time as the model -/
theorem translated_lifecycle_run_forever_is_model_partial (c : Cfg) (r : Result) (h : runForever c = some r)
    (hne : c.blocks.isEmpty = false) :
    ∃ s' e, TrL.runForever (rfPrims c) (rfInit c) = (s', .raise e) ∧ r.error = some e ∧ s'.error = some e ∧
      s'.trace = r.trace ∧ s'.started = r.started ∧ s'.startOk = r.startOk ∧ s'.storage = r.storage ∧
      s'.timers = r.timers ∧ s'.endTime = r.endTime ∧ s'.pending = false := by
  obtain ⟨e, he, hrun⟩ := runForever_tie c r h hne
  exact ⟨_, e, hrun, he, he, rfl, rfl, rfl, rfl, rfl, rfl, rfl⟩

/-- an empty circuit: nothing is started, the error is recorded and raised -/
theorem translated_lifecycle_empty_circuit_fails (c : Cfg) (hb : c.cause.before = false)
    (he : c.blocks.isEmpty = true) :
    ∃ s', TrL.runForever (rfPrims c) (rfInit c) = (s', .raise .failure) ∧ s'.error = some .failure ∧
      s'.started = [] ∧ s'.trace = [] :=
  ⟨_, runForever_setup_fails (rfCells c) (rfInit c) rfl (by simp [rfInit, hb]) rfl _ false false false false false
    (fun _ => he) rfl rfl rfl rfl rfl (by simp), rfl, rfl, rfl⟩

/-- a second `run_forever()` is refused before anything else happens (the model's `restart`) -/
theorem translated_lifecycle_restart_refused (c : Cfg) (s : RfState) (hs : s.simtask = true) :
    TrL.runForever (rfPrims c) s = (s, .raise .failure) :=
  runForever_refused (rfPrims c) s hs

/-- the set-up calls inside the `try:` – `asyncio.Queue()`, `asyncio.Event()`,
    `_check_persistent_data()`, `_resolver.resolve()`, `finalize()` – can raise in reality; wherever one
    fails, the translated skeleton records the failure as the error of the simulation (with
    `_simtask` set, nothing started, nothing stopped, the storage untouched) and raises it.  Moving
    one of these calls out of the `try:` breaks this theorem. -/
theorem translated_lifecycle_prestart_failure_recorded (c : Cfg) (f : RfFault) (hb : c.cause.before = false)
    (hne : c.blocks.isEmpty = false)
    (hf : f = .newQueue ∨ f = .newInitDone ∨ f = .checkPersistentData ∨ f = .resolve ∨ f = .finalize) :
    ∃ s', TrL.runForever (rfPrimsF c f) (rfInit c) = (s', .raise .failure) ∧ s'.error = some .failure ∧
      s'.simtask = true ∧ s'.started = [] ∧ s'.trace = [] ∧ s'.storage = storage0 c.blocks ∧ s'.startOk = false := by
  have hC : RfCells (rfPrimsF c f) := rfCellsF c f (by rcases hf with rfl | rfl | rfl | rfl | rfl <;> decide)
  refine ⟨_, runForever_setup_fails hC (rfInit c) rfl (by simp [rfInit, hb]) rfl _ _ _ _ _ _ (fun _ => hne) rfl rfl rfl rfl rfl
    (by rcases hf with rfl | rfl | rfl | rfl | rfl <;> rfl), rfl, rfl, rfl, rfl, rfl, rfl⟩

/-- `await _test_eager_tasks()` is before the `try:` and before `_simtask` is set – its
    failure escapes and leaves the circuit untouched (it can be started again) -/
theorem translated_lifecycle_eager_failure_escapes (c : Cfg) (s : RfState) (hs : s.simtask = false) :
    TrL.runForever (rfPrimsF c .testEager) s = (s, .raise .failure) :=
  runForever_eager _ s s Err.failure hs rfl

/-- the save section of run_forever (repaired: inside `try … except Exception: <log>`): the main tie
    theorem above holds for every behaviour of the storage at the stop (`c.storageFault`): a failing
    `save_persistent_state()` ends the loop, a failing write of the stop time is logged, and in
    every case the clean-up proceeds – the translated program's trace is the model's, which does not
    depend on the storage (`storage_fault_irrelevant`).  Spelled out for the trace: -/
theorem translated_lifecycle_storage_fault_does_not_skip_stop (c : Cfg) (r : Result)
    (h : runForever c = some r) (hne : c.blocks.isEmpty = false) (f : SFault) :
    ∃ s' e, TrL.runForever (rfPrims { c with storageFault := f }) (rfInit { c with storageFault := f }) =
        (s', .raise e) ∧ r.error = some e ∧ s'.trace = r.trace ∧ s'.started = r.started ∧ s'.timers = r.timers := by
  obtain ⟨r', hr', hrr⟩ := storage_fault_irrelevant c r h f
  obtain ⟨s', e, h1, h2, _, h4, h5, _, _, h8, _, _⟩ :=
    translated_lifecycle_run_forever_is_model_partial { c with storageFault := f } r' hr' hne
  rw [hrr] at h2 h4 h5 h8
  exact ⟨s', e, h1, h2, h4, h5, h8⟩

end Edzed.TrTie

