/-
C09 — the first error stops the simulation and is the one that gets reported.

Model: EdzedModel/ErrorReg.lean.  A *history* is any list of operations of the environment (external events of every
kind, abort() calls, cancellations, monitored / supporting tasks failing, shutdown(), SIGTERM, loop iterations) — no
bound on its length, every interleaving of immediate and deferred error sources.  `deliveries` is the log of everything
handed to the simulator's two register writers (`Circuit.abort` and the `except` clause of `run_forever`) in the order
it happened.  The theorems about histories are read off `run_delivers` (EdzedProofs/ErrorReg.lean).

Second half (`Edzed.TrTie`): the entry points translated from the Python source, run on the model's operations
(EdzedProofs/ErrorRegTie.lean), ARE the model's operations.
-/
import EdzedModel.ErrorReg
import EdzedProofs.ErrorReg
import EdzedModel.Gen.TranslatedSim
import EdzedModel.Gen.Translated
import EdzedProofs.ErrorRegTie
import EdzedProofs.EventRef
import EdzedProofs.PyBool

namespace Edzed.ErrorReg

/-- **first error wins**: after every history that starts with an empty register, `Circuit.error` is the
    FIRST error delivered to the simulator (none iff nothing was delivered) -/
theorem first_error_wins (s : St) (h : s.error = none) (ops : List Op) :
    (final s ops).error = (deliveries s ops).head? := by
  rw [run_error, h, firstOf_none]

/-- the reported error is never replaced and never returns to `None`, whatever happens later
    (further errors, abort() calls, cancellations, shutdown) -/
theorem error_never_replaced (s : St) (e : Err) (h : s.error = some e) (ops : List Op) :
    (final s ops).error = some e := by
  rw [run_error, h, firstOf_some]

/-- the same statement along one history: what the register holds after a prefix is what it holds
    after the whole history -/
theorem error_stable_along_history (s : St) (a b : List Op) (e : Err)
    (h : (final s a).error = some e) : (final s (a ++ b)).error = some e := by
  rw [run_append]; exact error_never_replaced _ e h b

/-- once the simulation has an error the circuit is not ready, and stays so for ever -/
theorem not_ready_forever (s : St) (e : Err) (h : s.error = some e) (ops : List Op) :
    (final s ops).ready = false := by
  have := error_never_replaced s e h ops
  simp [St.ready, this]

theorem Stopped.final (ops : List Op) (s : St) (h : Stopped s) : Stopped (final s ops) :=
  (run_delivers s ops).stopped h

/-- for every history from a fresh circuit: a stopped simulation has an error — hence a stopped
    simulation is not ready ("once the simulation has stopped the circuit is not ready") -/
theorem stopped_not_ready (ops : List Op)
    (hp : (final {} ops).phase = .sleep0 ∨ (final {} ops).phase = .cleanup ∨ (final {} ops).phase = .done) :
    (final {} ops).ready = false := by
  have := Stopped.final ops {} (by simp [Stopped]) hp
  cases he : (final {} ops).error <;> simp_all [St.ready]

/-- a cancellation counts as a normal stop: shutdown() returns; run() returns None unless a
    supporting task failed -/
theorem cancel_is_normal_stop (s : St) (t : Nat) (h : s.error = some (.cancelled t)) (n : Nat) :
    shutdownRaises s = none ∧
    (firstSupError s.supDone n = none → runRaises s n = none) := by
  simp [shutdownRaises, runRaises, h, Err.isCancel]

/-- a real error is what run_forever(), shutdown() and run() raise — for run() even when supporting
    tasks have failed as well -/
theorem error_is_reraised (s : St) (e : Err) (h : s.error = some e) (hc : e.isCancel = false) (n : Nat) :
    runForeverRaises s = some e ∧ shutdownRaises s = some e ∧ runRaises s n = some e := by
  simp [runForeverRaises, shutdownRaises, runRaises, h, hc]

/-- run(): otherwise the error of the first failing supporting task (in the order of its arguments) -/
theorem run_result_supporting (s : St) (t : Nat) (h : s.error = some (.cancelled t)) (n : Nat) :
    runRaises s n = (firstSupError s.supDone n).map Err.exc := by
  simp [shutdownRaises, runRaises, h, Err.isCancel]

/-- abort() before the start makes the start fail with that error: the task never enters the
    simulation and no later history changes the error -/
theorem abort_before_start (s : St) (hp : s.phase = .notStarted) (he : s.error = none) (e : Err)
    (i : Option Nat) (ops : List Op) :
    let s1 := (step s (.abortCall e)).1
    let s2 := (step s1 (.start i)).1
    s2.phase = .sleep0 ∧ s2.error = some e ∧ (final s2 ops).error = some e := by
  have ha : s.abort e = { s with error := some e } := by simp [St.abort, he, hp]
  have h2 : (step (step s (.abortCall e)).1 (.start i)).1.error = some e := by
    rw [step_error]; simp [step, ha, firstOf]
  refine ⟨?_, h2, error_never_replaced _ e h2 ops⟩
  simp [step, ha, hp]

/-- an external event with wrong parameters or of an unknown type is reported to the caller only:
    no delivery, no state change -/
theorem harmless_outcomes_reported_only (s : St) :
    (step s .paramErr).1 = s ∧ (step s .paramErr).2.dels = [] ∧
    (step s .unknownEvt).1 = s ∧ (step s .unknownEvt).2.dels = [] := by
  simp [step]

/-- **classification, over the exception families**: `SBlock.event` calls abort() -- the fault is fatal -- unless the
    exception says "unknown event type" (EdzedUnknownEvent) or comes from the call itself (wrong parameters:
    a traceback of one level); total in the family and the depth -/
theorem classification_total (x : Family × Bool) :
    fatalSeen x = true ↔ ¬ (x.1 = .unknownEvent ∨ x.2 = false) := by
  obtain ⟨f, d⟩ := x
  cases f <;> cases d <;> simp [fatalSeen]

/-- which faults are errors *inside* a handler according to the property text.  Reading chosen: a handler that
    raises EdzedUnknownEvent ITSELF declares the event unknown (that is how `_event()` reports unknown types);
    an EdzedUnknownEvent that comes from ANOTHER event sent by the handler is an error inside the handler -/
def Fault.documentedFatal : Fault → Bool
  | .inHandler f => f != .unknownEvent
  | .wrongParams => false
  | .unknownType => false
  | .nested => true

/- Full statement (NOT provable, the code violates it for `nested`): ∀ flt, flt.fatal = flt.documentedFatal.
   See `nested_unknown_event_not_fatal` and known_findings.json. -/
/-- every exception family raised inside a handler (generic, EdzedCircuitError, EdzedInvalidState, TypeError) is
    fatal, wrong parameters and unknown types are not: the code's classification is the documented one -/
theorem classification_by_fault_partial (flt : Fault) (h : flt ≠ .nested) :
    flt.fatal = flt.documentedFatal := by
  cases flt with
  | inHandler f => exact inHandler_fatal f
  | wrongParams => rfl
  | unknownType => rfl
  | nested => exact absurd rfl h

/-- which external-event operations are errors *inside* a handler according to the property text -/
def documentedFatal : Op → Bool
  | .handlerErr _ f => (Fault.inHandler f).documentedFatal
  | .ctrlAbort _ | .ctrlAbortText | .ctrlShutdown | .nestedUnknown _ => true
  | _ => false

/- Full statement (NOT provable, the code violates it for `nestedUnknown`):
     ∀ s op, s.ready → isExternalEvent op → ((step s op).2.dels ≠ [] ↔ documentedFatal op)
   An internal event of an unknown type raised while a handler runs (an `on_output` event to another block
   or an FSM entry action sending to its own block) passes through `except EdzedUnknownEvent: raise`
   without abort(); see known_findings.json.  Proved: the statement for every other external event. -/
theorem classification_partial (s : St) (h : s.ready = true) (op : Op)
    (hext : op = .paramErr ∨ op = .unknownEvt ∨ (∃ i f, op = .handlerErr i f) ∨ (∃ i, op = .ctrlAbort i) ∨
            op = .ctrlShutdown ∨ op = .ctrlAbortText) :
    ((step s op).2.dels ≠ [] ↔ documentedFatal op = true) := by
  rcases hext with rfl | rfl | ⟨i, f, rfl⟩ | ⟨i, rfl⟩ | rfl | rfl
  · simp [step, h, documentedFatal]
  · simp [step, h, documentedFatal]
  · cases hf : f != .unknownEvent <;> simp [step, h, documentedFatal, Fault.documentedFatal, inHandler_fatal, hf]
  · simp [step, h, documentedFatal]
  · simp [step, h, documentedFatal]
  · simp [step, h, documentedFatal]

/-- the counter-example that blocks the full statement (replayed on the implementation by the check) -/
theorem nested_unknown_event_not_fatal :
    ∀ c, documentedFatal (.nestedUnknown c) = true ∧
    (step { phase := .tryBlock } (.nestedUnknown c)).2.dels = [] ∧
    (step { phase := .tryBlock } (.nestedUnknown c)).1.ready = true := by decide

/-- an exception of ANY family but EdzedUnknownEvent inside an event handler terminates the simulation even though
    the caller gets (and may swallow) the exception: the register is written before the exception reaches the caller -/
theorem handler_error_is_fatal (s : St) (h : s.ready = true) (id : Nat) (f : Family) (hf : f ≠ .unknownEvent) :
    (step s (.handlerErr id f)).1.error = some (.wrapped id) ∧
    (step s (.handlerErr id f)).2.reply = .raised (.exc id) ∧
    (step s (.handlerErr id f)).1.ready = false := by
  simp [St.ready] at h
  obtain ⟨hp, he⟩ := h
  simp [step, St.ready, hp, he, inHandler_fatal, hf, abort_error, firstOf]

/-- … inside the simulation task as well (an `on_output` event of a block evaluated by the simulator): the wrapped
    error is recorded first, then the exception ends the task -/
theorem handler_error_in_simtask_is_fatal (s : St) (hp : s.phase = .tryBlock) (hc : s.mustCancel = false)
    (he : s.error = none) (id : Nat) (f : Family) (ha : s.armed = some (.calcHandler id f)) :
    (wakeStep s .sim).1.error = some (if f = .unknownEvent then .exc id else .wrapped id) ∧
    (wakeStep s .sim).1.phase = .sleep0 := by
  by_cases hf : f = .unknownEvent <;>
    simp [wakeStep, hp, hc, ha, caught_error, abort_error, he, firstOf, inHandler_fatal, hf]

/-- a synchronous initialisation routine that fails EARLY (reached through an event during the start-up, the
    sender swallows the exception) still makes the start fail: the failed step is not attempted again, the block
    is found uninitialised, and that error is never replaced -/
theorem early_init_failure_is_fatal (s : St) (hp : s.phase = .notStarted) (he : s.error = none) (id : Nat)
    (ops : List Op) :
    let s1 := (step s (.earlyInitFail id)).1
    let s2 := (step s1 (.start none)).1
    (step s (.earlyInitFail id)).2.reply = .raised (.exc id) ∧ s1.error = none ∧
    s2.phase = .sleep0 ∧ s2.error = some .notInit ∧ (final s2 ops).error = some .notInit := by
  have h2 : (step (step s (.earlyInitFail id)).1 (.start none)).1.error = some .notInit := by
    rw [step_error]; simp [step, hp, he, firstOf]
  refine ⟨by simp [step, hp, he], by simp [step, hp, he], ?_, h2, error_never_replaced _ _ h2 ops⟩
  simp [step, hp, he]

/-- an output calculation that raises ends the simulation with that exception -/
theorem calc_error_is_fatal (s : St) (hp : s.phase = .tryBlock) (hc : s.mustCancel = false)
    (he : s.error = none) (id : Nat) (ha : s.armed = some (.calc id)) :
    (wakeStep s .sim).1.error = some (.exc id) ∧ (wakeStep s .sim).1.phase = .sleep0 := by
  simp [wakeStep, hp, hc, ha, caught_error, he, firstOf]

/-- a failing monitored block task ends the simulation with its exception -/
theorem monitored_task_error_is_fatal (s : St) (he : s.error = none) (id : Nat) :
    (wakeStep s (.mon id)).1.error = some (.exc id) := by
  simp [wakeStep, abort_error, he, firstOf]

/-- the ControlBlock events -/
theorem control_events (s : St) (h : s.ready = true) (id : Nat) :
    (step s (.ctrlAbort id)).1.error = some (.reported id) ∧
    (step s .ctrlAbortText).1.error = some .reportedText ∧
    (step s .ctrlShutdown).1.error = some (.cancelled 2) := by
  simp [St.ready] at h
  obtain ⟨hp, he⟩ := h
  simp [step, hp, abort_error, he, firstOf, St.ready]

/-- non-vacuity: a handler error racing with abort() and a shutdown in the same instant —
    the first one delivered is reported by everything -/
example :
    let s := final {} [.start none, .handlerErr 1 .circuitError, .abortCall (.exc 2), .shutdownTask, .tick, .tick, .tick]
    s.error = some (.wrapped 1) ∧ s.phase = .done ∧ shutdownRaises s = some (.wrapped 1) ∧
    deliveries {} [.start none, .handlerErr 1 .circuitError, .abortCall (.exc 2), .shutdownTask, .tick, .tick, .tick]
      = [.wrapped 1, .exc 2, .cancelled 0, .cancelled 1] := by decide

example :
    let s := final { runMode := true } [.start none, .supTrigger 1 (some 7), .tick, .tick, .tick, .tick, .tick]
    s.error = some (.cancelled 1) ∧ s.phase = .done ∧ runRaises s 3 = some (.exc 7) := by decide

end Edzed.ErrorReg

namespace Edzed.TrTie
open Edzed.ErrorReg Edzed.Gen.TrS

/-- the actions of the translated `abort`, run on what the code sees of the model state (`_error`, `_simtask`,
    `_simtask.done()`) -/
def abortView (s : St) : List Prim :=
  abortActs (s.error.map fun _ => ()) (if s.phase == .notStarted then none else some ()) (s.phase == .done)

/-- what the translated `abort` does depends on the state through two tests only, the ones of the model's `St.abort` -/
theorem abortView_eq (s : St) :
    abortView s =
      if s.error.isSome then [.ret none]
      else if s.phase == .tryBlock || s.phase == .sleep0 || s.phase == .cleanup then [.setError, .cancelTask]
      else [.setError] := by
  unfold abortView abortActs
  cases s.error <;> cases s.phase <;> rfl

/-- `self._error = exc` is executed exactly when no error was recorded before: the first error wins -/
theorem translated_abort_sets_error_iff_first (s : St) :
    (Prim.setError ∈ abortView s) ↔ s.error = none := by
  rw [abortView_eq]
  cases s.error
  · simp only [Option.isSome_none, Bool.false_eq_true, if_false]
    split <;> simp
  · simp

/-- the model's `abort` IS the translated one: the recorded error afterwards, and the request to cancel
    the simulation task (made iff the error was recorded now and the task exists and is not finished) -/
theorem translated_abort_is_model (s : St) (e : Err) :
    (s.abort e).error = (if Prim.setError ∈ abortView s then some e else s.error)
    ∧ (s.abort e).mustCancel = (s.mustCancel || decide (Prim.cancelTask ∈ abortView s)) := by
  rw [abortView_eq]
  unfold St.abort
  cases he : s.error
  · cases hc : (s.phase == .tryBlock || s.phase == .sleep0 || s.phase == .cleanup) <;> simp [hc]
  · simp [he]

/-- the error is recorded BEFORE the cancellation of the simulation task is requested (an exception raised
    by `cancel()`, e.g. on a closed event loop, cannot leave the circuit "ready" without an error): the
    action list is `[setError]`, `[setError, cancelTask]`, or nothing but the early return -/
theorem translated_abort_records_error_first (s : St) :
    abortView s = [.ret none] ∨ abortView s = [.setError] ∨ abortView s = [.setError, .cancelTask] := by
  rw [abortView_eq]
  split
  · exact .inl rfl
  · split
    · exact .inr (.inr rfl)
    · exact .inr (.inl rfl)

/-! ### the translation tie: `_check_started`, `shutdown`, `wait_init`, `run()`, its SIGTERM handler, and the
    error-recording skeleton of `run_forever`

The programs of Gen/TranslatedErrReg.lean (and `run_forever` of Gen/TranslatedLifecycle.lean) are regenerated from
the current Python source on every run; their primitives are instantiated with the model's operations in
EdzedProofs/ErrorRegTie.lean.  `env k` is what the rest of the world does to the model state while the
coroutine is suspended at its k-th `await`: an ARBITRARY function -- the theorems hold for every environment.
`TS` = the model state `st` plus what the entry points touch outside it (the deliveries to `abort`, the log of
awaits with the SIGTERM-handler flag, `_init_done`, the locals of run_forever). -/
section ErrRegTie
open Edzed.ErrorRegTie Edzed.Gen.TrD
open Edzed.Gen

/-- `Circuit.is_ready()` (translated) IS the model's `St.ready` -- in particular it is false as soon as an error
    is recorded, also while the simulation task is still cleaning up (it follows the error, not the task) -/
theorem translated_errreg_is_ready_follows_error (s : St) :
    Gen.Tr.isReady (if s.phase = .notStarted then none else some ()) (s.error.map fun _ => ()) = s.ready ∧
    (s.error.isSome → Gen.Tr.isReady (if s.phase = .notStarted then none else some ()) (s.error.map fun _ => ()) = false) := by
  unfold Gen.Tr.isReady St.ready
  cases s.phase <;> cases s.error <;> simp

/-- `_check_started()`: nothing when the simulation task exists; otherwise one yield -- at which the caller may
    be cancelled (CancelledError propagates) --, and EdzedInvalidState if the task still does not exist afterwards -/
theorem translated_errreg_check_started_is_model (env : Nat → St → St) (s : TS) :
    (callFn (TrE.checkStarted (csPrims env)) : M TS PyExc Unit Unit) s =
      if s.st.phase != .notStarted then (s, .next ())
      else if s.cancelAt s.log.length then (s.await env .yield, .raise callerCancelled)
      else if (s.await env .yield).st.phase != .notStarted then (s.await env .yield, .next ())
      else (s.await env .yield, .raise .invalidState) := by
  unfold TrE.checkStarted callFn
  by_cases h : s.st.phase = .notStarted
  · cases hx : s.cancelAt s.log.length
    · by_cases h2 : (s.await env .yield).st.phase = .notStarted <;>
        simp [h, h2, hx, awaitM, bind_apply, get_apply, pure_apply, raise_apply, ret_apply]
    · simp [h, hx, awaitM, bind_apply, get_apply]
  · simp [h, bind_apply, get_apply, pure_apply, ret_apply]

theorem translated_errreg_check_started_passes (env : Nat → St → St) (s : TS) (h : s.st.phase ≠ .notStarted) :
    (callFn (TrE.checkStarted (csPrims env)) : M TS PyExc Unit Unit) s = (s, .next ()) := by
  rw [translated_errreg_check_started_is_model]; simp [h]

/-- `shutdown()` of a started simulation IS the model's `shut` wake followed by `shutdownRaises`: up to
    `await asyncio.wait([self._simtask])` exactly `abort(CancelledError('shutdown'))` is delivered (the model's
    `wakeStep … shut`: state and delivery log), and when the simulation task has ended -- whatever happened
    meanwhile -- the call returns iff the recorded error is a cancellation, else re-raises the recorded error.
    (`hr`: the caller is not cancelled while it waits; see `translated_errreg_shutdown_caller_cancel_not_forwarded`) -/
theorem translated_errreg_shutdown_is_model (env : Nat → St → St) (s : TS) (h : s.st.phase ≠ .notStarted)
    (hr : s.cancelAt s.log.length = false) :
    TrE.shutdown (sdPrims env false) s =
      let s1 : TS := { s with st := (wakeStep s.st .shut).1, dels := s.dels ++ (wakeStep s.st .shut).2 }
      (s1.await env .simtask,
       match shutdownRaises (s1.await env .simtask).st with
       | some e => .raise (.err e)
       | none => .next ()) := by
  unfold TrE.shutdown
  simp [h, hr, translated_errreg_check_started_passes, bind_apply, get_apply, abortP, awaitM,
    wakeStep, runForeverRaises, shutdownRaises]
  cases he : ((TS.await env Aw.simtask { s with st := s.st.abort (Err.cancelled 1), dels := s.dels ++ [Err.cancelled 1] }).st.error) with
  | none => simp [he, bind_apply, pure_apply]
  | some e => cases hc : e.isCancel <;> simp [he, hc, pure_apply, raise_apply, bind_apply]

/-- shutdown() of a simulation that was never started (and does not start during the yield either):
    EdzedInvalidState, nothing is delivered -- the model's `shut` wake in phase `notStarted` changes nothing -/
theorem translated_errreg_shutdown_not_started (env : Nat → St → St) (cur : Bool) (s : TS)
    (h : s.st.phase = .notStarted) (h2 : (env s.log.length s.st).phase = .notStarted)
    (hr : s.cancelAt s.log.length = false) :
    TrE.shutdown (sdPrims env cur) s = (s.await env .yield, .raise .invalidState) ∧
    wakeStep s.st .shut = (s.st, []) := by
  unfold TrE.shutdown
  simp [h, h2, hr, translated_errreg_check_started_is_model, TS.await, bind_apply, wakeStep]

/-- the caller of shutdown() is cancelled while it waits for the simulation task (`asyncio.wait`):
    `abort(CancelledError('shutdown'))` was ALREADY delivered (the model's `shut` wake: state and delivery log), the
    cancellation is NOT forwarded to the simulation task -- its state is exactly what the environment made of it
    during the await, there is no `rawCancel` step, the cleanup runs on --, and shutdown() raises the CALLER's own
    CancelledError (`callerCancelled`), whatever the state of the simulation task at that moment -/
theorem translated_errreg_shutdown_caller_cancel_not_forwarded (env : Nat → St → St) (s : TS) (h : s.st.phase ≠ .notStarted)
    (hx : s.cancelAt s.log.length = true) :
    let s1 : TS := { s with st := (wakeStep s.st .shut).1, dels := s.dels ++ (wakeStep s.st .shut).2 }
    (TrE.shutdown (sdPrims env false) s = (s1.await env .simtask, .raise callerCancelled)) ∧
    (TrE.shutdown (sdPrims env false) s).1.st = env s.log.length (s.st.abort (.cancelled 1)) ∧
    (TrE.shutdown (sdPrims env false) s).1.dels = s.dels ++ [.cancelled 1] := by
  unfold TrE.shutdown
  simp [h, hx, translated_errreg_check_started_passes, bind_apply, get_apply, abortP, awaitM, wakeStep, TS.await]

/-- non-vacuity of the two theorems above: a running simulation, once with a caller that is not cancelled, once
    with a caller cancelled while it waits (shutdown() raises the caller's CancelledError) -/
example :
    let s : TS := { st := { phase := .tryBlock } }
    (s.st.phase ≠ .notStarted ∧ s.cancelAt s.log.length = false) ∧
    (TrE.shutdown (sdPrims (fun _ t => t) false) { s with cancelAt := fun _ => true }).2 = .raise callerCancelled := by
  simp [TrE.shutdown, callFn, TrE.checkStarted, bind_apply, get_apply, pure_apply, abortP, awaitM, TS.await]

/-- shutdown() called from the simulation task itself is refused BEFORE anything is delivered -/
theorem translated_errreg_shutdown_refused_in_simtask (env : Nat → St → St) (s : TS) (h : s.st.phase ≠ .notStarted) :
    TrE.shutdown (sdPrims env true) s = (s, .raise .invalidState) := by
  unfold TrE.shutdown
  simp [h, translated_errreg_check_started_passes, bind_apply, get_apply, raise_apply]

/-- `wait_init()` on a started simulation: AttributeError when `_init_done` does not exist (the helper task is
    created OUTSIDE the `try`, nothing is awaited); otherwise it waits once, cancels the helper task in any
    case, and raises EdzedInvalidState iff the simulation task is done or an error is recorded by then -/
theorem translated_errreg_wait_init_is_model (env : Nat → St → St) (s : TS) (h : s.st.phase ≠ .notStarted)
    (hr : s.cancelAt s.log.length = false) :
    TrE.waitInit (wiPrims env) s =
      match s.initDone with
      | none => (s, .raise .attributeError)
      | some _ =>
        let s1 : TS := { s.await env .waitInit with waiter := some false }
        (s1, if s1.st.phase == .done || s1.st.error.isSome then .raise .invalidState else .next ()) := by
  unfold TrE.waitInit
  cases hi : s.initDone with
  | none => simp [h, hi, translated_errreg_check_started_passes, bind_apply]
  | some b =>
    simp [h, hi, hr, awaitM, translated_errreg_check_started_passes, bind_apply, get_apply, pure_apply, raise_apply, tryFinally_apply, TS.await]
    by_cases hd : (env s.log.length s.st).phase = .done
    · cases he : (env s.log.length s.st).error with
      | none => simp [hd, he, bind_apply, get_apply, pure_apply, raise_apply]
      | some e => cases hc : e.isCancel <;> simp [hd, he, hc, bind_apply, get_apply, pure_apply, raise_apply]
    · cases he : (env s.log.length s.st).error <;> simp [hd, he, bind_apply, get_apply, pure_apply, raise_apply]

/-- the helper task created by wait_init() is cancelled on EVERY exit: for every environment and both outcomes of
    the await (returned / the caller was cancelled while waiting), the helper is cancelled when wait_init() is left;
    and when the await was cancelled, the CancelledError propagates, nothing else having happened to the state than
    the environment's step and the helper's cancellation (the `finally:` -- two statements in sequence would skip
    the cancellation exactly here, as edzed.run() cancels its supporting coroutines) -/
theorem translated_errreg_wait_init_cancels_helper_on_every_exit (env : Nat → St → St) (s : TS) (b : Bool)
    (h : s.st.phase ≠ .notStarted) (hi : s.initDone = some b) :
    (TrE.waitInit (wiPrims env) s).1.waiter = some false ∧
    (s.cancelAt s.log.length = true →
      TrE.waitInit (wiPrims env) s = ({ s.await env .waitInit with waiter := some false }, .raise callerCancelled)) := by
  cases hx : s.cancelAt s.log.length
  · rw [translated_errreg_wait_init_is_model env s h hx, hi]
    simp
  · have : TrE.waitInit (wiPrims env) s = ({ s.await env .waitInit with waiter := some false }, .raise callerCancelled) := by
      unfold TrE.waitInit
      simp [h, hi, hx, awaitM, translated_errreg_check_started_passes, bind_apply, pure_apply, tryFinally_apply, TS.await]
    rw [this]
    simp

/-- … hence, with the invariant `Stopped` (a finished simulation has an error): wait_init() returns normally
    iff the circuit is ready when the wait is over -/
theorem translated_errreg_wait_init_returns_iff_ready (env : Nat → St → St) (s : TS) (b : Bool)
    (h : s.st.phase ≠ .notStarted) (hi : s.initDone = some b) (hr : s.cancelAt s.log.length = false)
    (hn : (env s.log.length s.st).phase ≠ .notStarted) (hs : Stopped (env s.log.length s.st)) :
    ((TrE.waitInit (wiPrims env) s).2 = .next ()) ↔ (env s.log.length s.st).ready = true := by
  rw [translated_errreg_wait_init_is_model env s h hr, hi]
  simp only [TS.await, St.ready]
  by_cases hd : (env s.log.length s.st).phase = .done
  · have := hs (Or.inr (Or.inr hd))
    by_cases he : (env s.log.length s.st).error = none
    · simp [he] at this
    · simp [hd, he]
  · by_cases he : (env s.log.length s.st).error = none
    · simp [hd, he, hn]
    · have : (env s.log.length s.st).error.isSome = true := by
        cases h' : (env s.log.length s.st).error <;> simp_all
      simp [hd, he, hn, this]

/-- `_TerminatingSignal.__init__`: the signal number is stored in any case; without one nothing else happens, with
    one the message of the later CancelledError is built (`signal.strsignal` may raise for an invalid number) -/
theorem translated_errreg_sig_init_is_model (sc : Bool) (o : Option Unit) (s : TS) :
    TrE.sigInit (sgPrims sc) o s =
      match o with
      | some _ => ({ s with signo := true, msg := sigMsg }, .next ())
      | none => ({ s with signo := false }, .ret false) := by
  unfold TrE.sigInit
  cases o <;> simp [bind_apply, pure_apply, ret_apply, sigMsg]

/-- `_TerminatingSignal.__enter__`: without a signal number nothing; else the old handler is saved FIRST (the value
    saved is the one from before the installation), then the new one installed -/
theorem translated_errreg_sig_enter_is_model (sc : Bool) (s : TS) :
    TrE.sigEnter (sgPrims sc) s =
      if s.signo then ({ s with saved := some s.handler, handler := true }, .next ()) else (s, .ret false) := by
  unfold TrE.sigEnter
  cases h : s.signo <;> simp [h, bind_apply, get_apply, pure_apply, ret_apply]

/-- `__exit__` after an `__enter__` (`hs`: a handler was saved) restores the saved handler and returns a FALSE value
    with and without a signal number: an exception of the `with` body propagates (what `M.withCtx` assumes in the
    translated `run()`) -/
theorem translated_errreg_sig_exit_returns_false (sc : Bool) (s : TS) (b : Bool) (hs : s.saved = some b) :
    TrE.sigExit (sgPrims sc) s =
      (if s.signo then { s with handler := b } else s, .ret false) := by
  unfold TrE.sigExit
  cases h : s.signo <;> simp [h, hs, bind_apply, get_apply, ret_apply, pure_apply]

/-- … and without a signal number it touches nothing -/
theorem translated_errreg_sig_exit_without_signal (sc : Bool) (s : TS) (hs : s.signo = false) :
    TrE.sigExit (sgPrims sc) s = (s, .ret false) := by
  unfold TrE.sigExit
  simp [hs, bind_apply, get_apply, ret_apply, pure_apply]

/-- the `with _TerminatingSignal(…)` frame of run(): the handler is installed (iff `catch_sigterm`) around the body and
    the previous one is back afterwards, whatever the outcome of the body -/
theorem withSigterm_apply {α : Type} (env : Nat → St → St) (c : Bool) (body : M TS PyExc Unit α) (s s2 : TS)
    (o : TrD.Out PyExc Unit α)
    (hb : body (entered c s) = (s2, o)) (h1 : s2.signo = (entered c s).signo) (h2 : s2.saved = (entered c s).saved) :
    M.withCtx ((runPrims env).sigEnter c) (runPrims env).sigExit body s =
      ({ s2 with handler := if c then s.handler else s2.handler }, o) := by
  cases c
  · simp only [entered, Bool.false_eq_true, if_false, Bool.false_or] at hb h1 h2
    simp [withCtx_apply, bind_apply, tryFinally_apply, callFn, translated_errreg_sig_init_is_model,
      translated_errreg_sig_enter_is_model, translated_errreg_sig_exit_without_signal _ _ h1, hb]
  · simp only [entered, if_true, Bool.true_or] at hb h1 h2
    simp [withCtx_apply, bind_apply, tryFinally_apply, callFn, translated_errreg_sig_init_is_model,
      translated_errreg_sig_enter_is_model, translated_errreg_sig_exit_returns_false _ _ _ h2, hb, h1]



theorem coros_length (n : Nat) : (coros n).length = n := by simp [coros]

theorem coros_isEmpty {n : Nat} (hn : 0 < n) : (coros n).isEmpty = false := by
  cases n with
  | zero => omega
  | succ n => simp [coros, List.replicate_succ]

/-- the "stop everything" loop over supporting tasks: each one that is not done is cancelled; the model state is untouched -/
theorem translated_errreg_run_stop_loop_cancels_unfinished (env : Nat → St → St) : ∀ (l : List Nat) (s : TS),
    TrE.run_for1 (runPrims env) (l.map Tk.sup) s =
      ({ s with cancelled := s.cancelled ++ (l.filter fun i => !(s.st.supDone.any (·.1 == i))).map Tk.sup }, .next ()) := by
  intro l
  induction l with
  | nil => intro s; simp [TrE.run_for1, pure_apply]
  | cons i l ih =>
    intro s
    simp only [List.map_cons]
    unfold TrE.run_for1
    cases hd : s.st.supDone.any (·.1 == i) <;>
      simp [hd, bind_apply, get_apply, taskDone, ih, List.filter_cons]


/-- the collection loop over supporting tasks #k … #k+m-1: the first failure (in the order of the arguments)
    is kept unless an error was collected before -/
theorem translated_errreg_run_collect_supporting (env : Nat → St → St) (n : Nat) : ∀ (m k : Nat) (re : Option PyExc) (s : TS), k + m ≤ n →
    TrE.run_for2 (runPrims env) (coros n) ((List.range' k m).map fun (i : Nat) => ((i : Int), Tk.sup i)) re s =
      (s, .next (orElseSup re ((List.range' k m).findSome? (supFailure s.st.supDone)))) := by
  intro m
  induction m with
  | zero => intro k re s _; cases re <;> simp [TrE.run_for2, pure_apply, orElseSup]
  | succ m ih =>
    intro k re s hk
    simp only [List.range'_succ, List.map_cons]
    unfold TrE.run_for2
    have h1 : -(n : Int) ≤ (k : Int) ∧ (k : Int) < (n : Int) := by omega
    have h2 : ¬ ((k : Int) < 0) := by omega
    dsimp only
    generalize hb : (M.tryExcept _ _ : M TS PyExc Unit (Option PyExc)) = body
    have hbody : body s = (s, .next (orElseSup re (supFailure s.st.supDone k))) := by
      subst hb
      cases hf : supFailure s.st.supDone k with
      | some id =>
        simp [hf, bind_apply, pure_apply, raise_apply, tryExcept_apply, coros_length, h1, h2, addNote_quiet, Err.isCancel]
        cases re <;> rfl
      | none =>
        cases hd : s.st.supDone.any (·.1 == k) <;>
          simp [hf, hd, bind_apply, pure_apply, raise_apply, tryExcept_apply, Err.isCancel] <;>
          cases re <;> rfl
    rw [bind_apply, hbody]
    simp only []
    rw [ih (k + 1) _ s (by omega), List.findSome?_cons]
    cases re <;> cases supFailure s.st.supDone k <;> rfl

/-- the whole collection loop of run(): the simulation task first, then the supporting tasks in order -/
theorem translated_errreg_run_collect_is_runRaises (env : Nat → St → St) (n : Nat) (s : TS)
    (hr : s.cancelAt s.log.length = false) :
    TrE.run_for2 (runPrims env) (coros n) (((-1 : Int), Tk.sim) :: (List.range' 0 n).map fun (i : Nat) => ((i : Int), Tk.sup i)) none s =
      (s.await env .simtask, .next ((runRaises (s.await env .simtask).st n).map PyExc.err)) := by
  unfold TrE.run_for2
  have hc := fun re => translated_errreg_run_collect_supporting env n n 0 re (s.await env .simtask) (by omega)
  cases he : (s.await env .simtask).st.error with
  | none =>
    simp [bind_apply, pure_apply, tryExcept_apply, awaitSim, hr, runForeverRaises, he, hc, orElseSup, runRaises, shutdownRaises,
      firstSupError_eq, List.range_eq_range']
    congr 1; funext i; simp only [Function.comp_apply]; cases supFailure (TS.await env Aw.simtask s).st.supDone i <;> rfl
  | some e =>
    cases hk : e.isCancel <;>
    simp [bind_apply, pure_apply, tryExcept_apply, awaitSim, hr, runForeverRaises, he, hk, hc, orElseSup, runRaises, shutdownRaises,
      firstSupError_eq, List.range_eq_range']
    congr 1; funext i; simp only [Function.comp_apply]; cases supFailure (TS.await env Aw.simtask s).st.supDone i <;> rfl


/-- the signal handler IS the model's `sigterm`: it queues `abort(CancelledError(<signal message>))` (the model's
    wake entry `sig`, which delivers exactly that error) and chains to the previous handler iff it is callable -/
theorem translated_errreg_sig_handler_is_sigterm (sc : Bool) (s : TS) :
    TrE.sigHandler (sgPrims sc) s =
      ({ s with st := (step s.st .sigterm).1, sched := s.sched ++ [.cancelled 4], chained := s.chained || sc },
       .next ()) ∧
    (wakeStep (step s.st .sigterm).1 .sig).2 = [.cancelled 4] := by
  unfold TrE.sigHandler
  cases sc <;> simp [bind_apply, get_apply, pure_apply, step, wakeStep]

theorem runBody_frame (env : Nat → St → St) (n : Nat) (s : TS) :
    (runBody env n s).1.signo = s.signo ∧ (runBody env n s).1.saved = s.saved := by
  unfold runBody
  simp only
  iterate 4
    refine ite_elim (P := fun x : TS × TrD.Out PyExc Unit (List Tk) => x.1.signo = s.signo ∧ x.1.saved = s.saved) ⟨rfl, rfl⟩ ?_
  exact ⟨rfl, rfl⟩

/-- `run(*coroutines)` with coroutines given, on EVERY state (that has not been through `asyncio.wait`), for every
    environment and every pattern of cancellations of run()'s own task: the `with` frame around `runBody`, then the
    collection loop over all tasks -/
theorem translated_errreg_run_eq (env : Nat → St → St) (n : Nat) (c : Bool) (s : TS) (hn : 0 < n) (hw : s.waited = false) :
    TrE.run (runPrims env) (coros n) c s =
      M.bind (fun s => ({ (runBody env n (entered c s)).1 with
                            handler := if c then s.handler else (runBody env n (entered c s)).1.handler },
                        (runBody env n (entered c s)).2))
        (fun t => M.bind (TrE.run_for2 (runPrims env) (coros n) (TrE.enumFrom (-1 : Int) t) none) fun re =>
          match re with
          | none => M.pure ()
          | some e => M.raise e) s := by
  have hne := coros_isEmpty hn
  unfold TrE.run
  rw [bind_apply, bind_apply, withSigterm_apply env c _ s (runBody env n (entered c s)).1 (runBody env n (entered c s)).2 ?_
    (runBody_frame env n _).1 (runBody_frame env n _).2]
  · -- what follows the `with`: the same continuation on both sides, up to the `match` on the collected error
    cases (runBody env n (entered c s)).2 <;> try rfl
    simp only [bind_apply]
    congr 1
    funext p
    congr 1
    funext re
    cases re <;> rfl
  -- the body of the `with` (a hole: its text is not written here) on the state inside the frame
  show (_ : M TS PyExc Unit (List Tk)) (entered c s) = runBody env n (entered c s)
  have hw' : (entered c s).waited = false := hw
  generalize entered c s = s at hw'
  unfold runBody
  cases hx0 : s.cancelAt s.log.length
  · simp only [hne, hw', hx0, bind_apply, pure_apply, get_apply, awaitM, pybool, ↓reduceIte]
    generalize s.await env .yield = s1
    -- the test "is the simulation task done" is decided before its branches are run: `simp` does not rewrite the
    -- condition of an `if` that is applied to the state
    rw [ite_apply']
    cases hd : taskDone s1 Tk.sim
    · simp only [bind_apply, pure_apply, pybool, ↓reduceIte]
      -- `asyncio.wait`: a cancellation of run() arriving here is swallowed, run() goes on either way
      generalize hwt : M.tryExcept _ _ s1 = r
      have hr : r = ({ s1.await env .wait with waited := true }, .next ()) := by
        subst hwt
        cases hx1 : s1.cancelAt s1.log.length <;> simp [tryExcept_apply, bind_apply, pure_apply, callerCancelled, hx1]
      subst hr
      simp only [coros_length, List.drop_one, List.singleton_append, List.tail_cons,
        translated_errreg_run_stop_loop_cancels_unfinished, unfinished]
      cases hx2 : s1.cancelAt (s1.log.length + 1)
      · by_cases hd2 : (env (s1.log.length + 1) ((env s1.log.length s1.st).addWake .runAbort)).phase = .done <;>
          simp [hx2, hd2, taskDone, abortP, bind_apply, pure_apply, get_apply, TS.await]
      · simp [hx2, TS.await]
    · simp only [pybool, ↓reduceIte]
      cases he : s1.st.error with
      | none => simp [bind_apply, pure_apply, tryExcept_apply, runForeverRaises, he, raise_apply, shutdownRaises]
      | some e =>
        cases hk : e.isCancel <;>
        simp [bind_apply, pure_apply, tryExcept_apply, runForeverRaises, he, hk, raise_apply, shutdownRaises]
  · simp [hne, hw', awaitM, hx0, bind_apply, pure_apply]

/-- `run(*coroutines)` with n ≥ 1 supporting coroutines IS the model's account of it (`runModel`): the
    SIGTERM handler is installed (iff `catch_sigterm`) while run() awaits inside the `with` and removed before
    the tasks are collected; after `asyncio.wait` every UNFINISHED SUPPORTING task is cancelled -- the simulation
    task at position 0 is not (the model's `runWaiter`) --, after one yield `abort(CancelledError('shutdown'))`
    is delivered iff the simulation task is not done (the model's `runAbort`: state and delivery log), and what
    run() raises at the end is the model's `runRaises`: the simulation's error unless it is a cancellation,
    else the error of the first failing supporting task in the order of the arguments, else nothing.
    `cx`: which awaits of run() are interrupted by a cancellation of run()'s own task -- a cancellation inside
    `asyncio.wait` (cx 1) is swallowed by the `except CancelledError: pass` around it, run() goes on to stop
    everything exactly as if the wait had returned; the other awaits are taken as returning -/
theorem translated_errreg_run_is_model (env : Nat → St → St) (cx : Nat → Bool) (n : Nat) (c : Bool) (s0 : St)
    (hn : 0 < n) (h1 : (env 0 s0).phase ≠ .done)
    (hx0 : cx 0 = false) (hx2 : cx 2 = false) (hx3 : cx 3 = false) :
    TrE.run (runPrims env) (coros n) c { st := s0, cancelAt := cx } =
      ({ st := (runModel env s0).1
         dels := (runModel env s0).2
         log := [(.yield, c), (.wait, c), (.yield, c), (.simtask, false)]
         signo := c, msg := (if c then sigMsg else ""), saved := (if c then some false else none), handler := false, waited := true
         cancelled := ((List.range n).filter fun i => !((env 1 (env 0 s0)).supDone.any (·.1 == i))).map Tk.sup
         cancelAt := cx },
       outcomeOf (runRaises (runModel env s0).1 n)) := by
  have henum : TrE.enumFrom (-1 : Int) (Tk.sim :: (List.range n).map Tk.sup) =
      ((-1 : Int), Tk.sim) :: (List.range' 0 n).map fun (i : Nat) => ((i : Int), Tk.sup i) := by
    rw [TrE.enumFrom, List.range_eq_range']
    exact congrArg _ (enumFrom_sups n 0)
  have h1' : ((env 0 s0).phase == Phase.done) = false := by simpa using h1
  rw [translated_errreg_run_eq env n c _ hn rfl, bind_apply]
  -- `runBody` against `runModel`: the wake entry queued before the second yield is the model's `runWaiter` step, the
  -- test "simulation task done" the guard of its `runAbort` step.  The `catch_sigterm` flag stays a variable while
  -- `runBody` is evaluated; only the closing `rfl` needs its value
  by_cases hd : (env 2 ((env 1 (env 0 s0)).addWake .runAbort)).phase = .done <;>
    simp [runBody, entered, unfinished, taskDone, TS.await, hx0, hx2, hx3, h1', hd, bind_apply, pure_apply, henum,
      translated_errreg_run_collect_is_runRaises, runModel, wakeStep] <;>
    cases c <;>
    (generalize runRaises _ n = r; cases r <;> rfl)

/-- run()'s own task is cancelled at the yield after "stop everything": the CancelledError leaves run() through the
    `with` (the SIGTERM handler is removed), `abort(CancelledError('shutdown'))` is NOT delivered and no task is
    awaited -- what the code does; the supporting tasks were cancelled before -/
theorem translated_errreg_run_cancelled_at_second_yield (env : Nat → St → St) (cx : Nat → Bool) (n : Nat) (c : Bool) (s0 : St)
    (hn : 0 < n) (h1 : (env 0 s0).phase ≠ .done) (hx0 : cx 0 = false) (hx2 : cx 2 = true) :
    TrE.run (runPrims env) (coros n) c { st := s0, cancelAt := cx } =
      ({ st := env 2 (wakeStep (env 1 (env 0 s0)) .runWaiter).1
         log := [(.yield, c), (.wait, c), (.yield, c)]
         signo := c, msg := (if c then sigMsg else ""), saved := (if c then some false else none), handler := false, waited := true
         cancelled := ((List.range n).filter fun i => !((env 1 (env 0 s0)).supDone.any (·.1 == i))).map Tk.sup
         cancelAt := cx },
       .raise callerCancelled) := by
  have h1' : ((env 0 s0).phase == Phase.done) = false := by simpa using h1
  rw [translated_errreg_run_eq env n c _ hn rfl, bind_apply]
  simp only [runBody, entered, unfinished, taskDone, TS.await, List.length_nil, List.length_cons, List.length_append, hx0,
    hx2, h1', Bool.false_eq_true, if_false, if_true, wakeStep, List.nil_append, Nat.zero_add, Nat.reduceAdd]
  cases c <;> rfl

/-- run() never cancels the simulation task directly (it would abort the clean-up) -/
theorem translated_errreg_run_skips_simtask (env : Nat → St → St) (n : Nat) (c : Bool) (s0 : St)
    (hn : 0 < n) (h1 : (env 0 s0).phase ≠ .done) :
    Tk.sim ∉ (TrE.run (runPrims env) (coros n) c { st := s0 }).1.cancelled := by
  rw [translated_errreg_run_is_model env (fun _ => false) n c s0 hn h1 rfl rfl rfl]
  simp

/-- run() without supporting coroutines: run_forever is awaited in the caller's own task, a cancellation is a
    normal end (`return`), a real error propagates: the model's `runRaises … 0` -/
theorem translated_errreg_run_without_coroutines (env : Nat → St → St) (c : Bool) (s0 : St) :
    TrE.run (runPrims env) [] c { st := s0 } =
      ({ st := env 0 s0, log := [(.runForever, c)], signo := c, msg := (if c then sigMsg else ""), saved := (if c then some false else none), handler := false },
       match runRaises (env 0 s0) 0 with
       | some e => .raise (.err e)
       | none => .ret ()) := by
  unfold TrE.run
  -- the collection loop is not reached
  generalize (fun all_tasks => M.bind (TrE.run_for2 (runPrims env) _ _ _) _) = collect
  rw [bind_apply, withSigterm_apply env c _ _
    { st := env 0 s0, log := [(.runForever, c)], signo := c, msg := (if c then sigMsg else ""), saved := (if c then some false else none), handler := c }
    (match runRaises (env 0 s0) 0 with
       | some e => .raise (.err e)
       | none => .ret ()) ?_ rfl rfl]
  · cases c <;> cases runRaises (env 0 s0) 0 <;> rfl
  · cases he : (env 0 s0).error with
    | none =>
      simp [entered, bind_apply, pure_apply, tryExcept_apply, TS.await, awaitSim, runForeverRaises, he, ret_apply, runRaises, shutdownRaises, firstSupError]
    | some e =>
      cases hk : e.isCancel <;>
      simp [entered, bind_apply, pure_apply, tryExcept_apply, TS.await, awaitSim, runForeverRaises, he, hk, ret_apply, raise_apply, runRaises, shutdownRaises, firstSupError]

/-- the simulation task is already finished after the first yield: its error is re-raised (a cancellation:
    RuntimeError), no supporting task is ever created, the SIGTERM handler is removed -/
theorem translated_errreg_run_simtask_dead_early (env : Nat → St → St) (n : Nat) (c : Bool) (s0 : St)
    (hn : 0 < n) (h1 : (env 0 s0).phase = .done) :
    TrE.run (runPrims env) (coros n) c { st := s0 } =
      ({ st := env 0 s0, log := [(.yield, c)], signo := c, msg := (if c then sigMsg else ""), saved := (if c then some false else none), handler := false },
       match shutdownRaises (env 0 s0) with
       | some e => .raise (.err e)
       | none => .raise .runtimeError) := by
  rw [translated_errreg_run_eq env n c _ hn rfl, bind_apply]
  simp only [runBody, entered, taskDone, TS.await, List.length_nil, h1, beq_self_eq_true, if_true, Bool.false_eq_true,
    if_false]
  cases c <;> cases shutdownRaises (env 0 s0) <;> rfl

/-- abort() before the start: the translated `run_forever` still registers the task (`_simtask`), raises the
    recorded error INSIDE its try block (so that it is the task's own error and `shutdown()` re-raises it), starts
    no block, never creates `_init_done`, never simulates -- the model's `start` with an error already recorded,
    then the `sleep(0)` step -- and raises that error -/
theorem translated_errreg_run_forever_abort_before_start (sc : RfScript) (s0 : St) (e0 : Err)
    (hp : s0.phase = .notStarted) (he : s0.error = some e0)
    (hy : ∀ s, (s.error.isSome → (sc.envYield s).error = s.error) ∧ (sc.envYield s).phase = s.phase) :
    TrL.runForever (erfPrims sc) { st := s0 } =
      ({ st := (wakeStep (sc.envYield (step s0 (.start sc.initErr)).1) .sim).1 }, .raise (.err e0)) := by
  have hT : rfTried sc { s0 with phase := .tryBlock, runWaiting := s0.runMode } =
      { st := { s0 with phase := .tryBlock, runWaiting := s0.runMode } } := by
    simp only [rfTried, he]
  rw [runForever_eq sc s0 e0 hp (by rw [hT]; exact he), hT, start_pre_error s0 _ e0 hp he]
  simp only [List.isEmpty_nil, Bool.not_true, Bool.false_and, Bool.false_eq_true, if_false]
  rw [wake_after_try_error sc { s0 with phase := .tryBlock, runWaiting := s0.runMode } e0 he hy]

/-
Full statement: the same with the start-up split into its awaits (`envInit` arbitrary), for an empty circuit
(EdzedCircuitError is not an `Err` of the model) and with failing start()/async initialisation.  The model's
`start` is ONE step, so the tie fixes `envInit = id`; the hypotheses on the environments say what every
history of the model satisfies between two steps of the simulation task: it does not move the task's phase
and never replaces a recorded error.
-/
/-- `run_forever` IS the model's account of the simulation task (`rfModel` = `start`, then the `sim` wake that
    leaves the try block, then the `sim` wake at the `sleep(0)`, then `finish`): the except clause records the
    exception that left the try block iff no error was recorded (`St.caught`), one pending cancellation is
    swallowed at the `sleep(0)`, and the task ends by raising the recorded error (`runForeverRaises`) -/
theorem translated_errreg_run_forever_is_model_partial (sc : RfScript) (s0 : St)
    (hp : s0.phase = .notStarted) (he : s0.error = none) (hi : sc.envInit = id)
    (hs : ∀ s, (sc.envSim s).phase = s.phase)
    (ht : sc.initErr = none → s0.earlyFail = false → (thrownAt (sc.envSim (step s0 (.start none)).1)).2.isSome = true)
    (hy : ∀ s, (s.error.isSome → (sc.envYield s).error = s.error) ∧ (sc.envYield s).phase = s.phase)
    (hz : ∀ s, (s.error.isSome → (sc.envStop s).error = s.error) ∧ (sc.envStop s).phase = s.phase) :
    TrL.runForever (erfPrims sc) { st := s0 } =
      ({ st := rfModel sc s0, started := [0], startOk := true, initDone := some (sc.initErr.isNone && !s0.earlyFail),
         simulated := (sc.initErr.isNone && !s0.earlyFail) },
       match runForeverRaises (rfModel sc s0) with
       | some e => .raise (.err e)
       | none => .raise .typeError) ∧
    (runForeverRaises (rfModel sc s0)).isSome = true := by
  obtain ⟨T, e, hTe, hM, hT⟩ := rfModel_tried sc s0 hp he hs ht
  have hT := hT hi
  rw [runForever_eq sc s0 e hp (by rw [hT]; exact hTe), hT]
  have h4 := error_after_cleanup sc T e hTe true hy hz
  unfold rfModel runForeverRaises
  simp only [hM, List.isEmpty_cons, Bool.not_false, Bool.true_and] at h4 ⊢
  rw [h4]
  exact ⟨rfl, rfl⟩

/-- a second `run_forever()` is refused before anything else happens: the model's `start` outside `notStarted` -/
theorem translated_errreg_run_forever_restart_refused (sc : RfScript) (s : TS) (h : s.st.phase ≠ .notStarted) :
    TrL.runForever (erfPrims sc) s = (s, .raise .invalidState) ∧
    step s.st (.start sc.initErr) = (s.st, { reply := .invalidState }) := by
  unfold TrL.runForever
  -- nothing after the first test is reached
  generalize M.bind (erfPrims sc).testEager _ = rest
  simp [h, step, bind_apply, get_apply, pure_apply, raise_apply]

/-- an error recorded DURING the start-up without an exception reaching run_forever (an abort() whose
    cancellation was swallowed by a failing init task): the simulation is NOT entered, `_init_done` stays
    unset, the recorded error is raised after the clean-up -- a simulation with an error never runs -/
theorem translated_errreg_run_forever_no_simulation_with_error (sc : RfScript) (s0 : St) (e1 : Err)
    (hp : s0.phase = .notStarted) (he : s0.error = none) (hie : sc.initErr = none) (hef : s0.earlyFail = false)
    (hi : (sc.envInit { s0 with phase := .tryBlock, error := none, runWaiting := s0.runMode, earlyFail := false }).error = some e1)
    (hif : (sc.envInit { s0 with phase := .tryBlock, error := none, runWaiting := s0.runMode, earlyFail := false }).earlyFail = false)
    (hy : ∀ s, (s.error.isSome → (sc.envYield s).error = s.error) ∧ (sc.envYield s).phase = s.phase)
    (hz : ∀ s, (s.error.isSome → (sc.envStop s).error = s.error) ∧ (sc.envStop s).phase = s.phase) :
    ∃ s', TrL.runForever (erfPrims sc) { st := s0 } = (s', .raise (.err e1)) ∧
      s'.simulated = false ∧ s'.initDone = some false ∧ s'.st.error = some e1 := by
  -- a name for the state in which the task has begun, with its equation kept (`generalize` would lose it)
  obtain ⟨s1, hs1⟩ : ∃ s1, s1 = ({ s0 with phase := .tryBlock, runWaiting := s0.runMode } : St) := ⟨_, rfl⟩
  have hS : ({ s0 with phase := .tryBlock, error := none, runWaiting := s0.runMode, earlyFail := false } : St) = s1 := by
    rw [hs1, ← he, ← hef]
  rw [hS] at hi hif
  have hT : rfTried sc s1 = { st := sc.envInit s1, started := [0], startOk := true, initDone := some false } := by
    have he1 : s1.error = none := by rw [hs1]; exact he
    simp only [rfTried, he1, hie, hif, hi, Option.isNone_some, Bool.false_eq_true, if_false]
  rw [runForever_eq sc s0 e1 hp (by rw [← hs1, hT]; exact hi), ← hs1, hT]
  have h4 := error_after_cleanup sc _ e1 hi true hy hz
  simp only [List.isEmpty_cons, Bool.not_false] at h4 ⊢
  rw [h4]
  exact ⟨_, rfl, rfl, rfl, h4⟩

/-- the model's `waitInitReply`, case "an error was recorded before the start": the
    translated run_forever never creates `_init_done`, so the translated `wait_init()` on the failed simulation
    raises AttributeError (not EdzedInvalidState) -/
theorem translated_errreg_wait_init_after_abort_before_start (sc : RfScript) (env : Nat → St → St) (s0 : St) (e0 : Err)
    (hp : s0.phase = .notStarted) (he : s0.error = some e0)
    (hy : ∀ s, (s.error.isSome → (sc.envYield s).error = s.error) ∧ (sc.envYield s).phase = s.phase) :
    ∃ s', TrL.runForever (erfPrims sc) { st := s0 } = (s', .raise (.err e0)) ∧ s'.initDone = none ∧
      TrE.waitInit (wiPrims env) s' = (s', .raise .attributeError) ∧
      waitInitReply s0 sc.initErr = .attributeError := by
  refine ⟨_, translated_errreg_run_forever_abort_before_start sc s0 e0 hp he hy, rfl, ?_, by simp [waitInitReply, he]⟩
  rw [translated_errreg_wait_init_is_model (hr := rfl)]
  have hph : (sc.envYield (step s0 (.start sc.initErr)).1).phase = .sleep0 := by
    rw [(hy _).2, start_pre_error s0 _ e0 hp he]; simp
  have := (wake_sleep0 _ hph).2
  simp only [this]
  split <;> simp

/-- … case "the start-up fails": the translated run_forever ends with the error recorded (`_init_done` exists, unset),
    and the translated `wait_init()` raises EdzedInvalidState whatever else happens while it waits -/
theorem translated_errreg_wait_init_after_failed_start (sc : RfScript) (env : Nat → St → St) (s0 : St) (id : Nat)
    (hp : s0.phase = .notStarted) (he : s0.error = none) (hie : sc.initErr = some id) (hi : sc.envInit = _root_.id)
    (hs : ∀ s, (sc.envSim s).phase = s.phase)
    (hy : ∀ s, (s.error.isSome → (sc.envYield s).error = s.error) ∧ (sc.envYield s).phase = s.phase)
    (hz : ∀ s, (s.error.isSome → (sc.envStop s).error = s.error) ∧ (sc.envStop s).phase = s.phase)
    (henv : ∀ k s, s.error.isSome → (env k s).error.isSome) :
    ∃ s', (TrL.runForever (erfPrims sc) { st := s0 }).1 = s' ∧ s'.initDone = some false ∧
      (TrE.waitInit (wiPrims env) s').2 = .raise .invalidState ∧
      waitInitReply s0 sc.initErr = .invalidState := by
  have hm := translated_errreg_run_forever_is_model_partial sc s0 hp he hi hs (by simp [hie]) hy hz
  have hd := rfModel_done sc s0 hp he hs (by simp [hie]) (fun s => (hy s).2) (fun s => (hz s).2)
  refine ⟨_, rfl, ?_, ?_, by simp [waitInitReply, he, hie]⟩
  · rw [hm.1]; simp [hie]
  · rw [hm.1, translated_errreg_wait_init_is_model _ _ (by simp [hd]) rfl]
    have hsome : (rfModel sc s0).error.isSome = true := hm.2
    have := henv 0 (rfModel sc s0) hsome
    simp [hie, TS.await, this]

/-- … case "the start-up succeeds": with `_init_done` present, `wait_init()` returns normally as long as no error
    is recorded and the task is running when the wait is over -/
theorem translated_errreg_wait_init_of_running_simulation (env : Nat → St → St) (s : TS) (b : Bool)
    (h : s.st.phase ≠ .notStarted) (hi : s.initDone = some b)
    (he : (env s.log.length s.st).error = none) (hd : (env s.log.length s.st).phase ≠ .done) (s0 : St) (h0 : s0.error = none)
    (h0f : s0.earlyFail = false) (hr : s.cancelAt s.log.length = false) :
    (TrE.waitInit (wiPrims env) s).2 = .next () ∧ waitInitReply s0 none = .ok := by
  rw [translated_errreg_wait_init_is_model env s h hr, hi]
  simp [TS.await, he, hd, waitInitReply, h0, h0f]

/-- non-vacuity of the hypotheses of `translated_errreg_run_forever_is_model_partial` and
    `translated_errreg_run_is_model`: a cancellation requested while the circuit is simulated ends run_forever with
    CancelledError; run() with two supporting coroutines of which #1 fails with exception 7 while the simulation
    runs: the simulation is stopped with CancelledError('shutdown') and run() raises exception 7 -/
example :
    let sc : RfScript := { envSim := fun s => { s with mustCancel := true } }
    (TrL.runForever (erfPrims sc) { st := {} }).2 = .raise (.err (.cancelled 0)) ∧
    (rfModel sc {}).phase = .done ∧ (rfModel sc {}).error = some (.cancelled 0) := by
  intro sc
  have h := translated_errreg_run_forever_is_model_partial sc {} rfl rfl rfl (fun _ => rfl) (fun _ _ => rfl)
    (fun _ => ⟨fun _ => rfl, rfl⟩) (fun _ => ⟨fun _ => rfl, rfl⟩)
  have hm : rfModel sc {} = { phase := .done, error := some (.cancelled 0), wake := [.sim] } := by rfl
  rw [h.1, hm]
  exact ⟨rfl, rfl, rfl⟩

/-- the environment of the second example -/
def exampleEnv : Nat → St → St := fun k s =>
  if k = 0 then (step s (.start none)).1                                             -- the task starts
  else if k = 1 then (step (step s (.supTrigger 1 (some 7))).1 .tick).1              -- coroutine #1 fails
  else if k = 2 then s
  else (step (step s .tick).1 .tick).1                                               -- the simulation stops

example :
    (TrE.run (runPrims exampleEnv) (coros 2) true { st := { runMode := true } }).2 = .raise (.err (.exc 7)) ∧
    (TrE.run (runPrims exampleEnv) (coros 2) true { st := { runMode := true } }).1.dels = [.cancelled 1] ∧
    (TrE.run (runPrims exampleEnv) (coros 2) true { st := { runMode := true } }).1.st.error = some (.cancelled 1) := by
  have h := translated_errreg_run_is_model exampleEnv (fun _ => false) 2 true { runMode := true } (by decide) (by decide +kernel) rfl rfl rfl
  have h1 : runRaises (runModel exampleEnv { runMode := true }).1 2 = some (.exc 7) := by decide +kernel
  have h2 : (runModel exampleEnv { runMode := true }).2 = [.cancelled 1] := by decide +kernel
  have h3 : (runModel exampleEnv { runMode := true }).1.error = some (.cancelled 1) := by decide +kernel
  rw [h]
  exact ⟨by simp only [h1]; rfl, h2, h3⟩

/-- the translated `SBlock.event` makes the model's classification: whatever the fault of the delivery -- an
    exception of any family raised by the handler's own code, wrong parameters, an unknown type, an unknown event sent
    by the handler -- `abort(<wrapped error>)` is called iff `Fault.fatal` (i.e. unless the `except EdzedUnknownEvent:
    raise` clause or the one-level traceback applies), BEFORE the exception reaches the caller; the exception is
    re-raised in every case and `_event_active` is reset -/
theorem translated_errreg_event_classification (flt : Fault) (id fuel : Nat) (s : EvSt) (ha : s.active = false)
    (hm : s.marker < 0 ∨ 2 ≤ s.marker) (b : Bool) :
    TrD.event (evPrims flt id b) (fuel + 1) (faultEtype flt) () s =
      ({ s with st := if flt.fatal then s.st.abort (.wrapped id) else s.st
                dels := if flt.fatal then s.dels ++ [.wrapped id] else s.dels
                active := false },
       .raise (.raised flt.seen.1 flt.seen.2)) := by
  have hg : (decide ((0 : Int) ≤ s.marker) && decide (s.marker < (2 : Int))) = false := by
    rcases hm with h | h <;> simp <;> omega
  -- no early initialisation
  have hinit : initPart (evPrims flt id b) { s with active := true } = ({ s with active := true }, .next ()) := by
    unfold initPart
    simp only [bind_run, get_run, andThen_next, hg, Bool.false_eq_true, if_false, pure_run]
  -- the handler call ends with the fault's exception, whichever way it is dispatched; the `except` clauses call
  -- abort(<wrapped error>) iff the exception is not an EdzedUnknownEvent and comes from inside the handler
  have hcall : callPart (evPrims flt id b) ((evPrims flt id b).lookup (faultEtype flt)) (faultEtype flt) ()
      { s with active := true } =
      ({ s with active := true, st := if flt.fatal then s.st.abort (.wrapped id) else s.st,
                dels := if flt.fatal then s.dels ++ [.wrapped id] else s.dels },
       .raise (.raised flt.seen.1 flt.seen.2)) := by
    rw [callPart_raise (evPrims flt id b) _ (faultEtype flt) () _ { s with active := true }
      (.raised flt.seen.1 flt.seen.2) (by cases flt <;> rfl)]
    unfold Fault.fatal fatalSeen
    cases hf : flt.seen.1 == .unknownEvent <;> cases hd : flt.seen.2 <;>
      simp [hf, hd, bne, bind_run, andThen_next, pure_run, raise_run]
  rw [event_of_body _ rfl ha rfl (bodyPart_of_call _ rfl hinit hcall) rfl]
  rfl

/-- … hence the model's `handlerErr` IS what the translated `SBlock.event` does to the error register for a
    handler that raises an exception of family `f`: same state, same deliveries -/
theorem translated_errreg_event_handler_error_is_model (f : Family) (id fuel : Nat) (s : EvSt) (ha : s.active = false)
    (hm : s.marker < 0 ∨ 2 ≤ s.marker) (hr : s.st.ready = true) (b : Bool) :
    (TrD.event (evPrims (.inHandler f) id b) (fuel + 1) .known () s).1.st = (step s.st (.handlerErr id f)).1 ∧
    (TrD.event (evPrims (.inHandler f) id b) (fuel + 1) .known () s).1.dels = s.dels ++ (step s.st (.handlerErr id f)).2.dels := by
  have h := translated_errreg_event_classification (.inHandler f) id fuel s ha hm b
  simp only [faultEtype] at h
  rw [h]
  cases hf : (Fault.inHandler f).fatal <;> simp [step, hr, hf]

/-- **a failed initialisation step is never attempted again**: when `init_regular()` raises, the translated
    `init_sblock` leaves the step marker NEGATIVE (the except clause does not touch it) and re-raises; and with a
    negative marker every later `init_sblock` call -- from the synchronous passes or from an event -- does nothing -/
theorem translated_errreg_failed_init_step_never_attempted_again (s : EvSt) (full : Bool)
    (h : s.marker = 1 ∨ (s.marker = 0 ∧ full = true)) :
    TrI.init_sblock (isPrims true) () full s =
      ({ s with marker := -2, initCalls := s.initCalls + 1 }, .raise .initFailed) ∧
    (∀ (t : EvSt) (fails full' : Bool), t.marker < 0 → TrI.init_sblock (isPrims fails) () full' t = (t, .next ())) := by
  constructor
  · unfold TrI.init_sblock
    rcases h with h | ⟨h, rfl⟩ <;>
      simp [h, bind_apply, get_apply, pure_apply, raise_apply, tryExcept_apply]
  · intro t fails full' ht
    have h0 : t.marker ≠ 0 := by omega
    have h1 : t.marker ≠ 1 := by omega
    unfold TrI.init_sblock
    simp [h0, h1, bind_apply, get_apply, pure_apply, tryExcept_apply]

/-- the model's `earlyInitFail`: an event reaches a block whose initialisation is not complete (marker 0 or 1) and
    its `init_regular()` raises: the exception leaves the translated `SBlock.event` BEFORE the handler's try block --
    nothing is handed to abort() (the register is untouched), the marker stays negative, `_event_active` is reset;
    the start-up then finds the block uninitialised (the model's `start` with `earlyFail`) -/
theorem translated_errreg_early_init_failure_reaches_caller_only (flt : Fault) (id fuel : Nat) (s : EvSt)
    (ha : s.active = false) (hm : s.marker = 0 ∨ s.marker = 1) :
    TrD.event (evPrims flt id true) (fuel + 1) (faultEtype flt) () s =
      ({ s with marker := -2, initCalls := s.initCalls + 1, active := false }, .raise .initFailed) ∧
    (∀ i, (step s.st (.earlyInitFail i)).1.error = s.st.error ∧ (step s.st (.earlyInitFail i)).2.dels = []) := by
  constructor
  · have hg : (decide ((0 : Int) ≤ s.marker) && decide (s.marker < (2 : Int))) = true := by
      rcases hm with h | h <;> simp [h]
    have hi := (translated_errreg_failed_init_step_never_attempted_again { s with active := false } true
      (by rcases hm with h | h <;> simp [h])).1
    -- the early initialisation raises inside `with self._enable_event`; the handler is never looked up
    have hinit : initPart (evPrims flt id true) { s with active := true } =
        ({ s with active := true, marker := -2, initCalls := s.initCalls + 1 }, .raise .initFailed) := by
      unfold initPart M.withCtx M.tryFinally
      simp only [bind_run, get_run, andThen_next, hg, if_true, hi, andThen_raise,
        show (evPrims flt id true).enableEnter { s with active := true } = ({ s with active := false }, .next true) from rfl,
        show (evPrims flt id true).initSblockFull = TrI.init_sblock (isPrims true) () true from rfl]
    rw [event_of_body _ rfl ha rfl (bodyPart_of_init_raise _ rfl hinit) rfl]
    rfl
  · intro i
    simp only [step]
    split <;> simp


/-- the model operation of an 'abort' control event with the given `error` item -/
def ctlAbortOp : CtlErr → Op
  | .exception id => .ctrlAbort id
  | _ => .ctrlAbortText

/-- the error the 'abort' control event hands to abort(): an EdzedCircuitError whose `__cause__` is the reported
    error exactly when that is an Exception -/
def ctlAbortErr : CtlErr → Err
  | .exception id => .reported id
  | _ => .reportedText

/-- `ControlBlock._event_abort` IS the model's `ctrlAbort` / `ctrlAbortText`: exactly ONE abort(EdzedCircuitError …)
    is delivered -- with the reported error as its cause iff that is an Exception (not a string, not the default, not
    a bare BaseException) --, nothing is awaited, the handler returns normally; for a ready circuit state and
    deliveries are those of the model's operation -/
theorem translated_errreg_ctl_abort_is_model (e : CtlErr) (s : TS) :
    TrE.ctlAbort ctPrims () e s =
      ({ s with st := s.st.abort (ctlAbortErr e), dels := s.dels ++ [ctlAbortErr e] }, .next ()) ∧
    (s.st.ready = true →
      (TrE.ctlAbort ctPrims () e s).1.st = (step s.st (ctlAbortOp e)).1 ∧
      (TrE.ctlAbort ctPrims () e s).1.dels = s.dels ++ (step s.st (ctlAbortOp e)).2.dels) := by
  have h : TrE.ctlAbort ctPrims () e s =
      ({ s with st := s.st.abort (ctlAbortErr e), dels := s.dels ++ [ctlAbortErr e] }, .next ()) := by
    unfold TrE.ctlAbort
    cases e <;> simp [bind_apply, pure_apply, abortP, ctlAbortErr]
  refine ⟨h, fun hr => ?_⟩
  rw [h]
  cases e <;> simp [ctlAbortOp, ctlAbortErr, step, hr]

/-- `ControlBlock._event_shutdown` IS the model's `ctrlShutdown`: `abort(CancelledError(<shutdown requested by …>))`
    -- what `shutdown()` delivers, with another message -- and NOTHING is awaited (the log of awaits is unchanged) -/
theorem translated_errreg_ctl_shutdown_is_model (s : TS) :
    TrE.ctlShutdown (α := CtlErr) ctPrims () s =
      ({ s with st := s.st.abort (.cancelled 2), dels := s.dels ++ [.cancelled 2] }, .next ()) ∧
    (TrE.ctlShutdown (α := CtlErr) ctPrims () s).1.log = s.log ∧
    (s.st.ready = true →
      (TrE.ctlShutdown (α := CtlErr) ctPrims () s).1.st = (step s.st .ctrlShutdown).1 ∧
      (TrE.ctlShutdown (α := CtlErr) ctPrims () s).1.dels = s.dels ++ (step s.st .ctrlShutdown).2.dels) := by
  have h : TrE.ctlShutdown (α := CtlErr) ctPrims () s =
      ({ s with st := s.st.abort (.cancelled 2), dels := s.dels ++ [.cancelled 2] }, .next ()) := by
    unfold TrE.ctlShutdown
    simp [bind_apply, pure_apply, abortP]
  refine ⟨h, by rw [h], fun hr => ?_⟩
  rw [h]
  simp [step, hr]

/-- `add_note(exc, note)` cannot change what is reported: it returns normally, touches nothing but the note of the
    exception (attached natively on Python ≥ 3.11, else prepended to a str first argument, else dropped), and the
    model state is unchanged -- it is called inside except clauses BEFORE abort() / the re-raise -/
theorem translated_errreg_add_note_is_harmless (hasNotes firstStr : Bool) (e : PyExc) (s : TS) :
    TrE.addNote (ntPrims hasNotes firstStr false) e () s =
      ({ s with noted := if hasNotes || firstStr then s.noted + 1 else s.noted }, .next ()) := by
  unfold TrE.addNote
  cases hasNotes <;> cases firstStr <;> simp [bind_apply, get_apply, pure_apply]

/-- … what it MAY do (declared): when the native `exc.add_note` raises (a note that is not a str) that TypeError
    leaves add_note -- and would replace the original error in the caller's except clause; the fallback branch for
    older Pythons cannot raise -/
theorem translated_errreg_add_note_failure_propagates (firstStr : Bool) (e : PyExc) (s : TS) :
    TrE.addNote (ntPrims true firstStr true) e () s = (s, .raise .typeError) ∧
    (TrE.addNote (ntPrims false firstStr true) e () s).2 = .next () := by
  unfold TrE.addNote
  cases firstStr <;> simp [bind_apply, get_apply, pure_apply]

end ErrRegTie

end Edzed.TrTie
