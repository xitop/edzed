import EdzedProofs.AsyncInitTie
import EdzedProofs.Cond
import EdzedProofs.BlkCtor
import EdzedProofs.BlkCtorTie
import EdzedProofs.Burst
import EdzedProofs.CBlocksTie
import EdzedProofs.Counter
import EdzedProofs.Cron
import EdzedProofs.CronCfgTie
import EdzedProofs.CronTie
import EdzedProofs.CronTiming
import EdzedProofs.CronTimingDemo
import EdzedProofs.CsigTie
import EdzedProofs.DataLemmas
import EdzedProofs.Dispatch
import EdzedProofs.DispatchPersist
import EdzedProofs.DispatchTie
import EdzedProofs.EventRef
import EdzedProofs.ListLoops
import EdzedProofs.EditLoops
import EdzedProofs.ErrorReg
import EdzedProofs.ErrorRegTie
import EdzedProofs.Filters
import EdzedProofs.FiltersTie
import EdzedProofs.Fsm
import EdzedProofs.FsmRestoreTie
import EdzedProofs.FsmTablesTie
import EdzedProofs.FsmTie
import EdzedProofs.FsmTie03
import EdzedProofs.FsmTimer
import EdzedProofs.FsmTimerTie
import EdzedProofs.HandlersTie
import EdzedProofs.Init
import EdzedProofs.InitAsyncOrder
import EdzedProofs.InitClosure
import EdzedProofs.InitOrder
import EdzedProofs.InitSbEarly
import EdzedProofs.InitSbTie
import EdzedProofs.InitTie
import EdzedProofs.Interval
import EdzedProofs.IntervalNotations
import EdzedProofs.IntervalOrders
import EdzedProofs.IntervalSearch
import EdzedProofs.IntervalString
import EdzedProofs.IntervalSummary
import EdzedProofs.IntervalTables
import EdzedProofs.IntervalText
import EdzedProofs.IntervalTie
import EdzedProofs.IntervalTimeText
import EdzedProofs.IntervalWeekdays
import EdzedProofs.Lifecycle
import EdzedProofs.LifecycleTie
import EdzedProofs.Output
import EdzedProofs.OutputAsync
import EdzedProofs.OutputAsyncTie
import EdzedProofs.OutputBlocksTie
import EdzedProofs.Persist
import EdzedProofs.Repeat
import EdzedProofs.RepeatCtor
import EdzedProofs.SimTie
import EdzedProofs.SimpAttrs
import EdzedProofs.PyBool
import EdzedProofs.Simulate
import EdzedProofs.TimeUnits
import EdzedProofs.TimeUnitsTie
import EdzedProofs.TrdRun
import EdzedProofs.TimerBlkTie
import EdzedProofs.Validate
import EdzedProofs.ValidateTie
import EdzedProofs.WeekdayBridge
import EdzedProofs.Wiring
import EdzedProofs.WiringSig
import EdzedProofs.WiringTie
