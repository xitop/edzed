/-
Model of `edzed.FSM` (edzed/fsm.py): `_build_tables` and `_ctx_event`.

* `buildTables` mirrors `FSM._build_tables`: STATES / EVENTS / TIMERS -> control tables
  (`_ct_states`, `_ct_events`, `_ct_transition`, `_ct_timed_event`, `_ct_chainlimit`);
  the `'a | b'` notation of from-states is split by the harness, everything else
  (None from-state, None target, duplicates, unknown states, undefined timed events) is here.
* `ctxEvent` mirrors `FSM._ctx_event` including its re-entrant use: an entry action (or a
  timer of zero duration) calls `self.event()` while `_fsm_event_active` is set, which is the
  function `nested`; `ctxEvent` of an active FSM *is* `nested` (theorem `ctxEvent_active`).
* User code is represented by scripts: a condition returns a constant or an item of the event
  data, an entry action sends a list of events to the FSM itself, an exit action only logs.
  Every callback may exist as an instance function and/or a class method; `_run_cb` calls the
  function first, then the method, and `all()` sees both results.
* Timers are log entries only (`startTimer`, `stopTimer`); a timed state of zero duration
  delivers its timed event immediately (`_start_timer`), durations proper belong to C04.
* Every logged callback records the event data it can read through `fsm_event_data`.
  The model mirrors the code WITH the repair `patches/C03-chained-event-data.diff`: the context
  variable is set when the chained event is unpacked, before the intermediate exit action.
-/
import EdzedModel.Basic.Val

namespace Edzed.Fsm

abbrev State := String
abbrev EvName := String

inductive EType where
  | ev (e : EvName)
  | goto (s : State)
  deriving DecidableEq, Repr, Inhabited

/-- instance callback (`cond_E=function` keyword argument) or class method (`def cond_E(self)`) -/
inductive Who where
  | func | meth
  deriving DecidableEq, Repr, Inhabited

/-- script of a condition: what it returns (its truthiness decides) -/
inductive CondS where
  | const (v : Val)
  | item (key : String)          -- `fsm_event_data.get().get(key)`
  deriving DecidableEq, Repr, Inhabited

/-- one `self.event(etype, **data)` call of an entry action -/
structure Send where
  etype : EType
  data : Data
  deriving DecidableEq, Repr, Inhabited

/-! ### control tables -/

/-- one entry of `EVENTS`: `froms = none` is the any-state rule, `to = none` forbids -/
structure RawRule where
  ev : EvName
  froms : Option (List State)
  to : Option State
  deriving DecidableEq, Repr, Inhabited

/-- the class attributes; a timer is (state, timed event, duration is zero) -/
structure Spec where
  states : List State
  rules : List RawRule
  timers : List (State × EType × Bool)
  deriving Repr, Inhabited

abbrev TransTable := List (EvName × Option State × Option State)

structure Tables where
  states : List State                         -- `_ct_states`
  events : List EvName                        -- `_ct_events`
  trans : TransTable                          -- `_ct_transition` as (event, from, target)
  timed : List (State × EType × Bool)         -- `_ct_timed_event` (+ zero duration flag)
  chainLimit : Nat                            -- `_ct_chainlimit`
  deriving Repr, Inhabited

inductive BuildErr where
  | noStates | unknownState | duplicate | undefinedTimedEvent
  deriving DecidableEq, Repr, Inhabited

/-- dict lookup `_ct_transition[(e, k)]`: `none` = KeyError, `some none` = a stored `None` -/
def tget (tr : TransTable) (e : EvName) (k : Option State) : Option (Option State) :=
  (tr.find? (fun r => r.1 == e && r.2.1 == k)).map (·.2.2)

def insertNew (l : List String) (s : String) : List String :=
  if l.contains s then l else l ++ [s]

/-- `set(STATES).union(TIMERS)` in first-occurrence order -/
def ctStates (sp : Spec) : List State :=
  (sp.states ++ sp.timers.map (·.1)).foldl insertNew []

/-- `add_transition` -/
def addTransition (states : List State) (tr : TransTable) (e : EvName) (fr : Option State)
    (to : Option State) : Except BuildErr TransTable :=
  match fr with
  | some s =>
    if !states.contains s then .error .unknownState
    else if (tget tr e fr).isSome then .error .duplicate
    else .ok (tr ++ [(e, fr, to)])
  | none =>
    if (tget tr e fr).isSome then .error .duplicate else .ok (tr ++ [(e, fr, to)])

def addFroms (states : List State) (e : EvName) (to : Option State) :
    TransTable → List State → Except BuildErr TransTable
  | tr, [] => .ok tr
  | tr, s :: rest =>
    match addTransition states tr e (some s) to with
    | .error x => .error x
    | .ok tr' => addFroms states e to tr' rest

/-- `if next_state is not None: cls._check_state(next_state)` -/
def targetOk (states : List State) : Option State → Bool
  | some t => states.contains t
  | none => true

def addRule (states : List State) (acc : List EvName × TransTable) (r : RawRule) :
    Except BuildErr (List EvName × TransTable) :=
  if targetOk states r.to then
    match r.froms with
    | none =>
      match addTransition states acc.2 r.ev none r.to with
      | .error x => .error x
      | .ok tr => .ok (insertNew acc.1 r.ev, tr)
    | some l =>
      match addFroms states r.ev r.to acc.2 l with
      | .error x => .error x
      | .ok tr => .ok (insertNew acc.1 r.ev, tr)
  else .error .unknownState

def addRules (states : List State) :
    List EvName × TransTable → List RawRule → Except BuildErr (List EvName × TransTable)
  | acc, [] => .ok acc
  | acc, r :: rest =>
    match addRule states acc r with
    | .error x => .error x
    | .ok acc' => addRules states acc' rest

def timerOk (states : List State) (events : List EvName) (t : State × EType × Bool) : Bool :=
  match t.2.1 with
  | .goto s => states.contains s
  | .ev e => events.contains e

/-- `FSM._build_tables` -/
def buildTables (sp : Spec) : Except BuildErr Tables :=
  let states := ctStates sp
  if states.isEmpty then .error .noStates else
  match addRules states ([], []) sp.rules with
  | .error x => .error x
  | .ok (evs, tr) =>
    match sp.timers.find? (fun t => !timerOk states evs t) with
    | some t =>
      match t.2.1 with
      | .goto _ => .error .unknownState
      | .ev _ => .error .undefinedTimedEvent
    | none =>
      .ok { states := states, events := evs, trans := tr, timed := sp.timers,
            chainLimit := 3 * states.length }

/-- the table lookup of `_ctx_event`: the rule naming the current state, else the any-state
    rule; a stored `None` does NOT fall through to the any-state rule -/
def lookup (t : Tables) (e : EvName) (s : State) : Option State :=
  match tget t.trans e (some s) with
  | some tgt => tgt
  | none =>
    match tget t.trans e none with
    | some tgt => tgt
    | none => none

/-! ### scripts of the user code -/

structure Scripts where
  condF : List (EvName × CondS) := []           -- `cond_EVENT=` instance functions
  condM : List (EvName × CondS) := []           -- `cond_EVENT` methods
  enterF : List (State × List Send) := []
  enterM : List (State × List Send) := []
  exitF : List State := []
  exitM : List State := []
  outmap : List (State × Val) := []             -- `calc_output`; default: the state name;
                                                -- UNDEF = leave the output unchanged
  deriving Repr, Inhabited

structure Def extends Tables, Scripts
  deriving Repr, Inhabited

/-- callbacks of an event in the order `_run_cb` calls them: function, then method -/
def condsOf (d : Def) (e : EvName) : List (Who × CondS) :=
  ((d.condF.lookup e).map fun c => (Who.func, c)).toList ++
  ((d.condM.lookup e).map fun c => (Who.meth, c)).toList

def entersOf (d : Def) (s : State) : List (Who × List Send) :=
  ((d.enterF.lookup s).map fun c => (Who.func, c)).toList ++
  ((d.enterM.lookup s).map fun c => (Who.meth, c)).toList

def exitsOf (d : Def) (s : State) : List Who :=
  (if d.exitF.contains s then [Who.func] else []) ++
  (if d.exitM.contains s then [Who.meth] else [])

def CondS.eval (c : CondS) (data : Data) : Val :=
  match c with
  | .const v => v
  | .item k => (data.get? k).getD Val.none      -- `dict.get(k)` yields None when missing

def calcOutput (d : Def) (s : State) : Val :=
  match d.outmap.lookup s with
  | some v => v
  | none => Val.str s

/-! ### state, log, results -/

/-- `_next_event`: (event, data, newstate) -/
structure Req where
  etype : EType
  data : Data
  target : State
  deriving DecidableEq, Repr, Inhabited

structure Fsm where
  state : Option State := none       -- `_state`, `none` = UNDEF
  output : Val := .undef             -- `_output`
  active : Bool := false             -- `_fsm_event_active`
  next : Option Req := none          -- `_next_event`
  deriving DecidableEq, Repr, Inhabited

inductive Action where
  | cond (w : Who) (e : EvName) (seen : Data)
  | notrans (e : EvName) (s : State)              -- on_notrans event
  | exit (w : Who) (s : State) (seen : Data)
  | onExit (s : State) (value : Val)              -- on_exit_STATE event: state, output
  | stopTimer
  | setState (s : State)                          -- `self._state = newstate`
  | enter (w : Who) (s : State) (seen : Data)
  | send (e : EType) (data : Data)                -- entry action calls `self.event(e, **data)`
  | sendRet (ret : Bool)                          -- … and gets this return value
  | startTimer (s : State)
  | output (previous value : Val)                 -- on_output event
  | onEnter (s : State) (value : Val)             -- on_enter_STATE event
  deriving DecidableEq, Repr, Inhabited

inductive Res where
  | accepted            -- `event()` returns True
  | rejected            -- `event()` returns False
  | unknownEvent        -- EdzedUnknownEvent
  | errMultiple         -- EdzedCircuitError: forbidden event multiplication
  | errChain            -- EdzedCircuitError: chained state transition limit reached
  | errBadState         -- ValueError of `_check_state` (Goto to an unknown state)
  | errAssert           -- AssertionError (non-Goto event on an FSM without a state; stale `_next_event`)
  deriving DecidableEq, Repr, Inhabited

def Res.isError : Res → Bool
  | .accepted | .rejected => false
  | _ => true

def exitLog (d : Def) (s : State) (seen : Data) : List Action :=
  (exitsOf d s).map fun w => Action.exit w s seen

def condLog (d : Def) (e : EvName) (seen : Data) : List Action :=
  (condsOf d e).map fun c => Action.cond c.1 e seen

/-- first half of `_ctx_event`: validity, table lookup, conditions.  Conditions are consulted
    only for table events on an initialised FSM; all of them are called. -/
def check (d : Def) (f : Fsm) (e : EType) (data : Data) : List Action × Except Res State :=
  match e with
  | .goto s => if d.states.contains s then ([], .ok s) else ([], .error .errBadState)
  | .ev name =>
    if !d.events.contains name then ([], .error .unknownEvent) else
    match f.state with
    | none => ([], .error .errAssert)
    | some s =>
      match lookup d.toTables name s with
      | none => ([.notrans name s], .error .rejected)
      | some tgt =>
        if f.output.isUndef then ([], .ok tgt)
        else if (condsOf d name).all (fun c => (c.2.eval data).truthy) then
          (condLog d name data, .ok tgt)
        else (condLog d name data, .error .rejected)

/-- `_ctx_event` called while `_fsm_event_active` is set (from an entry action or from a
    zero-duration timer): the transition is only scheduled in `_next_event` -/
def nested (d : Def) (f : Fsm) (e : EType) (data : Data) : Fsm × Res × List Action :=
  match check d f e data with
  | (l, .error r) => (f, r, l)
  | (l, .ok tgt) =>
    match f.next with
    | some _ => (f, .errMultiple, l)
    | none => ({ f with next := some ⟨e, data, tgt⟩ }, .accepted, l)

/-- the calls `self.event(...)` of one entry action, in order; an exception ends the action -/
def runSends (d : Def) : Fsm → List Send → Fsm × Option Res × List Action
  | f, [] => (f, none, [])
  | f, s :: rest =>
    match nested d f s.etype s.data with
    | (f1, r, l) =>
      if r.isError then (f1, some r, Action.send s.etype s.data :: l)
      else
        match runSends d f1 rest with
        | (f2, e2, l2) =>
          (f2, e2, Action.send s.etype s.data :: l ++ Action.sendRet (r == .accepted) :: l2)

/-- `_run_cb('enter', s)`: the instance function, then the method; `seen` is what they read
    through `fsm_event_data` -/
def runCbs (d : Def) (s : State) (seen : Data) :
    Fsm → List (Who × List Send) → Fsm × Option Res × List Action
  | f, [] => (f, none, [])
  | f, (w, sends) :: rest =>
    match runSends d f sends with
    | (f1, some r, l1) => (f1, some r, Action.enter w s seen :: l1)
    | (f1, none, l1) =>
      match runCbs d s seen f1 rest with
      | (f2, e2, l2) => (f2, e2, Action.enter w s seen :: l1 ++ l2)

def timedOf (d : Def) (s : State) : Option (EType × Bool) := d.timed.lookup s

/-- how one pass of the `for _ in range(self._ct_chainlimit)` loop ends -/
inductive Step where
  | fail (r : Res)      -- an exception leaves `_ctx_event`
  | again               -- `continue`: a chained transition was requested
  | done                -- `break`
  deriving DecidableEq, Repr, Inhabited

/-- `if self._next_event: … etype, data, newstate = self._next_event` -/
def unpack (f : Fsm) (cur : Req) : Req :=
  match f.next with
  | some nx => nx
  | none => cur

/-- the exit action of an intermediate state; it reads the data of the chained event
    (the repaired code sets the context variable before `_run_cb('exit', …)`) -/
def unpackLog (d : Def) (f : Fsm) : List Action :=
  match f.next, f.state with
  | some nx, some s => exitLog d s nx.data
  | _, _ => []

/-- rest of the loop body once `cur = (etype, data, newstate)` is fixed: assign the state, run
    the entry action, start the timer; `l0` is what has been logged in this pass so far -/
def enterState (d : Def) (f : Fsm) (cur : Req) (l0 : List Action) : Fsm × Step × List Action :=
  match runCbs d cur.target cur.data { f with next := none, state := some cur.target }
      (entersOf d cur.target) with
  | (f1, some r, l1) => (f1, .fail r, l0 ++ l1)
  | (f1, none, l1) =>
    match f1.next with
    | some _ => (f1, .again, l0 ++ l1)
    | none =>
      match timedOf d cur.target with
      | none => (f1, .done, l0 ++ l1)
      | some (tev, zero) =>
        if zero then
          -- `_start_timer`: zero delay, `self.event(timed_event)` without data
          match nested d f1 tev [] with
          | (f2, r, l3) =>
            if r.isError then (f2, .fail r, l0 ++ l1 ++ Action.startTimer cur.target :: l3)
            else
              match f2.next with
              | some _ => (f2, .again, l0 ++ l1 ++ Action.startTimer cur.target :: l3)
              | none => (f2, .done, l0 ++ l1 ++ Action.startTimer cur.target :: l3)
        else (f1, .done, l0 ++ l1 ++ [Action.startTimer cur.target])

/-- one pass of the loop body of `_ctx_event`; `cur` is the triple `etype, data, newstate`.
    Returns the new triple as well (it is replaced when `_next_event` is unpacked). -/
def iter (d : Def) (f : Fsm) (cur : Req) : Fsm × Req × Step × List Action :=
  match enterState d f (unpack f cur) (unpackLog d f ++ [Action.setState (unpack f cur).target]) with
  | (f1, st, l) => (f1, unpack f cur, st, l)

/-- the `for _ in range(self._ct_chainlimit)` loop of `_ctx_event`; running out of passes is
    the `else:` clause (chained state transition limit reached) -/
def loop (d : Def) : Nat → Fsm → Req → Fsm × Option Res × List Action
  | 0, f, _ => (f, some .errChain, [])
  | n + 1, f, cur =>
    match iter d f cur with
    | (f1, _, .fail r, l) => (f1, some r, l)
    | (f1, _, .done, l) => (f1, none, l)
    | (f1, cur', .again, l) =>
      match loop d n f1 cur' with
      | (f2, r2, l2) => (f2, r2, l ++ l2)

/-- `SBlock.set_output` restricted to what an FSM uses: an equal value changes nothing and
    sends no event -/
def setOutput (f : Fsm) (v : Val) : Fsm × List Action :=
  if v.isUndef then (f, [])
  else if f.output.pyEq v then (f, [])
  else ({ f with output := v }, [Action.output f.output v])

/-- exit action, on_exit events and timer stop of the state being left (initialised FSM only) -/
def leaveLog (d : Def) (f : Fsm) (data : Data) : List Action :=
  match f.state with
  | some s =>
    if f.output.isUndef then []
    else exitLog d s data ++ [Action.onExit s f.output, Action.stopTimer]
  | none => []

/-- second half of `_ctx_event` for a top-level event whose first half gave `tgt`:
    the `try:` block after the exit action — chain loop, output, on_enter events — and the
    `finally:` clause -/
def transition (d : Def) (f : Fsm) (e : EType) (data : Data) (tgt : State) : Fsm × Res × List Action :=
  match loop d d.chainLimit { f with active := true } ⟨e, data, tgt⟩ with
  | (f1, some r, l1) => ({ f1 with active := false }, r, l1)
  | (f1, none, l1) =>
    match f1.state with
    | none => ({ f1 with active := false }, .errAssert, l1)       -- unreachable (`loop_plain`, field `ended`)
    | some s =>
      ({ (setOutput f1 (calcOutput d s)).1 with active := false }, .accepted,
        l1 ++ (setOutput f1 (calcOutput d s)).2
          ++ [Action.onEnter s (setOutput f1 (calcOutput d s)).1.output])

/-- `FSM._ctx_event` -/
def ctxEvent (d : Def) (f : Fsm) (e : EType) (data : Data) : Fsm × Res × List Action :=
  if f.active then nested d f e data else
  match check d f e data with
  | (l0, .error r) => (f, r, l0)
  | (l0, .ok tgt) =>
    match f.next with
    | some _ => (f, .errAssert, l0 ++ leaveLog d f data)     -- `assert self._next_event is None`
    | none =>
      match transition d f e data tgt with
      | (f1, r, l1) => (f1, r, l0 ++ leaveLog d f data ++ l1)

/-- a new block before its initialisation -/
def Fsm.fresh : Fsm := {}

/-- `init_from_value(initdef)` = `self.event(Goto(initdef))` without data -/
def init (d : Def) (initdef : State) : Fsm × Res × List Action :=
  ctxEvent d Fsm.fresh (.goto initdef) []

/-- a sequence of events, results and logs collected -/
def run (d : Def) : Fsm → List (EType × Data) → Fsm × List (Res × List Action)
  | f, [] => (f, [])
  | f, (e, data) :: rest =>
    match ctxEvent d f e data with
    | (f1, r, l) =>
      match run d f1 rest with
      | (f2, out) => (f2, (r, l) :: out)

end Edzed.Fsm
