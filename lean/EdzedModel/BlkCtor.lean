/-
Model of the CONSTRUCTORS and of the circuit registry (C14; edzed/block.py, edzed/simulator.py):

  `check_name`, `Block.__init__` (automatic names, the reserved `_` names, the two-kinds test, the refused
  keywords, the `x_…` / `X_…` attributes, registration with the current circuit), `Block.has_method`,
  `SBlock.__init__`, `CBlock.__init__`, `ExtEvent.__init__`, `Const.__new__ / __init__`,
  `Circuit.__init__` (the initial state every other model starts from), `Circuit.is_current_task`,
  `get_circuit`, `reset_circuit`.

The state is a heap of objects, each with its class (name, the names of the classes it is an instance of, what
`getattr` finds in the class) and its `__dict__` in the order of the assignments, plus the module global
`_current_circuit` and the registry of `Const`.  Classes are identified by their `__name__`.
Functions are written in direct style; `EdzedProps/C14.lean` proves them equal to the programs
`tools/py2lean_blkctor.py` generates from the current source (`Gen/TranslatedBlkCtor.lean`), run on the primitives of
`EdzedProofs/BlkCtorTie.lean`.
-/
import EdzedModel.BlkCtorPy

namespace Edzed.BlkCtor
open BlkCtorPy

/-- what `getattr(obj, name)` finds in the class of the object -/
inductive Member where
  | dummySync       -- `Block.dummy_method` (the placeholder of an optional method)
  | dummyAsync      -- `Block.dummy_async_method`
  | method          -- any other function
  | data            -- something that is not callable
  | propAttrError   -- a property whose getter raises AttributeError
  | propRuntimeError -- a property whose getter raises RuntimeError
  deriving DecidableEq, Repr, Inhabited

/-- results of primitives that the constructors only store -/
inductive XV where
  | events (a : Arg Nat)        -- `event_tuple(a)`
  | resolver (c : Nat)          -- `_BlockResolver(c._validate_blk)`
  | register (c : Nat)          -- the bound method `c._resolver.register`
  | inputGetter (b : Nat)       -- `CBlock.InputGetter(b)`
  | exc (cls : String)          -- an exception object of this class
  | task (n : Nat)              -- an asyncio task
  deriving DecidableEq, Repr, Inhabited

abbrev Attr := AV Nat XV

structure Obj where
  cls : String := ""                          -- `type(obj).__name__`
  bases : List String := []                   -- the names of all classes it is an instance of
  members : List (String × Member) := []      -- attributes found in the class
  attrs : List (String × Attr) := []          -- `obj.__dict__`, in the order of the first assignment
  deriving DecidableEq, Repr, Inhabited

/-- a `__dict__`: lookup / store of one key (a new key goes to the end) -/
def getKey (l : List (String × Attr)) (k : String) : Option Attr :=
  match l with
  | [] => none
  | p :: r => if p.1 == k then some p.2 else getKey r k

def setKey (l : List (String × Attr)) (k : String) (v : Attr) : List (String × Attr) :=
  match l with
  | [] => [(k, v)]
  | p :: r => if p.1 == k then (k, v) :: r else p :: setKey r k v

def Obj.get? (o : Obj) (k : String) : Option Attr := getKey o.attrs k

def Obj.set (o : Obj) (k : String) (v : Attr) : Obj := { o with attrs := setKey o.attrs k v }

structure World where
  heap : List Obj := []
  current : Option Nat := none                -- `simulator._current_circuit`
  consts : List (Arg Nat × Nat) := []         -- `Const._instances` (entries written)
  curTask : Option (Option Nat) := some none  -- `asyncio.current_task()`; `none`: RuntimeError (no running loop)
  abortRaises : Bool := false                 -- cancelling the simulation task raises (the event loop is closed)
  deriving DecidableEq, Repr, Inhabited

def setAt (h : List Obj) (i : Nat) (k : String) (v : Attr) : List Obj :=
  match h, i with
  | [], _ => []
  | o :: r, 0 => o.set k v :: r
  | o :: r, n + 1 => o :: setAt r n k v

namespace World

def obj (w : World) (i : Nat) : Obj := w.heap.getD i {}
def setAttr (w : World) (i : Nat) (k : String) (v : Attr) : World := { w with heap := setAt w.heap i k v }
def get? (w : World) (i : Nat) (k : String) : Option Attr := (w.obj i).get? k
def alloc (w : World) (o : Obj) : World × Nat := ({ w with heap := w.heap ++ [o] }, w.heap.length)
def className (w : World) (i : Nat) : String := (w.obj i).cls
def isInstance (w : World) (i : Nat) (k : String) : Bool := (w.obj i).bases.contains k

/-- the value of an attribute that holds a str -/
def strAttr (w : World) (i : Nat) (k : String) : String :=
  match w.get? i k with
  | some (.str s) => s
  | some (.arg (.val (.atom (.str s)))) => s
  | _ => ""

def nameOf (w : World) (i : Nat) : String := w.strAttr i "name"

/-- an attribute that is `None` (or missing) -/
def attrIsNone (w : World) (i : Nat) (k : String) : Bool :=
  match w.get? i k with
  | some (.arg a) => a.isNone
  | some (.optobj o) => o.isNone
  | none => true
  | _ => false

/-- the truth value of an attribute -/
def attrTruthy (w : World) (i : Nat) (k : String) : Bool :=
  match w.get? i k with
  | some (.arg a) => a.truthy
  | some (.bool b) => b
  | some (.str s) => s != ""
  | some (.dict l) => !l.isEmpty
  | some (.set l) => !l.isEmpty
  | some (.optobj o) => o.isSome
  | some _ => true
  | none => false

/-- `circuit._blocks` -/
def blocks (w : World) (c : Nat) : List (String × Nat) :=
  match w.get? c "_blocks" with
  | some (.dict l) => l
  | _ => []

/-- `self.circuit` -/
def circuitOf (w : World) (b : Nat) : Option Nat :=
  match w.get? b "circuit" with
  | some (.optobj o) => o
  | some (.obj o) => some o
  | _ => none

end World

/-- how a call ended: "ok" or the class of the exception -/
def outcome {α : Type} : Except PyExc α → String
  | .ok _ => "ok"
  | .error e => e

/-! ### the circuit -/

/-- what `Circuit.__init__` stores, in its order -/
def freshCircuitAttrs (c : Nat) : List (String × Attr) :=
  [("_blocks", .dict []), ("_simtask", .arg .none), ("_finalized", .arg (.val (.bool false))),
   ("_error", .arg .none), ("persistent_dict", .arg .none), ("persistent_ts", .arg .none),
   ("_resolver", .ext (.resolver c)), ("resolve_name", .ext (.register c)), ("debug", .arg (.val (.bool false)))]

/-- `Circuit()` -/
def newCircuit (w : World) : World × Nat :=
  (w.alloc { cls := "Circuit", bases := ["Circuit"], attrs := freshCircuitAttrs w.heap.length })

/-- `simulator.get_circuit()`: the current circuit; one is created when there is none -/
def getCircuit (w : World) : World × Nat :=
  match w.current with
  | some c => (w, c)
  | none => ({ (newCircuit w).1 with current := some (newCircuit w).2 }, (newCircuit w).2)

/-- `Circuit.is_ready()` read off the attributes -/
def isReady (w : World) (c : Nat) : Bool := !w.attrIsNone c "_simtask" && w.attrIsNone c "_error"

/-- `Circuit.abort(exc)` as far as the registry is concerned: the first error is recorded; cancelling the
    task may raise when the event loop is gone -/
def abort (w : World) (c : Nat) (cls : String) : World × Except PyExc Unit :=
  let w1 := if w.attrIsNone c "_error" then w.setAttr c "_error" (.ext (.exc cls)) else w
  (w1, if w.abortRaises then .error "RuntimeError" else .ok ())

/-- `simulator.reset_circuit()`: nothing without a circuit; else the old one is aborted (an ordinary
    exception of `abort` is only logged) and a NEW circuit becomes the current one -/
def resetCircuit (w : World) : World :=
  match w.current with
  | none => w
  | some c =>
    let w1 := (abort w c "EdzedCircuitError").1
    { (newCircuit w1).1 with current := some (newCircuit w1).2 }

/-- `circuit._simtask` -/
def simtask (w : World) (c : Nat) : Option Nat :=
  match w.get? c "_simtask" with
  | some (.ext (.task n)) => some n
  | _ => none

/-- `Circuit.is_current_task()` -/
def isCurrentTask (w : World) (c : Nat) : Bool :=
  match simtask w c with
  | none => false
  | some t =>
    match w.curTask with
    | none => false             -- no running event loop
    | some cur => cur == some t

/-- `Circuit.findblock(name)` -/
def findblock (w : World) (c : Nat) (n : String) : Option Nat := kwGet? (w.blocks c) n

/-- `Circuit.getblocks(cls)`: in the order of the registration -/
def blocksOfType (w : World) (c : Nat) (cls : String) : List Nat :=
  ((w.blocks c).map (·.2)).filter fun b => w.isInstance b cls

/-- `Circuit.addblock(blk)` -/
def addblock (w : World) (c b : Nat) : World × Except PyExc Unit :=
  if !w.attrIsNone c "_error" then (w, .error "EdzedInvalidState")
  else if w.attrTruthy c "_finalized" then (w, .error "EdzedInvalidState")
  else if !w.isInstance b "Block" then (w, .error "TypeError")
  else if (kwGet? (w.blocks c) (w.nameOf b)).isSome then (w, .error "ValueError")
  else (w.setAttr c "_blocks" (.dict (w.blocks c ++ [(w.nameOf b, b)])), .ok ())

/-- `self.circuit.getblocks(type(self))` -/
def selfTypeBlocks (w : World) (self : Nat) : List Nat :=
  match w.circuitOf self with
  | some c => blocksOfType w c (w.className self)
  | none => []

/-- `self.circuit.addblock(self)` -/
def addSelf (w : World) (self : Nat) : World × Except PyExc Unit :=
  match w.circuitOf self with
  | none => (w, .error "AttributeError")
  | some c => addblock w c self

/-! ### names -/

/-- `check_name(name, …)`: a non-empty str -/
def checkName (name : Arg Nat) : Except PyExc String :=
  match name.str? with
  | none => .error "TypeError"
  | some s => if s == "" then .error "ValueError" else .ok s

/-- the automatic name: `_<class>_<n>`, `n` = how many blocks of that class (or a subclass) already have a
    name with that prefix -/
def autoName (cls : String) (names : List String) : String :=
  ("_" ++ cls ++ "_") ++ pyStrNat (names.countP fun n => strStartsWith n ("_" ++ cls ++ "_"))

/-- the name rules of `Block.__init__`: what is stored as `self.name` -/
def blockName (name reserved : Arg Nat) (cls : String) (sameType : List String) : Except PyExc (Arg Nat) :=
  if name.isNone then .ok (.val (.str (autoName cls sameType)))
  else
    match checkName name with
    | .error e => .error e
    | .ok s => if strStartsWith s "_" && !reserved.truthy then .error "ValueError" else .ok name

/-! ### blocks -/

/-- `event_tuple(arg)`: None, an object with a `send` attribute, an empty sequence; anything else
    (that the model can express) is refused -/
def eventsOk (w : World) : Arg Nat → Bool
  | .val (.atom .none) => true
  | .val (.tup []) => true
  | .val (.lst []) => true
  | .val _ => false
  | .obj o => ((w.obj o).members.any (·.1 == "send")) || ((w.obj o).attrs.any (·.1 == "send"))

def eventTuple (w : World) (a : Arg Nat) : Except PyExc XV :=
  if eventsOk w a then .ok (.events a) else .error "TypeError"

/-- a keyword `Block.__init__` accepts as an extra attribute -/
def goodKey' (k : String) : Bool := strStartsWith k "x_" || strStartsWith k "X_"

/-- the loop over `**x_kwargs`: attributes are stored until the first refused keyword -/
def storeX (w : World) (self : Nat) : Kw (Arg Nat) → World × Except PyExc Unit
  | [] => (w, .ok ())
  | (k, v) :: r =>
    if strStartsWith k "x_" || strStartsWith k "X_" then storeX (w.setAttr self k (.arg v)) self r
    else (w, .error "TypeError")

/-- `Block.__init__` from `self.name = name` on: the two-kinds test, the `x_…` keywords, the other attributes,
    the registration -/
def blockTail (w : World) (self : Nat) (name comment onOutput debug : Arg Nat) (xkw : Kw (Arg Nat)) :
    World × Except PyExc Unit :=
  let w := w.setAttr self "name" (.arg name)
  if !w.isInstance self "SBlock" && !w.isInstance self "CBlock" then (w, .error "TypeError")
  else if w.isInstance self "SBlock" && w.isInstance self "CBlock" then (w, .error "TypeError")
  else
    match storeX w self xkw with
    | (w, .error e) => (w, .error e)
    | (w, .ok ()) =>
      let w := (w.setAttr self "comment" (.arg comment)).setAttr self "debug" (.bool debug.truthy)
      match eventTuple w onOutput with
      | .error e => (w, .error e)
      | .ok ev =>
        addSelf (((w.setAttr self "_output_events" (.ext ev)).setAttr self "oconnections" (.set [])).setAttr
          self "_output" (.arg .undef)) self

/-- `Block.__init__(self, name, *, comment, on_output, _reserved, debug, **x_kwargs)` -/
def blockInit (w : World) (self : Nat) (name comment onOutput reserved debug : Arg Nat) (xkw : Kw (Arg Nat)) :
    World × Except PyExc Unit :=
  let w := (getCircuit w).1.setAttr self "circuit" (.optobj (some (getCircuit w).2))
  match blockName name reserved (w.className self) ((selfTypeBlocks w self).map w.nameOf) with
  | .error e => (w, .error e)
  | .ok nm => blockTail w self nm comment onOutput debug xkw

/-- `Block(*args, **kwargs)`: one positional-or-keyword `name`; the keyword-only parameters with their
    defaults; every other keyword goes to `**x_kwargs` -/
def blockInitCall (w : World) (self : Nat) (args : List (Arg Nat)) (kw : Kw (Arg Nat)) : World × Except PyExc Unit :=
  match bindArgs ["name"] ["comment", "on_output", "_reserved", "debug"] false true args kw with
  | some ([some name, comment, onOutput, reserved, debug], _, rest) =>
    blockInit w self name (comment.getD (.val (.str ""))) (onOutput.getD .none) (reserved.getD (.val (.bool false)))
      (debug.getD (.val (.bool false))) rest
  | _ => (w, .error "TypeError")

/-- `getattr(obj, name)`: the instance attributes (none of which is callable in the model), then the class -/
def lookup (w : World) (o : Nat) (name : String) : Option Member :=
  if ((w.obj o).get? name).isSome then some .data else kwGet? (w.obj o).members name

/-- `Block.has_method(name)`: defined, not one of the two placeholders, callable; an AttributeError of the lookup
    means "not defined", any other exception of the lookup propagates -/
def hasMethod (w : World) (o : Nat) (name : String) : Except PyExc Bool :=
  match lookup w o name with
  | some .method => .ok true
  | some .propRuntimeError => .error "RuntimeError"
  | _ => .ok false

/-- `SBlock.__init__(self, *args, on_every_output, **kwargs)` -/
def sblockInit (w : World) (self : Nat) (args : List (Arg Nat)) (onEvery : Arg Nat) (kw : Kw (Arg Nat)) :
    World × Except PyExc Unit :=
  match hasMethod w self "init_from_value" with
  | .error e => (w, .error e)
  | .ok has =>
    let w := if has then w.setAttr self "initdef" (.arg (kwPopD kw "initdef" .undef)) else w
    let kw := if has then kwErase kw "initdef" else kw
    let w := w.setAttr self "_event_active" (.arg (.val (.bool false)))
    match eventTuple w onEvery with
    | .error e => (w, .error e)
    | .ok ev =>
      blockInitCall ((w.setAttr self "_every_output_events" (.ext ev)).setAttr self "init_steps_completed"
        (.arg (.val (.int 0)))) self args kw

def sblockInitCall (w : World) (self : Nat) (args : List (Arg Nat)) (kw : Kw (Arg Nat)) : World × Except PyExc Unit :=
  match bindArgs [] ["on_every_output"] true true args kw with
  | some ([onEvery], extra, rest) => sblockInit w self extra (onEvery.getD .none) rest
  | _ => (w, .error "TypeError")

/-- `CBlock.__init__(self, *args, **kwargs)` -/
def cblockInit (w : World) (self : Nat) (args : List (Arg Nat)) (kw : Kw (Arg Nat)) : World × Except PyExc Unit :=
  blockInitCall (((w.setAttr self "iconnections" (.set [])).setAttr self "inputs" (.dict [])).setAttr self "_in"
    (.ext (.inputGetter self))) self args kw

def cblockInitCall (w : World) (self : Nat) (args : List (Arg Nat)) (kw : Kw (Arg Nat)) : World × Except PyExc Unit :=
  match bindArgs [] [] true true args kw with
  | some ([], extra, rest) => cblockInit w self extra rest
  | _ => (w, .error "TypeError")

/-! ### external events -/

/-- `source if source.startswith("_ext_") else "_ext_" + source` -/
def extSource (s : String) : String := if strStartsWith s "_ext_" then s else "_ext_" ++ s

/-- the destination of `ExtEvent.__init__`: a name is looked up in the current circuit (KeyError), a block
    object is taken as it is, anything else is refused -/
def extDest (w : World) (dest : Arg Nat) : World × Except PyExc (Arg Nat) :=
  match dest.str? with
  | some n =>
    match findblock (getCircuit w).1 (getCircuit w).2 n with
    | none => ((getCircuit w).1, .error "KeyError")
    | some b => ((getCircuit w).1, .ok (.obj b))
  | none =>
    match dest with
    | .obj o => if w.isInstance o "Block" then (w, .ok dest) else (w, .error "TypeError")
    | .val _ => (w, .error "TypeError")

def isSBlock (w : World) : Arg Nat → Bool
  | .obj o => w.isInstance o "SBlock"
  | .val _ => false

/-- `ExtEvent.__init__(self, dest, etype, source)` -/
def extInit (w : World) (self : Nat) (dest etype source : Arg Nat) : World × Except PyExc Unit :=
  match extDest w dest with
  | (w, .error e) => (w, .error e)
  | (w, .ok d) =>
    if !isSBlock w d then (w, .error "TypeError")
    else
      match etype.str? with
      | none => (w, .error "TypeError")
      | some e =>
        if e == "" then (w, .error "TypeError")
        else
          match source.str? with
          | none => (w, .error "TypeError")
          | some s =>
            (((w.setAttr self "_dest" (.arg d)).setAttr self "_etype" (.arg etype)).setAttr self "_source"
              (.str (extSource s)), .ok ())

/-- `ExtEvent(dest, etype='put', source='_ext_')` -/
def extInitCall (w : World) (self : Nat) (args : List (Arg Nat)) (kw : Kw (Arg Nat)) : World × Except PyExc Unit :=
  match bindArgs ["dest", "etype", "source"] [] false false args kw with
  | some ([some dest, etype, source], _, _) =>
    extInit w self dest (etype.getD (.val (.str "put"))) (source.getD (.val (.str "_ext_")))
  | _ => (w, .error "TypeError")

/-! ### Const -/

/-- keys of a dict: equal values (`1 == True == 1.0`), identical objects -/
def keyEq : Arg Nat → Arg Nat → Bool
  | .val a, .val b => a.pyEq b
  | .obj a, .obj b => a == b
  | _, _ => false

def hashable : Arg Nat → Bool
  | .val v => v.hashable
  | .obj _ => true

/-- `Const(value)`: one instance per (hashable) value; UNDEF is refused -- AFTER the instance was
    created and registered -/
def constCall (w : World) (cls : String) (v : Arg Nat) : World × Except PyExc Nat :=
  let found := if hashable v then (w.consts.find? fun p => keyEq p.1 v).map (·.2) else none
  let o := found.getD w.heap.length
  let w := match found with
    | some _ => w
    | none =>
      let w1 := (w.alloc { cls := cls, bases := [cls, "Const"] }).1
      if hashable v then { w1 with consts := w1.consts ++ [(v, w.heap.length)] } else w1
  if v.isUndef then (w, .error "ValueError")
  else (w.setAttr o "_output" (.arg v), .ok o)

end Edzed.BlkCtor
