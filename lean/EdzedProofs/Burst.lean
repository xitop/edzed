/-
For C10 and C01 (models: EdzedModel/Simulate.lean, EdzedModel/Burst.lean): the ways one loop iteration can
go (`evalOp_cases`, with `evalNext` for the state after an evaluation); the pending-set invariant along runs,
for circuits that may contain self-loops, and the consistency it gives at a pause; induction along a burst, a
burst that pauses as a run that pauses, the evaluation counter; the path-count potential – every evaluation
lowers the weight of what is pending, for any selection order, with on_output event feedback – and the
measure theorem `burst_measure` behind the budget theorems; `select_blk` on acyclic networks.
-/
import EdzedModel.Burst
import EdzedProofs.Simulate

namespace Edzed.Burst
open Edzed.Sim

theorem drain_cnt (c : Circuit) (s : St Val) : (drain c.net s).cnt = s.cnt := rfl
theorem drain_outS (c : Circuit) (s : St Val) : (drain c.net s).outS = s.outS := rfl
theorem drain_Q (c : Circuit) (s : St Val) : (drain c.net s).Q = [] := rfl

theorem anyPending_iff (net : Net Val) (E : Nat → Bool) :
    anyPending net E = true ↔ ∃ b, b < net.n ∧ E b = true := by
  simp [anyPending]

theorem not_pending {net : Net Val} {E : Nat → Bool} (h : anyPending net E = false) {b : Nat}
    (hb : b < net.n) : E b = false := by
  cases hE : E b
  · rfl
  · rw [(anyPending_iff net E).mpr ⟨b, hb, hE⟩] at h
    cases h

/-- the state after one loop iteration that evaluates `b`: the queue drained, `b` evaluated, its
    on_output events delivered – the last branch of `evalOp`, which has no name for it -/
def evalNext (c : Circuit) (s : St Val) (b : Nat) : St Val :=
  evalStep Val.pyEq c.net (drain c.net s) b
    (effects c b (c.net.fcalc b s.outC s.outS) s.outS []).1
    (effects c b (c.net.fcalc b s.outC s.outS) s.outS []).2

theorem evalOp_eq (c : Circuit) (s : St Val) (b : Nat) :
    evalOp c s b =
      if !anyPending c.net (drain c.net s).E then (drain c.net s, .illegalChoice)
      else if s.cnt + 1 > c.limit then (drain c.net s, .instability)
      else if !(drain c.net s).E b || !decide (b < c.net.n) then (drain c.net s, .illegalChoice)
      else (evalNext c s b, .ok (!(s.outC b).pyEq (c.net.fcalc b s.outC s.outS)) ((evalNext c s b).outC b)) :=
  rfl

theorem evalOp_nothing_pending {c : Circuit} {s : St Val} (b : Nat)
    (hp : anyPending c.net (drain c.net s).E = false) : evalOp c s b = (drain c.net s, .illegalChoice) := by
  rw [evalOp_eq, hp]
  rfl

theorem evalOp_over_limit {c : Circuit} {s : St Val} (b : Nat)
    (hp : anyPending c.net (drain c.net s).E = true) (hl : c.limit < s.cnt + 1) :
    evalOp c s b = (drain c.net s, .instability) := by
  rw [evalOp_eq, hp, if_pos hl]
  rfl

theorem evalOp_eval {c : Circuit} {s : St Val} {b : Nat} (hl : s.cnt + 1 ≤ c.limit)
    (hE : (drain c.net s).E b = true) (hb : b < c.net.n) :
    evalOp c s b = (evalNext c s b,
      .ok (!(s.outC b).pyEq (c.net.fcalc b s.outC s.outS)) ((evalNext c s b).outC b)) := by
  rw [evalOp_eq, (anyPending_iff _ _).mpr ⟨b, hb, hE⟩, if_neg (Nat.not_lt.mpr hl), hE, decide_eq_true hb]
  rfl

theorem evalOp_cases (c : Circuit) (s : St Val) (b : Nat) :
    evalOp c s b = (drain c.net s, .illegalChoice) ∨
    (evalOp c s b = (drain c.net s, .instability) ∧
      anyPending c.net (drain c.net s).E = true ∧ c.limit < s.cnt + 1) ∨
    (∃ ch, evalOp c s b = (evalNext c s b, .ok ch ((evalNext c s b).outC b)) ∧
      s.cnt + 1 ≤ c.limit ∧ (drain c.net s).E b = true ∧ b < c.net.n) := by
  cases hp : anyPending c.net (drain c.net s).E
  · exact .inl (evalOp_nothing_pending b hp)
  · by_cases hl : c.limit < s.cnt + 1
    · exact .inr (.inl ⟨evalOp_over_limit b hp hl, rfl, hl⟩)
    · rw [evalOp_eq, hp, if_neg hl]
      cases hE : (drain c.net s).E b
      · exact .inl rfl
      · by_cases hb : b < c.net.n
        · exact .inr (.inr ⟨_, by rw [decide_eq_true hb]; rfl, Nat.le_of_not_lt hl, rfl, hb⟩)
        · exact .inl (by rw [decide_eq_false hb]; rfl)

theorem evalOp_ok {c : Circuit} {s : St Val} {b : Nat} {ch : Bool} {v : Val}
    (h : (evalOp c s b).2 = .ok ch v) :
    (evalOp c s b).1 = evalNext c s b ∧ s.cnt + 1 ≤ c.limit ∧ (drain c.net s).E b = true ∧ b < c.net.n := by
  rcases evalOp_cases c s b with h1 | ⟨h1, _⟩ | ⟨_, h1, h2⟩
  · rw [h1] at h; cases h
  · rw [h1] at h; cases h
  · rw [h1]; exact ⟨rfl, h2⟩

theorem evalOp_preserves {c : Circuit} {s : St Val} {b : Nat} (R : St Val → Prop)
    (hd : R (drain c.net s)) (he : s.cnt + 1 ≤ c.limit → R (evalNext c s b)) : R (evalOp c s b).1 := by
  rcases evalOp_cases c s b with h1 | ⟨h1, _⟩ | ⟨_, h1, hl, _⟩
  · rw [h1]; exact hd
  · rw [h1]; exact hd
  · rw [h1]; exact he hl

theorem evalNext_cnt (c : Circuit) (s : St Val) (b : Nat) : (evalNext c s b).cnt = s.cnt + 1 :=
  evalStep_cnt ..

theorem isIdle_drain (c : Circuit) (s : St Val) :
    isIdle c.net (drain c.net s) = !anyPending c.net (drain c.net s).E := by
  simp only [isIdle, drain_Q, List.isEmpty_nil, Bool.true_and, anyPending]
  induction List.range c.net.n with
  | nil => rfl
  | cons x xs ih => simp only [List.all_cons, List.any_cons, ih, Bool.not_or]

theorem idleOp_eq (c : Circuit) (s : St Val) :
    idleOp c s = if anyPending c.net (drain c.net s).E then none else some { drain c.net s with cnt := 0 } := by
  have h : idleOp c s =
      if isIdle c.net (drain c.net s) then some { drain c.net s with cnt := 0 } else none := rfl
  rw [h, isIdle_drain]
  cases anyPending c.net (drain c.net s).E <;> rfl

theorem idleOp_some (c : Circuit) (s s' : St Val) (h : idleOp c s = some s') :
    anyPending c.net (drain c.net s).E = false ∧ s' = { drain c.net s with cnt := 0 } := by
  rw [idleOp_eq] at h
  cases hp : anyPending c.net (drain c.net s).E
  · rw [hp] at h
    exact ⟨rfl, (Option.some.inj h).symm⟩
  · rw [hp] at h
    cases h

theorem unstableNow_eq (c : Circuit) (s : St Val) (hp : anyPending c.net (drain c.net s).E = true) :
    unstableNow c s = decide (c.limit < s.cnt + 1) := by
  unfold unstableNow
  by_cases hl : c.limit < s.cnt + 1
  · rw [evalOp_over_limit 0 hp hl, decide_eq_true hl]
  · rw [decide_eq_false hl]
    rcases evalOp_cases c s 0 with h | ⟨_, _, hl'⟩ | ⟨_, h, _⟩
    · rw [h]
    · exact absurd hl' hl
    · rw [h]

/-- static well-formedness needed here: Compare thresholds ordered (`Compare.__init__` refuses
    `high < low`).  Unlike C01's `Circuit.ok`, a block may be among its own inputs. -/
def OkW (c : Circuit) : Prop := ∀ b, b < c.cblocks.length → (c.blk b).ok = true

theorem okW_of_ok (c : Circuit) (h : c.ok) : OkW c := fun b hb => (h b hb).1

/-- every CBlock agrees (Python `==`) with its function of the current outputs -/
def Consistent (c : Circuit) (outC outS : Nat → Val) : Prop :=
  ∀ b, b < c.cblocks.length → (outC b).pyEq (calcBlk (c.blk b) (outC b) outC outS) = true

theorem evalNext_inv (c : Circuit) (hok : OkW c) (s : St Val) (h : Inv Val.pyEq c.net s) (b : Nat) :
    Inv Val.pyEq c.net (evalNext c s b) := by
  obtain ⟨L, hL, _, hchg⟩ := effects_spec c b (c.net.fcalc b s.outC s.outS) s.outS []
  refine eval_inv Val.pyEq c.net (circuit_wf c hok) _ (drain_inv Val.pyEq c.net s h) b _ _
    (fun i hi => nomatch hi) fun i hne => ?_
  rw [hL]
  exact hchg i hne

theorem step_inv (c : Circuit) (hok : OkW c) (s : St Val) (h : Inv Val.pyEq c.net s) (op : Op) :
    Inv Val.pyEq c.net (step c s op) := by
  cases op with
  | ext i k v =>
    have hq := deliver_queued c.skinds s.outS s.Q i k v
    exact env_change_inv Val.pyEq c.net (circuit_wf c hok) s h _ _ hq.1 hq.2
  | eval b => exact evalOp_preserves _ (drain_inv Val.pyEq c.net s h) fun _ => evalNext_inv c hok s h b
  | idle =>
    show Inv Val.pyEq c.net ((idleOp c s).getD s)
    rw [idleOp_eq]
    split
    · exact h
    · exact drain_inv Val.pyEq c.net s h

theorem run_preserves {c : Circuit} (R : St Val → Prop) (hstep : ∀ s, R s → ∀ op, R (step c s op))
    (s : St Val) (h : R s) (ops : List Op) : R (run c s ops) := by
  induction ops generalizing s with
  | nil => exact h
  | cons op ops ih => exact ih _ (hstep s h op)

theorem run_inv (c : Circuit) (hok : OkW c) (s : St Val) (h : Inv Val.pyEq c.net s) (ops : List Op) :
    Inv Val.pyEq c.net (run c s ops) :=
  run_preserves _ (step_inv c hok) s h ops

theorem run_append (c : Circuit) (s : St Val) (ops ops' : List Op) :
    run c (run c s ops) ops' = run c s (ops ++ ops') :=
  (List.foldl_append ..).symm

theorem pause_consistent (c : Circuit) (s s' : St Val) (h : Inv Val.pyEq c.net s)
    (hidle : idleOp c s = some s') : Consistent c s'.outC s'.outS := by
  obtain ⟨hp, rfl⟩ := idleOp_some c s s' hidle
  exact idle_clean Val.pyEq c.net _ (drain_inv Val.pyEq c.net s h) (fun _ hx => not_pending hp hx) rfl

theorem start_inv (c : Circuit) (outS : Nat → Val) : Inv Val.pyEq c.net (start c outS) :=
  fun _ hb _ => .inl (decide_eq_true hb)

theorem step_cnt (c : Circuit) (s : St Val) (h : s.cnt ≤ c.limit) (op : Op) : (step c s op).cnt ≤ c.limit := by
  cases op with
  | ext i k v => exact h
  | eval b => exact evalOp_preserves (·.cnt ≤ c.limit) h fun hl => (evalNext_cnt c s b).symm ▸ hl
  | idle =>
    show ((idleOp c s).getD s).cnt ≤ c.limit
    rw [idleOp_eq]
    split
    · exact h
    · exact Nat.zero_le _

theorem run_cnt (c : Circuit) (s : St Val) (h : s.cnt ≤ c.limit) (ops : List Op) :
    (run c s ops).cnt ≤ c.limit :=
  run_preserves (·.cnt ≤ c.limit) (step_cnt c) s h ops

theorem evalNext_no_events (c : Circuit) (hne : ∀ b, (c.blk b).events = []) (s : St Val) (b : Nat) :
    (evalNext c s b).outS = s.outS ∧ (evalNext c s b).Q = [] := by
  unfold evalNext effects
  rw [hne b]
  cases hv : (s.outC b).pyEq (c.net.fcalc b s.outC s.outS)
  · rw [evalStep_changed (s := drain c.net s) hv]
    exact ⟨rfl, rfl⟩
  · rw [evalStep_same (s := drain c.net s) hv]
    exact ⟨rfl, rfl⟩

theorem run_evals_outS (c : Circuit) (hne : ∀ b, (c.blk b).events = []) (s : St Val) (bs : List Nat) :
    (run c s (bs.map .eval)).outS = s.outS := by
  induction bs generalizing s with
  | nil => rfl
  | cons b bs ih =>
    exact (ih _).trans (evalOp_preserves (·.outS = s.outS) rfl fun _ => (evalNext_no_events c hne s b).1)

theorem burst_induction (c : Circuit) {motive : St Val → List Nat → Res → Prop}
    (idle : ∀ s, anyPending c.net (drain c.net s).E = false →
      motive s [] ⟨{ drain c.net s with cnt := 0 }, [], .idle⟩)
    (more : ∀ s, anyPending c.net (drain c.net s).E = true → s.cnt + 1 ≤ c.limit →
      motive s [] ⟨s, [], .more⟩)
    (unstable : ∀ s cs, anyPending c.net (drain c.net s).E = true → c.limit < s.cnt + 1 →
      motive s cs ⟨drain c.net s, [], .unstable⟩)
    (illegal : ∀ s b bs, motive s (b :: bs) ⟨drain c.net s, [], .illegal⟩)
    (eval : ∀ s b bs ch, s.cnt + 1 ≤ c.limit → (drain c.net s).E b = true → b < c.net.n →
      motive (evalNext c s b) bs (burst c (evalNext c s b) bs) →
      motive s (b :: bs) ⟨(burst c (evalNext c s b) bs).st, ch :: (burst c (evalNext c s b) bs).log,
        (burst c (evalNext c s b) bs).fin⟩)
    (s : St Val) (cs : List Nat) : motive s cs (burst c s cs) := by
  induction cs generalizing s with
  | nil =>
    unfold burst
    rw [idleOp_eq]
    cases hp : anyPending c.net (drain c.net s).E
    · exact idle s hp
    · rw [unstableNow_eq c s hp]
      by_cases hl : c.limit < s.cnt + 1
      · rw [decide_eq_true hl]
        exact unstable s [] hp hl
      · rw [decide_eq_false hl]
        exact more s hp (Nat.le_of_not_lt hl)
  | cons b bs ih =>
    unfold burst
    rcases evalOp_cases c s b with h | ⟨h, hp, hl⟩ | ⟨ch, h, hl, hE, hb⟩ <;> rw [h]
    · exact illegal s b bs
    · exact unstable s (b :: bs) hp hl
    · exact eval s b bs ch hl hE hb (ih _)

theorem burst_idle_run (c : Circuit) (s : St Val) (cs : List Nat) (h : (burst c s cs).fin = .idle) :
    idleOp c (run c s (cs.map .eval)) = some (burst c s cs).st := by
  revert h
  refine burst_induction c (motive := fun s cs r => r.fin = .idle →
    idleOp c (run c s (cs.map .eval)) = some r.st) ?_ ?_ ?_ ?_ ?_ s cs
  · intro s hp _
    show idleOp c s = _
    rw [idleOp_eq, hp]
    rfl
  · exact fun _ _ _ h => nomatch h
  · exact fun _ _ _ _ h => nomatch h
  · exact fun _ _ _ h => nomatch h
  · intro s b bs ch hl hE hb ih h
    show idleOp c (run c (evalOp c s b).1 (bs.map .eval)) = _
    rw [evalOp_eval hl hE hb]
    exact ih h

theorem burst_count (c : Circuit) (s : St Val) (choices : List Nat) (h0 : s.cnt ≤ c.limit) :
    s.cnt + (burst c s choices).evals ≤ c.limit ∧
    ((burst c s choices).fin = .unstable → s.cnt + (burst c s choices).evals = c.limit) ∧
    (c.limit ≤ s.cnt + choices.length → (burst c s choices).fin ≠ .more) := by
  revert h0
  refine burst_induction c (motive := fun s cs r => s.cnt ≤ c.limit →
    s.cnt + r.log.length ≤ c.limit ∧ (r.fin = .unstable → s.cnt + r.log.length = c.limit) ∧
    (c.limit ≤ s.cnt + cs.length → r.fin ≠ .more)) ?_ ?_ ?_ ?_ ?_ s choices
  · exact fun s _ h0 => ⟨h0, nofun, fun _ => nofun⟩
  · exact fun s _ hl h0 => ⟨h0, nofun, fun h _ => Nat.not_le_of_lt hl h⟩
  · exact fun s cs _ hl h0 => ⟨h0, fun _ => Nat.le_antisymm h0 (Nat.le_of_lt_succ hl), fun _ => nofun⟩
  · exact fun s _ _ h0 => ⟨h0, nofun, fun _ => nofun⟩
  · intro s b bs ch hl _ _ ih _
    obtain ⟨h1, h2, h3⟩ := ih (by rw [evalNext_cnt]; exact hl)
    rw [evalNext_cnt] at h1 h2 h3
    simp only [List.length_cons]
    exact ⟨by omega, fun hf => by have := h2 hf; omega, fun hlen => h3 (by omega)⟩

theorem wsum_mono (P : Nat → Nat) (E F : Nat → Bool) (k : Nat)
    (h : ∀ x, x < k → E x = true → F x = true) : wsum P E k ≤ wsum P F k := by
  induction k with
  | zero => exact Nat.le_refl _
  | succ k ih =>
    have h1 := ih fun x hx => h x (Nat.lt_succ_of_lt hx)
    have h2 := h k (Nat.lt_succ_self k)
    simp only [wsum]
    cases hE : E k
    · exact Nat.le_trans h1 (Nat.le_add_right _ _)
    · rw [h2 hE]
      exact Nat.add_le_add_right h1 _

theorem wsum_congr (P : Nat → Nat) (E F : Nat → Bool) (k : Nat)
    (h : ∀ x, x < k → E x = F x) : wsum P E k = wsum P F k :=
  Nat.le_antisymm (wsum_mono P E F k fun x hx hE => h x hx ▸ hE)
    (wsum_mono P F E k fun x hx hF => h x hx ▸ hF)

theorem wsum_remove (P : Nat → Nat) (E : Nat → Bool) (b k : Nat) (hb : b < k) (hE : E b = true) :
    wsum P (fun x => E x && x != b) k + P b = wsum P E k := by
  induction k with
  | zero => cases hb
  | succ k ih =>
    simp only [wsum]
    by_cases hk : k = b
    · -- below `b` the two masks agree
      subst hk
      have : wsum P (fun x => E x && x != k) k = wsum P E k :=
        wsum_congr _ _ _ _ fun x hx => by simp [Nat.ne_of_lt hx]
      simp only [hE, this, bne_self_eq_false, Bool.and_false, Bool.false_eq_true, ↓reduceIte]
      omega
    · have := ih (by omega)
      simp only [bne_iff_ne.mpr hk, Bool.and_true]
      omega

theorem wsum_pos (P : Nat → Nat) (E : Nat → Bool) (b k : Nat) (hb : b < k) (hE : E b = true) :
    P b ≤ wsum P E k :=
  wsum_remove P E b k hb hE ▸ Nat.le_add_left _ _

theorem wsum_none (P : Nat → Nat) (E : Nat → Bool) (k : Nat) (h : ∀ x, x < k → E x = false) :
    wsum P E k = 0 := by
  induction k with
  | zero => rfl
  | succ k ih =>
    simp only [wsum]
    rw [ih fun x hx => h x (Nat.lt_succ_of_lt hx), h k (Nat.lt_succ_self k)]
    rfl

theorem wsum_or_one (P : Nat → Nat) (E : Nat → Bool) (c k : Nat) :
    wsum P (fun x => E x || x == c) k ≤ wsum P E k + P c := by
  by_cases hc : c < k
  · rw [← wsum_remove P (fun x => E x || x == c) c k hc (by simp)]
    refine Nat.add_le_add_right (wsum_mono _ _ _ _ fun x _ hx => ?_) _
    simp only [Bool.and_eq_true, Bool.or_eq_true, beq_iff_eq, bne_iff_ne] at hx
    exact hx.1.resolve_right hx.2
  · refine Nat.le_trans (wsum_mono _ _ _ _ fun x hx h => ?_) (Nat.le_add_right _ _)
    simp only [Bool.or_eq_true, beq_iff_eq] at h
    exact h.resolve_right (by omega)

theorem wsum_or_list (P : Nat → Nat) (E : Nat → Bool) (l : List Nat) (k : Nat) :
    wsum P (fun x => E x || l.contains x) k ≤ wsum P E k + listSum P l := by
  induction l generalizing E with
  | nil => exact Nat.le_of_eq (wsum_congr _ _ _ _ fun x _ => by simp)
  | cons c cs ih =>
    have h1 := ih (fun x => E x || x == c)
    have h2 := wsum_or_one P E c k
    simp only [List.contains_cons, ← Bool.or_assoc, listSum]
    omega

theorem listSum_append (P : Nat → Nat) (l m : List Nat) :
    listSum P (l ++ m) = listSum P l + listSum P m := by
  induction l with
  | nil => exact (Nat.zero_add _).symm
  | cons x xs ih => simp only [List.cons_append, listSum, ih, Nat.add_assoc]

theorem listSum_sublist (P : Nat → Nat) {l m : List Nat} (h : l.Sublist m) : listSum P l ≤ listSum P m := by
  induction h with
  | slnil => exact Nat.le_refl _
  | cons a _ ih => exact Nat.le_trans ih (Nat.le_add_left _ _)
  | cons_cons a _ ih => exact Nat.add_le_add_left ih _

theorem listSum_mem (P : Nat → Nat) (l : List Nat) (x : Nat) (h : x ∈ l) : P x ≤ listSum P l :=
  listSum_sublist P (List.singleton_sublist.mpr h)

variable {V : Type}

theorem wsum_drain (net : Net V) (P : Nat → Nat) (E : Nat → Bool) (Q : List Nat) (k : Nat) :
    wsum P (fun b => E b || Q.any (fun i => (net.succS i).contains b)) k
      ≤ wsum P E k + listSum (sWeight net P) Q := by
  induction Q generalizing E with
  | nil => exact Nat.le_of_eq (wsum_congr _ _ _ _ fun x _ => by simp)
  | cons i Q ih =>
    have h1 := ih (fun b => E b || (net.succS i).contains b)
    have h2 := wsum_or_list P E (net.succS i) k
    simp only [List.any_cons, ← Bool.or_assoc, listSum, sWeight] at h1 ⊢
    omega

theorem phi_drain_le (net : Net V) (P : Nat → Nat) (s : St V) :
    phi net P (drain net s) ≤ phi net P s :=
  wsum_drain net P s.E s.Q net.n

theorem phi_evalStep (eq : V → V → Bool) (net : Net V) (P : Nat → Nat) (s : St V) (b : Nat)
    (outS' : Nat → V) (L : List Nat) (hb : b < net.n) (hE : s.E b = true)
    (hP : 1 + listSum P (net.succC b) + listSum (sWeight net P) L ≤ P b) :
    phi net P (evalStep eq net s b outS' (s.Q ++ L)) + 1 ≤ phi net P s := by
  have hrem := wsum_remove P s.E b net.n hb hE
  cases hv : eq (s.outC b) (net.fcalc b s.outC s.outS)
  · have hadd := wsum_or_list P (fun x => s.E x && x != b) (net.succC b) net.n
    rw [evalStep_changed hv]
    simp only [phi, listSum_append]
    omega
  · rw [evalStep_same hv]
    simp only [phi]
    omega

/-- the step on which C10's budget theorems rest: whichever pending block is evaluated, changed or not,
    the weight of what is pending drops -/
theorem evalNext_phi (c : Circuit) (P : Nat → Nat) (hP : IsPot c P) (s : St Val) (b : Nat)
    (hE : (drain c.net s).E b = true) (hb : b < c.net.n) :
    phi c.net P (evalNext c s b) + 1 ≤ phi c.net P s := by
  obtain ⟨L, hL, hsub, _⟩ := effects_spec c b (c.net.fcalc b s.outC s.outS) s.outS []
  have hw : listSum (sWeight c.net P) L ≤ listSum (sWeight c.net P) (evDests c b) :=
    listSum_sublist _ hsub
  have hp := hP b hb
  have := phi_evalStep Val.pyEq c.net P (drain c.net s) b
    (effects c b (c.net.fcalc b s.outC s.outS) s.outS []).1 L hb hE (by omega)
  unfold evalNext
  rw [hL]
  exact Nat.le_trans this (phi_drain_le c.net P s)

theorem pending_phi_pos (c : Circuit) (P : Nat → Nat) (hP : IsPot c P) (s : St Val)
    (h : anyPending c.net (drain c.net s).E = true) : 1 ≤ phi c.net P s := by
  obtain ⟨b, hb, hE⟩ := (anyPending_iff _ _).mp h
  have h1 := wsum_pos P (drain c.net s).E b c.net.n hb hE
  have h2 := hP b hb
  have h3 : wsum P (drain c.net s).E c.net.n + 0 ≤ phi c.net P s := phi_drain_le c.net P s
  omega

theorem burst_measure (c : Circuit) (μ : St Val → Nat) (G : St Val → List Nat → Prop)
    (hpos : ∀ s cs, G s cs → anyPending c.net (drain c.net s).E = true → 1 ≤ μ s)
    (hstep : ∀ s b bs, G s (b :: bs) → s.cnt + 1 ≤ c.limit → (drain c.net s).E b = true → b < c.net.n →
      G (evalNext c s b) bs ∧ μ (evalNext c s b) + 1 ≤ μ s)
    (s : St Val) (cs : List Nat) (hG : G s cs) (h : s.cnt + μ s ≤ c.limit) :
    (burst c s cs).fin ≠ .unstable ∧ (burst c s cs).evals ≤ μ s := by
  revert hG h
  refine burst_induction c (motive := fun s cs r => G s cs → s.cnt + μ s ≤ c.limit →
    r.fin ≠ .unstable ∧ r.log.length ≤ μ s) ?_ ?_ ?_ ?_ ?_ s cs
  · exact fun _ _ _ _ => ⟨nofun, Nat.zero_le _⟩
  · exact fun _ _ _ _ _ => ⟨nofun, Nat.zero_le _⟩
  · intro s cs hp hl hG h
    have := hpos s cs hG hp
    omega
  · exact fun _ _ _ _ _ => ⟨nofun, Nat.zero_le _⟩
  · intro s b bs ch hl hE hb ih hG h
    obtain ⟨hG', hμ⟩ := hstep s b bs hG hl hE hb
    have := ih hG' (by rw [evalNext_cnt]; omega)
    exact ⟨this.1, Nat.le_trans (Nat.succ_le_succ this.2) hμ⟩

theorem phi_start (c : Circuit) (P : Nat → Nat) (outS : Nat → Val) :
    phi c.net P (start c outS) = wsum P (fun _ => true) c.cblocks.length :=
  wsum_congr _ _ _ _ fun _ hx => decide_eq_true hx

theorem phi_ext (c : Circuit) (P : Nat → Nat) (s : St Val) (i : Nat) (k : EvKind) (v : Val) :
    phi c.net P (extOp c s i k v) ≤ phi c.net P s + sWeight c.net P i := by
  show wsum P s.E c.net.n + listSum (sWeight c.net P) (deliver c.skinds s.outS s.Q i k v).2 ≤ _
  rcases deliver_cases c.skinds s.outS s.Q i k v with h | ⟨_, h⟩ <;> rw [h]
  · exact Nat.le_add_right _ _
  · simp only [phi, listSum_append, listSum]
    omega

/-- an event from outside while the loop is paused: destination SBlock, type, value -/
structure Ext where
  i : Nat
  k : EvKind
  v : Val

def applyExts (c : Circuit) (s : St Val) (es : List Ext) : St Val :=
  es.foldl (fun s e => extOp c s e.i e.k e.v) s

theorem phi_exts (c : Circuit) (P : Nat → Nat) (s : St Val) (es : List Ext) :
    phi c.net P (applyExts c s es) ≤ phi c.net P s + listSum (sWeight c.net P) (es.map (·.i)) := by
  induction es generalizing s with
  | nil => exact Nat.le_refl _
  | cons e es ih =>
    have h1 := ih (extOp c s e.i e.k e.v)
    have h2 := phi_ext c P s e.i e.k e.v
    simp only [applyExts, List.foldl_cons, List.map_cons, listSum] at h1 ⊢
    omega

theorem exts_cnt (c : Circuit) (s : St Val) (es : List Ext) : (applyExts c s es).cnt = s.cnt := by
  induction es generalizing s with
  | nil => rfl
  | cons e es ih => exact ih (extOp c s e.i e.k e.v)

theorem phi_idle (c : Circuit) (P : Nat → Nat) (s s' : St Val) (h : idleOp c s = some s') :
    phi c.net P s' = 0 ∧ s'.cnt = 0 := by
  obtain ⟨hp, rfl⟩ := idleOp_some c s s' h
  exact ⟨wsum_none P _ _ fun b hb => not_pending hp hb, rfl⟩

theorem isPotB_sound (c : Circuit) (P : Nat → Nat) (h : isPotB c P = true) : IsPot c P := by
  intro b hb
  simp only [isPotB, List.all_eq_true, List.mem_range, decide_eq_true_eq] at h
  exact h b hb

/-- where a burst starts: `_simulate` has just been entered, or the loop paused and SBlock
    outputs were changed from outside (any number of events) -/
inductive BurstStart (c : Circuit) : St Val → Prop where
  | first (outS : Nat → Val) : BurstStart c (start c outS)
  | resumed (s0 s' : St Val) (es : List Ext) (h : idleOp c s0 = some s') : BurstStart c (applyExts c s' es)

theorem burstStart_cnt (c : Circuit) (s : St Val) (h : BurstStart c s) : s.cnt = 0 := by
  cases h with
  | first outS => rfl
  | resumed s0 s' es h => exact (exts_cnt c s' es).trans ((idleOp_some c s0 s' h).2 ▸ rfl)

/-- number of pending blocks -/
def card (E : Nat → Bool) (k : Nat) : Nat := wsum (fun _ => 1) E k

theorem card_all (k : Nat) : card (fun b => decide (b < k)) k = k := by
  have : ∀ j, j ≤ k → wsum (fun _ => 1) (fun b => decide (b < k)) j = j := by
    intro j
    induction j with
    | zero => exact fun _ => rfl
    | succ j ih =>
      intro hj
      simp only [wsum, ih (Nat.le_of_succ_le hj), decide_eq_true (Nat.lt_of_succ_le hj), ↓reduceIte]
  exact this k (Nat.le_refl _)

theorem idep_zero_iff (c : Circuit) (E : Nat → Bool) (b : Nat) :
    idep c E b = 0 ↔ ∀ a, a ∈ cIns (c.blk b) → E a = false := by
  simp only [idep, List.length_eq_zero_iff, List.filter_eq_nil_iff, List.mem_eraseDups,
    Bool.not_eq_true]

/-- from a pending block with a pending input go to that input, which weighs more (a block weighs more than
    its successors); the weights of pending blocks are bounded by the weight of the set, so the walk ends -/
theorem exists_idep_zero (c : Circuit) (P : Nat → Nat) (hP : IsPot c P) (E : Nat → Bool)
    (hlt : ∀ a, E a = true → a < c.cblocks.length)
    (h : ∃ b, b < c.cblocks.length ∧ E b = true) :
    ∃ x, x < c.cblocks.length ∧ E x = true ∧ idep c E x = 0 := by
  obtain ⟨b, hb, hEb⟩ := h
  generalize hm : wsum P E c.cblocks.length - P b = m
  induction m using Nat.strongRecOn generalizing b with
  | _ m ih =>
    by_cases h0 : idep c E b = 0
    · exact ⟨b, hb, hEb, h0⟩
    · obtain ⟨a, ha, hEa⟩ : ∃ a, a ∈ cIns (c.blk b) ∧ E a = true := by
        rw [idep_zero_iff] at h0
        exact Classical.byContradiction fun hn => h0 fun a ha => by
          cases hEa : E a
          · rfl
          · exact absurd ⟨a, ha, hEa⟩ hn
      have ha' := hlt a hEa
      have h1 := hP a ha'
      have h2 := listSum_mem P (c.net.succC a) b ((mem_succC c a b).mpr ⟨hb, ha⟩)
      have hlt' : P b < P a := by omega
      exact ih _ (hm ▸ Nat.sub_lt_sub_left (Nat.lt_of_lt_of_le hlt' (wsum_pos P E a _ ha' hEa)) hlt') a ha' hEa rfl

theorem selectOk_iff (c : Circuit) (E : Nat → Bool) (b : Nat) :
    selectOk c E b = true ↔ (E b = true ∧ b < c.cblocks.length) ∧
      (idep c E b = 0 ∨ ∀ x, x < c.cblocks.length → E x = true → idep c E x ≠ 0 ∧ idep c E b ≤ idep c E x) := by
  simp only [selectOk, Bool.and_eq_true, Bool.or_eq_true, decide_eq_true_eq, beq_iff_eq, List.all_eq_true,
    List.mem_range, Bool.not_eq_true', bne_iff_ne, ne_eq, ← Bool.not_eq_true, ← Decidable.imp_iff_not_or]

/-- `P` serves as the witness that the network is acyclic and for nothing else -/
theorem selectOk_idep_zero (c : Circuit) (P : Nat → Nat) (hP : IsPot c P) (E : Nat → Bool)
    (hlt : ∀ a, E a = true → a < c.cblocks.length) (b : Nat) (h : selectOk c E b = true) :
    E b = true ∧ b < c.cblocks.length ∧ idep c E b = 0 := by
  obtain ⟨⟨hE, hb⟩, h0 | hall⟩ := (selectOk_iff c E b).mp h
  · exact ⟨hE, hb, h0⟩
  · obtain ⟨x, hx, hEx, hix⟩ := exists_idep_zero c P hP E hlt ⟨b, hb, hE⟩
    exact absurd hix (hall x hx hEx).1

/-- the eval set is closed under successors, contains real blocks only, and the queue is empty -/
structure Closed (c : Circuit) (s : St Val) : Prop where
  lt : ∀ a, s.E a = true → a < c.cblocks.length
  succ : ∀ a, s.E a = true → ∀ x, x ∈ c.net.succC a → s.E x = true
  q : s.Q = []

theorem start_closed (c : Circuit) (outS : Nat → Val) : Closed c (start c outS) where
  lt _ ha := of_decide_eq_true ha
  succ a _ x hx := decide_eq_true ((mem_succC c a x).mp hx).1
  q := rfl

theorem drain_closed_E (c : Circuit) (s : St Val) (h : Closed c s) (x : Nat) :
    (drain c.net s).E x = s.E x := by
  simp [drain, h.q]

theorem evalNext_closed (c : Circuit) (P : Nat → Nat) (hP : IsPot c P) (hne : ∀ b, (c.blk b).events = [])
    (s : St Val) (hc : Closed c s) (b : Nat) (hsel : selectOk c (drain c.net s).E b = true) :
    Closed c (evalNext c s b) ∧
    card (evalNext c s b).E c.cblocks.length + 1 = card s.E c.cblocks.length := by
  have hEeq : (drain c.net s).E = s.E := funext (drain_closed_E c s hc)
  rw [hEeq] at hsel
  obtain ⟨hEb, hb, hid⟩ := selectOk_idep_zero c P hP _ hc.lt b hsel
  have hnopred := (idep_zero_iff c _ b).mp hid
  -- a pending block and its successors are not `b`: `b` has no pending input
  have hsucc : ∀ a, s.E a = true → ∀ x, x ∈ c.net.succC a → x ≠ b := fun a ha x hx hxb =>
    Bool.false_ne_true ((hnopred a (hxb ▸ ((mem_succC c a x).mp hx).2)).symm.trans ha)
  -- hence the successors of `b`, pending already, stay, and `b` alone leaves
  have hE' : ∀ x, (evalNext c s b).E x = (s.E x && x != b) := by
    intro x
    unfold evalNext
    cases hv : (s.outC b).pyEq (c.net.fcalc b s.outC s.outS)
    · rw [evalStep_changed (s := drain c.net s) hv]
      show ((drain c.net s).E x && x != b || (c.net.succC b).contains x) = _
      rw [hEeq]
      cases hx : (c.net.succC b).contains x
      · exact Bool.or_false _
      · have hx' := List.contains_iff_mem.mp hx
        rw [hc.succ b hEb x hx', bne_iff_ne.mpr (hsucc b hEb x hx')]
        rfl
    · rw [evalStep_same (s := drain c.net s) hv]
      show ((drain c.net s).E x && x != b) = _
      rw [hEeq]
  refine ⟨⟨fun a ha => ?_, fun a ha x hx => ?_, (evalNext_no_events c hne s b).2⟩, ?_⟩
  · rw [hE', Bool.and_eq_true] at ha
    exact hc.lt a ha.1
  · rw [hE', Bool.and_eq_true] at ha
    rw [hE', hc.succ a ha.1 x hx, bne_iff_ne.mpr (hsucc a ha.1 x hx)]
    rfl
  · rw [card, wsum_congr _ _ _ _ fun x _ => hE' x]
    exact wsum_remove (fun _ => 1) s.E b _ hb hEb

theorem burst_select (c : Circuit) (P : Nat → Nat) (hP : IsPot c P) (hne : ∀ b, (c.blk b).events = [])
    (s : St Val) (hc : Closed c s) (choices : List Nat) (hsel : choicesOk c s choices = true)
    (h : s.cnt + card s.E c.cblocks.length ≤ c.limit) :
    (burst c s choices).fin ≠ .unstable ∧ (burst c s choices).evals ≤ card s.E c.cblocks.length := by
  refine burst_measure c (fun s => card s.E c.cblocks.length)
    (fun s cs => Closed c s ∧ choicesOk c s cs = true) ?_ ?_ s choices ⟨hc, hsel⟩ h
  · intro s _ hG hp
    obtain ⟨b, hb, hE⟩ := (anyPending_iff _ _).mp hp
    rw [drain_closed_E c s hG.1] at hE
    exact wsum_pos (fun _ => 1) s.E b _ hb hE
  · intro s b bs hG hl hE hb
    have hs := hG.2
    simp only [choicesOk, Bool.and_eq_true, evalOp_eval hl hE hb] at hs
    obtain ⟨hcl, hcard⟩ := evalNext_closed c P hP hne s hG.1 b hs.1
    exact ⟨⟨hcl, hs.2⟩, Nat.le_of_eq hcard⟩

end Edzed.Burst
