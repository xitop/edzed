/-
Tie of the TRANSLATED constructors and argument passing of the library CBlocks (`Gen.TrC.*`, generated by
tools/py2lean_cblocks.py from edzed/blocklib/cblocks.py) to the model (EdzedModel/CBlocks.lean,
`Sim.calcBlk`).  Used by C01.
-/
import EdzedModel.Gen.TranslatedCBlocks
import EdzedModel.Gen.Translated
import EdzedModel.CBlocks
import EdzedProofs.Simulate

namespace Edzed.CBlocksTie
open Edzed.Sim Edzed.CBlocks Edzed.Gen.TrC

/-- the attributes stored, in order; an exception ends the constructor (the object is not created) -/
def runCtor : List Prim → Except String (List (String × CVal) × Bool)
  | [] => .ok ([], false)
  | .raise e :: _ => .error e
  | .set a v :: r => (runCtor r).map fun p => ((a, v) :: p.1, p.2)
  | .superInit :: r => (runCtor r).map fun p => (p.1, true)       -- the flag: the base class was initialised

def lookupArg (d : List (String × Arg)) (k : String) : Arg :=
  match d.find? (·.1 == k) with
  | some p => p.2
  | none => .one .undef

theorem map_lookup_self (d : List (String × Arg)) (h : (d.map (·.1)).Nodup) :
    (d.map (·.1)).map (fun k => (k, lookupArg d k)) = d := by
  induction d with
  | nil => rfl
  | cons p d ih =>
    simp only [List.map_cons, List.nodup_cons] at h ⊢
    have hhead : lookupArg (p :: d) p.1 = p.2 := by simp [lookupArg]
    rw [hhead]
    congr 1
    refine Eq.trans (List.map_congr_left ?_) (ih h.2)
    intro k hk
    have hne : k ≠ p.1 := fun e => h.1 (e ▸ hk)
    have : (p.1 == k) = false := by simp [Ne.symm hne]
    simp [lookupArg, this]

theorem dictPop_head (k : String) (a : Arg) (d : List (String × Arg)) (h : k ∉ d.map (·.1)) (dflt : Arg) :
    dictPop ((k, a) :: d) k dflt = (a, d) := by
  have hf : d.filter (·.1 != k) = d :=
    List.filter_eq_self.mpr fun p hp => bne_iff_ne.mpr fun e => h (List.mem_map.mpr ⟨p, hp, e⟩)
  simp only [dictPop, List.find?_cons, beq_self_eq_true, List.filter_cons, bne_self_eq_false,
    Bool.false_eq_true, ↓reduceIte, hf]

theorem dictPop_absent (k : String) (d : List (String × Arg)) (h : k ∉ d.map (·.1)) (dflt : Arg) :
    dictPop d k dflt = (dflt, d) := by
  have hf : d.find? (·.1 == k) = none :=
    List.find?_eq_none.mpr fun p hp hk => h (List.mem_map.mpr ⟨p, hp, beq_iff_eq.mp hk⟩)
  simp only [dictPop, hf]

/-- the named inputs as keyword arguments: a value for a single input, a tuple for a group (`funcCall`
    has this list inline as `kw`) -/
def kwArgs (b : CBlk) (outC outS : Nat → Val) : List (String × Arg) :=
  b.named.map (fun p => (p.1, Arg.one (p.2.val outC outS)))
    ++ b.groups.map (fun g => (g.1, Arg.many (g.2.map (Src.val outC outS))))

/-- `(name, self._in[name])` for every connected input: `'_'` (the unnamed group, if any) first -/
def entries (b : CBlk) (outC outS : Nat → Val) : List (String × Arg) :=
  (if b.pos.isEmpty then [] else [("_", Arg.many (b.pos.map (Src.val outC outS)))])
  ++ b.named.map (fun p => (p.1, Arg.one (p.2.val outC outS)))
  ++ b.groups.map (fun g => (g.1, Arg.many (g.2.map (Src.val outC outS))))

def inputKeys (b : CBlk) : List String :=
  (if b.pos.isEmpty then [] else ["_"]) ++ b.named.map (·.1) ++ b.groups.map (·.1)

/-- input names are dict keys: distinct, and `'_'` is the unnamed group only -/
def KeysOk (b : CBlk) : Prop := ("_" :: (b.named.map (·.1) ++ b.groups.map (·.1))).Nodup

theorem kwArgs_keys (b : CBlk) (outC outS : Nat → Val) :
    (kwArgs b outC outS).map (·.1) = b.named.map (·.1) ++ b.groups.map (·.1) := by
  simp only [kwArgs, List.map_append, List.map_map, Function.comp_def]

theorem funcCall_kw (b : CBlk) (unpack : Bool) (outC outS : Nat → Val) :
    (funcCall b unpack outC outS).kw = kwArgs b outC outS := by
  cases unpack <;> rfl

theorem entries_eq (b : CBlk) (outC outS : Nat → Val) :
    entries b outC outS =
      if b.pos.isEmpty then kwArgs b outC outS
      else ("_", Arg.many (b.pos.map (Src.val outC outS))) :: kwArgs b outC outS := by
  unfold entries
  cases b.pos.isEmpty <;> rfl

theorem entries_keys (b : CBlk) (outC outS : Nat → Val) : (entries b outC outS).map (·.1) = inputKeys b := by
  rw [entries_eq]
  unfold inputKeys
  cases b.pos.isEmpty
  · exact congrArg ("_" :: ·) (kwArgs_keys b outC outS)
  · exact kwArgs_keys b outC outS

theorem inputKeys_nodup (b : CBlk) (h : KeysOk b) : (inputKeys b).Nodup := by
  unfold inputKeys
  cases b.pos.isEmpty
  · exact h
  · exact (List.nodup_cons.mp h).2

/-- the translated `FuncBlock.calc_output` hands the function exactly the model's documented call -/
theorem funcBlockCalc_eq (b : CBlk) (h : KeysOk b) (unpack : Bool) (outC outS : Nat → Val) :
    funcBlockCalc unpack (inputKeys b) (lookupArg (entries b outC outS))
      = some (funcCall b unpack outC outS) := by
  have hmap : (inputKeys b).map (fun name => (name, lookupArg (entries b outC outS) name))
      = entries b outC outS := by
    rw [← entries_keys b outC outS]
    exact map_lookup_self _ (by rw [entries_keys]; exact inputKeys_nodup b h)
  have hnot : "_" ∉ (kwArgs b outC outS).map (·.1) := by
    rw [kwArgs_keys]
    exact (List.nodup_cons.mp h).1
  unfold funcBlockCalc
  simp only [hmap]
  rw [entries_eq]
  cases hp : b.pos.isEmpty
  · -- there are unnamed inputs: '_' is the first key
    simp only [Bool.false_eq_true, ↓reduceIte, dictPop_head _ _ _ hnot]
    cases unpack <;> simp [star, funcCall, kwArgs]
  · simp only [↓reduceIte, dictPop_absent _ _ hnot]
    cases unpack <;> simp [star, funcCall, kwArgs, List.isEmpty_iff.mp hp]

theorem unnamed_funcCall (b : CBlk) (unpack : Bool) (outC outS : Nat → Val) :
    (funcCall b unpack outC outS).unnamed unpack = b.pos.map (Src.val outC outS) := by
  cases unpack
  · rfl
  · simp only [funcCall, Call.unnamed, ↓reduceIte, List.filterMap_map]
    induction b.pos with
    | nil => rfl
    | cons x xs ih => simp [Function.comp, ih]

theorem kwArgs_find (b : CBlk) (outC outS : Nat → Val) (k : String) :
    (kwArgs b outC outS).find? (·.1 == k) =
      ((b.named.find? (·.1 == k)).map fun p => (p.1, Arg.one (p.2.val outC outS))).or
        ((b.groups.find? (·.1 == k)).map fun g => (g.1, Arg.many (g.2.map (Src.val outC outS)))) := by
  simp only [kwArgs, List.find?_append, List.find?_map]
  rfl

theorem one_funcCall (b : CBlk) (unpack : Bool) (outC outS : Nat → Val) (k : String) :
    (funcCall b unpack outC outS).one k = lookupNamed outC outS b.named k := by
  simp only [Call.one, funcCall_kw, kwArgs_find, lookupNamed]
  cases b.named.find? (·.1 == k) with
  | some p => rfl
  | none => cases b.groups.find? (·.1 == k) <;> rfl

theorem many_funcCall (b : CBlk) (h : KeysOk b) (unpack : Bool) (outC outS : Nat → Val) (k : String) :
    (funcCall b unpack outC outS).many k
      = ((b.groups.find? (·.1 == k)).map (·.2) |>.getD []).map (Src.val outC outS) := by
  simp only [Call.many, funcCall_kw, kwArgs_find]
  cases hn : b.named.find? (·.1 == k) with
  | some p =>
    -- `k` names a single input, so it names no group
    have hg : b.groups.find? (·.1 == k) = none := by
      refine List.find?_eq_none.mpr fun g hg hgk => ?_
      have hk : p.1 = k := beq_iff_eq.mp (List.find?_some (p := fun x : String × Src => x.1 == k) hn)
      exact (List.nodup_append.mp (List.nodup_cons.mp h).2).2.2 k
        (List.mem_map.mpr ⟨p, List.mem_of_find?_eq_some hn, hk⟩) k
        (List.mem_map.mpr ⟨g, hg, beq_iff_eq.mp hgk⟩) rfl
    rw [hg]
    rfl
  | none => cases b.groups.find? (·.1 == k) <;> rfl

theorem calcBlk_func (b : CBlk) (f : Script) (u : Bool) (hfn : b.fn = .func f u) (h : KeysOk b)
    (own : Val) (outC outS : Nat → Val) :
    calcBlk b own outC outS = Script.apply f u (funcCall b u outC outS) := by
  unfold calcBlk
  simp only [hfn]
  cases f with
  | cnt => simp only [Script.apply, unnamed_funcCall]
  | big => simp only [Script.apply, unnamed_funcCall]
  | sel => simp only [Script.apply, one_funcCall]
  | glen => simp only [Script.apply, unnamed_funcCall, many_funcCall b h, List.length_map]

theorem runCtor_compareInit (low high : Rat) :
    runCtor (compareInit low high) =
      if high < low then .error "ValueError"
      else .ok ([("_low", .rat low), ("_high", .rat high)], true) := by
  unfold compareInit
  by_cases h : high < low <;> simp [h, runCtor, Except.map]

/-- the translated `Compare.calc_output` compares with the threshold that `Sim.calcBlk` uses -/
theorem compareCalc_eq (low high : Rat) (own : Val) (x : Rat) :
    Gen.Tr.compareCalc low high own x = decide (cmpThr low high own ≤ x) := by
  unfold Gen.Tr.compareCalc cmpThr
  cases own.isUndef <;> rfl

theorem compareCalc_hysteresis (low high : Rat) (hlh : low ≤ high) (own : Val) (x : Rat) :
    (high ≤ x → Gen.Tr.compareCalc low high own x = true) ∧
    (x < low → Gen.Tr.compareCalc low high own x = false) ∧
    (own.isUndef = false → low ≤ x → x < high → Gen.Tr.compareCalc low high own x = own.truthy) ∧
    (own.isUndef = true → Gen.Tr.compareCalc low high own x = decide ((low + high) / 2 ≤ x)) := by
  rw [compareCalc_eq]
  exact compare_hysteresis hlh own x

/-- what the actions of `start()` do: the content of the slot `self._func`, "the base class start() ran",
    the outcome.  The exception of the trial call is the parameter of the generated list. -/
def runStart : FuncSlot → Bool → List FPrim → FuncSlot × Bool × Except String Unit
  | f, st, [] => (f, st, .ok ())
  | f, st, .saveFunc :: r => runStart f st r
  | _, st, .setFunc v :: r => runStart v st r
  | f, st, .calcOutput :: r => runStart f st r
  | f, st, .raise e :: _ => (f, st, .error e)
  | f, _, .superStart :: r => runStart f true r

theorem runStart_funcBlockStart (trial : Option String) :
    runStart .user false (funcBlockStart trial) = funcStart trial := by
  cases trial with
  | none => rfl
  | some exc =>
    -- both branches of the `except` clause raise what the trial call raised
    unfold funcBlockStart
    by_cases h : exc = "TypeError"
    · subst h
      rfl
    · simp [beq_eq_false_iff_ne.mpr h, runStart, funcStart]

end Edzed.CBlocksTie
