/- lemmas about the loops of the DataEdit edit functions (used by the translation tie of C16) -/
import EdzedModel.Filters
import EdzedProofs.DataLemmas
import EdzedProofs.ListLoops
namespace Edzed
open Filters

theorem foldl_erase_if (sel : String → Bool) (ks : List String) (d : Data) :
    ks.foldl (fun d k => if sel k then d.erase k else d) d =
      d.filter (fun p => !(ks.contains p.1 && sel p.1)) := by
  induction ks generalizing d with
  | nil => exact (List.filter_eq_self.mpr (by simp)).symm
  | cons k ks ih =>
    rw [List.foldl_cons, ih]
    by_cases hs : sel k = true
    · rw [if_pos hs]
      unfold Data.erase
      rw [List.filter_filter]
      apply List.filter_congr
      intro p _
      by_cases hp : p.1 = k <;> simp [hp, hs]
    · rw [if_neg hs]
      apply List.filter_congr
      intro p _
      by_cases hp : p.1 = k <;> simp [hp, hs]

/-- the loop of `DataEdit.permit` (`for key in list(data)`, `del data[key]`): it never fails, because a key still to
    come is never the one just deleted -/
theorem permit_fold (f : Data → String → Except Stop Data) (args : List String) (ks : List String) (d : Data)
    (hnd : ks.Nodup) (hin : ∀ k ∈ ks, d.has k = true)
    (hf : ∀ data key, data.has key = true →
      f data key = .ok (if args.contains key then data else data.erase key)) :
    List.foldlM f d ks = .ok (d.filter (fun p => !(ks.contains p.1 && !(args.contains p.1)))) := by
  rw [foldlM_ok_of_invariant f (fun d k => if !args.contains k then d.erase k else d)
    (fun d ks => ks.Nodup ∧ ∀ k ∈ ks, d.has k = true) ?_ ks d ⟨hnd, hin⟩, foldl_erase_if]
  intro b a rest ⟨hn, hi⟩
  have hn' := List.nodup_cons.mp hn
  refine ⟨?_, hn'.2, fun k hk => ?_⟩
  · rw [hf b a (hi a (List.mem_cons_self ..))]
    cases args.contains a <;> rfl
  · have := hi k (List.mem_cons_of_mem _ hk)
    split
    · exact Data.has_erase_of_ne b a k (fun h => hn'.1 (h ▸ hk)) this
    · exact this

/-- run over all keys of `d` (`permit_fold` with `ks := d.map (·.1)`), the permit loop leaves `keepOnly d args` -/
theorem permit_filter (args : List String) (d : Data) :
    d.filter (fun p => !((d.map (·.1)).contains p.1 && !(args.contains p.1))) = keepOnly d args := by
  unfold keepOnly
  apply List.filter_congr
  intro p hp
  have : p.1 ∈ d.map (·.1) := List.mem_map.mpr ⟨p, hp, rfl⟩
  by_cases ha : p.1 ∈ args <;> simp [this, ha]

/-- the loop of `DataEdit.delete`, for any loop body that pops its key -/
theorem delete_fold (f : Data → String → Except Stop Data) (hf : ∀ data key, f data key = .ok (data.erase key))
    (keys : List String) (d : Data) : List.foldlM f d keys = .ok (eraseAll d keys) :=
  foldlM_ok_of_invariant f Data.erase (fun _ _ => True) (fun b a _ _ => ⟨hf b a, trivial⟩) keys d trivial

end Edzed
