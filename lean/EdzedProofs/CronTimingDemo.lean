/-
C07 timing: a CONCRETE environment satisfying every assumption of `TimedEnv` / `TTok` (so that the timing theorems
of EdzedProps/C07.lean are not vacuous): the world is the wall clock itself (a rational number of seconds), a
reading returns it exactly, `time.sleep(d)` advances it by `d`, awaited sleeps may return up to 1 ms late,
recalculations are free, no jumps; the timetable is 00:00, 08:00, 16:00.
-/
import EdzedProofs.CronTiming
import Mathlib.Data.Rat.Floor

namespace Edzed.Cron.Demo
open Gen.TrCron

/-- a time of day: seconds since midnight -/
abbrev Tod := { q : Rat // 0 ≤ q ∧ q < 86400 }

instance : Inhabited Tod := ⟨⟨0, by norm_num⟩⟩

def todOfRat (x : Rat) : Tod :=
  ⟨x - 86400 * ((⌊x / 86400⌋ : Int) : Rat), by
    have h1 := Int.floor_le (x / 86400)
    have h2 := Int.lt_floor_add_one (x / 86400)
    constructor <;> linarith⟩

def t00 : Tod := ⟨0, by norm_num⟩
def t08 : Tod := ⟨28800, by norm_num⟩
def t16 : Tod := ⟨57600, by norm_num⟩
def demoTT : List Tod := [t00, t08, t16]

def demoP : MtPrims Rat Tod Rat Unit where
  dtnow w := (w, w)
  timeOf := todOfRat
  set24 := demoTT
  alarmKeys _ := []
  sortedUnion _ _ := demoTT
  bisectLeft _ q := if q.val ≤ 0 then 0 else if q.val ≤ 28800 then 1 else if q.val ≤ 57600 then 2 else 3
  allClients _ := []
  hasAlarm _ _ := false
  clientsAt _ _ := []
  recalc _ _ w := w
  hour _ := 0
  minute _ := 0
  second t := t.val
  microsecond _ := 0
  blockingSleep d w := w + d

theorem tod_demo (t : Tod) : todS demoP t = t.val := by
  simp [todS, demoP]

theorem recalc_demo (bs : List Unit) (x w : Rat) : recalcAll demoP bs x w = w := by
  unfold recalcAll
  induction bs with
  | nil => rfl
  | cons b bs ih => simp [List.foldl_cons, demoP]

def demoE : TimedEnv demoP where
  clk w := w
  off _ := 0
  abs x := x
  day x := ⌊x / 86400⌋
  W := 1 / 1000
  L := 0
  C := 0
  J := 0
  hW := by norm_num
  hL := le_refl _
  hC := le_refl _
  hJ := le_refl _
  tod_range t := by rw [tod_demo]; exact ⟨t.property.1, by have := t.property.2; unfold secPerDay; linarith⟩
  abs_split x := by rw [tod_demo]; simp only [demoP, todOfRat, secPerDay]; ring
  read_lo w := le_refl _
  read_hi w := le_refl _
  read_cost w := by simp [demoP]
  read_el w := by simp [demoP]
  read_off w := by simp
  bsleep_lo d w := by simp [demoP]
  bsleep_hi d w := by simp [demoP]
  bsleep_off d w := by simp
  recalc_el bs x w := by rw [recalc_demo]
  recalc_cost bs x w := by rw [recalc_demo]; simp
  recalc_off bs x w := by simp

theorem demo_gap (i : Nat) (hi : i < 3) : nextGap demoP demoTT i = 28800 := by
  match i, hi with
  | 0, _ => rw [nextGap_step demoTT 0 t00 t08 rfl rfl (by decide), tod_demo, tod_demo]; norm_num [t00, t08]
  | 1, _ => rw [nextGap_step demoTT 1 t08 t16 rfl rfl (by decide), tod_demo, tod_demo]; norm_num [t08, t16]
  | 2, _ => rw [nextGap_wrap demoTT 2 t16 t00 rfl rfl (by decide), tod_demo, tod_demo]; norm_num [t16, t00, secPerDay]

theorem demo_get {i : Nat} {x : Tod} (h : demoTT[i]? = some x) : i < 3 ∧ x.val = 28800 * (i : Rat) := by
  match i, h with
  | 0, h => cases h; exact ⟨by omega, by norm_num [t00]⟩
  | 1, h => cases h; exact ⟨by omega, by norm_num [t08]⟩
  | 2, h => cases h; exact ⟨by omega, by norm_num [t16]⟩
  | n + 3, h => simp [demoTT] at h

theorem demo_ttok : TTok demoP demoTT 28800 28800 where
  pos := by decide
  gap_lo i hi := (demo_gap i hi).ge
  gap_hi i hi := (demo_gap i hi).le
  bis q := by
    -- the result `j` says in which eight-hour window `q` lies
    obtain ⟨j, hj, hj3, hlo, hhi⟩ : ∃ j : Nat, demoP.bisectLeft demoTT q = j ∧ j ≤ 3 ∧
        (j = 0 ∨ 28800 * ((j : Rat) - 1) < q.val) ∧ (j = 3 ∨ q.val ≤ 28800 * (j : Rat)) := by
      show ∃ j : Nat, (if q.val ≤ 0 then 0 else if q.val ≤ 28800 then 1 else if q.val ≤ 57600 then 2 else 3) = j ∧ _
      split_ifs with h1 h2 h3
      · exact ⟨0, rfl, by omega, .inl rfl, .inr (by norm_num; exact h1)⟩
      · exact ⟨1, rfl, by omega, .inr (by norm_num; exact not_le.mp h1), .inr (by norm_num; exact h2)⟩
      · exact ⟨2, rfl, by omega, .inr (by norm_num; exact not_le.mp h2), .inr (by norm_num; exact h3)⟩
      · exact ⟨3, rfl, by omega, .inr (by norm_num; exact not_le.mp h3), .inl rfl⟩
    refine BisectOk.of_iff (by rw [hj]; exact hj3) fun i x hx => ?_
    obtain ⟨hi, hv⟩ := demo_get hx
    rw [tod_demo, tod_demo, hv, hj]
    constructor
    · intro h
      have h1 : (i : Rat) + 1 ≤ j := by exact_mod_cast h
      rcases hlo with rfl | hlo
      · omega
      · linarith only [h1, hlo]
    · intro h
      rcases hhi with rfl | hhi
      · exact hi
      · have : (i : Rat) < j := by linarith only [h, hhi]
        exact_mod_cast this

/-- the loop positioned at 08:00 (entry 1), last reading 05:33:20 -/
def demoL : MtLocals Tod Rat :=
  { (mtInit : MtLocals Tod Rat) with v2 := false, v4 := demoTT, v5 := 3, v6 := some 1, v7 := 20000 }

theorem demo_known : KnownSt demoE demoTT 3 1 t08 28800 28800 (1 / 1000) demoL (20000 + 1 / 2) where
  h1 := rfl
  h2 := rfl
  h4 := rfl
  h5 := rfl
  h6 := rfl
  hget := rfl
  hov := le_refl _
  hglo := by show (28800 : Rat) - 28800 ≤ 20000; norm_num
  hnow := by show (20000 : Rat) ≤ 20000 + 1 / 2; norm_num
  hlate := by show (20000 : Rat) + 1 / 2 ≤ 28800 + 1 / 1000; norm_num

theorem demo_A : (28800 : Rat) = ((0 : Int) : Rat) * secPerDay + todS demoP t08 := by
  rw [tod_demo]; simp [t08]

/-- the state after the 08:00 alarm was served with the reading 08:00:00.0005 -/
def demoL' : MtLocals Tod Rat :=
  { demoL with v6 := some 2, v7 := 28800 + 5 / 10000, v9 := t08 }

theorem demo_outcome : PassOutcome demoE demoTT 3 1 t08 28800 28800 0 (28800 + 2 / 1000) 7 demoL' (28800 + 6 / 10000) := by
  refine ⟨rfl, rfl, rfl, le_refl _, rfl, ?_, 28800 + 6 / 10000, ?_, le_refl _, ?_, Or.inl ⟨rfl, rfl, ?_, ?_, ?_, rfl⟩⟩
  all_goals simp only [demoL', demoE, ttError]
  all_goals norm_num

/-! a timetable of exactly the 24 full hours, times of day = `Fin 24` -/

def hoursP : MtPrims Unit (Fin 24) Unit Unit where
  dtnow w := ((), w)
  timeOf _ := 0
  set24 := List.finRange 24
  alarmKeys _ := []
  sortedUnion a _ := a
  bisectLeft _ _ := 0
  allClients _ := []
  hasAlarm _ _ := false
  clientsAt _ _ := []
  recalc _ _ w := w
  hour t := (t.val : Rat)
  minute _ := 0
  second _ := 0
  microsecond _ := 0
  blockingSleep _ w := w

theorem tod_hours (t : Fin 24) : todS hoursP t = 3600 * (t.val : Rat) := by
  simp [todS, hoursP, secPerHour, secPerMin]

theorem hours_range (t : Fin 24) : 0 ≤ todS hoursP t ∧ todS hoursP t < secPerDay := by
  rw [tod_hours]
  have h : (t.val : Rat) < 24 := by exact_mod_cast t.isLt
  have h0 : (0 : Rat) ≤ t.val := by positivity
  unfold secPerDay
  exact ⟨by linarith only [h0], by linarith only [h]⟩

theorem hours_get (i : Nat) (x : Fin 24) (h : (List.finRange 24)[i]? = some x) : x.val = i := by
  obtain ⟨hi, hx⟩ := List.getElem?_eq_some_iff.mp h
  rw [← hx]; simp

theorem hours_sorted : SortedTT hoursP (List.finRange 24) := by
  intro i j x y hx hy hij
  rw [tod_hours, tod_hours, hours_get i x hx, hours_get j y hy]
  have : (i : Rat) < j := by exact_mod_cast hij
  linarith only [this]

theorem hours_hourly : Hourly hoursP (List.finRange 24) := by
  intro h h24
  exact ⟨⟨h, h24⟩, List.mem_finRange _, by rw [tod_hours]⟩

end Edzed.Cron.Demo
