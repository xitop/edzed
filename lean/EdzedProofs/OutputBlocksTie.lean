/-
Translation tie of C12, second part: the programs generated from `_check_arg`, `OutputAsync.__init__ / start /
init_regular`, `OutputFunc.__init__ / _event_put / init_regular / stop` and `InExecutor.__call__`
(EdzedModel/Gen/TranslatedOutputBlocks.lean) run on primitives that are the operations of the model
EdzedModel/OutputBlocks.lean: `initP0`/`initP` on the attributes a constructor sets (`Attrs`), `funcP` on the log
of an OutputFunc, `execP`.  Here are the records, the two constructors as the model's `constructAsync` /
`constructFunc` and the loops of `_event_put`; the theorems are in EdzedProps/C12.lean.
-/
import EdzedModel.OutputBlocks
import EdzedModel.Gen.TranslatedOutputBlocks
import EdzedProofs.PyBool

namespace Edzed.TrTie.OB
open Edzed.OutputBlocks Edzed.Gen.TrD Edzed.Gen.TrOB

/-- the attributes a constructor sets (before: nothing is set) -/
structure Attrs where
  ctrl : Option CtrlMode := none
  guard : Int := 0
  fArgs : ArgSpec := .notSeq
  fKwargs : ArgSpec := .notSeq
  nSuccess : Nat := 0
  nCancel : Nat := 0
  nError : Nat := 0
  stopData : Option Data := none
  stopTimeout : Int := 0
  callable : Bool := false
  queue : Bool := false         -- `start`: the queue exists
  ctrlTask : Bool := false      -- `start`: the control task has been created
  started : Bool := false       -- `super().start()` was called
  output : Option Int := none   -- `init_regular`
  startLog : List String := []  -- the steps of `start`, in order
  deriving DecidableEq, Repr

def kindToMode : CtrlKind → CtrlMode
  | .cancel => .cancel
  | .wait => .wait
  | .start => .start

/-- `Class(message)`: the exception of the model a raise statement stands for; a class or marker that is not
    expected here reads as `.superInit`, so a tie theorem fails wherever the model expects another exception -/
def mkExc (cls marker : String) : InitErr :=
  if cls == "TypeError" && marker == "not-a-sequence-of-strings" then .argsNotStrings
  else if cls == "ValueError" && marker == "mode" then .badMode
  else if cls == "ValueError" && marker == "guard-exceeds-stop_timeout" then .guardExceeds
  else .superInit

/-- `guard_time`: None, or a value that `time_period` converts (µs) or refuses -/
def guardArg : GuardArg → Option (Option Int)
  | .none => none
  | .period us => some (some us)
  | .bad => some none

/-- the leaves without `_check_arg` itself; `st` = what `super().__init__` leaves in `stop_timeout` -/
def initP0 (st : Option Int) : InitPrims Attrs InitErr ArgSpec EvArg Nat (Option Int) Data where
  isStr a := match a with | .str _ => true | _ => false
  isSequence a := match a with | .notSeq => false | _ => true
  anyItemNotStr a := match a with | .seq items => items.any Option.isNone | _ => false
  mkExc := mkExc
  checkArg _ _ := M.pure ()
  eventTuple e := match e.count with | .ok n => M.pure n | .error x => M.raise x
  timePeriod g := match g with | some us => M.pure us | none => M.raise .badGuard
  setOnSuccess n := M.modify fun s => { s with nSuccess := n }
  setOnCancel n := M.modify fun s => { s with nCancel := n }
  setOnError n := M.modify fun s => { s with nError := n }
  setGuard g := M.modify fun s => { s with guard := g }
  setCallable := M.modify fun s => { s with callable := true }
  setCtrl k := M.modify fun s => { s with ctrl := some (kindToMode k) }
  setFArgs a := M.modify fun s => { s with fArgs := a }
  setFKwargs a := M.modify fun s => { s with fKwargs := a }
  setStopData d := M.modify fun s => { s with stopData := d }
  superInit := match st with
    | some t => M.modify fun s => { s with stopTimeout := t }
    | none => M.raise .superInit
  getGuard s := s.guard
  getStopTimeout s := s.stopTimeout
  superStart := M.modify fun s => { s with started := true, startLog := s.startLog ++ ["super().start"] }
  newQueue := M.modify fun s => { s with queue := true, startLog := s.startLog ++ ["queue"] }
  createCtrlTask := M.modify fun s => { s with ctrlTask := true, startLog := s.startLog ++ ["control task"] }
  setOutput n := M.modify fun s => { s with output := some n }

/-- in the constructors `_check_arg(name, arg)` is the translated `_check_arg` -/
def initP (st : Option Int) : InitPrims Attrs InitErr ArgSpec EvArg Nat (Option Int) Data :=
  { initP0 st with checkArg := fun name a => check_arg (initP0 st) name a }

/-- the outcome of a constructor as the model states it -/
def asyncResult (r : Attrs × Out InitErr Unit Unit) : Except InitErr AsyncBlk :=
  match r with
  | (s, .next _) =>
    match s.ctrl with
    | some m => .ok { ctrl := m, guard := s.guard, fArgs := s.fArgs, fKwargs := s.fKwargs, nSuccess := s.nSuccess,
                      nCancel := s.nCancel, nError := s.nError, stopData := s.stopData, stopTimeout := s.stopTimeout }
    | none => .error .superInit
  | (_, .raise e) => .error e
  | _ => .error .superInit

def funcResult (r : Attrs × Out InitErr Unit Unit) : Except InitErr FuncBlk :=
  match r with
  | (s, .next _) => .ok { fArgs := s.fArgs, fKwargs := s.fKwargs, nSuccess := s.nSuccess, nError := s.nError,
                          stopData := s.stopData }
  | (_, .raise e) => .error e
  | _ => .error .superInit

/- `mkExc` compares strings: decided here once, not in every raising leaf of `check_arg_model` -/
theorem mkExc_args : mkExc "TypeError" "not-a-sequence-of-strings" = .argsNotStrings := by decide

theorem check_arg_model (st : Option Int) (name : String) (a : ArgSpec) (s : Attrs) :
    check_arg (initP0 st) name a s = if a.ok then (s, .next ()) else (s, .raise .argsNotStrings) := by
  have hm : (initP0 st).mkExc = mkExc := rfl
  unfold check_arg
  rw [hm, mkExc_args]
  cases a with
  | str x => rfl
  | notSeq => rfl
  | seq items =>
    have : (items.any Option.isNone) = !(items.all Option.isSome) := by
      induction items with
      | nil => rfl
      | cons x xs ih => cases x <;> simp_all
    have h1 : (initP0 st).anyItemNotStr (.seq items) = items.any Option.isNone := rfl
    have h2 : (initP0 st).isStr (.seq items) = false := rfl
    have h3 : (initP0 st).isSequence (.seq items) = true := rfl
    cases h : items.all Option.isSome <;> simp [h1, h2, h3, this, ArgSpec.ok, h] <;> rfl

theorem contains_pair (a b m : String) : [a, b].contains m = (m == a || m == b) := by
  cases h1 : m == a <;> cases h2 : m == b <;> simp [List.contains, List.elem, h1, h2]

theorem bind_eventTuple {β : Type} (st : Option Int) (e : EvArg) (k : Nat → M Attrs InitErr Unit β) :
    M.bind ((initP st).eventTuple e) k
      = fun s => match e.count with
        | .ok n => k n s
        | .error x => (s, .raise x) := by
  funext s; cases e <;> rfl

theorem bind_timePeriod {β : Type} (st : Option Int) (g : Option Int) (k : Int → M Attrs InitErr Unit β) :
    M.bind ((initP st).timePeriod g) k
      = fun s => match g with
        | some us => k us s
        | none => (s, .raise .badGuard) := by
  funext s; cases g <;> rfl

theorem bind_superInit {β : Type} (st : Option Int) (k : Unit → M Attrs InitErr Unit β) :
    M.bind ((initP st).superInit) k
      = fun s => match st with
        | some t => k () { s with stopTimeout := t }
        | none => (s, .raise .superInit) := by
  funext s; cases st <;> rfl

theorem bind_checkArg {β : Type} (st : Option Int) (n : String) (x : ArgSpec) (k : Unit → M Attrs InitErr Unit β) :
    M.bind ((initP st).checkArg n x) k = fun s => if x.ok then k () s else (s, .raise .argsNotStrings) := by
  funext s
  have : (initP st).checkArg n x s = check_arg (initP0 st) n x s := rfl
  simp only [M.bind, this, check_arg_model]
  cases x.ok <;> rfl

theorem bind_setOnSuccess {β : Type} (st : Option Int) (n : Nat) (k : Unit → M Attrs InitErr Unit β) :
    M.bind ((initP st).setOnSuccess n) k = fun s => k () { s with nSuccess := n } := rfl
theorem bind_setOnCancel {β : Type} (st : Option Int) (n : Nat) (k : Unit → M Attrs InitErr Unit β) :
    M.bind ((initP st).setOnCancel n) k = fun s => k () { s with nCancel := n } := rfl
theorem bind_setOnError {β : Type} (st : Option Int) (n : Nat) (k : Unit → M Attrs InitErr Unit β) :
    M.bind ((initP st).setOnError n) k = fun s => k () { s with nError := n } := rfl
theorem bind_setGuard {β : Type} (st : Option Int) (g : Int) (k : Unit → M Attrs InitErr Unit β) :
    M.bind ((initP st).setGuard g) k = fun s => k () { s with guard := g } := rfl
theorem bind_setCallable {β : Type} (st : Option Int) (k : Unit → M Attrs InitErr Unit β) :
    M.bind ((initP st).setCallable) k = fun s => k () { s with callable := true } := rfl
theorem bind_setCtrl {β : Type} (st : Option Int) (c : CtrlKind) (k : Unit → M Attrs InitErr Unit β) :
    M.bind ((initP st).setCtrl c) k = fun s => k () { s with ctrl := some (kindToMode c) } := rfl
theorem bind_setFArgs {β : Type} (st : Option Int) (x : ArgSpec) (k : Unit → M Attrs InitErr Unit β) :
    M.bind ((initP st).setFArgs x) k = fun s => k () { s with fArgs := x } := rfl
theorem bind_setFKwargs {β : Type} (st : Option Int) (x : ArgSpec) (k : Unit → M Attrs InitErr Unit β) :
    M.bind ((initP st).setFKwargs x) k = fun s => k () { s with fKwargs := x } := rfl
theorem bind_setStopData {β : Type} (st : Option Int) (x : Option Data) (k : Unit → M Attrs InitErr Unit β) :
    M.bind ((initP st).setStopData x) k = fun s => k () { s with stopData := x } := rfl
theorem bind_pure_unit {σ ε ρ β : Type} (k : Unit → M σ ε ρ β) : M.bind (M.pure ()) k = k () := rfl

/-- which of the constructor's membership tests a mode string passes, and what `modeOf` makes of it -/
theorem mode_cases (m : String) :
    ((m == "c" || m == "cancel") = false ∧ (m == "w" || m == "wait") = false ∧ (m == "s" || m == "start") = false ∧
      modeOf m = none) ∨
    ((m == "c" || m == "cancel") = true ∧ modeOf m = some .cancel) ∨
    ((m == "c" || m == "cancel") = false ∧ (m == "w" || m == "wait") = true ∧ modeOf m = some .wait) ∨
    ((m == "c" || m == "cancel") = false ∧ (m == "w" || m == "wait") = false ∧ (m == "s" || m == "start") = true ∧
      modeOf m = some .start) := by
  unfold modeOf
  cases m == "c" || m == "cancel"
  · cases m == "w" || m == "wait"
    · cases m == "s" || m == "start" <;> simp
    · simp
  · simp

/- Both sides are straight-line programs that leave at the first failing check: the checks are decided one
   after the other, and each failure is a leaf where both sides compute to the same exception.  The assignments
   are run by the `bind_set…` lemmas over the whole program, in whatever order the source has them.  The later
   statements are cut off first, from the end: a piece is named by `generalize` with holes (anchored on its
   shape -- the final `get`, "a conditional followed by the rest" --, never on program text or on which
   assignment comes first) and said once what it does, so that the cases of the earlier checks do not run it
   again. -/
theorem oasync_init_model (a : AsyncArgs) :
    asyncResult (oasync_init (initP a.stopTimeout) a.mode a.fArgs a.fKwargs (guardArg a.guard)
        a.onSuccess a.onCancel a.onError a.stopData () () {})
      = constructAsync a := by
  obtain ⟨mode, fArgs, fKwargs, guard, onS, onC, onE, sd, st⟩ := a
  unfold oasync_init
  simp only [bind_checkArg, bind_eventTuple, bind_setOnSuccess, bind_setOnCancel, bind_setOnError,
    bind_setCallable, bind_setFArgs, bind_setFKwargs, bind_setStopData, bind_superInit, contains_pair]
  -- the last test of the constructor: whatever the program text, it compares guard_time with stop_timeout
  generalize hk : (M.get.bind _ : M Attrs InitErr Unit Unit) = k
  have hk' : ∀ s, k s = if s.guard > s.stopTimeout then (s, Out.raise .guardExceeds) else (s, Out.next ()) := by
    intro s
    subst hk
    by_cases h : s.guard > s.stopTimeout <;> simp [M.bind, M.get, M.raise, M.pure, initP, initP0, mkExc, h]
  simp only [hk']
  clear hk hk'
  -- the choice of the control task with the rest of the constructor behind it, whatever their text: what it
  -- does is settled here once, so that the cases of guard_time below do not meet it again
  generalize hm : (M.bind (ite ((_ : Bool) = true) _ _) _ : M Attrs InitErr Unit Unit) = km
  -- `generalizing := false`: `hm` mentions `st` and must stay as it is
  have hm' : km = fun s => match (generalizing := false) modeOf mode, st with
      | none, _ => (s, .raise .badMode)
      | some m, none => ({ s with ctrl := some m, fArgs := fArgs, fKwargs := fKwargs, stopData := sd }, .raise .superInit)
      | some m, some t =>
        ({ s with ctrl := some m, fArgs := fArgs, fKwargs := fKwargs, stopData := sd, stopTimeout := t },
          if s.guard > t then .raise .guardExceeds else .next ()) := by
    funext s
    subst hm
    rcases mode_cases mode with ⟨h1, h2, h3, h⟩ | ⟨h1, h⟩ | ⟨h1, h2, h⟩ | ⟨h1, h2, h3, h⟩
    · simp only [h1, h2, h3, h, pybool, ↓reduceIte]; rfl
    all_goals
      simp only [*, pybool, ↓reduceIte, bind_setCtrl]
      simp only [M.bind, M.pure]
      cases st with
      | none => rfl
      | some t => simp only []; split <;> rfl
  clear hm
  subst hm'
  unfold constructAsync
  cases fArgs.ok
  · rfl
  cases onS.count with
  | error x => rfl
  | ok ns =>
  cases onC.count with
  | error x => rfl
  | ok nc =>
  cases onE.count with
  | error x => rfl
  | ok ne =>
  cases guard with
  | bad => rfl
  | none | period _ =>
    all_goals
      simp only [guardArg, bind_setGuard, bind_timePeriod]
      simp only [M.bind, M.pure, if_true]
      cases modeOf mode with
      | none => rfl
      | some m =>
        cases st with
        | none => rfl
        | some t =>
          simp only [bind, Except.bind, pure, Except.pure, Bool.not_true, Bool.false_eq_true, if_false]
          split <;> rfl

theorem ofunc_init_model (a : FuncArgs) :
    funcResult (ofunc_init (initP (if a.superOk then some 0 else none)) a.fArgs a.fKwargs a.onSuccess a.onError
        a.stopData () () {})
      = constructFunc a := by
  obtain ⟨fArgs, fKwargs, onS, onE, sd, sup⟩ := a
  unfold ofunc_init constructFunc
  simp only [bind_checkArg, bind_eventTuple, bind_setOnSuccess, bind_setOnError, bind_setCallable, bind_setFArgs,
    bind_setFKwargs, bind_setStopData, bind_superInit]
  cases fArgs.ok
  · rfl
  cases fKwargs.ok
  · rfl
  cases onS.count with
  | error x => rfl
  | ok ns =>
  cases onE.count with
  | error x => rfl
  | ok ne => cases sup <;> rfl

/-- exceptions of `_event_put`: the user's function raised exception number `e` (an Exception), or a KeyError
    of `data[k]` -/
inductive FExc where
  | user (e : Nat)
  | keyError (k : String)
  deriving DecidableEq, Repr

/-- the leaves of `OutputFunc` on the model's log; events name their destination by its index -/
def funcP (cfg : FuncCfg) (f : Func) (sdRun : M (List FEv) FExc (String × (FExc ⊕ Val)) (String × (FExc ⊕ Val))) :
    FuncPrims (List FEv) FExc Data Val Nat where
  getItem d k := match d.get? k with | some v => M.pure v | none => M.raise (.keyError k)
  callFunc args kwargs := fun log =>
    match f args kwargs with
    | .ok v => (log ++ [.call args kwargs], .next v)
    | .error e => (log ++ [.call args kwargs], .raise (.user e))
  excIs _ cls := cls == "Exception"
  sendError d e := match e with
    | .user n => M.modify fun log => log ++ [.error d n]
    | .keyError _ => M.pure ()
  sendSuccess d v := M.modify fun log => log ++ [.success d v]
  setOutputBool b := M.modify fun log => log ++ [.output b]
  hasStopData := cfg.stopData.isSome
  eventPutStopData := sdRun
  superStop := M.modify fun log => log ++ [.superStop]

/-- what the translated `_event_put` yields, as the model's result -/
def funcOut (o : Out FExc (String × (FExc ⊕ Val)) Unit) : Option FRes :=
  match o with
  | .ret ("result", .inr v) => some (.result v)
  | .ret ("error", .inl (.user e)) => some (.error e)
  | .raise (.keyError k) => some (.keyError k)
  | _ => none

theorem getItems_model (cfg : FuncCfg) (f : Func) (sd) (d : Data) (keys : List String) (log : List FEv) :
    getItems (funcP cfg f sd).getItem d keys log
      = match getAll d keys with
        | .ok vs => (log, .next vs)
        | .error k => (log, .raise (.keyError k)) := by
  induction keys with
  | nil => rfl
  | cons k ks ih =>
    simp only [getItems, getAll, M.bind]
    cases hk : d.get? k with
    | none => simp [funcP, hk, M.raise]
    | some v =>
      have hg : (funcP cfg f sd).getItem d k log = (log, .next v) := by simp [funcP, hk, M.pure]
      rw [hg]; simp only [ih]
      cases getAll d ks <;> simp [M.pure]

theorem getKwItems_model (cfg : FuncCfg) (f : Func) (sd) (d : Data) (keys : List String) (log : List FEv) :
    getKwItems (funcP cfg f sd).getItem d keys log
      = match getAllKw d keys with
        | .ok vs => (log, .next vs)
        | .error k => (log, .raise (.keyError k)) := by
  induction keys with
  | nil => rfl
  | cons k ks ih =>
    simp only [getKwItems, getAllKw, M.bind]
    cases hk : d.get? k with
    | none => simp [funcP, hk, M.raise]
    | some v =>
      have hg : (funcP cfg f sd).getItem d k log = (log, .next v) := by simp [funcP, hk, M.pure]
      rw [hg]; simp only [ih]
      cases getAllKw d ks <;> simp [M.pure]

theorem error_loop (cfg : FuncCfg) (f : Func) (sd) (fa fk : List String) (ds ss : List Nat) (e : Nat)
    (l : List Nat) (log : List FEv) :
    ofunc_event_put_for1 (funcP cfg f sd) fa fk ds ss (.user e) l log
      = (log ++ l.map (fun d => .error d e), .next ()) := by
  induction l generalizing log with
  | nil => simp [ofunc_event_put_for1, M.pure]
  | cons d l ih =>
    have hs : (funcP cfg f sd).sendError d (.user e) log = (log ++ [.error d e], .next ()) := rfl
    simp only [ofunc_event_put_for1, M.bind, hs, ih]
    simp

theorem success_loop (cfg : FuncCfg) (f : Func) (sd) (fa fk : List String) (ds ss : List Nat) (v : Val)
    (l : List Nat) (log : List FEv) :
    ofunc_event_put_for2 (funcP cfg f sd) fa fk ds ss v l log
      = (log ++ l.map (fun d => .success d v), .next ()) := by
  induction l generalizing log with
  | nil => simp [ofunc_event_put_for2, M.pure]
  | cons d l ih =>
    have hs : (funcP cfg f sd).sendSuccess d v log = (log ++ [.success d v], .next ()) := rfl
    simp only [ofunc_event_put_for2, M.bind, hs, ih]
    simp

/-- `self._event_put(**self._stop_data)` inside `stop()`: the model's `eventPut` on the stop data (that the
    translated `_event_put` IS `eventPut` is the theorem `translated_outputfunc_event_put_is_model`) -/
def sdRunModel (cfg : FuncCfg) (f : Func) : M (List FEv) FExc (String × (FExc ⊕ Val)) (String × (FExc ⊕ Val)) :=
  fun log =>
    match cfg.stopData with
    | none => (log, .next ("", .inr Val.none))
    | some d =>
      match eventPut cfg f log d with
      | (l, .keyError k) => (l, .raise (.keyError k))
      | (l, .result v) => (l, .next ("result", .inr v))
      | (l, .error e) => (l, .next ("error", .inl (.user e)))

/-- the leaves of `InExecutor.__call__`: a partial object is the function with its arguments bound;
    `run_in_executor(pool, g, *a)` runs `g(*a)` -/
def execP (f : Func) : ExecPrims (List XEv) Nat Val (List Val) Data Unit (List Val × Data) where
  enterPool := fun log => (log ++ [.enter], .next ())
  exitPool _ := M.modify fun log => log ++ [.exit]
  kwargsNonEmpty k := !k.isEmpty
  mkPartial a k := (a, k)
  runPartial _ p := fun log =>
    match f p.1 p.2 with
    | .ok v => (log ++ [.run p.1 p.2], .next v)
    | .error e => (log ++ [.run p.1 p.2], .raise e)
  runPlain _ a := fun log =>
    match f a [] with
    | .ok v => (log ++ [.run a []], .next v)
    | .error e => (log ++ [.run a []], .raise e)
  setFunc := M.pure ()
  setExecutor := M.pure ()

end Edzed.TrTie.OB
