/-
Lemmas for C16 (EdzedProps/C16.lean).  The dictionary operations of `DataEdit` are observed through `Data.get?`.
`stageNext` is the reading of one filter result; the filter loop `runFrom` is its left fold.  A `Delta` filter run on
a sequence of numbers is the scan `deltaFlags` of the one decision `deltaPass` (`callSeq_delta`); what a flag depends
on is said with `lastPassed`, and that consecutive passed values differ by `ChainFrom`.
-/
import EdzedModel.Filters
import EdzedProofs.DataLemmas

namespace Edzed.Filters

theorem get?_nil (k : String) : Data.get? [] k = none := rfl

theorem get?_eraseAll (keys : List String) (d : Data) (k : String) :
    Data.get? (eraseAll d keys) k = if k ∈ keys then none else Data.get? d k := by
  unfold eraseAll
  induction keys generalizing d with
  | nil => simp
  | cons a keys ih =>
    simp only [List.foldl_cons, ih, Data.get?_erase, List.mem_cons]
    by_cases h1 : k ∈ keys <;> by_cases h2 : k = a <;> simp [h1, h2]

theorem keepOnly_cons (p : String × Val) (d : Data) (keys : List String) :
    keepOnly (p :: d) keys = if p.1 ∈ keys then p :: keepOnly d keys else keepOnly d keys := by
  unfold keepOnly
  by_cases h : p.1 ∈ keys <;> simp [h]

theorem get?_keepOnly (keys : List String) (d : Data) (k : String) :
    Data.get? (keepOnly d keys) k = if k ∈ keys then Data.get? d k else none := by
  induction d with
  | nil => simp [keepOnly, get?_nil]
  | cons p d ih =>
    rw [keepOnly_cons]
    by_cases hp : p.1 ∈ keys
    · simp only [hp, if_true, Data.get?_cons, ih]; grind
    · simp only [hp, if_false, Data.get?_cons, ih]; grind

theorem get?_update (d kw : Data) (k : String) :
    Data.get? (update d kw) k = match Data.get? kw k with | some v => some v | none => Data.get? d k := by
  unfold update
  induction kw with
  | nil => simp [get?_nil]
  | cons p kw ih =>
    simp only [List.foldr_cons, Data.get?_set, Data.get?_cons, ih]
    by_cases h : k = p.1
    · simp [h]
    · have : ¬ p.1 = k := fun e => h e.symm
      simp [h, this]

theorem chain_append (env : Env) (a b : List EditOp) (d : Data) :
    chain env (a ++ b) d = (chain env a d >>= chain env b) := by
  induction a generalizing d with
  | nil => rfl
  | cons op a ih =>
    simp only [List.cons_append, chain]
    cases h : op.apply env d with
    | ok d' => simp only [ih]
    | error s => rfl

theorem chain_singleton (env : Env) (op : EditOp) (d : Data) :
    chain env [op] d = op.apply env d := by
  simp only [chain]
  cases op.apply env d <;> rfl

/-- the documented reading of one filter result: the data handed to the next stage, if any -/
def stageNext (env : Env) (f : Filter) (d : Data) : Option Data :=
  match (f.call env d).ret with
  | .mapping d' => some d'
  | .other v => if v.truthy then some (f.call env d).data else none
  | .badKey => none
  | .raise _ => none

theorem runFrom_cons_pass (env : Env) (f : Filter) (fs : List Filter) (d d' : Data)
    (h : stageNext env f d = some d') :
    runFrom env (f :: fs) d = ((f.call env d).filter :: (runFrom env fs d').1, (runFrom env fs d').2) := by
  unfold stageNext at h
  rw [runFrom]
  cases hr : (f.call env d).ret with
  | mapping m => rw [hr] at h; simp only [Option.some.injEq] at h; simp only [h]
  | other v =>
    rw [hr] at h
    by_cases hv : v.truthy = true
    · simp only [hv, if_true, Option.some.injEq] at h; simp only [hv, if_true, h]
    · simp [hv] at h
  | badKey => rw [hr] at h; cases h
  | raise e => rw [hr] at h; cases h

theorem runFrom_cons_stop (env : Env) (f : Filter) (fs : List Filter) (d : Data)
    (h : stageNext env f d = none) :
    (runFrom env (f :: fs) d).1 = (f.call env d).filter :: fs ∧
    ((runFrom env (f :: fs) d).2 = .rejected ∧ (∃ v, (f.call env d).ret = .other v ∧ v.truthy = false) ∨
     (∃ e, (runFrom env (f :: fs) d).2 = .error e ∧
        ((f.call env d).ret = .raise e ∨ (f.call env d).ret = .badKey ∧ e = .typeError))) := by
  unfold stageNext at h
  rw [runFrom]
  cases hr : (f.call env d).ret with
  | mapping m => rw [hr] at h; cases h
  | other v =>
    rw [hr] at h
    by_cases hv : v.truthy = true
    · simp [hv] at h
    · simp only [hv]; exact ⟨rfl, Or.inl ⟨rfl, v, rfl, by simpa using hv⟩⟩
  | badKey => exact ⟨rfl, Or.inr ⟨_, rfl, Or.inr ⟨rfl, rfl⟩⟩⟩
  | raise e => exact ⟨rfl, Or.inr ⟨_, rfl, Or.inl rfl⟩⟩

theorem runFrom_append (env : Env) (pre rest : List Filter) (d dk : Data)
    (h : pre.foldlM (fun d f => stageNext env f d) d = some dk) :
    ∃ pre', pre'.length = pre.length ∧
      runFrom env (pre ++ rest) d = (pre' ++ (runFrom env rest dk).1, (runFrom env rest dk).2) := by
  induction pre generalizing d with
  | nil =>
    have : d = dk := by simpa using h
    subst this
    exact ⟨[], rfl, rfl⟩
  | cons f pre ih =>
    rw [List.foldlM_cons] at h
    cases h1 : stageNext env f d with
    | none => rw [h1] at h; cases h
    | some d1 =>
      rw [h1] at h
      obtain ⟨pre', hl, hr⟩ := ih d1 h
      refine ⟨(f.call env d).filter :: pre', by simp [hl], ?_⟩
      rw [List.cons_append, runFrom_cons_pass env f _ d d1 h1, hr]
      rfl

/-- Delta's decision on a number, given the last number that passed (`none`: nothing has passed yet): the filter
    object as a function of what it remembers, over numbers, not event data -/
def deltaPass (δ : XNum) : Option XNum → XNum → Bool
  | none, _ => true
  | some l, v => XNum.le δ (XNum.abs (l.sub v))

/-- pass flags of a numeric sequence, `last` = the last passed value so far -/
def deltaFlags (δ : XNum) (last : Option XNum) : List XNum → List Bool
  | [] => []
  | v :: vs => deltaPass δ last v :: deltaFlags δ (if deltaPass δ last v then some v else last) vs

theorem deltaFlags_length (δ : XNum) (last : Option XNum) (vs : List XNum) :
    (deltaFlags δ last vs).length = vs.length := by
  induction vs generalizing last with
  | nil => rfl
  | cons v vs ih => simp only [deltaFlags, List.length_cons, ih]

/-- `_last` is assigned only when the value passes -/
theorem deltaCall_keeps_last_or_passes (δ : XNum) (last : Val) (d : Data) :
    (deltaCall δ last d).1 = last ∨ (deltaCall δ last d).2 = .other (.bool true) := by
  fun_cases deltaCall δ last d
  · exact .inl rfl
  · exact .inr rfl
  · exact .inr rfl
  · exact .inl rfl
  · exact .inl rfl

/-- the model's `_last` corresponds to the abstract last passed number -/
def LastIs (lastV : Val) (last : Option XNum) : Prop :=
  match last with
  | none => lastV = .undef
  | some l => lastV.isUndef = false ∧ xnumOf? lastV = some l

theorem xnumOf?_not_undef (v : Val) (x : XNum) (h : xnumOf? v = some x) : v.isUndef = false := by
  cases v <;> simp_all [xnumOf?, Val.isUndef]

theorem callSeq_delta (env : Env) (δ : XNum) (mk : XNum → Data)
    (hmk : ∀ x, ∃ v, (mk x).get? "value" = some v ∧ xnumOf? v = some x)
    (lastV : Val) (last : Option XNum) (hl : LastIs lastV last) (vs : List XNum) :
    callSeq env (.delta δ lastV) (vs.map mk) =
      (deltaFlags δ last vs).map (fun b => FRes.other (Val.bool b)) := by
  induction vs generalizing lastV last with
  | nil => rfl
  | cons x vs ih =>
    obtain ⟨v, hv, hx⟩ := hmk x
    have hvu := xnumOf?_not_undef v x hx
    have step : deltaCall δ lastV (mk x) =
        (if deltaPass δ last x then v else lastV, .other (Val.bool (deltaPass δ last x))) := by
      simp only [deltaCall, hv]
      cases last with
      | none =>
        have : lastV = .undef := hl
        subst this
        rfl
      | some l =>
        obtain ⟨hu, hlx⟩ := hl
        rw [show deltaPass δ (some l) x = XNum.le δ (XNum.abs (l.sub x)) from rfl]
        simp only [hu, Bool.false_eq_true, if_false, hlx, hx]
        cases XNum.le δ (XNum.abs (l.sub x)) <;> rfl
    simp only [List.map_cons, callSeq, Filter.call, step, deltaFlags]
    rw [ih]
    cases deltaPass δ last x
    · exact hl
    · exact ⟨hvu, hx⟩

def lastPassed (init : Option XNum) (l : List (XNum × Bool)) : Option XNum :=
  l.foldl (fun acc p => if p.2 then some p.1 else acc) init

theorem lastPassed_eq (init : Option XNum) (l : List (XNum × Bool)) :
    lastPassed init l = ((l.reverse.find? (·.2)).map (·.1)).or init := by
  induction l generalizing init with
  | nil => cases init <;> rfl
  | cons p l ih =>
    rw [lastPassed, List.foldl_cons, ← lastPassed, ih, List.reverse_cons, List.find?_append]
    cases l.reverse.find? (·.2) with
    | some q => rfl
    | none => cases hp : p.2 <;> simp [hp]

theorem lastPassed_none_iff (init : Option XNum) (l : List (XNum × Bool)) :
    lastPassed init l = none ↔ init = none ∧ ∀ p ∈ l, p.2 = false := by
  rw [lastPassed_eq]
  simp [Option.or_eq_none_iff, and_comm]

theorem lastPassed_some_iff (l : List (XNum × Bool)) (w : XNum) :
    lastPassed none l = some w ↔ ∃ l1 l2, l = l1 ++ (w, true) :: l2 ∧ ∀ p ∈ l2, p.2 = false := by
  rw [lastPassed_eq, Option.or_none, Option.map_eq_some_iff]
  constructor
  · rintro ⟨p, hp, rfl⟩
    obtain ⟨h2, as, bs, he, hn⟩ := List.find?_eq_some_iff_append.mp hp
    refine ⟨bs.reverse, as.reverse, ?_, fun q hq => ?_⟩
    · have := congrArg List.reverse he
      simp only [List.reverse_reverse, List.reverse_append, List.reverse_cons, List.append_assoc,
        List.singleton_append] at this
      rw [this, show p = (p.1, true) from Prod.ext rfl h2]
    · simpa using hn q (List.mem_reverse.mp hq)
  · rintro ⟨l1, l2, rfl, hf⟩
    refine ⟨(w, true), List.find?_eq_some_iff_append.mpr ⟨rfl, l2.reverse, l1.reverse, by simp, fun q hq => ?_⟩, rfl⟩
    simpa using hf q (List.mem_reverse.mp hq)

theorem absQ_neg (q : Rat) : absQ (-q) = absQ q := by
  unfold absQ
  grind

theorem absQ_ge_iff (δ x : Rat) : δ ≤ absQ x ↔ (δ ≤ x ∨ δ ≤ -x) := by
  unfold absQ
  grind

namespace XNum

theorem neg_sub (a b : XNum) : (a.sub b).neg = b.sub a := by
  cases a <;> cases b <;> simp [XNum.sub, XNum.neg]
  next x y => exact Rat.neg_sub ..

theorem abs_neg (x : XNum) : x.neg.abs = x.abs := by
  cases x <;> simp [XNum.abs, XNum.neg, absQ_neg]

theorem le_abs_iff (δ x : XNum) : le δ x.abs = true ↔ (le δ x = true ∨ le δ x.neg = true) := by
  cases δ <;> cases x <;> simp [XNum.le, XNum.abs, XNum.neg]
  next d q => exact absQ_ge_iff d q

theorem abs_sub_comm (a b : XNum) : (a.sub b).abs = (b.sub a).abs := by
  rw [← neg_sub b a, abs_neg]

end XNum

/-- `deltaPass` in the form of the statements of C16 -/
theorem deltaPass_iff (δ : XNum) (last : Option XNum) (v : XNum) :
    deltaPass δ last v = true ↔
      match last with
      | none => True
      | some w => XNum.le δ (v.sub w) = true ∨ XNum.le δ (w.sub v) = true := by
  cases last with
  | none => simp [deltaPass]
  | some l =>
    rw [deltaPass, XNum.le_abs_iff, XNum.neg_sub]
    exact Or.comm

theorem deltaFlags_spec (δ : XNum) (last : Option XNum) (vs : List XNum)
    (pre : List (XNum × Bool)) (v : XNum) (b : Bool) (post : List (XNum × Bool))
    (h : vs.zip (deltaFlags δ last vs) = pre ++ (v, b) :: post) :
    b = deltaPass δ (lastPassed last pre) v := by
  induction vs generalizing last pre with
  | nil => simp [deltaFlags] at h
  | cons v0 vs ih =>
    rw [deltaFlags, List.zip_cons_cons] at h
    cases pre with
    | nil =>
      simp only [List.nil_append, List.cons.injEq, Prod.mk.injEq] at h
      obtain ⟨⟨hv, hb⟩, _⟩ := h
      rw [← hv, ← hb]
      rfl
    | cons p pre =>
      simp only [List.cons_append, List.cons.injEq] at h
      obtain ⟨hp, hrest⟩ := h
      subst hp
      exact ih _ pre hrest

def passedOf (l : List (XNum × Bool)) : List XNum := l.filterMap (fun p => if p.2 then some p.1 else none)

/-- each element differs by at least `δ` from the one before it, the first from `last` if there is one -/
def ChainFrom (δ : XNum) : Option XNum → List XNum → Prop
  | _, [] => True
  | none, a :: r => ChainFrom δ (some a) r
  | some w, a :: r => (XNum.le δ (a.sub w) = true ∨ XNum.le δ (w.sub a) = true) ∧ ChainFrom δ (some a) r

theorem deltaFlags_chain (δ : XNum) (last : Option XNum) (vs : List XNum) :
    ChainFrom δ last (passedOf (vs.zip (deltaFlags δ last vs))) := by
  induction vs generalizing last with
  | nil => cases last <;> trivial
  | cons v vs ih =>
    rw [deltaFlags, List.zip_cons_cons, passedOf, List.filterMap_cons]
    cases hp : deltaPass δ last v
    · exact ih last
    · simp only [if_true]
      have := (deltaPass_iff δ last v).mp hp
      cases last with
      | none => exact ih (some v)
      | some l => exact ⟨this, ih (some v)⟩

theorem chainFrom_adjacent (δ : XNum) (last : Option XNum) (L l1 l2 : List XNum) (a c : XNum)
    (h : ChainFrom δ last L) (hs : L = l1 ++ a :: c :: l2) : XNum.le δ (c.sub a) = true ∨ XNum.le δ (a.sub c) = true := by
  induction l1 generalizing last L with
  | nil =>
    subst hs
    cases last with
    | none => exact h.1
    | some w => exact h.2.1
  | cons x l1 ih =>
    subst hs
    cases last with
    | none => exact ih (some x) _ h rfl
    | some w => exact ih (some x) _ h.2 rfl

end Edzed.Filters
