/-
The programs of `Gen/TranslatedBlkCtor.lean` (generated from the current source of the constructors and of the
circuit registry by tools/py2lean_blkctor.py), run with the primitives instantiated on the heap of
`EdzedModel/BlkCtor.lean`, ARE the model's functions (the theorems `translated_ctor_…_is_model` of EdzedProps/C14.lean):
the primitives, what each does on a state, and the sub-programs (the `x_…` loop, the tails after a join point).
-/
import EdzedProofs.BlkCtor
import EdzedModel.Gen.TranslatedBlkCtor

namespace Edzed.BlkCtorTie
open Edzed.BlkCtorPy Edzed.BlkCtor
open Edzed.Gen

def prims : CPrims World Nat XV Nat Member where
  className := fun w o => w.className o
  isInstance := fun w o k => w.isInstance o k
  setAttr := fun o k v w => w.setAttr o k v
  nameOf := fun w o => w.nameOf o
  current := fun w => w.current
  setCurrent := fun c w => { w with current := c }
  allocCircuit := fun w => ((w.alloc { cls := "Circuit", bases := ["Circuit"] }).1,
    .ok (w.alloc { cls := "Circuit", bases := ["Circuit"] }).2)
  newResolver := XV.resolver
  boundRegister := XV.register
  abort := fun c cls w => abort w c cls
  simtask := fun w c => simtask w c
  currentTask := fun w => (w, match w.curTask with
    | none => .error "RuntimeError"
    | some t => .ok t)
  findblock := fun c n w => (w, match findblock w c n with
    | none => .error "KeyError"
    | some b => .ok b)
  selfTypeBlocks := selfTypeBlocks
  eventTuple := fun a w => (w, eventTuple w a)
  addSelf := fun o w => addSelf w o
  newInputGetter := XV.inputGetter
  getattrM := fun o n w => (w, match lookup w o n with
    | none => .error "AttributeError"
    | some .propAttrError => .error "AttributeError"
    | some .propRuntimeError => .error "RuntimeError"
    | some m => .ok m)
  eqBound := fun a _ f => (a == .dummySync && f == "Block.dummy_method")
    || (a == .dummyAsync && f == "Block.dummy_async_method")
  callable := fun a => a != .data
  instancesGet := fun v w => (w,
    if !hashable v then .error "TypeError"
    else match (w.consts.find? fun p => keyEq p.1 v).map (·.2) with
      | none => .error "KeyError"
      | some o => .ok o)
  instancesSet := fun v o w => { w with consts := w.consts ++ [(v, o)] }
  objectNew := fun cls w => ((w.alloc { cls := cls, bases := [cls, "Const"] }).1,
    .ok (w.alloc { cls := cls, bases := [cls, "Const"] }).2)

section steps
variable {σ α β : Type}

@[simp] theorem bind_apply (m : M σ α) (k : α → M σ β) (s : σ) :
    M.bind m k s = match m s with
      | (s1, .ok a) => k a s1
      | (s1, .error e) => (s1, .error e) := rfl
@[simp] theorem pure_apply (a : α) (s : σ) : (M.pure a : M σ α) s = (s, .ok a) := rfl
@[simp] theorem gets_apply (f : σ → α) (s : σ) : M.gets f s = (s, .ok (f s)) := rfl
@[simp] theorem modify_apply (f : σ → σ) (s : σ) : M.modify f s = (f s, .ok ()) := rfl
@[simp] theorem raise_apply (e : PyExc) (s : σ) : (M.raise e : M σ α) s = (s, .error e) := rfl
@[simp] theorem tryCatch_apply (m : M σ α) (h : PyExc → M σ α) (s : σ) :
    M.tryCatch m h s = match m s with
      | (s1, .error e) => h e s1
      | p => p := rfl
theorem bind_pure (m : M σ α) : M.bind m M.pure = m := by
  funext s
  rw [bind_apply]
  rcases m s with ⟨s1, _ | _⟩ <;> rfl
theorem bind_pure_unit (m : M σ Unit) : (M.bind m fun _ => M.pure ()) = m := bind_pure m
@[simp] theorem deref_some (a : α) (s : σ) : (M.deref (some a) : M σ α) s = (s, .ok a) := rfl
@[simp] theorem deref_none (s : σ) : (M.deref (none : Option α) : M σ α) s = (s, .error "AttributeError") := rfl
end steps

@[simp] theorem p_className (w : World) (o : Nat) : prims.className w o = w.className o := rfl
@[simp] theorem p_isInstance (w : World) (o : Nat) (k : String) : prims.isInstance w o k = w.isInstance o k := rfl
@[simp] theorem p_setAttr (o : Nat) (k : String) (v : Attr) (w : World) : prims.setAttr o k v w = w.setAttr o k v := rfl
@[simp] theorem p_nameOf (w : World) (o : Nat) : prims.nameOf w o = w.nameOf o := rfl
@[simp] theorem p_current (w : World) : prims.current w = w.current := rfl
@[simp] theorem p_setCurrent (c : Option Nat) (w : World) : prims.setCurrent c w = { w with current := c } := rfl
@[simp] theorem p_allocCircuit (w : World) : prims.allocCircuit w =
    ((w.alloc { cls := "Circuit", bases := ["Circuit"] }).1, .ok (w.alloc { cls := "Circuit", bases := ["Circuit"] }).2) := rfl
@[simp] theorem p_newResolver (o : Nat) : prims.newResolver o = XV.resolver o := rfl
@[simp] theorem p_boundRegister (o : Nat) : prims.boundRegister o = XV.register o := rfl
@[simp] theorem p_abort (c : Nat) (k : String) (w : World) : prims.abort c k w = abort w c k := rfl
@[simp] theorem p_simtask (w : World) (c : Nat) : prims.simtask w c = simtask w c := rfl
@[simp] theorem p_currentTask (w : World) : prims.currentTask w = (w, match w.curTask with
    | none => .error "RuntimeError"
    | some t => .ok t) := rfl
@[simp] theorem p_findblock (c : Nat) (n : String) (w : World) : prims.findblock c n w = (w, match findblock w c n with
    | none => .error "KeyError"
    | some b => .ok b) := rfl
@[simp] theorem p_selfTypeBlocks (w : World) (o : Nat) : prims.selfTypeBlocks w o = selfTypeBlocks w o := rfl
@[simp] theorem p_eventTuple (a : Arg Nat) (w : World) : prims.eventTuple a w = (w, eventTuple w a) := rfl
@[simp] theorem p_addSelf (o : Nat) (w : World) : prims.addSelf o w = addSelf w o := rfl
@[simp] theorem p_newInputGetter (o : Nat) : prims.newInputGetter o = XV.inputGetter o := rfl
@[simp] theorem p_getattrM (o : Nat) (n : String) (w : World) : prims.getattrM o n w = (w, match lookup w o n with
    | none => .error "AttributeError"
    | some .propAttrError => .error "AttributeError"
    | some .propRuntimeError => .error "RuntimeError"
    | some m => .ok m) := rfl
@[simp] theorem p_eqBound (a : Member) (o : Nat) (f : String) : prims.eqBound a o f =
    ((a == .dummySync && f == "Block.dummy_method") || (a == .dummyAsync && f == "Block.dummy_async_method")) := rfl
@[simp] theorem p_callable (a : Member) : prims.callable a = (a != .data) := rfl
@[simp] theorem p_instancesGet (v : Arg Nat) (w : World) : prims.instancesGet v w = (w,
    if !hashable v then .error "TypeError"
    else match (w.consts.find? fun p => keyEq p.1 v).map (·.2) with
      | none => .error "KeyError"
      | some o => .ok o) := rfl
@[simp] theorem p_instancesSet (v : Arg Nat) (o : Nat) (w : World) :
    prims.instancesSet v o w = { w with consts := w.consts ++ [(v, o)] } := rfl
@[simp] theorem p_objectNew (cls : String) (w : World) : prims.objectNew cls w =
    ((w.alloc { cls := cls, bases := [cls, "Const"] }).1, .ok (w.alloc { cls := cls, bases := [cls, "Const"] }).2) := rfl

/-- `except Exception` catches a RuntimeError (read off the table of base classes) -/
theorem catches_exception_runtimeError : TrBC.catches "Exception" "RuntimeError" = true := by decide

theorem forM_cons {σ β : Type} (x : β) (r : List β) (f : β → M σ Unit) (s : σ) :
    M.forM (x :: r) f s = M.bind (f x) (fun _ => M.forM r f) s := rfl

/-- the loop over `**x_kwargs`, for any body that stores an `x_…` / `X_…` keyword and refuses every other one -/
theorem storeX_tie (self : Nat) (body : String × Arg Nat → M World Unit)
    (hb : ∀ x w, body x w =
      if goodKey x.1 then (w.setAttr self x.1 (.arg x.2), .ok ()) else (w, .error "TypeError"))
    (kw : Kw (Arg Nat)) : M.forM kw body = fun w => storeX w self kw := by
  funext w
  induction kw generalizing w with
  | nil => rfl
  | cons p r ih =>
    obtain ⟨k, v⟩ := p
    rw [forM_cons, bind_apply, hb, storeX_cons]
    cases goodKey k
    · rfl
    · exact ih _

theorem ite_bool (b : Bool) : (if b = true then true else false) = b := by cases b <;> rfl

theorem blockTail_tie (self : Nat) (name comment onOutput debug : Arg Nat) (xkw : Kw (Arg Nat)) (w : World) :
    TrBC.blockInit_j1 prims self name xkw comment debug onOutput w
      = blockTail w self name comment onOutput debug xkw := by
  unfold TrBC.blockInit_j1 blockTail
  rw [storeX_tie self _ ?hb]
  case hb =>
    -- the keyword test, however the program combines the two prefixes
    intro x w
    cases h1 : strStartsWith x.1 "x_" <;> cases h2 : strStartsWith x.1 "X_" <;>
      simp [goodKey, h1, h2]
  simp only [bind_pure_unit, bind_apply, modify_apply, gets_apply, p_setAttr, p_isInstance]
  generalize w.setAttr self "name" (AV.arg name) = w1
  cases w1.isInstance self "SBlock" <;> cases w1.isInstance self "CBlock" <;>
    simp only [Bool.not_true, Bool.not_false, Bool.and_true, Bool.and_false, Bool.false_eq_true, ↓reduceIte,
      Bool.and_self, raise_apply, bind_apply]
  all_goals
    cases hs : storeX w1 self xkw with
    | mk w2 r =>
      cases r with
      | error e => rfl
      | ok u =>
        simp only [modify_apply, p_setAttr, p_eventTuple, p_addSelf, ite_bool]
        generalize eventTuple _ onOutput = ev
        cases ev <;> rfl

theorem extTail_tie (self : Nat) (d etype source : Arg Nat) (w : World) :
    TrBC.extInit_j1 prims self d etype source w =
      if !isSBlock w d then (w, .error "TypeError")
      else
        match etype.str? with
        | none => (w, .error "TypeError")
        | some e =>
          if e == "" then (w, .error "TypeError")
          else
            match source.str? with
            | none => (w, .error "TypeError")
            | some s =>
              (((w.setAttr self "_dest" (.arg d)).setAttr self "_etype" (.arg etype)).setAttr self "_source"
                (.str (extSource s)), .ok ()) := by
  unfold TrBC.extInit_j1
  have hsb : argIsInstance prims w d "SBlock" = isSBlock w d := by cases d <;> rfl
  simp only [M.notM, bind_apply, gets_apply, pure_apply, hsb]
  cases isSBlock w d
  · rfl
  · simp only [Bool.not_true, Bool.false_eq_true, ↓reduceIte]
    rcases etype with v | o
    · rcases v with _ | a | l | l
      · rfl
      · cases a with
        | none => rfl
        | num q k => rfl
        | str e =>
          by_cases he : e = ""
          · subst he; rfl
          · have ht : Arg.truthy (Arg.val (Val.atom (Atom.str e)) : Arg Nat) = true := by
              simp [Arg.truthy, Val.truthy, Atom.truthy, he]
            have hs1 : Arg.isStr (Arg.val (Val.atom (Atom.str e)) : Arg Nat) = true := rfl
            have hs2 : Arg.str? (Arg.val (Val.atom (Atom.str e)) : Arg Nat) = some e := rfl
            simp only [hs1, hs2, ht, Bool.not_true, Bool.or_self, Bool.false_eq_true, ↓reduceIte, beq_iff_eq, he]
            cases source.str? with
            | none => rfl
            | some s => rfl
      · rfl
      · rfl
    · rfl

theorem constInit_tie (o : Nat) (v : Arg Nat) (w : World) :
    TrBC.constInit prims o v w =
      if v.isUndef then (w, .error "ValueError") else (w.setAttr o "_output" (.arg v), .ok ()) := by
  unfold TrBC.constInit
  cases v.isUndef <;> rfl

end Edzed.BlkCtorTie
