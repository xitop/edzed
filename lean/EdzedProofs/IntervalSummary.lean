/-
C13: "these endpoint notations denote these ranges", element by element.  Core Lean only.
-/
import EdzedModel.Interval

namespace Edzed.Interval

/-- every pair of endpoint notations (strings in any notation, integer sequences) converts to the corresponding
    range – for a string `convert k (.str s)` is `convertStr k s` by definition, and `convertStr k s = .ok e` is the
    conclusion of each notation theorem -/
def Denotes (k : Kind) : List (EpIn × EpIn) → List Range → Prop
  | [], [] => True
  | n :: ns, r :: rs => (convert k n.1 = .ok r.1 ∧ convert k n.2 = .ok r.2) ∧ Denotes k ns rs
  | _, _ => False

theorem Denotes.parseRanges {k : Kind} : ∀ {l : List (EpIn × EpIn)} {rs : List Range}, Denotes k l rs →
    parseRanges k (l.map fun n => RangeIn.seq [n.1, n.2]) = .ok rs
  | [], [], _ => rfl
  | n :: ns, r :: rs, h => by
    have ih := Denotes.parseRanges h.2
    simp only [List.map_cons, Interval.parseRanges, parseRange, h.1.1, h.1.2, ih]
    rfl
  | [], _ :: _, h => h.elim
  | _ :: _, [], h => h.elim

end Edzed.Interval
