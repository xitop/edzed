/-
C05: tie of the model's `initBody` / `syncPhase` / `check` to the translated `Circuit.init_sblock`,
`_init_sblocks_sync_1`, `_init_sblocks_sync_2` (EdzedModel/Gen/TranslatedInitSb.lean, tools/py2lean_initsb.py).
Reference programs written by hand in named parts: the translated `init_sblock` is DEFINITIONALLY `isbRef`, the two
loops are their reference programs by induction on the generated loop functions (EdzedProps/C05.lean), so every
semantic edit of the methods changes the generated text and breaks that.  With the primitives as operations of the
model (`isbPrims`), `init_sblock` is the model's `initBody` with the code's stop test (`isbRef_code`), which agrees
with `initBody` (`init_agree`) in runs in which no routine calls `Circuit.abort()`: after an abort the Python code
goes on while the model stops (the start-up has failed, nothing it still does is observed).
-/
import EdzedModel.Init
import EdzedModel.Gen.TranslatedInitSb
import EdzedProofs.Init
import EdzedProofs.TrdRun

namespace Edzed.Init

open Edzed.Gen.TrD Edzed.Gen.TrI

section reference
variable {σ ε β : Type} (P : InitPrims σ ε β)

def stepOnePart (blk : β) : M σ ε Unit Unit :=
  M.bind (P.setSteps blk (-1 : Int)) fun _ =>
  M.bind (
    M.bind M.get fun st =>
    if (P.hasPersistence blk && P.persistent st blk) then
      M.bind (P.initFromPersistentData blk) fun _ =>
      M.bind M.get fun st =>
      if P.isInitialized st blk then
        M.pure ()
      else
        M.pure ()
    else
      M.pure ()
  ) fun (_ : Unit) =>
  M.bind (P.setSteps blk (1 : Int)) fun _ =>
  M.pure ()

def stepTwoPart (blk : β) : M σ ε Unit Unit :=
  M.bind (P.setSteps blk (-2 : Int)) fun _ =>
  M.bind (P.initRegular blk) fun _ =>
  M.bind (
    M.bind M.get fun st =>
    if ((!P.isInitialized st blk) && P.hasInitFromValue blk && P.initdefGiven blk) then
      M.bind (P.initFromValue blk) fun _ =>
      M.pure ()
    else
      M.pure ()
  ) fun (_ : Unit) =>
  M.bind (P.setSteps blk (2 : Int)) fun _ =>
  M.pure ()

/-- `except Exception as err: add_note(...); raise` -/
def reraise (exc_ : ε) : M σ ε Unit Unit :=
  if P.excIs exc_ "Exception" then M.raise exc_ else M.raise exc_

/-- `Circuit.init_sblock(blk, full)` -/
def isbRef (blk : β) (full : Bool) : M σ ε Unit Unit :=
  M.bind M.get fun st =>
  let steps := P.steps st blk
  M.bind (
    M.tryExcept (
      M.bind (
        if decide (steps = (0 : Int)) then stepOnePart P blk else M.pure ()
      ) fun (_ : Unit) =>
      if (decide (steps = (1 : Int)) || (decide (steps = (0 : Int)) && full)) then stepTwoPart P blk
      else M.pure ()
    ) (reraise P)
  ) fun (_ : Unit) =>
  M.pure ()

/-- `for blk in self.getblocks(SBlock): self.init_sblock(blk, full=False)` -/
def initLoop : List β → M σ ε Unit Unit
  | [] => M.pure ()
  | blk :: rest_ => M.bind (P.initSblock blk false) fun _ => initLoop rest_

/-- `for blk in …: if not blk.is_initialized(): raise EdzedCircuitError(…not initialized)` -/
def checkLoop : List β → M σ ε Unit Unit
  | [] => M.pure ()
  | blk :: rest_ =>
    M.bind M.get fun st =>
    if (!P.isInitialized st blk) then M.raise (P.mkExc "EdzedCircuitError" "notInit") else checkLoop rest_

def saveLoop : List β → M σ ε Unit Unit
  | [] => M.pure ()
  | blk :: rest_ => M.bind (P.savePersistentState blk) fun _ => saveLoop rest_

def drainLoop : Nat → M σ ε Unit Unit
  | 0 => M.diverge
  | fuel + 1 =>
    M.bind M.get fun st =>
    if (!P.queueEmpty st) then M.bind (P.queueGet) fun _ => drainLoop fuel else M.pure ()

def sync1Ref : M σ ε Unit Unit :=
  M.bind (initLoop P P.sblocks) fun (_ : Unit) => M.pure ()

def sync2Ref (fuel : Nat) : M σ ε Unit Unit :=
  M.bind (initLoop P P.sblocks) fun (_ : Unit) =>
  M.bind (checkLoop P P.sblocks) fun (_ : Unit) =>
  M.bind (
    M.bind M.get fun st =>
    if P.hasStorage st then
      M.bind (saveLoop P P.pblocks) fun (_ : Unit) => M.pure ()
    else
      M.pure ()
  ) fun (_ : Unit) =>
  M.bind (drainLoop P fuel) fun (_ : Unit) =>
  M.pure ()

end reference

/-- a model operation (the exception in flight is a field of the state) as an action of the monad -/
def lift (f : St → St) : M St Err Unit Unit := fun s =>
  match (f s).exc with
  | some e => ((f s).swallow, .raise e)
  | Option.none => (f s, .next ())

/-- the outcome of a translated program as a model state -/
def runM (m : M St Err Unit Unit) (s : St) : St :=
  match m s with
  | (t, .next _) => t
  | (t, .ret _) => t
  | (t, .raise e) => t.raise e
  | (t, .diverged) => (t.push .fuelOut).raise .fuel

/-- `init_from_persistent_data()`: nothing without a saved entry; every exception is suppressed -/
def persistCall (c : Cfg) (rec : Call → St → St) (b : Nat) (a : St) : St :=
  match (c.blk b).persist with
  | .none => a
  | .raises => a.push (.restore b)
  | .restores v how => (rec (applyCall how b v) (a.push (.restore b))).swallow

/-- `init_regular()` -/
def regularCall (c : Cfg) (rec : Call → St → St) (b : Nat) (s : St) : St :=
  regularBody c rec b (s.push (.regular b))

/-- `init_from_value(initdef)` -/
def initFromValueCall (c : Cfg) (rec : Call → St → St) (b : Nat) (s : St) : St :=
  match (c.blk b).initdef with
  | some (v, how) => rec (applyCall how b v) (s.push (.initdef b (s.out b).isUndef))
  | Option.none => s

/-- `rec` = the nested calls.  Outside the model (instantiated as absent): the storage (`persistent_dict is None`),
    `save_persistent_state`, the queue of changed blocks (empty) -/
def isbPrims (c : Cfg) (rec : Call → St → St) : InitPrims St Err Nat where
  steps := fun s b => s.steps b
  setSteps := fun b k => M.modify fun s => s.setSteps b k
  hasPersistence := fun b => decide ((c.blk b).persist ≠ .none)
  persistent := fun _ _ => true
  initFromPersistentData := fun b => lift (persistCall c rec b)
  isInitialized := fun s b => !(s.out b).isUndef
  initRegular := fun b => lift (regularCall c rec b)
  hasInitFromValue := fun b => (c.blk b).initdef.isSome
  initdefGiven := fun b => (c.blk b).initdef.isSome
  initFromValue := fun b => lift (initFromValueCall c rec b)
  excIs := fun _ _ => true
  mkExc := fun _ tag => if tag = "notInit" then .notInit else .routine
  sblocks := List.range c.n
  pblocks := []
  initSblock := fun b full => lift (rec (.initS b full))
  hasStorage := fun _ => false
  savePersistentState := fun _ => M.pure ()
  queueEmpty := fun _ => true
  queueGet := M.pure ()

variable (c : Cfg) (rec : Call → St → St) (b : Nat)

theorem lift_none (f : St → St) (s : St) (h : (f s).exc = Option.none) : lift f s = (f s, .next ()) := by
  unfold lift; rw [h]

theorem lift_some (f : St → St) (s : St) (e : Err) (h : (f s).exc = some e) :
    lift f s = ((f s).swallow, .raise e) := by
  unfold lift; rw [h]

theorem swallow_raise (t : St) (e : Err) (h : t.exc = some e) : t.swallow.raise e = t := by
  cases t; simp_all [St.swallow, St.raise]

/-- `runM` on the result pair (`runM_eq`) -/
def fin (p : St × Out Err Unit Unit) : St :=
  match p with
  | (t, .next _) => t
  | (t, .ret _) => t
  | (t, .raise e) => t.raise e
  | (t, .diverged) => (t.push .fuelOut).raise .fuel

theorem runM_eq (m : M St Err Unit Unit) (s : St) : runM m s = fin (m s) := by
  unfold runM fin
  rcases m s with ⟨t, o⟩
  cases o <;> rfl

theorem lift_fin (f : St → St) (s : St) : fin (lift f s) = f s := by
  cases hx : (f s).exc with
  | none => rw [lift_none _ _ hx]; rfl
  | some e => rw [lift_some _ _ e hx]; exact swallow_raise _ e hx

theorem andThen_lift (f : St → St) (k : Unit → M St Err Unit Unit) (s : St) :
    andThen k (lift f s) = if (f s).exc.isSome then lift f s else k () (f s) := by
  unfold lift
  cases (f s).exc <;> rfl

theorem fin_ite (c : Prop) [Decidable c] (p q : St × Out Err Unit Unit) :
    fin (if c then p else q) = if c then fin p else fin q := by split <;> rfl

theorem persistCall_exc (a : St) (h : a.exc = Option.none) :
    (persistCall c rec b a).exc = Option.none := by
  unfold persistCall
  split
  · exact h
  · exact h
  · rfl

theorem step1_exc (s : St) (h : s.exc = Option.none) :
    (step1 c rec b s).exc = Option.none :=
  persistCall_exc c rec b (s.setSteps b (-1)) h

theorem stepOne_model (s : St) (h : s.exc = Option.none) :
    stepOnePart (isbPrims c rec) b s = (step1 c rec b s, .next ()) := by
  have e1 : step1 c rec b s = (persistCall c rec b (s.setSteps b (-1))).setSteps b 1 := rfl
  have hx := persistCall_exc c rec b (s.setSteps b (-1)) h
  rw [e1]
  unfold stepOnePart
  by_cases hp : (c.blk b).persist = .none
  · have : persistCall c rec b (s.setSteps b (-1)) = s.setSteps b (-1) := by unfold persistCall; rw [hp]
    simp [M.bind, M.modify, M.get, M.pure, isbPrims, hp, this]
  · simp [M.bind, M.modify, M.get, M.pure, isbPrims, hp, lift_none _ _ hx]

/-! The code stops at an exception only, the model at an exception or an abort. -/

def step2Code (s : St) : St :=
  let a := regularBody c rec b ((s.setSteps b (-2)).push (.regular b))
  if a.exc.isSome then a else
  let a' := initdefBody c rec b a
  if a'.exc.isSome then a' else a'.setSteps b 2

/-- `init_sblock` as the code runs it: no look at the error register between the steps -/
def initCode (full : Bool) (s : St) : St :=
  let s1 := if s.steps b = 0 then step1 c rec b s else s
  if s.steps b = 1 ∨ (s.steps b = 0 ∧ full = true) then step2Code c rec b s1 else s1

theorem initdef_call (a : St) :
    (if (a.out b).isUndef = true ∧ (c.blk b).initdef.isSome = true
      then initFromValueCall c rec b a else a) = initdefBody c rec b a := by
  unfold initFromValueCall initdefBody
  cases hd : (c.blk b).initdef with
  | none => simp
  | some p => obtain ⟨v, how⟩ := p; cases hu : (a.out b).isUndef <;> simp [hu]

theorem stepTwo_fin (s1 : St) :
    fin (stepTwoPart (isbPrims c rec) b s1) = step2Code c rec b s1 := by
  unfold stepTwoPart step2Code
  -- the outcome of each routine is decided before the program runs: `M.bind` is a `match` on it
  generalize ha : regularBody c rec b ((s1.setSteps b (-2)).push (.regular b)) = a
  have hreg : regularCall c rec b (s1.setSteps b (-2)) = a := ha
  cases hx : a.exc with
  | some e =>
    have hl := lift_some (regularCall c rec b) (s1.setSteps b (-2)) e (by rw [hreg]; exact hx)
    rw [hreg] at hl
    simp [M.bind, M.modify, isbPrims, hl, fin, swallow_raise a e hx, hx]
  | none =>
    have hl := lift_none (regularCall c rec b) (s1.setSteps b (-2)) (by rw [hreg]; exact hx)
    rw [hreg] at hl
    have hid := initdef_call c rec b a
    by_cases hc : (a.out b).isUndef = true ∧ (c.blk b).initdef.isSome = true
    · rw [if_pos hc] at hid
      cases hx' : (initdefBody c rec b a).exc with
      | some e' =>
        have hl2 := lift_some (initFromValueCall c rec b) a e' (by rw [hid]; exact hx')
        rw [hid] at hl2
        simp [M.bind, M.modify, M.get, isbPrims, hl, hc, hl2, fin, swallow_raise _ e' hx', hx, hx']
      | none =>
        have hl2 := lift_none (initFromValueCall c rec b) a (by rw [hid]; exact hx')
        rw [hid] at hl2
        simp [M.bind, M.modify, M.get, M.pure, isbPrims, hl, hc, hl2, hx', hx, fin]
    · rw [if_neg hc] at hid
      have hx' : (initdefBody c rec b a).exc = Option.none := by rw [← hid]; exact hx
      simp [M.bind, M.modify, M.get, M.pure, isbPrims, hl, hc, hx, fin, ← hid]

theorem reraise_eq (e : Err) : reraise (isbPrims c rec) e = M.raise e := by
  unfold reraise; simp [isbPrims]

theorem tryExcept_reraise (m : M St Err Unit Unit) (s : St) :
    M.tryExcept m (reraise (isbPrims c rec)) s = m s := by
  unfold M.tryExcept
  rcases h : m s with ⟨t, o⟩
  cases o <;> simp [reraise_eq, M.raise]

theorem isbRef_code (full : Bool) (s : St)
    (hexc : s.exc = Option.none) : runM (isbRef (isbPrims c rec) b full) s = initCode c rec b full s := by
  rw [runM_eq]
  unfold isbRef initCode
  have hst : (isbPrims c rec).steps s b = s.steps b := rfl
  -- one pass; step 2 is not entered: only where its outcome goes matters
  simp only [tryExcept_reraise, trd, hst, stepOne_model c rec b s hexc, andThen_pure_unit, fin_ite, decide_eq_true_eq,
    Bool.or_eq_true, Bool.and_eq_true, stepTwo_fin]
  by_cases h0 : s.steps b = 0 <;> simp only [h0, if_true, if_false] <;> split <;> rfl

/-- `Circuit.abort()` is never undone by a nested call -/
def AbortSticky (rec : Call → St → St) : Prop := ∀ call s, s.aborted = true → (rec call s).aborted = true

theorem applyCall_sticky {rec : Call → St → St} (h : AbortSticky rec) (how : How) (b : Nat) (v : Val) (s : St)
    (hs : s.aborted = true) : (rec (applyCall how b v) s).aborted = true := h _ _ hs

theorem initdefBody_sticky (h : AbortSticky rec) (b : Nat) (a : St)
    (ha : a.aborted = true) : (initdefBody c rec b a).aborted = true := by
  rcases initdefBody_cases c rec b a with ⟨e, _⟩ | ⟨v, how, _, _, e⟩ <;> rw [e]
  · exact ha
  · exact h _ _ ha

theorem regularBody_sticky (h : AbortSticky rec) (b : Nat) (a : St)
    (ha : a.aborted = true) : (regularBody c rec b a).aborted = true := by
  unfold regularBody
  split
  · exact ha
  · exact h _ _ ha
  · exact h _ _ ha
  · exact ha
  · split <;> exact ha

/-- how the code's result `k` relates to the model's `m`: the same, unless the model stopped at an abort -- then
    the code, which still runs the remaining routines, ends aborted as well (`P`: nested calls keep the register
    set); the start-up fails either way and nothing the code still does is looked at -/
def Agree (P : Prop) (m k : St) : Prop :=
  (m.aborted = false → k = m) ∧ (P → m.aborted = true → k.aborted = true)

theorem Agree.refl (P : Prop) (m : St) : Agree P m m := ⟨fun _ => rfl, fun _ h => h⟩

/-- after a routine the model goes on iff `ok`, the code iff no exception: the same unless the routine aborted -/
theorem stop_agree (P : Prop) (a : St) (g g' : St → St) (hs : P → a.aborted = true → (g' a).aborted = true)
    (hg : a.ok = true → Agree P (g a) (g' a)) :
    Agree P (if !a.ok then a else g a) (if a.exc.isSome then a else g' a) := by
  cases hok : a.ok with
  | true => rw [((ok_iff a).mp hok).1]; exact hg hok
  | false =>
    refine ⟨fun hna => ?_, fun hp hab => ?_⟩
    · cases hx : a.exc with
      | none => rw [(ok_iff a).mpr ⟨hx, hna⟩] at hok; cases hok
      | some e => rfl
    · split
      · exact hab
      · exact hs hp hab

theorem step2Tail_sticky (hst : AbortSticky rec) (b : Nat) (a : St) (ha : a.aborted = true) :
    (if (initdefBody c rec b a).exc.isSome then initdefBody c rec b a
      else (initdefBody c rec b a).setSteps b 2).aborted = true := by
  have := initdefBody_sticky c rec hst b a ha
  split <;> exact this

theorem step2Code_sticky (hst : AbortSticky rec) (b : Nat) (s : St) (hs : s.aborted = true) :
    (step2Code c rec b s).aborted = true := by
  have hr := regularBody_sticky c rec hst b ((s.setSteps b (-2)).push (.regular b)) hs
  unfold step2Code
  dsimp only
  split
  · exact hr
  · exact step2Tail_sticky c rec hst b _ hr

theorem step2_agree (s : St) : Agree (AbortSticky rec) (step2 c rec b s) (step2Code c rec b s) := by
  unfold step2Code step2
  dsimp only
  generalize regularBody c rec b ((s.setSteps b (-2)).push (.regular b)) = a
  exact stop_agree _ a
    (fun a => if !(initdefBody c rec b a).ok then initdefBody c rec b a else (initdefBody c rec b a).setSteps b 2)
    (fun a => if (initdefBody c rec b a).exc.isSome then initdefBody c rec b a
      else (initdefBody c rec b a).setSteps b 2) (fun hst => step2Tail_sticky c rec hst b a)
    (fun _ => stop_agree _ (initdefBody c rec b a) (fun a' => a'.setSteps b 2) (fun a' => a'.setSteps b 2)
      (fun _ h => h) (fun _ => Agree.refl _ _))

/-- `init_sblock`: step 1 cannot leave an exception behind, so the code and the model enter step 2 together
    unless step 1 aborted -/
theorem init_agree (full : Bool) (s : St) (hexc : s.exc = Option.none) :
    Agree (AbortSticky rec) (initBody c rec b full s) (initCode c rec b full s) := by
  unfold initCode initBody
  dsimp only
  have hx1 : (if s.steps b = 0 then step1 c rec b s else s).exc = Option.none := by
    split
    · exact step1_exc c rec b s hexc
    · exact hexc
  generalize (if s.steps b = 0 then step1 c rec b s else s) = s1 at hx1 ⊢
  by_cases hc : s.steps b = 1 ∨ (s.steps b = 0 ∧ full = true)
  · rw [if_pos hc]
    by_cases hk : s1.ok = true
    · rw [if_pos ⟨hc, hk⟩]; exact step2_agree c rec b s1
    · rw [if_neg (fun h => hk h.2)]
      exact ⟨fun hna => absurd ((ok_iff s1).mpr ⟨hx1, hna⟩) hk, fun hst hab => step2Code_sticky c rec hst b s1 hab⟩
  · rw [if_neg hc, if_neg (fun h => hc h.1)]; exact Agree.refl _ _

/-- the loop ends at the first exception; a state with an exception in flight is a fixed point of `exec` -/
theorem initLoop_lift (l : List Nat) : ∀ s, s.exc = Option.none →
    initLoop (isbPrims c (exec c c.fuel)) l s
      = lift (fun s => l.foldl (fun s b => exec c c.fuel (.initS b false) s) s) s := by
  induction l with
  | nil => intro s hs; exact (lift_none (fun s => s) s hs).symm
  | cons b r ih =>
    intro s _
    have hp : (isbPrims c (exec c c.fuel)).initSblock b false = lift (exec c c.fuel (.initS b false)) := rfl
    simp only [initLoop, bind_run, hp, andThen_lift]
    split
    · next hx =>
      unfold lift
      simp only [List.foldl, foldl_exec_not_ok c r _ (show (exec c c.fuel (.initS b false) s).ok = false by
        cases he : (exec c c.fuel (.initS b false) s).exc <;> simp_all [St.ok])]
    · next hx => exact ih _ (by simpa using hx)

theorem checkLoop_model (l : List Nat) (t : St) :
    checkLoop (isbPrims c rec) l t =
      if l.all (fun b => !(t.out b).isUndef) then (t, .next ()) else (t, .raise .notInit) := by
  induction l with
  | nil => rfl
  | cons b r ih =>
    have hib : (isbPrims c rec).isInitialized t b = !(t.out b).isUndef := rfl
    have hmk : (isbPrims c rec).mkExc "EdzedCircuitError" "notInit" = Err.notInit := by simp [isbPrims]
    simp only [checkLoop, M.bind, M.get, List.all_cons, hib, hmk]
    by_cases hu : (t.out b).isUndef = true
    · simp [hu, M.raise]
    · have hu' : (t.out b).isUndef = false := by simpa using hu
      simp only [hu', Bool.not_false, Bool.not_true, Bool.false_eq_true, if_false, Bool.true_and]
      exact ih

end Edzed.Init
