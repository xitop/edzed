/-
The invariants of the model EdzedModel/OutputAsync.lean that the theorems of C12 (EdzedProps/C12.lean) read off.

Every transition of the model (`settle`, `fire`, `expire`, the passing of time, `accept`, `acceptLate`, `doStop`)
is a sequence of atomic steps (`Atom`: twelve, each with the facts that hold where the model takes it), so every
state of every script is reached from the initial state by atomic steps (`run_reach`), and an invariant is
checked once against the atomic steps (`Reach.inv`): `CountInv`, `SdInv`, `Balanced`, `UniqInv`, `Shape`, `LogOK`,
`Sep`, `StartAt`, `SdLast`, `TInv`, `LateInv`.
-/
import EdzedModel.OutputAsync
import EdzedProofs.ListLoops

namespace Edzed.OutputAsync


/-- the job that `drain` finally starts -/
def lastJob (j : Job) : List Job → Job
  | [] => j
  | k :: q => lastJob k q

/-- the state after `drain` has reported every job but the last as cancelled -/
def discards (s : State) (j : Job) : List Job → State
  | [] => s
  | k :: q => discards (emit s (.canc j)) k q

theorem drain_eq (s : State) (j : Job) (q : List Job) :
    drain s j q = startRun (discards s j q) (lastJob j q) := by
  induction q generalizing s j with
  | nil => rfl
  | cons k q ih => simp [drain, discards, lastJob, ih]

theorem pick_spec {t : Nat} {rs a b : List Run} {r : Run} (h : pick t rs = some (a, r, b)) :
    rs = a ++ r :: b ∧ r.till = t := by
  induction rs generalizing a with
  | nil => simp [pick] at h
  | cons x xs ih =>
    simp only [pick] at h
    split at h
    · next hx => simp at h; obtain ⟨rfl, rfl, rfl⟩ := h; simp [hx]
    · split at h
      · next a' x' b' hp =>
        simp at h; obtain ⟨rfl, rfl, rfl⟩ := h
        have := ih hp; simp [this.1, this.2]
      · simp at h

@[simp] theorem emit_runs (s : State) (e : Ev) : (emit s e).runs = s.runs := rfl
@[simp] theorem emit_queue (s : State) (e : Ev) : (emit s e).queue = s.queue := rfl
@[simp] theorem emit_output (s : State) (e : Ev) : (emit s e).output = s.output := rfl
@[simp] theorem emit_now (s : State) (e : Ev) : (emit s e).now = s.now := rfl
@[simp] theorem emit_stopped (s : State) (e : Ev) : (emit s e).stopped = s.stopped := rfl
@[simp] theorem emit_sdPending (s : State) (e : Ev) : (emit s e).sdPending = s.sdPending := rfl
@[simp] theorem emit_nacc (s : State) (e : Ev) : (emit s e).nacc = s.nacc := rfl
@[simp] theorem emit_deadline (s : State) (e : Ev) : (emit s e).deadline = s.deadline := rfl
@[simp] theorem emit_log (s : State) (e : Ev) : (emit s e).log = (s.now, e) :: s.log := rfl

theorem discards_eq (s : State) (j : Job) (q : List Job) :
    discards s j q = { s with log := (discards s j q).log } := by
  induction q generalizing s j with
  | nil => rfl
  | cons k q ih => rw [discards, ih]; rfl

@[simp] theorem discards_runs (s : State) (j : Job) (q : List Job) : (discards s j q).runs = s.runs := by
  rw [discards_eq]
@[simp] theorem discards_queue (s : State) (j : Job) (q : List Job) : (discards s j q).queue = s.queue := by
  rw [discards_eq]
@[simp] theorem discards_now (s : State) (j : Job) (q : List Job) : (discards s j q).now = s.now := by
  rw [discards_eq]
@[simp] theorem discards_stopped (s : State) (j : Job) (q : List Job) : (discards s j q).stopped = s.stopped := by
  rw [discards_eq]
@[simp] theorem discards_sdPending (s : State) (j : Job) (q : List Job) :
    (discards s j q).sdPending = s.sdPending := by
  rw [discards_eq]
@[simp] theorem discards_deadline (s : State) (j : Job) (q : List Job) :
    (discards s j q).deadline = s.deadline := by
  rw [discards_eq]

@[simp] theorem startRun_runs (s : State) (j : Job) :
    (startRun s j).runs = s.runs ++ [⟨j, true, s.now + j.data.dur⟩] := rfl
@[simp] theorem startRun_queue (s : State) (j : Job) : (startRun s j).queue = s.queue := rfl
@[simp] theorem startRun_output (s : State) (j : Job) : (startRun s j).output = s.output + 1 := rfl
@[simp] theorem startRun_now (s : State) (j : Job) : (startRun s j).now = s.now := rfl
@[simp] theorem startRun_stopped (s : State) (j : Job) : (startRun s j).stopped = s.stopped := rfl
@[simp] theorem startRun_sdPending (s : State) (j : Job) : (startRun s j).sdPending = s.sdPending := rfl
@[simp] theorem startRun_nacc (s : State) (j : Job) : (startRun s j).nacc = s.nacc := rfl
@[simp] theorem startRun_deadline (s : State) (j : Job) : (startRun s j).deadline = s.deadline := rfl
@[simp] theorem startRun_log (s : State) (j : Job) :
    (startRun s j).log = (s.now, .start j) :: (s.now, .out (s.output + 1)) :: s.log := rfl

@[simp] theorem countDown_runs (s : State) : (countDown s).runs = s.runs := rfl
@[simp] theorem countDown_queue (s : State) : (countDown s).queue = s.queue := rfl
@[simp] theorem countDown_output (s : State) : (countDown s).output = s.output - 1 := rfl
@[simp] theorem countDown_now (s : State) : (countDown s).now = s.now := rfl
@[simp] theorem countDown_stopped (s : State) : (countDown s).stopped = s.stopped := rfl
@[simp] theorem countDown_sdPending (s : State) : (countDown s).sdPending = s.sdPending := rfl
@[simp] theorem countDown_nacc (s : State) : (countDown s).nacc = s.nacc := rfl
@[simp] theorem countDown_deadline (s : State) : (countDown s).deadline = s.deadline := rfl
@[simp] theorem countDown_log (s : State) : (countDown s).log = (s.now, .out (s.output - 1)) :: s.log := rfl

theorem startAll_eq (s : State) (q : List Job) :
    startAll s q = { s with runs := s.runs ++ q.map (fun j => ⟨j, true, s.now + j.data.dur⟩),
                            output := s.output + q.length, log := (startAll s q).log } := by
  induction q generalizing s with
  | nil => simp [startAll]
  | cons j q ih =>
    rw [startAll, ih]
    simp [startRun, emit, Nat.add_assoc, Nat.add_comm 1]

@[simp] theorem startAll_queue (s : State) (q : List Job) : (startAll s q).queue = s.queue := by
  rw [startAll_eq]
@[simp] theorem startAll_sdPending (s : State) (q : List Job) : (startAll s q).sdPending = s.sdPending := by
  rw [startAll_eq]
@[simp] theorem startAll_deadline (s : State) (q : List Job) : (startAll s q).deadline = s.deadline := by
  rw [startAll_eq]
theorem startAll_runs (s : State) (q : List Job) :
    (startAll s q).runs = s.runs ++ q.map (fun j => ⟨j, true, s.now + j.data.dur⟩) := by
  rw [startAll_eq]

@[simp] theorem acceptLate_runs (s : State) (x : Item) : (acceptLate s x).runs = s.runs := rfl
@[simp] theorem acceptLate_queue (s : State) (x : Item) : (acceptLate s x).queue = s.queue := rfl
@[simp] theorem acceptLate_output (s : State) (x : Item) : (acceptLate s x).output = s.output := rfl
@[simp] theorem acceptLate_now (s : State) (x : Item) : (acceptLate s x).now = s.now := rfl
@[simp] theorem acceptLate_stopped (s : State) (x : Item) : (acceptLate s x).stopped = s.stopped := rfl
@[simp] theorem acceptLate_sdPending (s : State) (x : Item) : (acceptLate s x).sdPending = s.sdPending := rfl
@[simp] theorem acceptLate_nacc (s : State) (x : Item) : (acceptLate s x).nacc = s.nacc := rfl
@[simp] theorem acceptLate_deadline (s : State) (x : Item) : (acceptLate s x).deadline = s.deadline := rfl
@[simp] theorem acceptLate_stopAt (s : State) (x : Item) : (acceptLate s x).stopAt = s.stopAt := rfl
@[simp] theorem acceptLate_log (s : State) (x : Item) :
    (acceptLate s x).log = (s.now, Ev.late ⟨s.nacc + s.late.length, x⟩) :: s.log := rfl

@[simp] theorem expire_queue (c : Cfg) (s : State) (d : Nat) : (expire c s d).queue = s.queue := rfl
@[simp] theorem expire_output (c : Cfg) (s : State) (d : Nat) : (expire c s d).output = s.output := rfl
@[simp] theorem expire_stopped (c : Cfg) (s : State) (d : Nat) : (expire c s d).stopped = s.stopped := rfl
@[simp] theorem expire_sdPending (c : Cfg) (s : State) (d : Nat) : (expire c s d).sdPending = s.sdPending := rfl
@[simp] theorem expire_nacc (c : Cfg) (s : State) (d : Nat) : (expire c s d).nacc = s.nacc := rfl
@[simp] theorem expire_now (c : Cfg) (s : State) (d : Nat) : (expire c s d).now = max s.now d := rfl
@[simp] theorem expire_deadline (c : Cfg) (s : State) (d : Nat) : (expire c s d).deadline = none := rfl
@[simp] theorem expire_runs (c : Cfg) (s : State) (d : Nat) :
    (expire c s d).runs = s.runs.map (toGuard c (max s.now d)) := rfl
theorem expire_log (c : Cfg) (s : State) (d : Nat) :
    (expire c s d).log = expireEvents (max s.now d) s.runs ((max s.now d, Ev.timeout) :: s.log) := rfl

@[simp] theorem toGuard_coro (c : Cfg) (now : Nat) (r : Run) : (toGuard c now r).coro = false := by
  unfold toGuard; split <;> simp_all

@[simp] theorem toGuard_job (c : Cfg) (now : Nat) (r : Run) : (toGuard c now r).job = r.job := by
  unfold toGuard; split <;> rfl

theorem toGuard_of_guard (c : Cfg) (now : Nat) (r : Run) (h : r.coro = false) : toGuard c now r = r := by
  unfold toGuard; simp [h]

theorem expireEvents_append (now : Nat) (rs : List Run) (l : List (Nat × Ev)) :
    expireEvents now rs l = expireEvents now rs [] ++ l := by
  induction rs generalizing l with
  | nil => rfl
  | cons r rs ih =>
    simp only [expireEvents]
    rw [ih, ih (if r.coro = true then _ else [])]
    split <;> simp

theorem expireEvents_mem {now : Nat} {rs : List Run} {x : Nat × Ev} :
    x ∈ expireEvents now rs [] ↔
      ∃ r ∈ rs, r.coro = true ∧ (x = (now, Ev.cancelled r.job) ∨ x = (now, Ev.canc r.job)) := by
  induction rs with
  | nil => simp [expireEvents]
  | cons r rs ih =>
    simp only [expireEvents]
    rw [expireEvents_append, List.mem_append, ih]
    by_cases hc : r.coro = true
    · simp only [hc, if_true, List.mem_cons, List.not_mem_nil, or_false]
      constructor
      · rintro (⟨r', hr', h1, h2⟩ | h | h)
        · exact ⟨r', Or.inr hr', h1, h2⟩
        · exact ⟨r, Or.inl rfl, hc, Or.inr h⟩
        · exact ⟨r, Or.inl rfl, hc, Or.inl h⟩
      · rintro ⟨r', hr', h1, h2⟩
        rcases hr' with rfl | hr'
        · rcases h2 with h2 | h2
          · exact Or.inr (Or.inr h2)
          · exact Or.inr (Or.inl h2)
        · exact Or.inl ⟨r', hr', h1, h2⟩
    · simp only [hc]
      constructor
      · rintro (⟨r', hr', h1, h2⟩ | h)
        · exact ⟨r', List.mem_cons_of_mem _ hr', h1, h2⟩
        · simp at h
      · rintro ⟨r', hr', h1, h2⟩
        rcases List.mem_cons.mp hr' with rfl | hr'
        · exact absurd h1 hc
        · exact Or.inl ⟨r', hr', h1, h2⟩

theorem expire_timeout_mem (c : Cfg) (s : State) (d : Nat) :
    (max s.now d, Ev.timeout) ∈ (expire c s d).log :=
  expire_log c s d ▸ expireEvents_append _ _ _ ▸ List.mem_append_right _ (List.mem_cons_self ..)

theorem settle_cases (c : Cfg) (s : State) (P : State → Prop)
    (h_id : P s)
    (h_wait : c.mode = Mode.wait → ∀ j q, s.runs = [] → s.queue = j :: q →
      P (startRun { s with queue := q } j))
    (h_drain : c.mode = Mode.cancel → ∀ j q, s.runs = [] → s.queue = j :: q →
      P (startRun (discards { s with queue := [] } j q) (lastJob j q)))
    (h_cancel : c.mode = Mode.cancel → ∀ j q r rest, s.queue = j :: q → s.runs = r :: rest →
      r.coro = true → P (cancelCur c s r rest))
    (h_start : c.mode = Mode.start → P (startStopData (startAll { s with queue := [] } s.queue))) :
    P (settle c s) := by
  unfold settle
  split
  · next hm =>
    split
    · next j q hr hq => exact h_wait hm j q hr hq
    · exact h_id
  · next hm =>
    split
    · exact h_id
    · next j q hq =>
      split
      · next hr => rw [drain_eq]; exact h_drain hm j q hr hq
      · next r rest hr =>
        split
        · next hc => exact h_cancel hm j q r rest hq hr hc
        · exact h_id
  · next hm => exact h_start hm

/-- the state in which the coroutine of `r` has just ended -/
def afterCoro (s : State) (t : Nat) (r : Run) : State :=
  emit (emit { s with now := max s.now t } (.done r.job))
    (if r.job.data.fail then .err r.job else .succ r.job)

theorem fire_cases (c : Cfg) (s : State) (t : Nat) (P : State → Prop)
    (h_id : pick t s.runs = none → P s)
    (h_guard : ∀ a r b, s.runs = a ++ r :: b → r.till = t → r.coro = true → 0 < c.guard →
      P { afterCoro s t r with runs := a ++ { r with coro := false, till := max s.now t + c.guard } :: b })
    (h_fin1 : ∀ a r b, s.runs = a ++ r :: b → r.till = t → r.coro = true → c.guard = 0 →
      P (finishRun c (afterCoro s t r) a b))
    (h_fin2 : ∀ a r b, s.runs = a ++ r :: b → r.till = t → r.coro = false →
      P (finishRun c { s with now := max s.now t } a b)) :
    P (fire c s t) := by
  unfold fire
  split
  · next hp => exact h_id hp
  · next a r b hp =>
    obtain ⟨hrs, ht⟩ := pick_spec hp
    split
    · next hc =>
      unfold coroEnd
      by_cases hg : 0 < c.guard
      · simp only [hg, if_true]; exact h_guard a r b hrs ht hc hg
      · simp only [gt_iff_lt, hg, if_false]; exact h_fin1 a r b hrs ht hc (by omega)
    · next hc => exact h_fin2 a r b hrs ht (by simpa using hc)

def runCost (r : Run) : Nat := if r.coro then 2 else 1

def sdCost (o : Option Job) : Nat := if o.isSome then 2 else 0

def dlCost (o : Option Nat) : Nat := if o.isSome then 1 else 0

theorem measure_def (s : State) :
    measure s = 2 * s.queue.length + (s.runs.map runCost).sum + sdCost s.sdPending + dlCost s.deadline := rfl

theorem sum_runCost_started (t : Nat) (q : List Job) :
    (q.map (fun j => runCost ⟨j, true, t + j.data.dur⟩)).sum = 2 * q.length := by
  induction q with
  | nil => rfl
  | cons j q ih => simp only [List.map_cons, List.sum_cons, ih, List.length_cons]; simp [runCost]; omega

theorem startStopData_measure (s : State) : measure (startStopData s) ≤ measure s := by
  unfold startStopData
  split
  · next j hj =>
    split
    · simp [measure_def, hj, runCost, sdCost, List.sum_append]; omega
    · exact Nat.le_refl _
  · exact Nat.le_refl _

theorem settle_measure (c : Cfg) (s : State) : measure (settle c s) ≤ measure s := by
  apply settle_cases c s (fun s' => measure s' ≤ measure s)
  · exact Nat.le_refl _
  · intro _ j q hr hq; simp [measure_def, hr, hq, runCost]; omega
  · intro _ j q hr hq; simp [measure_def, hr, hq, runCost]; omega
  · intro _ j q r rest hq hr hc; simp [measure_def, cancelCur, hr, hq, runCost, hc]
  · intro _
    refine Nat.le_trans (startStopData_measure _) ?_
    simp only [measure_def, startAll_runs, List.map_append, List.sum_append, List.map_map, Function.comp_def,
      startAll_queue, startAll_sdPending, sum_runCost_started]
    simp; omega

theorem finishRun_measure (c : Cfg) (s : State) (a b : List Run) (r : Run) (hrs : s.runs = a ++ r :: b) :
    measure (finishRun c s a b) < measure s := by
  refine Nat.lt_of_le_of_lt (settle_measure _ _) ?_
  have : 1 ≤ runCost r := by unfold runCost; split <;> omega
  simp [measure_def, hrs, List.sum_append]
  omega

theorem fire_measure (c : Cfg) (s : State) (t : Nat) (h : (pick t s.runs).isSome) :
    measure (fire c s t) < measure s := by
  apply fire_cases c s t (fun s' => measure s' < measure s)
  · intro hp; simp [hp] at h
  · intro a r b hrs _ hc _
    simp [measure_def, afterCoro, hrs, List.sum_append, runCost, hc]
  · intro a r b hrs _ _ _
    exact finishRun_measure c (afterCoro s t r) a b r (by simpa [afterCoro] using hrs)
  · intro a r b hrs _ _
    exact finishRun_measure c { s with now := max s.now t } a b r (by simpa using hrs)

theorem minTill_pick (rs : List Run) (m : Nat) (h : minTill rs = some m) : (pick m rs).isSome := by
  induction rs generalizing m with
  | nil => simp [minTill] at h
  | cons r rs ih =>
    simp only [minTill] at h
    simp only [pick]
    split
    · rfl
    · next hne =>
      split at h
      · simp at h; exact absurd h hne
      · next m' hm' =>
        simp at h
        have : m = m' := by omega
        subst this
        have := ih m hm'
        split <;> simp_all

theorem minTill_none (rs : List Run) (h : minTill rs = none) : rs = [] := by
  cases rs with
  | nil => rfl
  | cons r rs => simp only [minTill] at h; split at h <;> simp at h

theorem measure_zero_runs (s : State) (h : measure s = 0) : s.runs = [] := by
  cases hr : s.runs with
  | nil => rfl
  | cons r rs =>
    have : 1 ≤ runCost r := by unfold runCost; split <;> omega
    simp [measure_def, hr] at h; omega

theorem toGuard_cost (c : Cfg) (now : Nat) (rs : List Run) :
    ((rs.map (toGuard c now)).map runCost).sum ≤ (rs.map runCost).sum := by
  induction rs with
  | nil => simp
  | cons r rs ih =>
    have : runCost (toGuard c now r) ≤ runCost r := by
      unfold toGuard runCost; split <;> simp_all
    simp only [List.map_cons, List.sum_cons]; omega

theorem expire_measure (c : Cfg) (s : State) (d : Nat) (h : s.deadline.isSome) :
    measure (expire c s d) < measure s := by
  have := toGuard_cost c (max s.now d) s.runs
  have hd : dlCost s.deadline = 1 := by simp [dlCost, h]
  have hn : dlCost (none : Option Nat) = 0 := rfl
  simp only [measure_def, expire_queue, expire_runs, expire_sdPending, expire_deadline, hd, hn]
  omega

theorem deadlineFirst_some {s : State} {m d : Nat} (h : deadlineFirst s m = some d) : s.deadline = some d := by
  unfold deadlineFirst at h
  split at h
  · next d' hd' => split at h <;> simp_all
  · cases h

/-- after the controller has run nothing startable is left waiting -/
def Quiet (c : Cfg) (s : State) : Prop :=
  (c.mode = Mode.wait → s.runs = [] → s.queue = []) ∧
  (c.mode = Mode.cancel → (s.runs = [] → s.queue = []) ∧
      (∀ r rest, s.runs = r :: rest → r.coro = true → s.queue = [])) ∧
  (c.mode = Mode.start → s.queue = [] ∧ (s.sdPending.isSome → s.stopped = true → s.runs ≠ []))

theorem startStopData_quiet (c : Cfg) (s : State) (hm : c.mode = Mode.start) (hq : s.queue = []) :
    Quiet c (startStopData s) := by
  refine ⟨by simp [hm], by simp [hm], fun _ => ?_⟩
  unfold startStopData
  split
  · next j hj =>
    split
    · simp [hq]
    · next hc =>
      refine ⟨hq, fun _ hst hr => ?_⟩
      simp [hst, hr] at hc
  · next hn => simp [hn, hq]

theorem settle_quiet (c : Cfg) (s : State) : Quiet c (settle c s) := by
  -- not by `settle_cases`: where `settle` does nothing, the facts that rule the other branches out are what is needed
  unfold settle
  split
  · next hm =>
    split
    · simp [Quiet, hm]
    · next hno =>
      refine ⟨fun _ hr => ?_, by simp [hm], by simp [hm]⟩
      cases hq : s.queue with
      | nil => rfl
      | cons j q => exact absurd hq (hno j q hr)
  · next hm =>
    split
    · next hq => simp [Quiet, hm, hq]
    · next j q hq =>
      split
      · simp [Quiet, hm, drain_eq]
      · next r rest hr =>
        split
        · simp [Quiet, hm, cancelCur]
        · next hc => simp [Quiet, hm, hr]; intro h; exact absurd h hc
  · next hm => exact startStopData_quiet c _ hm (by simp)

theorem fire_quiet (c : Cfg) (s : State) (t : Nat) (h : Quiet c s) : Quiet c (fire c s t) := by
  apply fire_cases
  · intro _; exact h
  · intro a r b hrs _ _ _
    obtain ⟨h1, h2, h3⟩ := h
    refine ⟨fun _ hr => by simp at hr, fun hm => ⟨fun hr => by simp at hr, ?_⟩, fun hm => ?_⟩
    · intro r0 rest hr0 hc0
      cases a with
      | nil => simp at hr0; rw [← hr0.1] at hc0; simp at hc0
      | cons x a' =>
        simp at hr0
        exact (h2 hm).2 x (a' ++ r :: b) (by simp [hrs]) (by rw [hr0.1]; exact hc0)
    · exact ⟨by simpa [afterCoro] using (h3 hm).1, fun _ _ => by simp⟩
  · intro a r b _ _ _ _; exact settle_quiet _ _
  · intro a r b _ _ _; exact settle_quiet _ _

theorem expire_quiet (c : Cfg) (s : State) (d : Nat) (h : Quiet c s) : Quiet c (expire c s d) := by
  obtain ⟨h1, h2, h3⟩ := h
  refine ⟨fun hm hr => ?_, fun hm => ⟨fun hr => ?_, ?_⟩, fun hm => ⟨(h3 hm).1, fun hp hs hr => ?_⟩⟩
  · exact h1 hm (by simpa using hr)
  · exact (h2 hm).1 (by simpa using hr)
  · intro r rest hr hc
    have : r ∈ (expire c s d).runs := by rw [hr]; simp
    simp only [expire_runs, List.mem_map] at this
    obtain ⟨r0, _, rfl⟩ := this
    simp at hc
  · exact (h3 hm).2 hp hs (by simpa using hr)

def resultEv (j : Job) : Ev := if j.data.fail then .err j else .succ j

/-- The atomic steps.  Every transition of the model is a sequence of them (`Reach`), each with the
    facts that hold where the model takes it.  Only `tick` lets time pass: a firing timer is `tick` followed
    by `coroEnd` or `finish` (with guard time 0 by both), an expiry is `tick` followed by `timeout` and one
    `cancel` per running coroutine; their hypotheses `ht` say that the time has been advanced already. -/
inductive Atom (c : Cfg) : State → State → Prop
  /-- the controller starts the head of the queue -/
  | startQ {s : State} (j : Job) (q : List Job) (hq : s.queue = j :: q)
      (hr : c.mode ≠ Mode.start → s.runs = []) (hl : c.mode = Mode.cancel → q = []) :
      Atom c s (startRun { s with queue := q } j)
  /-- `stop_async` starts stop_data -/
  | startSd {s : State} (j : Job) (hm : c.mode = Mode.start) (hp : s.sdPending = some j)
      (hst : s.stopped = true) (hr : s.runs = []) (hq : s.queue = []) :
      Atom c s (startRun { s with sdPending := none } j)
  /-- cancel mode: a queued item is discarded for a newer one -/
  | discard {s : State} (j k : Job) (q : List Job) (hm : c.mode = Mode.cancel) (hr : s.runs = [])
      (hq : s.queue = j :: k :: q) : Atom c s (emit { s with queue := k :: q } (.canc j))
  /-- a running coroutine is cancelled: in cancel mode by the controller, because a newer item has arrived
      (the model's `cancelCur`), in any mode by the expiry of stop_timeout in this instant; its shielded guard
      sleep begins -/
  | cancel {s : State} (a : List Run) (r : Run) (b : List Run) (hr : s.runs = a ++ r :: b) (hc : r.coro = true)
      (hwhy : (c.mode = Mode.cancel ∧ a = [] ∧ ∃ j q, s.queue = j :: q) ∨ (s.now, Ev.timeout) ∈ s.log) :
      Atom c s { emit (emit s (.cancelled r.job)) (.canc r.job) with
        runs := a ++ { r with coro := false, till := s.now + c.guard } :: b }
  /-- a coroutine comes to its end; its guard sleep begins (it may be empty) -/
  | coroEnd {s : State} (a : List Run) (r : Run) (b : List Run) (hr : s.runs = a ++ r :: b) (hc : r.coro = true)
      (ht : r.till ≤ s.now) :
      Atom c s { emit (emit s (.done r.job)) (resultEv r.job) with
        runs := a ++ { r with coro := false, till := s.now + c.guard } :: b }
  /-- a guard sleep is over: the output task ends -/
  | finish {s : State} (a : List Run) (r : Run) (b : List Run) (hr : s.runs = a ++ r :: b) (hc : r.coro = false)
      (ht : r.till ≤ s.now) : Atom c s (countDown { s with runs := a ++ b })
  /-- stop_timeout expires while some run is still active: the marker is logged, the deadline disarmed -/
  | timeout {s : State} (d : Nat) (hd : s.deadline = some d) (hr : s.runs ≠ []) (ht : d ≤ s.now) :
      Atom c s { s with deadline := none, log := (s.now, .timeout) :: s.log }
  /-- time passes; the controller has nothing left to do -/
  | tick {s : State} (t : Nat) (hq : Quiet c s) : Atom c s { s with now := max s.now t }
  /-- a put before `stop()` -/
  | accept {s : State} (x : Item) (hst : s.stopped = false) : Atom c s (accept s x)
  /-- a put after `stop()`: queued behind the sentinel -/
  | late {s : State} (x : Item) (hst : s.stopped = true) : Atom c s (acceptLate s x)
  /-- `stop()` without stop_data, or outside start mode after stop_data has been queued as the newest item
      (it has just been accepted: `nacc ≥ 1` and its number is `nacc - 1`) -/
  | mark {s : State} (hst : s.stopped = false)
      (hsd : ∀ d, c.stopData = some d → c.mode ≠ Mode.start ∧ ∃ q0, s.queue = q0 ++ [⟨s.nacc - 1, d⟩]) :
      Atom c s { s with stopped := true, deadline := some (s.now + c.stopTimeout), stopAt := some s.now }
  /-- `stop()` in start mode with stop_data -/
  | stopSd {s : State} (d : Item) (hst : s.stopped = false) (hm : c.mode = Mode.start)
      (hd : c.stopData = some d) :
      Atom c s { emit { s with sdPending := some ⟨s.nacc, d⟩, nacc := s.nacc + 1 } (.put ⟨s.nacc, d⟩) with
        stopped := true, deadline := some (s.now + c.stopTimeout), stopAt := some s.now }

inductive Reach (c : Cfg) (s : State) : State → Prop
  | refl : Reach c s s
  | step {s' s'' : State} : Reach c s s' → Atom c s' s'' → Reach c s s''

theorem Reach.trans {c : Cfg} {s s' s'' : State} (h1 : Reach c s s') (h2 : Reach c s' s'') : Reach c s s'' := by
  induction h2 with
  | refl => exact h1
  | step _ a ih => exact ih.step a

theorem Atom.reach {c : Cfg} {s s' : State} (h : Atom c s s') : Reach c s s' := Reach.refl.step h

theorem queue_self {s : State} {q : List Job} (h : s.queue = q) : { s with queue := q } = s := by
  subst h; rfl

theorem drain_reach (c : Cfg) (hm : c.mode = Mode.cancel) (q : List Job) (s : State) (j : Job)
    (hr : s.runs = []) (hq : s.queue = j :: q) : Reach c s (drain { s with queue := [] } j q) := by
  induction q generalizing s j with
  | nil => exact (Atom.startQ j [] hq (fun _ => hr) (fun _ => rfl)).reach
  | cons k q ih => exact (Atom.discard j k q hm hr hq).reach.trans (ih _ k hr rfl)

theorem startAll_reach (c : Cfg) (hm : c.mode = Mode.start) (q : List Job) (s : State) (hq : s.queue = q) :
    Reach c s (startAll { s with queue := [] } q) := by
  induction q generalizing s with
  | nil =>
    rw [startAll, queue_self hq]; exact Reach.refl
  | cons j q ih =>
    exact (Atom.startQ j q hq (fun h => absurd hm h) (fun h => by rw [hm] at h; cases h)).reach.trans (ih _ rfl)

theorem settle_reach (c : Cfg) (s : State) : Reach c s (settle c s) := by
  apply settle_cases c s (Reach c s)
  · exact Reach.refl
  · intro hm j q hr hq
    exact (Atom.startQ j q hq (fun _ => hr) (fun h => by rw [hm] at h; cases h)).reach
  · intro hm j q hr hq
    rw [← drain_eq]; exact drain_reach c hm q s j hr hq
  · intro hm j q r rest hq hr hc
    exact (Atom.cancel [] r rest hr hc (Or.inl ⟨hm, rfl, j, q, hq⟩)).reach
  · intro hm
    refine (startAll_reach c hm s.queue s rfl).trans ?_
    unfold startStopData
    split
    · next j hj =>
      split
      · next hc =>
        simp only [Bool.and_eq_true, List.isEmpty_iff] at hc
        exact (Atom.startSd j hm hj hc.1 hc.2 (startAll_queue _ _)).reach
      · exact Reach.refl
    · exact Reach.refl

theorem fire_reach (c : Cfg) (s : State) (t : Nat) (hq : Quiet c s) : Reach c s (fire c s t) := by
  have h0 : Reach c s { s with now := max s.now t } := (Atom.tick t hq).reach
  apply fire_cases c s t (Reach c s)
  · intro _; exact Reach.refl
  · intro a r b hrs ht hc _
    -- `afterCoro` spells the result event out, `Atom.coroEnd` says `resultEv`: the same state by `rfl`
    exact h0.step (Atom.coroEnd (s := { s with now := max s.now t }) a r b hrs hc (ht ▸ Nat.le_max_right _ _))
  · intro a r b hrs ht hc hg
    refine ((h0.step (Atom.coroEnd (s := { s with now := max s.now t }) a r b hrs hc
      (ht ▸ Nat.le_max_right _ _))).step (Atom.finish a _ b rfl rfl ?_)).trans (settle_reach c _)
    show max s.now t + c.guard ≤ max s.now t
    omega
  · intro a r b hrs ht hc
    exact (h0.step (Atom.finish (s := { s with now := max s.now t }) a r b hrs hc
      (ht ▸ Nat.le_max_right _ _))).trans (settle_reach c _)

theorem cancelAll_reach (c : Cfg) (todo : List Run) (s : State) (done : List Run) (hr : s.runs = done ++ todo)
    (hto : (s.now, Ev.timeout) ∈ s.log) :
    Reach c s { s with runs := done ++ todo.map (toGuard c s.now), log := expireEvents s.now todo s.log } := by
  induction todo generalizing s done with
  | nil =>
    have : ({ s with runs := done ++ [].map (toGuard c s.now), log := expireEvents s.now [] s.log } : State) = s := by
      simp only [List.map_nil, ← hr, expireEvents]
    rw [this]; exact Reach.refl
  | cons r todo ih =>
    by_cases hc : r.coro = true
    · have h1 := (Atom.cancel (c := c) done r todo hr hc (Or.inr hto)).reach
      generalize hs1 : ({ emit (emit s (.cancelled r.job)) (.canc r.job) with
        runs := done ++ { r with coro := false, till := s.now + c.guard } :: todo } : State) = s1 at h1
      have h2 := ih s1 (done ++ [{ r with coro := false, till := s.now + c.guard }]) (by simp [← hs1])
        (by simp [← hs1, hto])
      simpa [← hs1, expireEvents, toGuard, hc, emit] using h1.trans h2
    · simpa [expireEvents, toGuard, hc] using ih s (done ++ [r]) (by simp [hr]) hto

theorem expire_reach (c : Cfg) (s : State) (d : Nat) (hq : Quiet c s) (hd : s.deadline = some d)
    (hr : s.runs ≠ []) : Reach c s (expire c s d) :=
  (((Atom.tick d hq).reach.step (Atom.timeout (c := c) d hd hr (Nat.le_max_right _ _))).trans
    (cancelAll_reach c s.runs _ [] rfl (List.mem_cons_self ..)))

theorem doStop_reach (c : Cfg) (s : State) : Reach c s (doStop c s) := by
  unfold doStop
  split
  · exact Reach.refl
  · next hst =>
    have hst : s.stopped = false := by simpa using hst
    split
    · next hd => exact (Atom.mark hst (fun d h => by rw [hd] at h; cases h)).reach
    · next d hd =>
      split
      · next hm => exact (Atom.stopSd d hst hm hd).reach
      · next hm =>
        refine (Atom.accept d hst).reach.step (Atom.mark hst fun d' h => ?_)
        rw [hd] at h; cases h
        exact ⟨hm, s.queue, rfl⟩

/-- the loop is a chain of atomic steps and leaves the controller quiet; without a bound it goes on until no run is
    left: the fuel suffices, every round lowers `measure` -/
theorem advance_reach (c : Cfg) (bound : Option (Nat × Bool)) (fuel : Nat) (s : State) (hq : Quiet c s) :
    Reach c s (advance c bound fuel s) ∧ Quiet c (advance c bound fuel s) ∧
    (bound = none → measure s ≤ fuel → (advance c bound fuel s).runs = []) := by
  induction fuel generalizing s with
  | zero => exact ⟨Reach.refl, hq, fun _ h => measure_zero_runs s (by omega)⟩
  | succ n ih =>
    simp only [advance]
    split
    · next m hm =>
      split
      · next d hd =>
        split
        · have hdl := deadlineFirst_some hd
          have hne : s.runs ≠ [] := by intro hr; rw [hr] at hm; cases hm
          have hlt := expire_measure c s d (by simp [hdl])
          have := ih _ (expire_quiet c s d hq)
          exact ⟨(expire_reach c s d hq hdl hne).trans this.1, this.2.1, fun hb h => this.2.2 hb (by omega)⟩
        · next hdue => exact ⟨Reach.refl, hq, fun hb _ => by subst hb; exact absurd rfl hdue⟩
      · split
        · have hlt := fire_measure c s m (minTill_pick _ _ hm)
          have := ih _ (fire_quiet c s m hq)
          exact ⟨(fire_reach c s m hq).trans this.1, this.2.1, fun hb h => this.2.2 hb (by omega)⟩
        · next hdue => exact ⟨Reach.refl, hq, fun hb _ => by subst hb; exact absurd rfl hdue⟩
    · next hm => exact ⟨Reach.refl, hq, fun _ _ => minTill_none _ hm⟩

theorem advanceTo_reach (c : Cfg) (bound : Option (Nat × Bool)) (s : State) : Reach c s (advanceTo c bound s) := by
  have h := advance_reach c bound (measure (settle c s)) _ (settle_quiet c s)
  have h1 := (settle_reach c s).trans h.1
  unfold advanceTo
  cases bound with
  | none => exact h1
  | some b => exact h1.step (Atom.tick b.1 h.2.1)

theorem step_reach (c : Cfg) (s : State) (op : Op) : Reach c s (step c s op) := by
  cases op with
  | put t pre batch x =>
    have h1 : Reach c s (if batch = true then s else advanceTo c (some (t, !pre)) s) := by
      split
      · exact Reach.refl
      · exact advanceTo_reach c _ s
    show Reach c s (if (if batch = true then s else advanceTo c (some (t, !pre)) s).stopped = true
      then acceptLate _ x else accept _ x)
    generalize (if batch = true then s else advanceTo c (some (t, !pre)) s) = s1 at h1
    split
    · next hs => exact h1.step (Atom.late x hs)
    · next hs => exact h1.step (Atom.accept x (by simpa using hs))
  | stop t pre batch =>
    refine Reach.trans ?_ (doStop_reach c _)
    show Reach c s (if batch = true then s else advanceTo c (some (t, !pre)) s)
    split
    · exact Reach.refl
    · exact advanceTo_reach c _ s
  | finish => exact advanceTo_reach c none s

theorem run_snoc (c : Cfg) (ops : List Op) (op : Op) : run c (ops ++ [op]) = step c (run c ops) op := by
  simp [run, List.foldl_append]

theorem run_reach (c : Cfg) (ops : List Op) : Reach c {} (run c ops) := by
  suffices ∀ s, Reach c {} s → Reach c {} (ops.foldl (step c) s) from this _ Reach.refl
  induction ops with
  | nil => intro s h; exact h
  | cons op ops ih => intro s h; exact ih _ (h.trans (step_reach c s op))

theorem Reach.inv {c : Cfg} {P : State → Prop} {s0 s : State} (h : Reach c s0 s) (h0 : P s0)
    (hstep : ∀ s s', Reach c s0 s → Atom c s s' → P s → P s') : P s := by
  induction h with
  | refl => exact h0
  | step r a ih => exact hstep _ _ r a ih

/-- the output counts the active runs; one run at a time outside start mode -/
structure CountInv (c : Cfg) (s : State) : Prop where
  output_eq : s.output = s.runs.length
  oneRun : c.mode ≠ Mode.start → s.runs.length ≤ 1

theorem reach_countInv {c : Cfg} {s : State} (h : Reach c {} s) : CountInv c s := by
  refine h.inv ⟨rfl, fun _ => Nat.zero_le _⟩ fun s s' _ a ⟨h1, h2⟩ => ?_
  cases a with
  | startQ j q hq hr hl => exact ⟨by simp [h1], fun hm => by simp [hr hm]⟩
  | startSd j hm => exact ⟨by simp [h1], fun hne => absurd hm hne⟩
  | discard | timeout | tick | accept | late | mark | stopSd => exact ⟨h1, h2⟩
  | cancel a r b hr | coroEnd a r b hr => exact ⟨by simp [h1, hr], by simpa [hr] using h2⟩
  | finish a r b hr hc ht =>
    rw [hr] at h1 h2
    simp only [List.length_append, List.length_cons] at h1 h2
    exact ⟨by simp [h1], fun hm => by have := h2 hm; simp; omega⟩

/-- stop_data waits in `sdPending` only in start mode and only after `stop()` -/
structure SdInv (c : Cfg) (s : State) : Prop where
  startOnly : c.mode ≠ Mode.start → s.sdPending = none
  afterStop : s.sdPending.isSome → s.stopped = true

theorem reach_sdInv {c : Cfg} {s : State} (h : Reach c {} s) : SdInv c s := by
  refine h.inv ⟨fun _ => rfl, fun h => by cases h⟩ fun s s' _ a hs => ?_
  cases a with
  | startSd => exact ⟨fun _ => rfl, fun h => by cases h⟩
  | mark => exact ⟨hs.startOnly, fun _ => rfl⟩
  | stopSd d _ hm => exact ⟨fun hne => absurd hm hne, fun _ => rfl⟩
  | _ => exact ⟨hs.startOnly, hs.afterStop⟩

theorem SdInv.none_of_not_stopped {c : Cfg} {s : State} (h : SdInv c s) (hst : s.stopped = false) :
    s.sdPending = none := by
  cases hp : s.sdPending with
  | none => rfl
  | some j => have := h.afterStop (by simp [hp]); rw [hst] at this; cases this

def evPut : Ev → Option Job
  | .put j => some j
  | _ => none

def evRes : Ev → Option Job
  | .succ j => some j
  | .err j => some j
  | .canc j => some j
  | _ => none

def evStart : Ev → Option Job
  | .start j => some j
  | _ => none

def evLate : Ev → Option Job
  | .late j => some j
  | _ => none

def evCancel : Ev → Option Job
  | .canc j => some j
  | .cancelled j => some j
  | _ => none

/-- the coroutine of a run is over: it came to its end or was cancelled -/
def evOver : Ev → Bool
  | .done _ => true
  | .cancelled _ => true
  | _ => false

def evJob : Ev → Option Job
  | .put _ => none
  | .late _ => none
  | .out _ => none
  | .timeout => none
  | .start j => some j
  | .done j => some j
  | .cancelled j => some j
  | .succ j => some j
  | .err j => some j
  | .canc j => some j

def putJobs (log : List (Nat × Ev)) : List Job := log.filterMap (fun e => evPut e.2)

def resJobs (log : List (Nat × Ev)) : List Job := log.filterMap (fun e => evRes e.2)

def startJobs (log : List (Nat × Ev)) : List Job := log.filterMap (fun e => evStart e.2)

def lateJobs (log : List (Nat × Ev)) : List Job := log.filterMap (fun e => evLate e.2)

@[simp] theorem putJobs_cons (t : Nat) (e : Ev) (l : List (Nat × Ev)) :
    putJobs ((t, e) :: l) = (evPut e).toList ++ putJobs l := by
  simp only [putJobs, List.filterMap_cons]; cases evPut e <;> simp

@[simp] theorem resJobs_cons (t : Nat) (e : Ev) (l : List (Nat × Ev)) :
    resJobs ((t, e) :: l) = (evRes e).toList ++ resJobs l := by
  simp only [resJobs, List.filterMap_cons]; cases evRes e <;> simp

@[simp] theorem startJobs_cons (t : Nat) (e : Ev) (l : List (Nat × Ev)) :
    startJobs ((t, e) :: l) = (evStart e).toList ++ startJobs l := by
  simp only [startJobs, List.filterMap_cons]; cases evStart e <;> simp

@[simp] theorem lateJobs_cons (t : Nat) (e : Ev) (l : List (Nat × Ev)) :
    lateJobs ((t, e) :: l) = (evLate e).toList ++ lateJobs l := by
  simp only [lateJobs, List.filterMap_cons]; cases evLate e <;> simp

/- `high`: these have to fire before `simp [evPut]` unfolds the projection into a `match` on the event -/
@[simp high] theorem evPut_resultEv (j : Job) : evPut (resultEv j) = none := by unfold resultEv; split <;> rfl
@[simp high] theorem evRes_resultEv (j : Job) : evRes (resultEv j) = some j := by unfold resultEv; split <;> rfl
@[simp high] theorem evStart_resultEv (j : Job) : evStart (resultEv j) = none := by unfold resultEv; split <;> rfl
@[simp high] theorem evCancel_resultEv (j : Job) : evCancel (resultEv j) = none := by unfold resultEv; split <;> rfl
@[simp high] theorem evOver_resultEv (j : Job) : evOver (resultEv j) = false := by unfold resultEv; split <;> rfl
@[simp high] theorem evJob_resultEv (j : Job) : evJob (resultEv j) = some j := by unfold resultEv; split <;> rfl
@[simp high] theorem evLate_resultEv (j : Job) : evLate (resultEv j) = none := by unfold resultEv; split <;> rfl
theorem resultEv_ne_timeout (j : Job) : resultEv j ≠ Ev.timeout := by unfold resultEv; split <;> simp

theorem mem_jobs {f : Ev → Option Job} {log : List (Nat × Ev)} {t : Nat} {e : Ev} {j : Job}
    (h : (t, e) ∈ log) (he : f e = some j) : j ∈ log.filterMap (fun x => f x.2) :=
  List.mem_filterMap.mpr ⟨(t, e), h, he⟩

theorem discards_log_put (s : State) (j : Job) (q : List Job) : putJobs (discards s j q).log = putJobs s.log := by
  induction q generalizing s j with
  | nil => rfl
  | cons k q ih => simp [discards, ih, evPut]

theorem discards_log_mem (s : State) (j : Job) (q : List Job) : ∀ e ∈ s.log, e ∈ (discards s j q).log := by
  induction q generalizing s j with
  | nil => intro e h; exact h
  | cons k q ih => intro e h; exact ih _ _ e (List.mem_cons_of_mem _ h)

/-- accepted and still owed a result: queued, or its coroutine is running, or stop_data waiting in stop_async -/
def pendJobs (s : State) : List Job :=
  s.queue ++ ((s.runs.filter (·.coro)).map (·.job) ++ s.sdPending.toList)

/-- every accepted put is pending or has exactly one result -/
def Balanced (s : State) : Prop :=
  ∀ x, (putJobs s.log).count x = (resJobs s.log).count x + (pendJobs s).count x

theorem reach_balanced {c : Cfg} {s : State} (h : Reach c {} s) : Balanced s := by
  refine h.inv (fun _ => rfl) fun s s' hr a hb x => ?_
  -- each step moves one job between two of the three lists, or adds it to two of them
  have hx := hb x
  cases a with
  | startQ j q hq =>
    simp [pendJobs, hq, evPut, evRes, List.filter_append, List.count_cons] at hx ⊢
    omega
  | startSd j _ hp =>
    simp [pendJobs, hp, evPut, evRes, List.filter_append, List.count_cons] at hx ⊢
    omega
  | discard j k q _ _ hq =>
    simp [pendJobs, hq, evPut, evRes, List.count_cons] at hx ⊢
    omega
  | cancel a r b hr hc =>
    simp [pendJobs, hr, hc, evPut, evRes, List.filter_append, List.count_cons] at hx ⊢
    omega
  | coroEnd a r b hr hc =>
    simp only [emit_log, putJobs_cons, resJobs_cons, evPut_resultEv, evRes_resultEv]
    simp [pendJobs, hr, hc, evPut, evRes, List.filter_append, List.count_cons] at hx ⊢
    omega
  | finish a r b hr hc => -- a run in its guard sleep is not pending
    simp [pendJobs, hr, hc, evPut, evRes, List.filter_append] at hx ⊢
    omega
  | timeout => simpa [pendJobs, evPut, evRes] using hx
  | tick | mark => exact hx
  | accept =>
    simp [pendJobs, accept, evPut, evRes, List.count_cons] at hx ⊢
    omega
  | late => exact hx
  | stopSd d hst => -- a new put, pending in `sdPending` (empty before `stop()`)
    have hnone := (reach_sdInv hr).none_of_not_stopped hst
    simp [pendJobs, evPut, evRes, hnone, List.count_cons] at hx ⊢
    omega

theorem pend_put {s : State} (hb : Balanced s) {k : Job} (hk : k ∈ pendJobs s) : ∃ t', (t', Ev.put k) ∈ s.log := by
  have := hb k
  have : 0 < (pendJobs s).count k := List.count_pos_iff.mpr hk
  have hp : k ∈ putJobs s.log := List.count_pos_iff.mp (by omega)
  simp only [putJobs, List.mem_filterMap] at hp
  obtain ⟨⟨t', e⟩, hm, he⟩ := hp
  cases e <;> simp [evPut] at he
  exact ⟨t', he ▸ hm⟩

theorem two_results {log : List (Nat × Ev)} {x y : Nat × Ev} {j : Job} (hx : x ∈ log) (hy : y ∈ log)
    (hne : x ≠ y) (hxj : evRes x.2 = some j) (hyj : evRes y.2 = some j) : 2 ≤ (resJobs log).count j := by
  induction log with
  | nil => cases hx
  | cons z log ih =>
    obtain ⟨tz, ez⟩ := z
    simp only [resJobs_cons, List.count_append]
    rcases List.mem_cons.mp hx with rfl | hx' <;> rcases List.mem_cons.mp hy with rfl | hy'
    · exact absurd rfl hne
    · have : 1 ≤ (resJobs log).count j := List.count_pos_iff.mpr (by
        simp only [resJobs, List.mem_filterMap]; exact ⟨y, hy', hyj⟩)
      simp only [] at hxj; rw [hxj]; simp; omega
    · have : 1 ≤ (resJobs log).count j := List.count_pos_iff.mpr (by
        simp only [resJobs, List.mem_filterMap]; exact ⟨x, hx', hxj⟩)
      simp only [] at hyj; rw [hyj]; simp; omega
    · have := ih hx' hy'; omega

/-- each `put` marker occurs once, with a number below `nacc` -/
structure UniqInv (s : State) : Prop where
  lt : ∀ x ∈ putJobs s.log, x.seq < s.nacc
  once : ∀ x, (putJobs s.log).count x ≤ 1

theorem uniq_add (s s' : State) (d : Item) (h : UniqInv s)
    (hp : putJobs s'.log = ⟨s.nacc, d⟩ :: putJobs s.log) (hn : s'.nacc = s.nacc + 1) : UniqInv s' := by
  obtain ⟨h1, h2⟩ := h
  refine ⟨?_, ?_⟩
  · intro x hx; rw [hp] at hx; rw [hn]
    cases hx with
    | head => simp
    | tail _ hx => have := h1 x hx; omega
  · intro x; rw [hp, List.count_cons]
    split
    · next heq =>
      have : (putJobs s.log).count x = 0 := by
        apply List.count_eq_zero_of_not_mem
        intro hx; have := h1 x hx
        have hx2 : x = ⟨s.nacc, d⟩ := by have := eq_of_beq heq; exact this.symm
        rw [hx2] at this; simp at this
      omega
    · exact h2 x

theorem uniq_same {s s' : State} (hp : putJobs s'.log = putJobs s.log) (hn : s'.nacc = s.nacc)
    (h : UniqInv s) : UniqInv s' :=
  ⟨hp ▸ hn ▸ h.lt, hp ▸ h.once⟩

theorem reach_uniq {c : Cfg} {s : State} (h : Reach c {} s) : UniqInv s := by
  refine h.inv ⟨by simp [putJobs], by simp [putJobs]⟩ fun s s' _ a hu => ?_
  cases a with
  | accept x => exact uniq_add s _ x hu (by simp [accept, evPut]) rfl
  | stopSd d => exact uniq_add s _ d hu (by simp [evPut]) rfl
  | tick | mark => exact ⟨hu.lt, hu.once⟩
  | coroEnd => exact uniq_same (s := s) (by simp [putJobs_cons, evPut_resultEv]; simp [evPut]) rfl hu
  | _ => exact uniq_same (s := s) (by simp [evPut]) rfl hu

theorem reach_fifo {c : Cfg} {s : State} (h : Reach c {} s) (hm : c.mode = Mode.wait) :
    putJobs s.log = s.queue.reverse ++ startJobs s.log := by
  refine h.inv (P := fun s => putJobs s.log = s.queue.reverse ++ startJobs s.log) rfl fun s s' _ a hf => ?_
  cases a with
  | startQ j q hq => simpa [hq, evPut, evStart] using hf
  | startSd j hm' | discard j k q hm' | stopSd d _ hm' => rw [hm] at hm'; cases hm'
  | cancel | timeout => simpa [evPut, evStart] using hf
  | coroEnd =>
    simp only [emit_log, putJobs_cons, startJobs_cons, evPut_resultEv, evStart_resultEv]
    simpa [evPut, evStart] using hf
  | finish | tick | mark => exact hf
  | accept x => simp [accept, evPut, evStart, hf]
  | late x => exact hf

/-- the jobs the block still works on: the runs in start order, then the queue, then stop_data waiting -/
def active (s : State) : List Job := s.runs.map (·.job) ++ (s.queue ++ s.sdPending.toList)

/-- the active jobs stand in arrival order and are numbered below `nacc`; no log entry is stamped later than now.
    One list for runs, queue and waiting stop_data, because a step either leaves it alone (a start moves the head
    of the queue behind the runs: the same list), removes one element, or appends the job numbered `nacc`. -/
structure Shape (s : State) : Prop where
  sorted : (active s).Pairwise (fun a b => a.seq < b.seq)
  lt : ∀ j ∈ active s, j.seq < s.nacc
  stamp : ∀ x ∈ s.log, x.1 ≤ s.now

theorem Shape.run_lt_queue {s : State} (h : Shape s) {r : Run} {k : Job} (hr : r ∈ s.runs)
    (hk : k ∈ s.queue) : r.job.seq < k.seq :=
  (List.pairwise_append.mp h.sorted).2.2 _ (List.mem_map_of_mem hr) _ (List.mem_append_left _ hk)

theorem Shape.queue_sorted {s : State} (h : Shape s) : s.queue.Pairwise (fun a b => a.seq < b.seq) :=
  (List.pairwise_append.mp (List.pairwise_append.mp h.sorted).2.1).1

theorem shape_sub {s s' : State} (l : List (Nat × Ev)) (hl : s'.log = l ++ s.log)
    (hnew : ∀ x ∈ l, x.1 ≤ s'.now) (hnow : s.now ≤ s'.now)
    (ha : (active s').Sublist (active s)) (hn : s'.nacc = s.nacc) (h : Shape s) : Shape s' := by
  refine ⟨h.sorted.sublist ha, fun j hj => hn ▸ h.lt j (ha.subset hj), fun x hx => ?_⟩
  rw [hl] at hx
  rcases List.mem_append.mp hx with hx | hx
  · exact hnew x hx
  · exact Nat.le_trans (h.stamp x hx) hnow

theorem shape_add {s s' : State} (d : Item) (hl : s'.log = (s.now, Ev.put ⟨s.nacc, d⟩) :: s.log)
    (hnow : s'.now = s.now) (ha : active s' = active s ++ [⟨s.nacc, d⟩]) (hn : s'.nacc = s.nacc + 1)
    (h : Shape s) : Shape s' := by
  refine ⟨?_, fun j hj => ?_, fun x hx => ?_⟩
  · rw [ha]
    refine List.pairwise_append.mpr ⟨h.sorted, List.pairwise_singleton _ _, fun a ha' b hb => ?_⟩
    rw [List.mem_singleton.mp hb]; exact h.lt a ha'
  · rw [ha] at hj; rw [hn]
    rcases List.mem_append.mp hj with hj | hj
    · exact Nat.lt_succ_of_lt (h.lt j hj)
    · rw [List.mem_singleton.mp hj]; exact Nat.lt_succ_self _
  · rw [hl] at hx; rw [hnow]
    rcases List.mem_cons.mp hx with rfl | hx
    · exact Nat.le_refl _
    · exact h.stamp x hx

theorem reach_shape {c : Cfg} {s : State} (h : Reach c {} s) : Shape s := by
  refine h.inv ⟨by simp [active], by simp [active], by simp⟩ fun s s' hr a hs => ?_
  cases a with
  | startQ j q hq =>
    exact shape_sub (s := s) [_, _] rfl (by simp) (Nat.le_refl _) (by simp [active, hq]) rfl hs
  | startSd j _ hp _ hr' hq =>
    exact shape_sub (s := s) [_, _] rfl (by simp) (Nat.le_refl _) (by simp [active, hp, hr', hq]) rfl hs
  | discard j k q _ _ hq =>
    exact shape_sub (s := s) [_] rfl (by simp) (Nat.le_refl _) (by simp [active, hq]) rfl hs
  | cancel a r b hr' | coroEnd a r b hr' =>
    exact shape_sub (s := s) [_, _] rfl (by simp) (Nat.le_refl _) (by simp [active, hr']) rfl hs
  | finish a r b hr' =>
    exact shape_sub (s := s) [_] rfl (by simp) (Nat.le_refl _) (by simp [active, hr']) rfl hs
  | timeout => exact shape_sub (s := s) [_] rfl (by simp) (Nat.le_refl _) (List.Sublist.refl _) rfl hs
  | tick t => exact shape_sub (s := s) [] rfl (by simp) (Nat.le_max_left _ _) (List.Sublist.refl _) rfl hs
  | accept x hst =>
    have hp := (reach_sdInv hr).none_of_not_stopped hst
    exact shape_add (s := s) x rfl rfl (by simp [active, accept, hp]) rfl hs
  | late x => exact shape_sub (s := s) [_] rfl (by simp) (Nat.le_refl _) (List.Sublist.refl _) rfl hs
  | mark => exact shape_sub (s := s) [] rfl (by simp) (Nat.le_refl _) (List.Sublist.refl _) rfl hs
  | stopSd d hst =>
    have hp := (reach_sdInv hr).none_of_not_stopped hst
    exact shape_add (s := s) d rfl rfl (by simp [active, hp]) rfl hs

/-- what must accompany an event in the log -/
def kindWitness (log : List (Nat × Ev)) (t : Nat) : Ev → Prop
  | .succ j => j.data.fail = false ∧ (t, Ev.done j) ∈ log
  | .err j => j.data.fail = true ∧ (t, Ev.done j) ∈ log
  | .done j => (t, Ev.succ j) ∈ log ∨ (t, Ev.err j) ∈ log
  | .cancelled j => (t, Ev.canc j) ∈ log
  | .start j => ∃ t', (t', Ev.put j) ∈ log
  | _ => True

theorem kindWitness_mono {log log' : List (Nat × Ev)} (hsub : ∀ x ∈ log, x ∈ log') {t : Nat} {e : Ev}
    (h : kindWitness log t e) : kindWitness log' t e := by
  cases e with
  | succ j => exact ⟨h.1, hsub _ h.2⟩
  | err j => exact ⟨h.1, hsub _ h.2⟩
  | done j => exact h.elim (fun h => Or.inl (hsub _ h)) (fun h => Or.inr (hsub _ h))
  | cancelled j => exact hsub _ h
  | start j => exact h.imp fun _ h => hsub _ h
  | _ => trivial

/-- what justifies a cancellation: cancel mode and a newer put that had arrived, or the expiry of stop_timeout
    in the same instant -/
def cancWitness (c : Cfg) (log : List (Nat × Ev)) (t : Nat) (e : Ev) : Prop :=
  ∀ j, evCancel e = some j →
    (c.mode = Mode.cancel ∧ ∃ k t', j.seq < k.seq ∧ t' ≤ t ∧ (t', Ev.put k) ∈ log) ∨ (t, Ev.timeout) ∈ log

/-- every entry of the log has what must accompany it.  The witnesses stay when the log grows, so a step
    answers for its own entries only. -/
def LogOK (c : Cfg) (log : List (Nat × Ev)) : Prop :=
  ∀ x ∈ log, kindWitness log x.1 x.2 ∧ cancWitness c log x.1 x.2

theorem cancWitness_mono {c : Cfg} {log log' : List (Nat × Ev)} (hsub : ∀ x ∈ log, x ∈ log') {t : Nat} {e : Ev}
    (h : cancWitness c log t e) : cancWitness c log' t e := fun j hj =>
  (h j hj).imp (fun ⟨hm, k, t', h1, h2, h3⟩ => ⟨hm, k, t', h1, h2, hsub _ h3⟩) (hsub _)

theorem logOK_append {c : Cfg} {new log : List (Nat × Ev)} (h : LogOK c log)
    (hnew : ∀ x ∈ new, kindWitness (new ++ log) x.1 x.2 ∧ cancWitness c (new ++ log) x.1 x.2) :
    LogOK c (new ++ log) := by
  intro x hx
  rcases List.mem_append.mp hx with hx | hx
  · exact hnew x hx
  · exact ⟨kindWitness_mono (fun y hy => List.mem_append_right _ hy) (h x hx).1,
      cancWitness_mono (fun y hy => List.mem_append_right _ hy) (h x hx).2⟩

theorem logOK_cons {c : Cfg} {log : List (Nat × Ev)} {t : Nat} {e : Ev} (h : LogOK c log)
    (hk : kindWitness ((t, e) :: log) t e) (hc : evCancel e = none) : LogOK c ((t, e) :: log) :=
  logOK_append (new := [(t, e)]) h fun x hx => by
    rw [List.mem_singleton.mp hx]; exact ⟨hk, fun j hj => by rw [hc] at hj; cases hj⟩

theorem queue_put {c : Cfg} {s : State} (h : Reach c {} s) {k : Job} (hk : k ∈ s.queue) :
    ∃ t', t' ≤ s.now ∧ (t', Ev.put k) ∈ s.log := by
  obtain ⟨t', hm⟩ := pend_put (reach_balanced h) (k := k) (by simp [pendJobs, hk])
  exact ⟨t', (reach_shape h).stamp _ hm, hm⟩

theorem reach_logOK {c : Cfg} {s : State} (h : Reach c {} s) : LogOK c s.log := by
  refine h.inv (P := fun s => LogOK c s.log) (fun x hx => by simp at hx) fun s s' hr a hk => ?_
  have hsh := reach_shape hr
  cases a with
  | discard j k q hm _ hq =>
    refine logOK_append (new := [_]) hk fun x hx => ?_
    rw [List.mem_singleton.mp hx]
    refine ⟨trivial, fun j' hj' => Or.inl ⟨hm, ?_⟩⟩
    cases hj'
    obtain ⟨t', ht, hp⟩ := queue_put hr (k := k) (by simp [hq])
    have := hsh.queue_sorted
    rw [hq] at this
    exact ⟨k, t', (List.pairwise_cons.mp this).1 k (List.mem_cons_self ..), ht, List.mem_cons_of_mem _ hp⟩
  | cancel a r b hr' hc hwhy =>
    have hw : ∀ e, evCancel e = some r.job → cancWitness c s.log s.now e := by
      intro e he j' hj'
      rw [he] at hj'; cases hj'
      rcases hwhy with ⟨hm, rfl, j, q, hq⟩ | hto
      · obtain ⟨t', ht, hp⟩ := queue_put hr (k := j) (by simp [hq])
        exact Or.inl ⟨hm, j, t', hsh.run_lt_queue (by simp [hr']) (by simp [hq]), ht, hp⟩
      · exact Or.inr hto
    exact logOK_append (new := [_, _]) hk (forall_mem_pair
      ⟨trivial, cancWitness_mono (fun y hy => by simp [hy]) (hw _ rfl)⟩
      ⟨List.mem_cons_self .., cancWitness_mono (fun y hy => by simp [hy]) (hw _ rfl)⟩)
  | coroEnd a r b =>
    refine logOK_append (new := [_, _]) hk (forall_mem_pair
      ⟨?_, fun j' hj' => by rw [evCancel_resultEv] at hj'; cases hj'⟩ ⟨?_, fun j' hj' => by cases hj'⟩)
    · show kindWitness _ _ (resultEv r.job)
      unfold resultEv
      split <;> simp [kindWitness, *]
    · show _ ∨ _
      unfold resultEv
      split <;> simp
  | tick | mark => exact hk
  | startQ j q hq =>
    obtain ⟨t', hp⟩ := pend_put (reach_balanced hr) (k := j) (by simp [pendJobs, hq])
    exact logOK_cons (logOK_cons hk trivial rfl) ⟨t', by simp [hp]⟩ rfl
  | startSd j _ hp =>
    obtain ⟨t', hp⟩ := pend_put (reach_balanced hr) (k := j) (by simp [pendJobs, hp])
    exact logOK_cons (logOK_cons hk trivial rfl) ⟨t', by simp [hp]⟩ rfl
  | finish | timeout | accept | late | stopSd => exact logOK_cons hk trivial rfl

/-- newest first: each start is at least `g` after every earlier coroutine end -/
def SepOK (g : Nat) : List (Nat × Ev) → Prop
  | [] => True
  | (t, e) :: l => (∀ k, e = Ev.start k → ∀ t1 e1, (t1, e1) ∈ l → evOver e1 = true → t1 + g ≤ t) ∧ SepOK g l

theorem sepOK_cons_other {g : Nat} {t : Nat} {e : Ev} {l : List (Nat × Ev)} (he : evStart e = none)
    (h : SepOK g l) : SepOK g ((t, e) :: l) := by
  refine ⟨?_, h⟩
  intro k hk; rw [hk] at he; simp [evStart] at he

/-- outside start mode (one run at a time): the instant before which no coroutine may start -- the end of
    the guard sleep in progress, else now -/
def horizon (s : State) : Nat :=
  match s.runs with
  | [r] => if r.coro then s.now else r.till
  | _ => s.now

/-- every coroutine end in the log lies `g` before the horizon, and every start after the earlier ends -/
structure Sep (g : Nat) (s : State) : Prop where
  before : ∀ t1 e, (t1, e) ∈ s.log → evOver e = true → t1 + g ≤ horizon s
  sepOK : SepOK g s.log

theorem sep_cons {g : Nat} {s s' : State} (t : Nat) (e : Ev) (ho : evOver e = false) (hs : evStart e = none)
    (hlog : s'.log = (t, e) :: s.log) (hh : horizon s ≤ horizon s') (h : Sep g s) : Sep g s' := by
  refine ⟨fun t1 e1 hm ho1 => ?_, hlog ▸ sepOK_cons_other hs h.sepOK⟩
  rw [hlog] at hm
  rcases List.mem_cons.mp hm with hm | hm
  · cases hm; rw [ho] at ho1; cases ho1
  · exact Nat.le_trans (h.before t1 e1 hm ho1) hh

theorem sep_over {g : Nat} (s : State) (r : Run) (e1 e2 : Ev) (hr : s.runs = [r]) (hc : r.coro = true)
    (h2 : evOver e2 = false) (hs1 : evStart e1 = none) (hs2 : evStart e2 = none) (h : Sep g s) :
    Sep g { emit (emit s e1) e2 with runs := [{ r with coro := false, till := s.now + g }] } := by
  have hh : horizon s = s.now := by simp only [horizon, hr, hc, if_true]
  refine ⟨fun t1 e hm ho => ?_, sepOK_cons_other hs2 (sepOK_cons_other hs1 h.sepOK)⟩
  show t1 + g ≤ s.now + g
  rcases List.mem_cons.mp hm with hm | hm
  · cases hm; rw [h2] at ho; cases ho
  · rcases List.mem_cons.mp hm with hm | hm
    · cases hm; exact Nat.le_refl _
    · have := h.before t1 e hm ho; omega

theorem sep_start {g : Nat} {s : State} (s0 : State) (j : Job) (hr : s0.runs = []) (hlog : s0.log = s.log)
    (hnow : s0.now = s.now) (hh : horizon s = s.now) (h : Sep g s) : Sep g (startRun s0 j) := by
  have key : ∀ t1 e, (t1, e) ∈ s0.log → evOver e = true → t1 + g ≤ s0.now := fun t1 e hm ho => by
    rw [hnow, ← hh]; exact h.before t1 e (hlog ▸ hm) ho
  refine ⟨fun t1 e hm ho => ?_, ⟨fun k _ t1 e1 hm1 ho => ?_, sepOK_cons_other rfl (hlog ▸ h.sepOK)⟩⟩
  · show t1 + g ≤ horizon (startRun s0 j)
    have : horizon (startRun s0 j) = s0.now := by simp only [horizon, startRun_runs, hr, List.nil_append, if_true, startRun_now]
    rw [this]
    rcases List.mem_cons.mp hm with hm | hm
    · cases hm; cases ho
    · rcases List.mem_cons.mp hm with hm | hm
      · cases hm; cases ho
      · exact key t1 e hm ho
  · rcases List.mem_cons.mp hm1 with hm1 | hm1
    · cases hm1; cases ho
    · exact key t1 e1 hm1 ho

theorem nil_of_append_cons_length_le_one {a b : List Run} {r : Run} (h : (a ++ r :: b).length ≤ 1) :
    a = [] ∧ b = [] := by
  cases a <;> cases b <;> simp at h ⊢ <;> omega

theorem horizon_tick (s : State) (t : Nat) : horizon s ≤ horizon { s with now := max s.now t } := by
  simp only [horizon]
  split
  · split
    · exact Nat.le_max_left _ _
    · exact Nat.le_refl _
  · exact Nat.le_max_left _ _

theorem reach_sep {c : Cfg} {s : State} (h : Reach c {} s) (hm : c.mode ≠ Mode.start) : Sep c.guard s := by
  refine h.inv ⟨fun t1 e hm => by simp at hm, trivial⟩ fun s s' hr a hg => ?_
  have h1 := (reach_countInv hr).oneRun hm
  cases a with
  | startQ j q hq hr' hl => exact sep_start (s := s) _ j (hr' hm) rfl rfl (by simp only [horizon, hr' hm]) hg
  | startSd j hm' => exact absurd hm' hm
  | discard j k q => exact sep_cons (s := s) _ _ rfl rfl rfl (Nat.le_refl _) hg
  | cancel a r b hr' hc =>
    rw [hr'] at h1
    obtain ⟨rfl, rfl⟩ := nil_of_append_cons_length_le_one h1
    exact sep_over s r (.cancelled r.job) (.canc r.job) hr' hc rfl rfl rfl hg
  | coroEnd a r b hr' hc ht =>
    rw [hr'] at h1
    obtain ⟨rfl, rfl⟩ := nil_of_append_cons_length_le_one h1
    exact sep_over s r (.done r.job) (resultEv r.job) hr' hc (evOver_resultEv _) rfl (evStart_resultEv _) hg
  | finish a r b hr' hc ht =>
    rw [hr'] at h1
    obtain ⟨rfl, rfl⟩ := nil_of_append_cons_length_le_one h1
    refine sep_cons (s := s) _ _ rfl rfl rfl ?_ hg
    have : horizon s = r.till := by simp only [horizon, hr', List.nil_append, hc, Bool.false_eq_true, if_false]
    rw [this]; exact ht
  | timeout => exact sep_cons (s := s) _ _ rfl rfl rfl (Nat.le_refl _) hg
  | tick t => exact ⟨fun t1 e hm ho => Nat.le_trans (hg.before t1 e hm ho) (horizon_tick s t), hg.sepOK⟩
  | accept x => exact sep_cons (s := s) _ (.put ⟨s.nacc, x⟩) rfl rfl rfl (Nat.le_refl _) hg
  | late x => exact sep_cons (s := s) _ _ rfl rfl rfl (Nat.le_refl _) hg
  | mark => exact ⟨hg.before, hg.sepOK⟩
  | stopSd d => exact sep_cons (s := s) _ (.put ⟨s.nacc, d⟩) rfl rfl rfl (Nat.le_refl _) hg

/-- `SepOK` in the form used by the property statement -/
theorem sepOK_split {g : Nat} {log l1 l2 : List (Nat × Ev)} {t2 : Nat} {k : Job} (h : SepOK g log)
    (hl : log = l1 ++ (t2, Ev.start k) :: l2) :
    ∀ t1 e1, (t1, e1) ∈ l2 → evOver e1 = true → t1 + g ≤ t2 := by
  induction l1 generalizing log with
  | nil => subst hl; exact h.1 k rfl
  | cons x l1 ih =>
    subst hl
    obtain ⟨t, e⟩ := x
    exact ih h.2 rfl

/-- start mode: a put marker is either still queued in this very instant, or matched by a start at the
    same time, or it is the stop_data job (the one accepted last, by `stop()`) -/
def StartAt (c : Cfg) (s : State) : Prop :=
  ∀ t j, (t, Ev.put j) ∈ s.log →
    (j ∈ s.queue ∧ t = s.now) ∨ (t, Ev.start j) ∈ s.log ∨
    (s.stopped = true ∧ j.seq + 1 = s.nacc ∧ c.stopData = some j.data)

theorem startAt_ext {c : Cfg} {s s' : State} (l : List (Nat × Ev)) (hl : s'.log = l ++ s.log)
    (hnp : ∀ x ∈ l, evPut x.2 = none) (hq : s'.queue = s.queue) (hnow : s'.now = s.now)
    (hst : s'.stopped = s.stopped) (hn : s'.nacc = s.nacc) (h : StartAt c s) : StartAt c s' := by
  intro t j hput
  rw [hl] at hput ⊢
  rw [hq, hnow, hst, hn]
  rcases List.mem_append.mp hput with hput | hput
  · cases hnp _ hput
  · rcases h t j hput with h1 | h2 | h3
    · exact Or.inl h1
    · exact Or.inr (Or.inl (List.mem_append_right _ h2))
    · exact Or.inr (Or.inr h3)

theorem reach_startAt {c : Cfg} {s : State} (h : Reach c {} s) (hm : c.mode = Mode.start) : StartAt c s := by
  refine h.inv (fun t j hm => by simp at hm) fun s s' _ a hs => ?_
  cases a with
  | startQ j q hq hr hl =>
    intro t k hput
    have hold : (t, Ev.put k) ∈ s.log := by simpa using hput
    rcases hs t k hold with ⟨hkq, ht⟩ | hst | h3
    · rw [hq] at hkq
      rcases List.mem_cons.mp hkq with rfl | hkq
      · exact Or.inr (Or.inl (by rw [ht]; exact List.mem_cons_self ..))
      · exact Or.inl ⟨hkq, ht⟩
    · exact Or.inr (Or.inl (List.mem_cons_of_mem _ (List.mem_cons_of_mem _ hst)))
    · exact Or.inr (Or.inr h3)
  | startSd j => exact startAt_ext (s := s) [_, _] rfl (forall_mem_pair rfl rfl) rfl rfl rfl rfl hs
  | discard j k q hm' => rw [hm] at hm'; cases hm'
  | cancel a r b => exact startAt_ext (s := s) [_, _] rfl (forall_mem_pair rfl rfl) rfl rfl rfl rfl hs
  | coroEnd a r b =>
    exact startAt_ext (s := s) [_, _] rfl (forall_mem_pair (evPut_resultEv _) rfl) rfl rfl rfl rfl hs
  | finish a r b => exact startAt_ext (s := s) [_] rfl (List.forall_mem_singleton.mpr rfl) rfl rfl rfl rfl hs
  | timeout => exact startAt_ext (s := s) [_] rfl (List.forall_mem_singleton.mpr rfl) rfl rfl rfl rfl hs
  | tick t0 hq =>
    intro t k hput
    rcases hs t k hput with ⟨hkq, _⟩ | h2 | h3
    · rw [(hq.2.2 hm).1] at hkq; cases hkq
    · exact Or.inr (Or.inl h2)
    · exact Or.inr (Or.inr h3)
  | accept x hst =>
    intro t k hput
    rcases List.mem_cons.mp hput with hp | hput
    · cases hp; exact Or.inl ⟨by simp [accept], rfl⟩
    · rcases hs t k hput with ⟨hkq, ht⟩ | h2 | ⟨h1, _, _⟩
      · exact Or.inl ⟨by simp [accept, hkq], ht⟩
      · exact Or.inr (Or.inl (List.mem_cons_of_mem _ h2))
      · rw [hst] at h1; cases h1
  | late x => exact startAt_ext (s := s) [_] rfl (List.forall_mem_singleton.mpr rfl) rfl rfl rfl rfl hs
  | mark hst =>
    intro t k hput
    rcases hs t k hput with h1 | h2 | ⟨h3, _, _⟩
    · exact Or.inl h1
    · exact Or.inr (Or.inl h2)
    · rw [hst] at h3; cases h3
  | stopSd d hst _ hd =>
    intro t k hput
    rcases List.mem_cons.mp hput with hp | hput
    · cases hp; exact Or.inr (Or.inr ⟨rfl, rfl, hd⟩)
    · rcases hs t k hput with h1 | h2 | ⟨h3, _, _⟩
      · exact Or.inl h1
      · exact Or.inr (Or.inl (List.mem_cons_of_mem _ h2))
      · rw [hst] at h3; cases h3

/-- the stop_data job `J` waits as the last queued item (wait/cancel) or in `stop_async` (start) -/
def SdWaiting (c : Cfg) (J : Job) (s : State) : Prop :=
  (c.mode ≠ Mode.start ∧ ∃ q0, s.queue = q0 ++ [J]) ∨ (c.mode = Mode.start ∧ s.sdPending = some J)

/-- `J` has been started, nothing else is left, and whatever was logged since concerns `J` only -/
structure SdStarted (J : Job) (s : State) : Prop where
  queue_nil : s.queue = []
  sd_none : s.sdPending = none
  runs_J : ∀ r ∈ s.runs, r.job = J
  log_after : ∃ l1 t l2, s.log = l1 ++ (t, Ev.start J) :: l2 ∧ ∀ x ∈ l1, evJob x.2 = some J ∨ evJob x.2 = none

def SdLastIs (c : Cfg) (J : Job) (s : State) : Prop := SdWaiting c J s ∨ SdStarted J s

/-- once stopped with stop_data `d`, the job accepted last (it carries `d`) waits or runs as the last one;
    `stop()` has accepted it, so `nacc ≥ 1` there and `nacc - 1` is its number -/
def SdLast (c : Cfg) (s : State) : Prop :=
  s.stopped = true → ∀ d, c.stopData = some d → SdLastIs c ⟨s.nacc - 1, d⟩ s

theorem runs_replace_sub {a b : List Run} {r r' : Run} (hj : r'.job = r.job) :
    ∀ x ∈ a ++ r' :: b, ∃ y ∈ a ++ r :: b, x.job = y.job := by
  intro x hx
  rcases List.mem_append.mp hx with hx | hx
  · exact ⟨x, List.mem_append_left _ hx, rfl⟩
  · rcases List.mem_cons.mp hx with rfl | hx
    · exact ⟨r, by simp, hj⟩
    · exact ⟨x, List.mem_append_right _ (List.mem_cons_of_mem _ hx), rfl⟩

theorem runs_remove_sub {a b : List Run} {r : Run} : ∀ x ∈ a ++ b, ∃ y ∈ a ++ r :: b, x.job = y.job := by
  intro x hx
  rcases List.mem_append.mp hx with hx | hx
  · exact ⟨x, List.mem_append_left _ hx, rfl⟩
  · exact ⟨x, List.mem_append_right _ (List.mem_cons_of_mem _ hx), rfl⟩

theorem sdLast_step {c : Cfg} {s s' : State} (hst : s'.stopped = true → s.stopped = true) (hn : s'.nacc = s.nacc)
    (h : ∀ J, SdLastIs c J s → SdLastIs c J s') (hl : SdLast c s) : SdLast c s' :=
  fun hs d hd => hn ▸ h _ (hl (hst hs) d hd)

theorem sdLastIs_ext {c : Cfg} {J : Job} {s s' : State} (hq : s'.queue = s.queue) (hsd : s'.sdPending = s.sdPending)
    (hr : ∀ r' ∈ s'.runs, ∃ r ∈ s.runs, r'.job = r.job)
    (hlog : SdStarted J s → ∃ l, s'.log = l ++ s.log ∧ ∀ x ∈ l, evJob x.2 = some J ∨ evJob x.2 = none)
    (h : SdLastIs c J s) : SdLastIs c J s' := by
  rcases h with (⟨hne, q0, hq0⟩ | ⟨hm, hp⟩) | hs
  · exact Or.inl (Or.inl ⟨hne, q0, hq ▸ hq0⟩)
  · exact Or.inl (Or.inr ⟨hm, hsd ▸ hp⟩)
  · obtain ⟨l, hl', hlJ⟩ := hlog hs
    obtain ⟨h1, h2, h3, l1, t, l2, hl, hl1⟩ := hs
    refine Or.inr ⟨hq ▸ h1, hsd ▸ h2, fun r' hr' => ?_, l ++ l1, t, l2, by rw [hl', hl]; simp, fun x hx => ?_⟩
    · obtain ⟨r, hrm, hj⟩ := hr r' hr'
      rw [hj]; exact h3 r hrm
    · exact (List.mem_append.mp hx).elim (hlJ x) (hl1 x)

theorem reach_sdLast {c : Cfg} {s : State} (h : Reach c {} s) : SdLast c s := by
  refine h.inv (fun h => by cases h) fun s s' hrch a hl => ?_
  have hsi := reach_sdInv hrch
  have same : ∀ r' ∈ s.runs, ∃ r ∈ s.runs, r'.job = r.job := fun r' hr' => ⟨r', hr', rfl⟩
  cases a with
  | startQ j q hq hr hl' =>
    refine sdLast_step (s := s) id rfl (fun J hJ => ?_) hl
    rcases hJ with (⟨hne, q0, hq0⟩ | ⟨hms, hp⟩) | hs
    · rw [hq] at hq0
      cases q0 with
      | nil =>
        cases hq0
        refine Or.inr ⟨rfl, hsi.startOnly hne, ?_, [], s.now, _, rfl, by simp⟩
        intro r hrm; simp [hr hne] at hrm; rw [hrm]
      | cons x q0 =>
        simp at hq0
        exact Or.inl (Or.inl ⟨hne, q0, hq0.2⟩)
    · exact Or.inl (Or.inr ⟨hms, hp⟩)
    · rw [hs.queue_nil] at hq; cases hq
  | startSd j hm hp hst' hr hq =>
    refine sdLast_step (s := s) id rfl (fun J hJ => ?_) hl
    rcases hJ with (⟨hne, _⟩ | ⟨_, hp'⟩) | hs
    · exact absurd hm hne
    · rw [hp] at hp'; cases hp'
      refine Or.inr ⟨hq, rfl, ?_, [], s.now, _, rfl, by simp⟩
      intro r hrm; simp [hr] at hrm; rw [hrm]
    · rw [hs.sd_none] at hp; cases hp
  | discard j k q hm hr hq =>
    refine sdLast_step (s := s) id rfl (fun J hJ => ?_) hl
    rcases hJ with (⟨hne, q0, hq0⟩ | ⟨hms, _⟩) | hs
    · rw [hq] at hq0
      cases q0 with
      | nil => simp at hq0
      | cons x q0 =>
        simp at hq0
        exact Or.inl (Or.inl ⟨hne, q0, hq0.2⟩)
    · rw [hm] at hms; cases hms
    · rw [hs.queue_nil] at hq; cases hq
  | cancel a r b hr =>
    refine sdLast_step (s := s) id rfl (fun J => sdLastIs_ext rfl rfl (hr ▸ runs_replace_sub rfl) fun hs => ⟨[_, _], rfl, ?_⟩) hl
    have hrJ : r.job = J := hs.runs_J r (by simp [hr])
    exact forall_mem_pair (Or.inl (by rw [← hrJ]; rfl)) (Or.inl (by rw [← hrJ]; rfl))
  | coroEnd a r b hr =>
    refine sdLast_step (s := s) id rfl (fun J => sdLastIs_ext rfl rfl (hr ▸ runs_replace_sub rfl) fun hs => ⟨[_, _], rfl, ?_⟩) hl
    have hrJ : r.job = J := hs.runs_J r (by simp [hr])
    exact forall_mem_pair (Or.inl (by rw [← hrJ]; exact evJob_resultEv _)) (Or.inl (by rw [← hrJ]; rfl))
  | finish a r b hr =>
    exact sdLast_step (s := s) id rfl (fun J => sdLastIs_ext rfl rfl (hr ▸ runs_remove_sub) fun _ => ⟨[_], rfl, by simp [evJob]⟩) hl
  | timeout | late =>
    exact sdLast_step (s := s) id rfl (fun J => sdLastIs_ext rfl rfl same fun _ => ⟨[_], rfl, by simp [evJob]⟩) hl
  | tick t => exact sdLast_step (s := s) id rfl (fun J => sdLastIs_ext rfl rfl same fun _ => ⟨[], rfl, by simp⟩) hl
  | accept x hst' => intro hst; rw [show (accept s x).stopped = s.stopped from rfl, hst'] at hst; cases hst
  | mark hst' hsd => exact fun _ d hd => Or.inl (Or.inl (hsd d hd))
  | stopSd d hst' hm hd =>
    intro _ d' hd'
    rw [hd] at hd'; cases hd'
    exact Or.inl (Or.inr ⟨hm, by simp⟩)

/-- the deadline is stop time + stop_timeout; a `timeout` marker is logged no earlier than that, in one
    instant only, disarms the deadline, and only while some run was still active (a later output
    decrement follows, or the run is still there) -/
structure TInv (c : Cfg) (s : State) : Prop where
  deadline_eq : ∀ D, s.deadline = some D → ∃ ts, s.stopAt = some ts ∧ D = ts + c.stopTimeout
  timeout_ok : ∀ t, (t, Ev.timeout) ∈ s.log →
      (∃ ts, s.stopAt = some ts ∧ ts + c.stopTimeout ≤ t) ∧ s.deadline = none ∧
      ((∃ t' n, t ≤ t' ∧ (t', Ev.out n) ∈ s.log) ∨ (s.runs ≠ [] ∧ t ≤ s.now))
  timeout_once : ∀ t1 t2, (t1, Ev.timeout) ∈ s.log → (t2, Ev.timeout) ∈ s.log → t1 = t2
  stopAt_stopped : s.stopAt.isSome → s.stopped = true

theorem tInv_ext {c : Cfg} {s s' : State} (l : List (Nat × Ev)) (hd : s'.deadline = s.deadline)
    (hs : s'.stopAt = s.stopAt) (hst : s'.stopped = s.stopped) (hnow : s.now ≤ s'.now)
    (hl : s'.log = l ++ s.log) (hnt : ∀ x ∈ l, x.2 ≠ Ev.timeout)
    (hr : s.runs ≠ [] → s'.runs ≠ [] ∨ ∃ t' n, s.now ≤ t' ∧ (t', Ev.out n) ∈ l) (h : TInv c s) : TInv c s' := by
  obtain ⟨h1, h2, h3, h4⟩ := h
  have hold : ∀ t, (t, Ev.timeout) ∈ s'.log → (t, Ev.timeout) ∈ s.log := by
    intro t hm; rw [hl] at hm
    rcases List.mem_append.mp hm with hm | hm
    · exact absurd rfl (hnt _ hm)
    · exact hm
  refine ⟨by rw [hd, hs]; exact h1, ?_, fun t1 t2 a b => h3 t1 t2 (hold _ a) (hold _ b), by rw [hs, hst]; exact h4⟩
  intro t hm
  obtain ⟨a, b, cc⟩ := h2 t (hold t hm)
  refine ⟨by rw [hs]; exact a, by rw [hd]; exact b, ?_⟩
  rcases cc with ⟨t', n, ht, ho⟩ | ⟨hr', ht⟩
  · exact Or.inl ⟨t', n, ht, by rw [hl]; exact List.mem_append_right _ ho⟩
  · rcases hr hr' with hr'' | ⟨t', n, ht', ho⟩
    · exact Or.inr ⟨hr'', by omega⟩
    · exact Or.inl ⟨t', n, by omega, by rw [hl]; exact List.mem_append_left _ ho⟩

theorem tInv_timeout {c : Cfg} {s : State} {d : Nat} (hd : s.deadline = some d) (hr : s.runs ≠ []) (ht : d ≤ s.now)
    (h : TInv c s) : TInv c { s with deadline := none, log := (s.now, .timeout) :: s.log } := by
  obtain ⟨h1, h2, h3, h4⟩ := h
  have hnew : ∀ t, (t, Ev.timeout) ∈ (s.now, Ev.timeout) :: s.log → t = s.now := by
    intro t hm
    rcases List.mem_cons.mp hm with hm | hm
    · cases hm; rfl
    · have := (h2 t hm).2.1; rw [hd] at this; cases this
  obtain ⟨ts, hts, hD⟩ := h1 d hd
  refine ⟨fun D hD => (by cases hD), fun t hm => ?_, fun t1 t2 a b => (hnew t1 a).trans (hnew t2 b).symm, h4⟩
  rw [hnew t hm]
  exact ⟨⟨ts, hts, by omega⟩, rfl, Or.inr ⟨hr, Nat.le_refl _⟩⟩

theorem tInv_mark {c : Cfg} {s s1 : State} (h : TInv c s) (hst : s.stopped = false)
    (hlog : ∀ t, (t, Ev.timeout) ∈ s1.log → (t, Ev.timeout) ∈ s.log) :
    TInv c { s1 with stopped := true, deadline := some (s1.now + c.stopTimeout), stopAt := some s1.now } := by
  obtain ⟨_, h2, _, h4⟩ := h
  have hsa : s.stopAt = none := by
    cases hs : s.stopAt with
    | none => rfl
    | some ts => have := h4 (by simp [hs]); rw [hst] at this; cases this
  have hn : ∀ t, (t, Ev.timeout) ∉ s1.log := by
    intro t hm; obtain ⟨⟨ts, hts, _⟩, _⟩ := h2 t (hlog t hm); rw [hsa] at hts; cases hts
  exact ⟨fun D hD => ⟨s1.now, rfl, by cases hD; rfl⟩, fun t hm => absurd hm (hn t),
    fun t1 _ a _ => absurd a (hn t1), fun _ => rfl⟩

theorem reach_tInv {c : Cfg} {s : State} (h : Reach c {} s) : TInv c s := by
  refine h.inv ⟨by simp, by simp, by simp, by simp⟩ fun s s' _ a ht => ?_
  cases a with
  | startQ j q | startSd j =>
    exact tInv_ext (s := s) [_, _] rfl rfl rfl (Nat.le_refl _) rfl (by simp) (fun _ => Or.inl (by simp)) ht
  | discard j k q | accept x | late x =>
    exact tInv_ext (s := s) [_] rfl rfl rfl (Nat.le_refl _) rfl (by simp) (fun hr => Or.inl hr) ht
  | cancel a r b =>
    exact tInv_ext (s := s) [_, _] rfl rfl rfl (Nat.le_refl _) rfl (by simp) (fun _ => Or.inl (by simp)) ht
  | coroEnd a r b =>
    exact tInv_ext (s := s) [_, _] rfl rfl rfl (Nat.le_refl _) rfl (forall_mem_pair (resultEv_ne_timeout _) nofun)
      (fun _ => Or.inl (by simp)) ht
  | finish a r b =>
    exact tInv_ext (s := s) [_] rfl rfl rfl (Nat.le_refl _) rfl (by simp)
      (fun _ => Or.inr ⟨s.now, s.output - 1, Nat.le_refl _, List.mem_cons_self ..⟩) ht
  | timeout d hd hr hle => exact tInv_timeout hd hr hle ht
  | tick t =>
    exact tInv_ext (s := s) [] rfl rfl rfl (Nat.le_max_left _ _) rfl (by simp) (fun hr => Or.inl hr) ht
  | mark hst => exact tInv_mark ht hst fun t hm => hm
  | stopSd d hst => exact tInv_mark ht hst fun t hm => by simpa using hm

/-- a late marker exists only after `stop()`, and its number is not below `nacc` (which is frozen then) -/
def LateInv (s : State) : Prop := ∀ j ∈ lateJobs s.log, s.stopped = true ∧ s.nacc ≤ j.seq

theorem reach_lateInv {c : Cfg} {s : State} (h : Reach c {} s) : LateInv s := by
  refine h.inv (fun j hj => by simp [lateJobs] at hj) fun s s' _ a hl => ?_
  cases a with
  | accept x hst =>
    intro j hj
    have := (hl j (by simpa [accept, evLate] using hj)).1
    rw [hst] at this; cases this
  | late x hst =>
    intro j hj
    simp [evLate] at hj
    rcases hj with rfl | hj
    · exact ⟨hst, by simp⟩
    · exact hl j hj
  | mark hst =>
    intro j hj
    have := (hl j hj).1
    rw [hst] at this; cases this
  | stopSd d hst =>
    intro j hj
    have := (hl j (by simpa [evLate] using hj)).1
    rw [hst] at this; cases this
  | tick => exact hl
  | coroEnd a r b =>
    intro j hj
    simp only [emit_log, lateJobs_cons, evLate_resultEv] at hj
    exact hl j (by simpa [evLate] using hj)
  | _ => exact hl

end Edzed.OutputAsync
