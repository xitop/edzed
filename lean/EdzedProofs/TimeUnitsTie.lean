/-
Tie by translation for C19: the definitions generated from the current source of edzed/utils/timeunits.py
(`Gen/TranslatedTimeUnits.lean`, tools/py2lean_timeunits.py) ARE the hand-written model's
(`EdzedModel/TimeUnits.lean`); the theorems proper are `TrTie.translated_timeunits_…` in EdzedProps/C19.lean.
The generated file changes with every harmless rewrite of timeunits.py (an inverted condition, swapped
disjuncts, an `if …: pass else:` arm, a test split into nested `if`s), and the ties have to go on proving.
So no proof rewrites the program into the model's text: a program is evaluated once on its data (by cases,
with what the declared primitives give handed to `simp` as facts), and what is left is compared by meaning,
conditions by equivalence and texts by equality (for the printers part by part, `snoc_opt_congr`).
-/
import EdzedProofs.TimeUnits
import EdzedProofs.SimpAttrs
import EdzedModel.Gen.TranslatedTimeUnits

namespace Edzed.TimeUnits
open Edzed.TimeUnits.Py

/- `c19tie` brings a test of the program (`decide`, `&&`, `||`, `!`, `if`) to a proposition about its data.
   It holds no `true_and`, `and_true`, `false_and`, `and_false`: in the printers a part whose condition
   is decided (`omit_minutes`) has to stay a part on both sides, or the comparison part by part loses
   its shape. -/
attribute [c19tie] ge_iff_le ne_eq decide_true decide_false decide_eq_true_eq decide_eq_false_iff_not
  Bool.not_false Bool.not_true Bool.false_eq_true Bool.true_eq_false Bool.not_eq_true' Bool.or_eq_true
  Bool.and_eq_true not_true_eq_false not_false_eq_true if_true if_false

theorem pyMax_zero (q : Rat) : pyMax 0 q = if q < 0 then 0 else q := by
  unfold pyMax
  by_cases h1 : (0 : Rat) < q
  · have : ¬ q < 0 := by grind
    simp [h1, this]
  · by_cases h2 : q < 0
    · simp [h1, h2]
    · have : q = 0 := by grind
      simp [this]

theorem pyFloat_of_no_comma {g : Num} (h : hasComma g = false) : pyFloat g = .ok g.val := by
  simp [pyFloat, h]

theorem pyFloat_commaToPoint (g : Num) : pyFloat (commaToPoint g) = .ok g.val := by
  simp [pyFloat, hasComma, commaToPoint]

theorem tr_convertStep (sm : Bool) (res : Rat) (g : Option Num) (sc : Option Nat) :
    Gen.TrTu.convertStep (res, sm) (g, sc) =
      match addGroup ⟨res, sm⟩ g sc with
      | .ok a => .ok (a.result, a.smallest)
      | .error e => .error e := by
  unfold Gen.TrTu.convertStep addGroup
  cases g with
  | none => rfl
  | some n =>
    -- by cases on the data: a decimal mark?  still the smallest unit?  which mark?  In every case
    -- what `',' in g`, `'.' in g` and `float()` give is handed to `simp`, which decides the tests of
    -- the program however they are written
    -- for the source writing `0.0 == num` and `factor * num` the other way round
    have z := eq_comm (a := (0 : Rat)) (b := n.val)
    have hm := fun k : Nat => Rat.mul_comm (k : Rat) n.val
    cases hf : n.frac with
    | false =>
      have hc : hasComma n = false := by simp [hasComma, hf]
      have hd : hasDot n = false := by simp [hasDot, hf]
      by_cases hz : n.val = 0 <;> cases sc <;> simp [pyFloat_of_no_comma hc, *]
    | true =>
      have hd : hasDot n = !hasComma n := by simp [hasDot, hasComma, hf]
      cases sm with
      | false => cases hc : hasComma n <;> simp [*]
      | true =>
        cases hc : hasComma n <;> by_cases hz : n.val = 0 <;> cases sc <;>
          simp [pyFloat_commaToPoint, pyFloat_of_no_comma, *]

theorem tr_foldl (l : List (Option Num × Option Nat)) (sm : Bool) (res : Rat) :
    List.foldlM Gen.TrTu.convertStep (res, sm) l =
      match evalLoop ⟨res, sm⟩ l with
      | .ok a => .ok (a.result, a.smallest)
      | .error e => .error e := by
  induction l generalizing sm res with
  | nil => rfl
  | cons x l ih =>
    obtain ⟨g, sc⟩ := x
    rw [List.foldlM_cons, tr_convertStep, evalLoop]
    cases h : addGroup ⟨res, sm⟩ g sc with
    | error e => rfl
    | ok a => exact ih a.smallest a.result

theorem tr_convert (cs : List Char) : Gen.TrTu.convert cs = convert cs := by
  unfold Gen.TrTu.convert convert
  simp only [firstMatch, fullmatchGroups]
  cases hT : matchTrad cs with
  | some g =>
    obtain ⟨hy, hmo⟩ := matchTrad_no_calendar cs g hT
    simp only [Option.map_some, List.reverse_cons, List.reverse_nil, List.nil_append, List.cons_append,
      List.zip_cons_cons, List.zip_nil_left, tr_foldl]
    unfold evalGroups
    have e : g.scaled = [(g.s, some 1), (g.m, some Gen.secPerMin), (g.h, some Gen.secPerHour),
        (g.d, some Gen.secPerDay)] ++ [(none, none), (none, none)] := by
      simp [Groups.scaled, hy, hmo]
    rw [e, evalLoop_trailing_none]
    cases evalLoop ⟨0, true⟩ [(g.s, some 1), (g.m, some Gen.secPerMin), (g.h, some Gen.secPerHour),
        (g.d, some Gen.secPerDay)] with
    | error e => rfl
    | ok a => cases a.smallest <;> rfl
  | none =>
    simp only [Option.map_none]
    cases hI : matchIso cs with
    | none => rfl
    | some g =>
      simp only [Option.map_some, List.reverse_cons, List.reverse_nil, List.nil_append, List.cons_append,
        List.zip_cons_cons, List.zip_nil_left, tr_foldl]
      unfold evalGroups Groups.scaled
      cases evalLoop ⟨0, true⟩ [(g.s, some 1), (g.m, some Gen.secPerMin), (g.h, some Gen.secPerHour),
          (g.d, some Gen.secPerDay), (g.mo, none), (g.y, none)] with
      | error e => rfl
      | ok a => cases a.smallest <;> rfl

theorem pyDivmod_grid (w f P k : Nat) (hf : f < P) (hk : 0 < k) :
    pyDivmod ((w : Rat) + (f : Rat) / (P : Rat)) k =
      (((w / k : Nat) : Rat), ((w % k : Nat) : Rat) + (f : Rat) / (P : Rat)) := by
  have hK : (0 : Rat) < (k : Rat) := Rat.natCast_pos.mpr hk
  have he0 : (0 : Rat) ≤ (f : Rat) / (P : Rat) := by
    rw [Rat.div_def]
    exact Rat.mul_nonneg Rat.natCast_nonneg
      (Rat.le_of_lt (Rat.inv_pos.mpr (Rat.natCast_pos.mpr (Nat.zero_lt_of_lt hf))))
  have he1 : (f : Rat) / (P : Rat) < 1 :=
    (Rat.div_lt_iff (Rat.natCast_pos.mpr (Nat.zero_lt_of_lt hf))).mpr
      (by rw [Rat.one_mul]; exact Rat.natCast_lt_natCast.mpr hf)
  have hw : (w : Rat) = (k : Rat) * ((w / k : Nat) : Rat) + ((w % k : Nat) : Rat) := by
    rw [← Rat.natCast_mul, ← Rat.natCast_add, Nat.div_add_mod]
  have hr1 : ((w % k : Nat) : Rat) + 1 ≤ (k : Rat) := by
    have : ((w % k + 1 : Nat) : Rat) ≤ (k : Rat) := Rat.natCast_le_natCast.mpr (Nat.mod_lt w hk)
    rwa [Rat.natCast_add] at this
  generalize (f : Rat) / (P : Rat) = e at he0 he1 ⊢
  generalize w / k = q, w % k = r at hw hr1 ⊢
  have hr0 : (0 : Rat) ≤ (r : Rat) := Rat.natCast_nonneg
  have hfl : (((w : Rat) + e) / (k : Rat)).floor = (q : Int) := by
    have h1 : (q : Int) ≤ (((w : Rat) + e) / (k : Rat)).floor :=
      Rat.le_floor_iff.mpr (Rat.not_lt.mp fun h => by
        rw [Rat.intCast_natCast, Rat.div_lt_iff hK, hw, Rat.mul_comm, Rat.add_assoc] at h
        exact Rat.lt_irrefl (Rat.add_zero ((q : Rat) * (k : Rat)) ▸
          Std.lt_of_le_of_lt (Rat.add_le_add_left.mpr (Rat.add_nonneg hr0 he0)) h))
    have h2 : (((w : Rat) + e) / (k : Rat)).floor < (q : Int) + 1 :=
      Rat.floor_lt_iff.mpr ((Rat.div_lt_iff hK).mpr (by
        rw [Rat.intCast_add, Rat.intCast_natCast, hw, Rat.add_mul, Rat.mul_comm (q : Rat), Rat.add_assoc]
        exact Rat.add_lt_add_left.mpr (Std.lt_of_lt_of_le (Rat.add_lt_add_left.mpr he1)
          (by rw [Rat.intCast_one, Rat.one_mul]; exact hr1))))
    omega
  unfold pyDivmod
  simp only [hfl, Rat.intCast_natCast]
  refine Prod.ext rfl ?_
  show (w : Rat) + e - (k : Rat) * (q : Rat) = (r : Rat) + e
  rw [hw, Rat.add_assoc, Rat.add_comm ((k : Rat) * (q : Rat)), Rat.add_sub_cancel]

theorem pyTrunc_nat (n : Nat) : pyTrunc (n : Rat) = (n : Int) := by
  unfold pyTrunc
  rw [if_neg (Rat.not_lt.mpr Rat.natCast_nonneg)]
  have := Rat.floor_intCast (n : Int)
  rwa [Rat.intCast_natCast] at this

theorem pyIntStr_nat (n : Nat) : pyIntStr (n : Int) = natStr n := by
  unfold pyIntStr
  have : ¬ (n : Int) < 0 := by omega
  simp [this]

/-- `parts = parts + [x]` under an `if`, as the model writes it.  `append_if'`, `append_ite` and
    `opt_flip` are for the other ways the source may put it (in the `else` arm, in both arms, with the
    test inverted); they fire through `c19tie` only, and not at all on the source as it stands. -/
@[c19tie] theorem append_if {α : Type} (c : Prop) [Decidable c] (parts : List α) (x : α) :
    (if c then parts ++ [x] else parts) = parts ++ (if c then [x] else []) := by
  split <;> simp

@[c19tie] theorem append_if' {α : Type} (c : Prop) [Decidable c] (parts : List α) (x : α) :
    (if c then parts else parts ++ [x]) = parts ++ (if c then [] else [x]) := by
  split <;> simp

@[c19tie] theorem append_ite {α : Type} (c : Prop) [Decidable c] (parts : List α) (x y : α) :
    (if c then parts ++ [x] else parts ++ [y]) = parts ++ [if c then x else y] := by
  split <;> rfl

@[c19tie] theorem opt_flip {α : Type} (c : Prop) [Decidable c] (x : α) :
    (if c then [] else [x]) = if ¬c then [x] else [] := by
  split <;> simp [*]

/-- the seconds' part of `s` whole seconds and `f` ticks: `f"{s:.{p}f}"` of a float, `f"{s}"` of an
    int (no ticks then) -/
theorem secStr_grid (s f p prec : Nat) (fl : Bool) (hf : f < 10 ^ p) (hp : fl = false → p = 0)
    (hpr : fl = true → prec = p) :
    (fl = true → pyFormatFixed ((s : Rat) + (f : Rat) / ((10 ^ p : Nat) : Rat)) prec = fixedStr s f p) ∧
    (fl = false → pyStrNum ((s : Rat) + (f : Rat) / ((10 ^ p : Nat) : Rat)) fl = fixedStr s f p) := by
  have h1 : (s * 10 ^ p + f) / 10 ^ p = s := by
    rw [Nat.mul_comm, Nat.mul_add_div (pow10_pos p), Nat.div_eq_of_lt hf, Nat.add_zero]
  have h2 : (s * 10 ^ p + f) % 10 ^ p = f := by
    rw [Nat.mul_comm, Nat.mul_add_mod, Nat.mod_eq_of_lt hf]
  have e := natCast_div_add_mod (s * 10 ^ p + f) (10 ^ p) (pow10_rat_ne p)
  rw [h1, h2] at e
  refine ⟨fun h => ?_, fun h => ?_⟩
  · simp only [pyFormatFixed, hpr h, e, roundTicks_on_grid, h1, h2]
  · subst h
    obtain rfl := hp rfl
    have h : s * 10 ^ 0 + f = s := by rw [Nat.pow_zero] at hf ⊢; omega
    have hfl : ((s : Nat) : Rat).floor = (s : Int) := by rw [← Rat.intCast_natCast, Rat.floor_intCast]
    rw [e, div_pow_zero, h]
    simp only [pyStrNum, Bool.false_eq_true, ↓reduceIte, hfl, pyIntStr_nat, fixedStr]

theorem snoc_opt_congr {α : Type} {c c' : Prop} [Decidable c] [Decidable c'] {L L' : List α} {x y : α}
    (hL : L = L') (h : c ↔ c') (hx : c' → x = y) :
    L ++ (if c then [x] else []) = L' ++ (if c' then [y] else []) := by
  subst hL
  by_cases hc : c'
  · rw [if_pos hc, if_pos (h.mpr hc), hx hc]
  · rw [if_neg hc, if_neg (mt h.mp hc)]

/-- the printing part of the generated `timestr` on a value `N / 10^p`; `fl`: a float printed with
    `prec = p` places, otherwise an int and `p = 0` -/
theorem timestr_print_core (N p prec : Nat) (fl : Bool) (sep : List Char) (hp : fl = false → p = 0)
    (hpr : fl = true → prec = p) :
    Gen.TrTu.timestr_s2 ((N : Rat) / ((10 ^ p : Nat) : Rat)) fl sep prec fl = some (timestrTicks N p sep) := by
  have hf := Nat.mod_lt N (pow10_pos p)
  rw [← natCast_div_add_mod N _ (pow10_rat_ne p)]
  unfold timestrTicks
  generalize N / 10 ^ p = w, N % 10 ^ p = f at hf ⊢
  simp only [Gen.TrTu.timestr_s2, Gen.TrTu.timestr_s3,
    Gen.TrTu.timestr_s4, Gen.TrTu.timestr_s5, Gen.TrTu.timestr_s6, Gen.TrTu.timestr_s7,
    Gen.TrTu.timestr_s8, Gen.TrTu.timestr_s9, Gen.TrTu.timestr_s10,
    pyDivmod_grid _ _ _ _ hf (by decide : 0 < Gen.secPerDay),
    pyDivmod_grid _ _ _ _ hf (by decide : 0 < Gen.secPerHour),
    pyDivmod_grid _ _ _ _ hf (by decide : 0 < Gen.secPerMin), pyTrunc_nat, pyIntStr_nat, natCast_ne_zero_iff,
    c19tie]
  -- part by part: equivalent conditions, equal texts
  obtain ⟨hF, hS⟩ := secStr_grid (w % Gen.secPerDay % Gen.secPerHour % Gen.secPerMin) f p prec fl hf hp hpr
  -- minutes and seconds are always there: the model writes them as one list of two behind the optional parts
  rw [List.append_assoc _ [_] [_]]
  refine congrArg some (congrArg (joinParts sep) (congr (congrArg _ (snoc_opt_congr
    ((snoc_opt_congr rfl ?_ fun _ => rfl).trans (List.nil_append _)) ?_ fun _ => rfl))
    (congrArg _ (congrArg (fun x => [x]) ?_))))
  -- the conditions of the parts: `A ↔ A` on the source as it stands, `simp` and `omega` for another spelling
  · (try simp) <;> omega
  · (try simp) <;> omega
  · cases fl
    · simp only [c19tie, hS rfl]
    · simp only [c19tie, hF rfl]

/-- each case of an argument of `timestr`/`timestr_approx` comes with the test on its value in both
    spellings (`_ < 0`, `0 ≤ _`) -/
theorem secs_cases {motive : Secs → Prop}
    (negInt : ∀ n : Int, n < 0 → ((n : Int) : Rat) < 0 → ¬ 0 ≤ ((n : Int) : Rat) → motive (.int n))
    (nat : ∀ N : Nat, ¬ ((N : Int) < 0) → ¬ (((N : Int) : Rat) < 0) → 0 ≤ (((N : Int) : Rat)) →
      (((N : Int) : Rat)) = (N : Rat) → motive (.int N))
    (negFloat : ∀ q : Rat, q < 0 → ¬ 0 ≤ q → motive (.float q))
    (float : ∀ q : Rat, ¬ q < 0 → 0 ≤ q → motive (.float q)) (x : Secs) : motive x := by
  cases x with
  | float q =>
    by_cases hq : q < 0
    · exact negFloat q hq (Rat.not_le.mpr hq)
    · exact float q hq (Rat.not_lt.mp hq)
  | int n =>
    by_cases hn : n < 0
    · have h : ((n : Int) : Rat) < 0 := by exact_mod_cast hn
      exact negInt n hn h (Rat.not_le.mpr h)
    · obtain ⟨N, rfl⟩ : ∃ N : Nat, n = (N : Int) := ⟨n.toNat, by omega⟩
      have h : ¬ (((N : Int) : Rat) < 0) := fun h => hn (Rat.intCast_lt_intCast.mp h)
      exact nat N hn h (Rat.not_lt.mp h) (Rat.intCast_natCast N)

/-- the printing part of the generated `timestr_approx` on a value `N / 10^p`; `fl`: a float printed
    with `sp = p` places, otherwise an int and `p = 0` (`sp`, the generated code's `sprec`, is not read) -/
theorem approx_print_core (N p sp : Nat) (fl oM oS : Bool) (sep : List Char) (hp : fl = false → p = 0)
    (hsp : fl = true → sp = p) :
    Gen.TrTu.timestrApprox_s14 ((N : Rat) / ((10 ^ p : Nat) : Rat)) fl sep oM oS sp =
      some (approxParts (N / 10 ^ p / Gen.secPerDay) (N / 10 ^ p % Gen.secPerDay / Gen.secPerHour)
        (if oM then 0 else N / 10 ^ p % Gen.secPerDay % Gen.secPerHour / Gen.secPerMin)
        (if oM then N / 10 ^ p % Gen.secPerDay % Gen.secPerHour
          else N / 10 ^ p % Gen.secPerDay % Gen.secPerHour % Gen.secPerMin)
        (N % 10 ^ p) p oM oS sep) := by
  have hf := Nat.mod_lt N (pow10_pos p)
  rw [← natCast_div_add_mod N _ (pow10_rat_ne p)]
  unfold approxParts
  generalize N / 10 ^ p = w, N % 10 ^ p = f at hf ⊢
  have hs := fun s => secStr_grid s f p sp fl hf hp hsp
  simp only [Gen.TrTu.timestrApprox_s14, Gen.TrTu.timestrApprox_s15,
    pyDivmod_grid _ _ _ _ hf (by decide : 0 < Gen.secPerDay),
    pyDivmod_grid _ _ _ _ hf (by decide : 0 < Gen.secPerHour)]
  generalize w / Gen.secPerDay = d, w % Gen.secPerDay / Gen.secPerHour = h, w % Gen.secPerDay % Gen.secPerHour = r
  cases oM <;>
    simp only [Gen.TrTu.timestrApprox_s16,
      Gen.TrTu.timestrApprox_s17, Gen.TrTu.timestrApprox_s18, Gen.TrTu.timestrApprox_s19,
      Gen.TrTu.timestrApprox_s20, Gen.TrTu.timestrApprox_s21, Gen.TrTu.timestrApprox_s22,
      pyDivmod_grid _ _ _ _ hf (by decide : 0 < Gen.secPerMin), pyTrunc_nat, pyIntStr_nat,
      natCast_ne_zero_iff, c19tie]
  -- part by part: equivalent conditions, equal texts
  all_goals
    refine congrArg some (congrArg (joinParts sep) (snoc_opt_congr (snoc_opt_congr (snoc_opt_congr
      ((snoc_opt_congr rfl ?_ fun _ => rfl).trans (List.nil_append _)) ?_ fun _ => rfl) ?_ fun _ => rfl) ?_
      fun _ => ?_))
    -- the conditions of the parts: `A ↔ A` on the source as it stands, `simp` and `omega` for another spelling
    · (try simp) <;> omega
    · (try simp) <;> omega
    · (try simp) <;> omega
    · cases oS <;> simp
    · cases fl
      · simp only [c19tie, (hs _).2 rfl]
      · simp only [c19tie, (hs _).1 rfl]

theorem approx_print (a : AVal) (sp : Nat) (oM oS : Bool) (sep : List Char)
    (hag : a.isFloat = true → sp = a.sprec) (hg : OnGrid a) :
    Gen.TrTu.timestrApprox_s14 a.v a.isFloat sep oM oS sp = some (approxRender ⟨a, oM, oS⟩ sep) := by
  obtain ⟨N, hN⟩ := hg
  unfold approxRender
  simp only [hN, roundTicks_on_grid]
  exact approx_print_core N _ sp a.isFloat oM oS sep (fun h => by rw [h]; rfl)
    (fun h => by rw [h]; exact hag h)

theorem pyTrunc_nonneg (y : Rat) (hy : 0 ≤ y) : ((pyTrunc y : Int) : Rat) = ((y.floor.toNat : Nat) : Rat) := by
  unfold pyTrunc
  have : ¬ y < 0 := Rat.not_lt.mpr hy
  rw [if_neg this]
  have hf : (0 : Int) ≤ y.floor := Rat.le_floor_iff.mpr (by simpa using hy)
  exact (natCast_toNat _ hf).symm

theorem trunc_roundUnit (v : Rat) (hv : 0 ≤ v) (u : Nat) (hu : 0 < u) :
    ((u : Nat) : Rat) * ((pyTrunc (v / ((u : Nat) : Rat) + (1 : Rat) / 2) : Int) : Rat) =
      ((roundUnit v u : Nat) : Rat) := by
  have hU : (0 : Rat) < (u : Rat) := Rat.natCast_pos.mpr hu
  have hy : 0 ≤ v / (u : Rat) + (1 : Rat) / 2 := by
    have := Rat.mul_nonneg hv (Rat.le_of_lt (Rat.inv_pos.mpr hU))
    rw [← Rat.div_def] at this
    grind
  rw [pyTrunc_nonneg _ hy]
  unfold roundUnit
  push_cast
  rfl

/-- `if 60.0 <= seconds < 10*SEC_PER_HOUR: seconds = round(seconds)` is `fstep4` -/
theorem tr_s8 (a : AVal) (ha : a.isFloat = true) (sep : List Char) (oM oS : Bool) :
    Gen.TrTu.timestrApprox_s8 a.v sep oM oS a.sprec = (a.sprec, (fstep4 a).v, (fstep4 a).isFloat) := by
  unfold Gen.TrTu.timestrApprox_s8 fstep4 roundStep intStep
  simp only [c36000]
  have hc : 60 ≤ a.v → ((pyRound1 a.v : Int) : Rat) = (((roundHalfEven a.v).toNat : Nat) : Rat) := fun h =>
    (natCast_toNat _ (roundHalfEven_nonneg a.v (Rat.le_trans (by decide) h))).symm
  by_cases c1 : 60 ≤ a.v <;> by_cases c2 : a.v < 36000 <;> simp [c1, c2, ha, hc]

/-- from `if 10.0 <= seconds < 60.0:` to the end of the float block: `fstep3`, then `fstep4` -/
theorem tr_s6 (a : AVal) (ha : a.isFloat = true) (sep : List Char) (oM oS : Bool) :
    Gen.TrTu.timestrApprox_s6 a.v sep oM oS a.sprec =
      ((fstep3 a).sprec, (fstep4 (fstep3 a)).v, (fstep4 (fstep3 a)).isFloat) := by
  have h8 := tr_s8 (fstep3 a) (decStep_isFloat _ _ _ a ha) sep oM oS
  unfold Gen.TrTu.timestrApprox_s6 Gen.TrTu.timestrApprox_s7
  rw [← h8]
  unfold fstep3 roundStep decStep
  by_cases c1 : 10 ≤ a.v <;> by_cases c2 : a.v < 60 <;> simp [c1, c2, pyRound2]

/-- from `if 1.0 <= seconds < 10.0:` to the end of the float block -/
theorem tr_s4 (a : AVal) (ha : a.isFloat = true) (sep : List Char) (oM oS : Bool) :
    Gen.TrTu.timestrApprox_s4 a.v sep oM oS a.sprec =
      ((fstep3 (fstep2 a)).sprec, (fstep4 (fstep3 (fstep2 a))).v, (fstep4 (fstep3 (fstep2 a))).isFloat) := by
  have h6 := tr_s6 (fstep2 a) (decStep_isFloat _ _ _ a ha) sep oM oS
  unfold Gen.TrTu.timestrApprox_s4 Gen.TrTu.timestrApprox_s5
  rw [← h6]
  unfold fstep2 roundStep decStep
  by_cases c1 : 1 ≤ a.v <;> by_cases c2 : a.v < 10 <;> simp [c1, c2, pyRound2]

/-- the float block of the generated function IS the model's `approxFloat` (the generated `sprec`
    is the one before the last step, which resets it in the model when the value becomes an int) -/
theorem tr_s2_float (q : Rat) (sep : List Char) (oM oS : Bool) :
    Gen.TrTu.timestrApprox_s2 q true sep oM oS =
      Gen.TrTu.timestrApprox_s9 (approxFloat q).v (approxFloat q).isFloat sep oM oS
        (fstep3 (fstep2 (fstep1 q))).sprec := by
  have h4 := tr_s4 (fstep1 q) (by unfold fstep1 decStep; split <;> rfl) sep oM oS
  unfold Gen.TrTu.timestrApprox_s2 Gen.TrTu.timestrApprox_s3
  rw [approxFloat_eq]
  simp only [↓reduceIte]
  have e : (if decide (q < 1) = true then ((3 : Nat), pyRound2 q 3) else (0, q)) =
      ((fstep1 q).sprec, (fstep1 q).v) := by
    unfold fstep1 decStep
    by_cases c : q < 1 <;> simp [c, pyRound2]
  simp only [e, h4]

/-- the two `if`s behind the float block (minutes from 10 hours, hours from 10 days) ARE the
    model's `approxCoarse` -/
theorem tr_s9 (a : AVal) (hv : 0 ≤ a.v) (sp : Nat) (sep : List Char) :
    Gen.TrTu.timestrApprox_s9 a.v a.isFloat sep false false sp =
      Gen.TrTu.timestrApprox_s14 (approxCoarse a).a.v (approxCoarse a).a.isFloat sep
        (approxCoarse a).omitMin (approxCoarse a).omitSec sp := by
  unfold Gen.TrTu.timestrApprox_s9 Gen.TrTu.timestrApprox_s10 Gen.TrTu.timestrApprox_s11
    Gen.TrTu.timestrApprox_s12 Gen.TrTu.timestrApprox_s13 approxCoarse
  simp only [c36000, c864000]
  have t60 := trunc_roundUnit a.v hv Gen.secPerMin (by decide)
  by_cases c1 : 36000 ≤ a.v ∧ a.v < 864000
  · have c1' : (decide (36000 ≤ a.v) && decide (a.v < 864000)) = true := by simpa using c1
    simp only [c1, and_self, ↓reduceIte, t60]
    have hk : (0 : Rat) ≤ ((roundUnit a.v Gen.secPerMin : Nat) : Rat) := by
      exact_mod_cast Nat.zero_le _
    have t3600 := trunc_roundUnit _ hk Gen.secPerHour (by decide)
    by_cases c2 : (864000 : Rat) ≤ ((roundUnit a.v Gen.secPerMin : Nat) : Rat)
    · simp [c2, t3600]
    · simp [c2]
  · have c1' : ¬ (decide (36000 ≤ a.v) && decide (a.v < 864000)) = true := by simpa using c1
    simp only [c1, c1', ↓reduceIte]
    have t3600 := trunc_roundUnit a.v hv Gen.secPerHour (by decide)
    by_cases c2 : (864000 : Rat) ≤ a.v
    · simp [c2, t3600]
    · simp [c2]

end Edzed.TimeUnits
