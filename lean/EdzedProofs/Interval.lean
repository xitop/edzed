/-
Helper lemmas for C13: `Res`; the tuple order of endpoints and of ranges, which is core Lean's lexicographic order on
lists (`lt_eq_decide`, `rangeLt_eq_decide`), and sorting by it; membership on a numeric cyclic scale and its piecewise
constancy; the scales (microsecond of the day, day of the dummy leap year) on which valid times and dates are compared;
that every accepted endpoint is valid; integer sequences.  Core Lean only.
-/
import EdzedModel.Interval

namespace Edzed.Interval

@[simp] theorem Res.bind_ok (a : α) (f : α → Res β) : (Res.ok a).bind f = f a := rfl
@[simp] theorem Res.bind_err (e : Err) (f : α → Res β) : (Res.err e : Res α).bind f = .err e := rfl
@[simp] theorem Res.bind_unsupported (f : α → Res β) : (Res.unsupported : Res α).bind f = .unsupported := rfl
@[simp] theorem Res.map_ok (a : α) (f : α → β) : (Res.ok a).map f = .ok (f a) := rfl

theorem Res.bind_ok_id {α : Type} (x : Res α) : (x.bind fun r => Res.ok r) = x := by cases x <;> rfl

theorem Res.map_eq_bind {α β : Type} (f : α → β) (x : Res α) : x.map f = x.bind fun a => .ok (f a) := by
  cases x <;> rfl

theorem Res.bind_eq_ok {x : Res α} {f : α → Res β} {b : β} (h : x.bind f = .ok b) :
    ∃ a, x = .ok a ∧ f a = .ok b := by
  cases x with
  | ok a => exact ⟨a, rfl, h⟩
  | err e => simp at h
  | unsupported => simp at h

theorem Res.map_eq_ok {x : Res α} {f : α → β} {b : β} (h : x.map f = .ok b) :
    ∃ a, x = .ok a ∧ f a = b := by
  cases x with
  | ok a => exact ⟨a, rfl, by simpa [Res.map] using h⟩
  | err e => simp [Res.map] at h
  | unsupported => simp [Res.map] at h

theorem lt_eq_decide : ∀ a b : List Nat, lt a b = decide (a < b)
  | [], [] => by simp [lt]
  | [], _ :: _ => by simp [lt]
  | _ :: _, [] => by simp [lt]
  | x :: xs, y :: ys => by
    simp only [lt, lt_eq_decide xs ys, List.cons_lt_cons_iff]
    by_cases h1 : x < y <;> by_cases h2 : x = y <;> simp [h1, h2]

theorem lt_iff {a b : List Nat} : lt a b = true ↔ a < b := by
  rw [lt_eq_decide, decide_eq_true_eq]

theorem le_iff {a b : List Nat} : le a b = true ↔ a ≤ b := by
  simp only [le, lt_eq_decide, Bool.not_eq_true', decide_eq_false_iff_not, List.not_lt]

theorem lt_irrefl (a : List Nat) : lt a a = false := by
  rw [lt_eq_decide]; exact decide_eq_false (List.lt_irrefl a)

theorem lt_asymm (a b : List Nat) (h : lt a b = true) : lt b a = false := by
  rw [lt_eq_decide]; exact decide_eq_false (List.lt_asymm (lt_iff.1 h))

theorem lt_trichotomy (a b : List Nat) : lt a b = true ∨ a = b ∨ lt b a = true := by
  by_cases h1 : a < b
  · exact Or.inl (lt_iff.2 h1)
  · by_cases h2 : b < a
    · exact Or.inr (Or.inr (lt_iff.2 h2))
    · exact Or.inr (Or.inl (List.le_antisymm (List.not_lt.1 h2) (List.not_lt.1 h1)))

theorem le_refl (a : List Nat) : le a a = true := le_iff.2 (List.le_refl a)

theorem le_total (a b : List Nat) : le a b = true ∨ le b a = true :=
  (List.le_total a b).imp le_iff.2 le_iff.2

theorem le_trans {a b c : List Nat} (h1 : le a b = true) (h2 : le b c = true) : le a c = true :=
  le_iff.2 (List.le_trans (le_iff.1 h1) (le_iff.1 h2))

theorem lt_of_le_of_lt {a b c : List Nat} (h1 : le a b = true) (h2 : lt b c = true) : lt a c = true :=
  lt_iff.2 (List.lt_of_le_of_lt (le_iff.1 h1) (lt_iff.1 h2))

theorem le_antisymm {a b : List Nat} (h1 : le a b = true) (h2 : le b a = true) : a = b :=
  List.le_antisymm (le_iff.1 h1) (le_iff.1 h2)

theorem cmpOpen_start (a b : Ep) : cmpOpen a a b = true := by
  unfold cmpOpen
  rw [le_refl]
  cases lt a b <;> rfl

theorem cmpOpen_stop {a b : Ep} (hne : a ≠ b) : cmpOpen a b b = false := by
  unfold cmpOpen
  rw [lt_irrefl b, le]
  rcases lt_trichotomy a b with h | h | h
  · rw [h, if_pos rfl, Bool.and_false]
  · exact absurd h hne
  · rw [lt_asymm _ _ h, h]
    rfl

theorem cmpOpen_whole (a x : Ep) : cmpOpen a x a = true := by
  unfold cmpOpen
  rw [lt_irrefl a, le]
  cases lt x a <;> rfl

theorem cmpClosed_ends (a b : Ep) : cmpClosed a a b = true ∧ cmpClosed a b b = true := by
  unfold cmpClosed
  rw [le_refl, le_refl]
  cases le a b <;> exact ⟨rfl, rfl⟩

theorem cmpClosed_single (a x : Ep) : cmpClosed a x a = true ↔ x = a := by
  unfold cmpClosed
  rw [le_refl, if_pos rfl, Bool.and_eq_true]
  exact ⟨fun h => le_antisymm h.2 h.1, fun h => by rw [h, le_refl]; exact ⟨rfl, rfl⟩⟩

/-- `(start, stop)` tuples are compared as the lists `[start, stop]` that `as_list()` prints -/
theorem rangeLt_eq_decide (r s : Range) : rangeLt r s = decide ([r.1, r.2] < [s.1, s.2]) := by
  simp only [rangeLt, lt_eq_decide, List.cons_lt_cons_iff, List.lt_irrefl, and_false, or_false]
  by_cases h1 : r.1 < s.1 <;> by_cases h2 : r.1 = s.1 <;> simp [h1, h2]

theorem rangeLe_iff {r s : Range} : rangeLe r s = true ↔ [r.1, r.2] ≤ [s.1, s.2] := by
  simp only [rangeLe, rangeLt_eq_decide, Bool.not_eq_true', decide_eq_false_iff_not, List.not_lt]

theorem rangeLe_of_not (r s : Range) (h : rangeLe r s = false) : rangeLe s r = true :=
  rangeLe_iff.2 ((List.le_total _ _).resolve_left fun h' => by rw [rangeLe_iff.2 h'] at h; cases h)

theorem rangeLe_trans {r s t : Range} (h1 : rangeLe r s = true) (h2 : rangeLe s t = true) :
    rangeLe r t = true :=
  rangeLe_iff.2 (List.le_trans (rangeLe_iff.1 h1) (rangeLe_iff.1 h2))

theorem rangeLe_antisymm {r s : Range} (h1 : rangeLe r s = true) (h2 : rangeLe s r = true) : r = s := by
  have := List.le_antisymm (rangeLe_iff.1 h1) (rangeLe_iff.1 h2)
  simp only [List.cons.injEq, and_true] at this
  exact Prod.ext this.1 this.2

/-- sorted as Python's `sorted` leaves a list: every element is `<=` every later one -/
def Sorted (l : List Range) : Prop := l.Pairwise fun a b => rangeLe a b = true

theorem insertR_perm (r : Range) (l : List Range) : (insertR r l).Perm (r :: l) := by
  induction l with
  | nil => simp [insertR]
  | cons y ys ih =>
    unfold insertR
    split
    · exact List.Perm.refl _
    · exact ((List.Perm.cons y ih).trans (List.Perm.swap r y ys))

theorem insertR_sorted (r : Range) (l : List Range) (h : Sorted l) : Sorted (insertR r l) := by
  induction l with
  | nil => simp [insertR, Sorted]
  | cons y ys ih =>
    unfold insertR
    have hy := List.pairwise_cons.1 h
    split
    · next hle =>
      exact List.pairwise_cons.2 ⟨List.forall_mem_cons.2 ⟨hle, fun z e => rangeLe_trans hle (hy.1 z e)⟩, h⟩
    · next hle =>
      refine List.pairwise_cons.2 ⟨fun z hz => ?_, ih hy.2⟩
      rcases List.mem_cons.1 ((insertR_perm r ys).mem_iff.1 hz) with e | e
      · subst e; exact rangeLe_of_not z y (by simpa using hle)
      · exact hy.1 z e

theorem sortR_sorted (l : List Range) : Sorted (sortR l) := by
  induction l with
  | nil => simp [sortR, Sorted]
  | cons r rs ih => exact insertR_sorted r _ ih

theorem sortR_perm (l : List Range) : (sortR l).Perm l := by
  induction l with
  | nil => simp [sortR]
  | cons r rs ih => exact (insertR_perm r _).trans (List.Perm.cons r ih)

theorem mem_sortR {x : Range} {l : List Range} : x ∈ sortR l ↔ x ∈ l := (sortR_perm l).mem_iff

theorem insertR_of_le_all (r : Range) (l : List Range) (h : ∀ x ∈ l, rangeLe r x = true) :
    insertR r l = r :: l := by
  cases l with
  | nil => rfl
  | cons y ys => simp [insertR, h y (by simp)]

theorem sortR_of_sorted (l : List Range) (h : Sorted l) : sortR l = l := by
  induction l with
  | nil => rfl
  | cons r rs ih =>
    have hr := List.pairwise_cons.1 h
    simp only [sortR, ih hr.2]
    exact insertR_of_le_all r rs hr.1

theorem sorted_perm_unique : ∀ (l m : List Range), Sorted l → Sorted m → l.Perm m → l = m
  | [], m, _, _, p => by simpa using p.symm.eq_nil
  | a :: l, [], _, _, p => by simpa using p.eq_nil
  | a :: l, b :: m, hl, hm, p => by
    have hl' := List.pairwise_cons.1 hl
    have hm' := List.pairwise_cons.1 hm
    have hab : a = b := by
      have ha : a ∈ b :: m := p.mem_iff.1 (by simp)
      have hb : b ∈ a :: l := p.mem_iff.2 (by simp)
      rcases List.mem_cons.1 ha with e | e
      · exact e
      · rcases List.mem_cons.1 hb with e' | e'
        · exact e'.symm
        · exact rangeLe_antisymm (hl'.1 b e') (hm'.1 a e)
    subst hab
    rw [sorted_perm_unique l m hl'.2 hm'.2 (List.Perm.cons_inv p)]

theorem cyclic_dist {D lo y : Nat} (hlo : lo < D) (hy : y < D) :
    (y + D - lo) % D = if lo ≤ y then y - lo else y + D - lo := by
  split
  · have : y + D - lo = (y - lo) + D := by omega
    rw [this, Nat.add_mod_right, Nat.mod_eq_of_lt (by omega)]
  · exact Nat.mod_eq_of_lt (by omega)

theorem inOpen_cyclic (D lo x hi : Nat) (hlo : lo < D) (hx : x < D) (hhi : hi < D) :
    inOpen lo x hi = true ↔ (lo = hi ∨ (x + D - lo) % D < (hi + D - lo) % D) := by
  rw [cyclic_dist hlo hx, cyclic_dist hlo hhi]
  unfold inOpen
  by_cases h : lo < hi
  · simp only [h, Nat.le_of_lt h, ↓reduceIte, Bool.and_eq_true, decide_eq_true_eq]
    split <;> omega
  · simp only [h, ↓reduceIte, Bool.or_eq_true, decide_eq_true_eq]
    split <;> split <;> omega

theorem inClosed_cyclic (D lo x hi : Nat) (hlo : lo < D) (hx : x < D) (hhi : hi < D) :
    inClosed lo x hi = true ↔ (x + D - lo) % D ≤ (hi + D - lo) % D := by
  rw [cyclic_dist hlo hx, cyclic_dist hlo hhi]
  unfold inClosed
  by_cases h : lo ≤ hi
  · simp only [h, ↓reduceIte, Bool.and_eq_true, decide_eq_true_eq]
    split <;> omega
  · simp only [h, ↓reduceIte, Bool.or_eq_true, decide_eq_true_eq]
    split <;> omega

theorem inOpen_const (lo hi t1 t2 : Nat) (h12 : t1 ≤ t2)
    (hlo : ¬ (t1 < lo ∧ lo ≤ t2)) (hhi : ¬ (t1 < hi ∧ hi ≤ t2)) :
    inOpen lo t1 hi = inOpen lo t2 hi := by
  rw [Bool.eq_iff_iff]
  unfold inOpen
  split <;> simp only [Bool.and_eq_true, Bool.or_eq_true, decide_eq_true_eq] <;> omega

theorem inClosed_const (lo hi t1 t2 : Nat) (h12 : t1 ≤ t2)
    (hlo : ¬ (t1 < lo ∧ lo ≤ t2)) (hhi : ¬ (t1 ≤ hi ∧ hi < t2)) :
    inClosed lo t1 hi = inClosed lo t2 hi := by
  rw [Bool.eq_iff_iff]
  unfold inClosed
  split <;> simp only [Bool.and_eq_true, Bool.or_eq_true, decide_eq_true_eq] <;> omega

/-- an interval on the numeric scale: a list of `(start, stop)` -/
def containsNum (iv : List (Nat × Nat)) (x : Nat) : Bool := iv.any fun r => inOpen r.1 x r.2

theorem containsNum_const (iv : List (Nat × Nat)) (t1 t2 : Nat) (h12 : t1 ≤ t2)
    (hb : ∀ r ∈ iv, ¬ (t1 < r.1 ∧ r.1 ≤ t2) ∧ ¬ (t1 < r.2 ∧ r.2 ≤ t2)) :
    containsNum iv t1 = containsNum iv t2 := by
  induction iv with
  | nil => rfl
  | cons r rs ih =>
    have h1 := hb r (by simp)
    have := ih (fun r' hr' => hb r' (by simp [hr']))
    simp only [containsNum, List.any_cons] at this ⊢
    rw [inOpen_const r.1 r.2 t1 t2 h12 h1.1 h1.2, this]

/- a map to the natural numbers that is strictly increasing on the endpoints of one kind (`V`) is a scale for them:
   it reflects `<` and `≤` and is injective, because the tuple order is total -/
theorem scale_lt {V : Ep → Prop} {f : Ep → Nat} (hm : ∀ {a b}, V a → V b → lt a b = true → f a < f b)
    {a b : Ep} (ha : V a) (hb : V b) : lt a b = true ↔ f a < f b := by
  refine ⟨hm ha hb, fun h => ?_⟩
  rcases lt_trichotomy a b with t | t | t
  · exact t
  · rw [t] at h; exact absurd h (Nat.lt_irrefl _)
  · exact absurd (hm hb ha t) (Nat.lt_asymm h)

theorem scale_le {V : Ep → Prop} {f : Ep → Nat} (hm : ∀ {a b}, V a → V b → lt a b = true → f a < f b)
    {a b : Ep} (ha : V a) (hb : V b) : le a b = true ↔ f a ≤ f b := by
  rw [le, Bool.not_eq_true', ← Bool.not_eq_true, scale_lt hm hb ha, Nat.not_lt]

theorem scale_inj {V : Ep → Prop} {f : Ep → Nat} (hm : ∀ {a b}, V a → V b → lt a b = true → f a < f b)
    {a b : Ep} (ha : V a) (hb : V b) (h : f a = f b) : a = b := by
  rcases lt_trichotomy a b with t | t | t
  · exact absurd (hm ha hb t) (by omega)
  · exact t
  · exact absurd (hm hb ha t) (by omega)

theorem bool_eq_decide {b : Bool} {p : Prop} [Decidable p] (h : b = true ↔ p) : b = decide p := by
  rw [Bool.eq_iff_iff]; simp [h]

theorem validTime_shape {a : Ep} (h : validTime a = true) :
    ∃ hh m s us, a = [hh, m, s, us] ∧ hh < 24 ∧ m < 60 ∧ s < 60 ∧ us < 1000000 := by
  match a, h with
  | [hh, m, s, us], h =>
    simp only [validTime, Bool.and_eq_true, decide_eq_true_eq] at h
    exact ⟨hh, m, s, us, rfl, h.1.1.1, h.1.1.2, h.1.2, h.2⟩

theorem usPerDay_eq : usPerDay = 86400000000 := by decide

theorem timeUs_lt_day {a : Ep} (h : validTime a = true) : timeUs a < usPerDay := by
  obtain ⟨hh, m, s, us, rfl, h1, h2, h3, h4⟩ := validTime_shape h
  rw [usPerDay_eq]; simp only [timeUs]; omega

theorem timeUs_mono {a b : Ep} (ha : validTime a = true) (hb : validTime b = true) (h : lt a b = true) :
    timeUs a < timeUs b := by
  obtain ⟨h, m, s, us, rfl, h1, h2, h3, h4⟩ := validTime_shape ha
  obtain ⟨h', m', s', us', rfl, h1', h2', h3', h4'⟩ := validTime_shape hb
  simp only [lt, Bool.or_eq_true, Bool.and_eq_true, decide_eq_true_eq, Bool.false_eq_true, and_false,
    or_false] at h
  simp only [timeUs]
  omega

theorem time_lt_iff {a b : Ep} (ha : validTime a = true) (hb : validTime b = true) :
    lt a b = true ↔ timeUs a < timeUs b :=
  scale_lt (V := (validTime · = true)) timeUs_mono ha hb

theorem timeUs_inj {a b : Ep} (ha : validTime a = true) (hb : validTime b = true)
    (h : timeUs a = timeUs b) : a = b :=
  scale_inj (V := (validTime · = true)) timeUs_mono ha hb h

theorem time_le_iff {a b : Ep} (ha : validTime a = true) (hb : validTime b = true) :
    le a b = true ↔ timeUs a ≤ timeUs b :=
  scale_le (V := (validTime · = true)) timeUs_mono ha hb

theorem cmpOpen_eq_inOpen {a x b : Ep} (ha : validTime a = true) (hx : validTime x = true)
    (hb : validTime b = true) : cmpOpen a x b = inOpen (timeUs a) (timeUs x) (timeUs b) := by
  unfold cmpOpen inOpen
  rw [bool_eq_decide (time_lt_iff ha hb), bool_eq_decide (time_lt_iff hx hb), bool_eq_decide (time_le_iff ha hx)]
  by_cases h : timeUs a < timeUs b <;> simp [h]

theorem daysInMonth_pos (y mo : Nat) : 1 ≤ daysInMonth y mo := by
  unfold daysInMonth; split <;> (try split) <;> omega

theorem daysInMonth_le (y mo : Nat) : daysInMonth y mo ≤ 31 := by
  unfold daysInMonth; split <;> (try split) <;> omega

theorem daysBefore_succ (y mo : Nat) (h : 1 ≤ mo) :
    daysBefore y (mo + 1) = daysBefore y mo + daysInMonth y mo := by
  have : mo ≠ 0 := by omega
  simp [daysBefore, this]

theorem daysBefore_mono (y : Nat) {mo mo' : Nat} (h1 : 1 ≤ mo) (h : mo < mo') :
    daysBefore y mo + daysInMonth y mo ≤ daysBefore y mo' := by
  induction mo' with
  | zero => omega
  | succ n ih =>
    by_cases e : mo = n
    · subst e; rw [daysBefore_succ y mo h1]; exact Nat.le_refl _
    · have := ih (by omega)
      rw [daysBefore_succ y n (by omega)]; omega

theorem validDate_shape {a : Ep} (h : validDate a = true) :
    ∃ mo d, a = [mo, d] ∧ 1 ≤ mo ∧ mo ≤ 12 ∧ 1 ≤ d ∧ d ≤ daysInMonth Gen.dummyYear mo := by
  match a, h with
  | [mo, d], h =>
    simp only [validDate, validDateIn, Bool.and_eq_true, decide_eq_true_eq] at h
    exact ⟨mo, d, rfl, h.1.1.1, h.1.1.2, h.1.2, h.2⟩

theorem daysBefore_13 : daysBefore Gen.dummyYear 13 = 366 := by decide

theorem dayIndex_lt {a : Ep} (h : validDate a = true) : dayIndex a < 366 := by
  obtain ⟨mo, d, rfl, h1, h2, h3, h4⟩ := validDate_shape h
  have := daysBefore_mono Gen.dummyYear h1 (show mo < 13 by omega)
  rw [daysBefore_13] at this
  simp only [dayIndex]; omega

theorem dayIndex_mono {a b : Ep} (ha : validDate a = true) (hb : validDate b = true) (h : lt a b = true) :
    dayIndex a < dayIndex b := by
  obtain ⟨mo, d, rfl, h1, h2, h3, h4⟩ := validDate_shape ha
  obtain ⟨mo', d', rfl, h1', h2', h3', h4'⟩ := validDate_shape hb
  simp only [lt, Bool.or_eq_true, Bool.and_eq_true, decide_eq_true_eq, Bool.false_eq_true, and_false,
    or_false] at h
  simp only [dayIndex]
  rcases h with h | ⟨rfl, h⟩
  · have := daysBefore_mono Gen.dummyYear h1 h
    omega
  · omega

theorem date_le_iff {a b : Ep} (ha : validDate a = true) (hb : validDate b = true) :
    le a b = true ↔ dayIndex a ≤ dayIndex b :=
  scale_le (V := (validDate · = true)) dayIndex_mono ha hb

theorem cmpClosed_eq_inClosed {a x b : Ep} (ha : validDate a = true) (hx : validDate x = true)
    (hb : validDate b = true) : cmpClosed a x b = inClosed (dayIndex a) (dayIndex x) (dayIndex b) := by
  unfold cmpClosed inClosed
  rw [bool_eq_decide (date_le_iff ha hb), bool_eq_decide (date_le_iff hx hb), bool_eq_decide (date_le_iff ha hx)]
  by_cases h : dayIndex a ≤ dayIndex b <;> simp [h]

theorem validDateTime_shape {e : Ep} (h : validDateTime e = true) :
    ∃ y mo d hh mi s us, e = [y, mo, d, hh, mi, s, us] ∧ 1 ≤ y ∧ y ≤ 9999 ∧ 1 ≤ mo ∧ mo ≤ 12 ∧ 1 ≤ d ∧ d ≤ 31 ∧
      validTime [hh, mi, s, us] = true := by
  match e, h with
  | [y, mo, d, hh, mi, s, us], h =>
    simp only [validDateTime, validDateIn, Bool.and_eq_true, decide_eq_true_eq] at h
    have := daysInMonth_le y mo
    exact ⟨y, mo, d, hh, mi, s, us, rfl, by omega, by omega, by omega, by omega, by omega, by omega, h.2⟩

theorem validDateTime_ymd {y mo d : Nat} {tm : Ep} (h : validDateTime ([y, mo, d] ++ tm) = true) :
    y ≤ 9999 ∧ mo ≤ 12 ∧ d ≤ 31 := by
  obtain ⟨y', mo', d', _, _, _, _, he, -, hy, -, hmo, -, hd, -⟩ := validDateTime_shape h
  have e0 := congrArg (fun l => l.getD 0 0) he
  have e1 := congrArg (fun l => l.getD 1 0) he
  have e2 := congrArg (fun l => l.getD 2 0) he
  simp only [List.cons_append, List.getD_cons_zero, List.getD_cons_succ] at e0 e1 e2
  omega

def epLen : Kind → Nat
  | .time => 4
  | .date => 2
  | .datetime => 7

theorem validEp_length {k : Kind} {e : Ep} (h : validEp k e = true) : e.length = epLen k := by
  cases k with
  | time => obtain ⟨_, _, _, _, rfl, _⟩ := validTime_shape h; rfl
  | date => obtain ⟨_, _, rfl, _⟩ := validDate_shape h; rfl
  | datetime => obtain ⟨_, _, _, _, _, _, _, rfl, _⟩ := validDateTime_shape h; rfl

theorem checkEp_eq_ok {k : Kind} {e e' : Ep} (h : checkEp k e = .ok e') : e' = e ∧ validEp k e = true := by
  unfold checkEp at h
  split at h
  · next hv => cases h; exact ⟨rfl, hv⟩
  · cases h

theorem bind_checkEp_valid {k : Kind} {x : Res Ep} {e : Ep} (h : x.bind (checkEp k) = .ok e) :
    validEp k e = true := by
  obtain ⟨a, _, h2⟩ := Res.bind_eq_ok h
  obtain ⟨rfl, hv⟩ := checkEp_eq_ok h2
  exact hv

theorem convertTimeStr_valid {s : List Char} {e : Ep} (h : convertTimeStr s = .ok e) :
    validTime e = true := by
  unfold convertTimeStr convertTimeStripped at h
  split at h
  · cases h
  · split at h
    · split at h
      · next hv => cases h; exact hv
      · exact bind_checkEp_valid (k := .time) h
    · exact bind_checkEp_valid (k := .time) h

theorem isoDateTime_valid {s : List Char} {e : Ep} (h : isoDateTime s = .ok e) :
    validDateTime e = true := by
  unfold isoDateTime at h
  split at h
  · split at h
    · next hv => cases h; exact hv
    · cases h
  · next hne => exact absurd h (hne e)

theorem convertDateTimeStr_valid {s : List Char} {e : Ep} (h : convertDateTimeStr s = .ok e) :
    validDateTime e = true := by
  unfold convertDateTimeStr convertDateTimeStripped at h
  split at h
  · split at h
    · next hi => cases h; exact isoDateTime_valid hi
    · exact bind_checkEp_valid (k := .datetime) h
    · split at h <;> cases h
    · cases h
  · exact bind_checkEp_valid (k := .datetime) h

theorem convertStr_valid {k : Kind} {s : List Char} {e : Ep} (h : convertStr k s = .ok e) :
    validEp k e = true := by
  unfold convertStr at h
  split at h
  · cases h
  · cases k with
    | time => exact convertTimeStr_valid h
    | date => exact bind_checkEp_valid (k := .date) h
    | datetime => exact convertDateTimeStr_valid h

theorem convertSeq_valid {k : Kind} {l : List Int} {e : Ep} (h : convertSeq k l = .ok e) :
    validEp k e = true := by
  unfold convertSeq at h
  cases k <;> simp only at h <;> split at h <;> first
    | cases h
    | (obtain ⟨a, _, h2⟩ := Res.bind_eq_ok h; obtain ⟨rfl, hv⟩ := checkEp_eq_ok h2; exact hv)

theorem convert_valid {k : Kind} {x : EpIn} {e : Ep} (h : convert k x = .ok e) : validEp k e = true := by
  cases x with
  | str s => exact convertStr_valid h
  | ints l => exact convertSeq_valid h
  | bad => cases h

theorem pair_valid {k : Kind} {x y : Res Ep} {r : Range}
    (hx : ∀ e, x = .ok e → validEp k e = true) (hy : ∀ e, y = .ok e → validEp k e = true)
    (h : (x.bind fun a => y.bind fun b => .ok (a, b)) = .ok r) :
    validEp k r.1 = true ∧ validEp k r.2 = true := by
  obtain ⟨a, ha, h2⟩ := Res.bind_eq_ok h
  obtain ⟨b, hb, h3⟩ := Res.bind_eq_ok h2
  cases h3
  exact ⟨hx a ha, hy b hb⟩

theorem single_valid {k : Kind} {x : Res Ep} {r : Range}
    (hx : ∀ e, x = .ok e → validEp k e = true)
    (h : (x.bind fun a => .ok (a, a)) = .ok r) :
    validEp k r.1 = true ∧ validEp k r.2 = true := by
  obtain ⟨a, ha, h2⟩ := Res.bind_eq_ok h
  cases h2
  exact ⟨hx a ha, hx a ha⟩

theorem parseRangeStr_valid {k : Kind} {s : List Char} {r : Range} (h : parseRangeStr k s = .ok r) :
    validEp k r.1 = true ∧ validEp k r.2 = true := by
  unfold parseRangeStr at h
  split at h
  · exact pair_valid (fun _ => convertStr_valid) (fun _ => convertStr_valid) h
  · split at h
    · exact single_valid (fun _ => convertStr_valid) h
    · cases h

theorem parseRange_valid {k : Kind} {x : RangeIn} {r : Range} (h : parseRange k x = .ok r) :
    validEp k r.1 = true ∧ validEp k r.2 = true := by
  unfold parseRange at h
  split at h
  · exact parseRangeStr_valid h
  · exact pair_valid (fun _ => convert_valid) (fun _ => convert_valid) h
  · split at h
    · exact single_valid (fun _ => convert_valid) h
    · cases h
  · cases h
  · cases h

theorem parseRanges_valid {k : Kind} : ∀ {l : List RangeIn} {iv : List Range},
    parseRanges k l = .ok iv → ∀ r ∈ iv, validEp k r.1 = true ∧ validEp k r.2 = true
  | [], iv, h => by cases h; simp
  | x :: xs, iv, h => by
    obtain ⟨a, ha, h2⟩ := Res.bind_eq_ok h
    obtain ⟨as, has, h3⟩ := Res.bind_eq_ok h2
    cases h3
    intro r hr
    rcases List.mem_cons.1 hr with e | e
    · subst e; exact parseRange_valid ha
    · exact parseRanges_valid has r e

theorem parseRanges_length {k : Kind} : ∀ {l : List RangeIn} {iv : List Range},
    parseRanges k l = .ok iv → iv.length = l.length
  | [], iv, h => by cases h; rfl
  | x :: xs, iv, h => by
    obtain ⟨a, _, h2⟩ := Res.bind_eq_ok h
    obtain ⟨as, has, h3⟩ := Res.bind_eq_ok h2
    cases h3
    simp [parseRanges_length has]

theorem parseInterval_eq_ok {k : Kind} {spec : IvIn} {iv : List Range} (h : parseInterval k spec = .ok iv) :
    ∃ l raw, parseRanges k l = .ok raw ∧ iv = sortR raw := by
  unfold parseInterval at h
  split at h
  · split at h
    · cases h
    · obtain ⟨raw, h1, h2⟩ := Res.map_eq_ok h
      exact ⟨_, raw, h1, h2.symm⟩
  · obtain ⟨raw, h1, h2⟩ := Res.map_eq_ok h
    exact ⟨_, raw, h1, h2.symm⟩
  · cases h

theorem intsToNats_ofNat (e : List Nat) (h : ∀ v ∈ e, v < 2147483648) :
    intsToNats (e.map Int.ofNat) = .ok e := by
  unfold intsToNats
  have h1 : (e.map Int.ofNat).any (fun v => decide (v ≥ cIntLimit) || decide (v < -cIntLimit)) = false := by
    rw [List.any_eq_false]
    intro v hv
    obtain ⟨n, hn, rfl⟩ := List.mem_map.1 hv
    have := h n hn
    intro hc
    rcases Bool.or_eq_true_iff.1 hc with h' | h' <;>
      (have h'' := of_decide_eq_true h'; simp only [cIntLimit, Int.ofNat_eq_natCast] at h''; omega)
  have h2 : (e.map Int.ofNat).any (fun v => decide (v < 0)) = false := by
    rw [List.any_eq_false]
    intro v hv
    obtain ⟨n, _, rfl⟩ := List.mem_map.1 hv
    simp
  simp only [h1, h2, Bool.false_eq_true, ↓reduceIte, List.map_map]
  congr 1
  have hm : ∀ (l : List Nat), l.map (Int.toNat ∘ Int.ofNat) = l := by
    intro l; induction l with
    | nil => rfl
    | cons x xs ih => simp [ih]
  exact hm e

theorem validEp_small {k : Kind} {e : Ep} (h : validEp k e = true) : ∀ v ∈ e, v < 2147483648 := by
  cases k with
  | time =>
    obtain ⟨_, _, _, _, rfl, _, _, _, _⟩ := validTime_shape h
    intro v hv; simp at hv; omega
  | date =>
    obtain ⟨mo, d, rfl, _, _, _, h4⟩ := validDate_shape h
    have := daysInMonth_le Gen.dummyYear mo
    intro v hv; simp at hv; omega
  | datetime =>
    obtain ⟨y, mo, d, hh, mi, s, us, rfl, _, _, _, _, _, _, ht⟩ := validDateTime_shape h
    obtain ⟨_, _, _, _, e, _, _, _, _⟩ := validTime_shape ht
    cases e
    intro v hv; simp at hv; omega

theorem convertSeq_valid_id {k : Kind} {e : Ep} (h : validEp k e = true) :
    convertSeq k (e.map Int.ofNat) = .ok e := by
  have hl := validEp_length h
  have hi := intsToNats_ofNat e (validEp_small h)
  unfold convertSeq
  cases k <;> simp only [epLen] at hl <;>
    simp [hl, hi, checkEp, h, padZeros]

theorem contains_iff {k : Kind} {iv : List Range} {x : Ep} {P : Range → Prop}
    (h : ∀ r ∈ iv, cmp k r.1 x r.2 = true ↔ P r) : contains k iv x = true ↔ ∃ r ∈ iv, P r := by
  simp only [contains, List.any_eq_true]
  exact exists_congr fun r => and_congr_right fun hr => h r hr

theorem contains_congr {k : Kind} {iv : List Range} {x y : Ep}
    (h : ∀ r ∈ iv, cmp k r.1 x r.2 = cmp k r.1 y r.2) : contains k iv x = contains k iv y := by
  induction iv with
  | nil => rfl
  | cons r rs ih =>
    simp only [contains, List.any_cons] at ih ⊢
    rw [h r (by simp), ih fun r' hr' => h r' (by simp [hr'])]

end Edzed.Interval
