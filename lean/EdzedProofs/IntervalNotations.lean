/-
C13: the texts of the notations of a time of day, and the ISO 8601 ones among them (`HH`, `HH:MM`, `HHMM`,
`HH:MM:SS`, `HHMMSS`, fractions of 1..6 digits after `.` or `,`, with and without the leading `T`): they are read
by `time.fromisoformat` and denote the endpoint they spell; `str(time)` is one of them.  The parser is followed stage by
stage (`take2_two`, `isoNext_*`), the other facts come from the characters of the text (`TimeChar`).  Core Lean only.
-/
import EdzedModel.Interval
import EdzedProofs.Interval
import EdzedProofs.IntervalText

namespace Edzed.Interval

def optT (t : Bool) (s : List Char) : List Char := if t then 'T' :: s else s
/-- `H:M`, one or two digits each -/
def tHM (h m : Nat) : List Char := natStr h ++ ':' :: natStr m
/-- `HH:MM` -/
def tHMp (h m : Nat) : List Char := pad 2 h ++ ':' :: pad 2 m
/-- `HHMM` (ISO basic) -/
def tHMb (h m : Nat) : List Char := pad 2 h ++ pad 2 m
/-- `H:M:S`, one or two digits each -/
def tHMS (h m s : Nat) : List Char := natStr h ++ ':' :: natStr m ++ ':' :: natStr s
/-- `HH:MM:SS` -/
def tHMSp (h m s : Nat) : List Char := pad 2 h ++ ':' :: pad 2 m ++ ':' :: pad 2 s
/-- `HHMMSS` (ISO basic) -/
def tHMSb (h m s : Nat) : List Char := pad 2 h ++ pad 2 m ++ pad 2 s

theorem strpFrac_digits (q : List Char) (hq : q ≠ []) (hd : ∀ z ∈ q, isDigit z = true) (hl : q.length ≤ 6) :
    strpFrac q = some (fracUs q) := by
  have h1 : 1 ≤ q.length := by
    cases q with
    | nil => exact absurd rfl hq
    | cons _ _ => simp
  have : q.all isDigit = true := List.all_eq_true.2 hd
  simp [strpFrac, h1, hl, this]

/-- the characters of a notation of a time of day -/
def TimeChar (c : Char) : Prop := isDigit c = true ∨ c = ':' ∨ c = '.' ∨ c = ','

theorem timeChar_append {a b : List Char} (ha : ∀ c ∈ a, TimeChar c) (hb : ∀ c ∈ b, TimeChar c) :
    ∀ c ∈ a ++ b, TimeChar c :=
  List.forall_mem_append.2 ⟨ha, hb⟩

theorem timeChar_cons {x : Char} {b : List Char} (hx : TimeChar x) (hb : ∀ c ∈ b, TimeChar c) :
    ∀ c ∈ x :: b, TimeChar c :=
  List.forall_mem_cons.2 ⟨hx, hb⟩

theorem timeChar_digits {q : List Char} (hd : ∀ z ∈ q, isDigit z = true) : ∀ c ∈ q, TimeChar c :=
  fun c hc => Or.inl (hd c hc)

theorem timeChar_colon : TimeChar ':' := Or.inr (Or.inl rfl)

theorem timeChar_sep {c : Char} (hc : c = '.' ∨ c = ',') : TimeChar c := Or.inr (Or.inr hc)

theorem hasTz_timeChars {s : List Char} (h : ∀ c ∈ s, TimeChar c) : hasTz s = false := by
  simp only [hasTz, List.any_eq_false]
  intro c hc
  rcases h c hc with h | rfl | rfl | rfl
  · simp [isDigit_bne h (d := 'Z') rfl, isDigit_bne h (d := '+') rfl, isDigit_bne h (d := '-') rfl]
  all_goals decide

theorem asciiOk_timeChars {s : List Char} (h : ∀ c ∈ s, TimeChar c) : asciiOk s = true := by
  simp only [asciiOk, List.all_eq_true]
  intro c hc
  rcases h c hc with h | rfl | rfl | rfl
  · exact (isDigit_props h).2
  all_goals decide

theorem take2_two {a b : Char} (ha : isDigit a = true) (hb : isDigit b = true) (r : List Char) :
    take2 (a :: b :: r) = some (numOf [a, b], r) := by
  simp [take2, ha, hb, numOf]

theorem take2_digits (n : Nat) (hn : n < 100) (r : List Char) :
    take2 (digitChar (n / 10) :: digitChar n :: r) = some (n, r) := by
  rw [take2_two (isDigit_digitChar _) (isDigit_digitChar _), ← pad2, numOf_pad, Nat.mod_eq_of_lt hn]

theorem isoNext_nil (first sep : Bool) : isoNext first sep [] = (sep, .done) := rfl

theorem isoNext_colon (first sep : Bool) (h : first = true ∨ sep = true) (x : Char) (r : List Char) :
    isoNext first sep (':' :: x :: r) = (true, .cont (x :: r)) := by
  rcases h with rfl | rfl <;> simp [isoNext]

theorem isoNext_digit (first sep : Bool) (h : first = true ∨ sep = false) {c : Char} (hc : isDigit c = true)
    (x : Char) (r : List Char) : isoNext first sep (c :: x :: r) = (false, .cont (c :: x :: r)) := by
  have h1 := isDigit_bne hc (d := ':') rfl
  have h2 := isDigit_bne hc (d := '.') rfl
  have h3 := isDigit_bne hc (d := ',') rfl
  rcases h with rfl | rfl <;> simp [isoNext, h1, h2, h3]

theorem isoNext_frac (sep : Bool) {c : Char} (hc : c = '.' ∨ c = ',') (x : Char) (r : List Char) :
    isoNext false sep (c :: x :: r) = (sep, .frac (x :: r)) := by
  rcases hc with rfl | rfl <;> cases sep <;> simp [isoNext]

theorem isoFrac_digits (h m s : Nat) {q : List Char} (hq : q ≠ []) (hd : ∀ z ∈ q, isDigit z = true) :
    isoFrac h m s q = some [h, m, s, fracUs q] := by
  cases q with
  | nil => exact absurd rfl hq
  | cons x xs => simp [isoFrac, List.all_eq_true.2 hd]

/-- a time text `time.fromisoformat` (CPython's `_parse_hh_mm_ss_ff`) accepts -/
structure IsoTimeText (t : List Char) (tm : Ep) : Prop where
  iso : isoHMSF t = some tm
  chars : ∀ c ∈ t, TimeChar c
  last : LastOk t

theorem IsoTimeText.notz {t : List Char} {tm : Ep} (h : IsoTimeText t tm) : hasTz t = false :=
  hasTz_timeChars h.chars

theorem IsoTimeText.ascii {t : List Char} {tm : Ep} (h : IsoTimeText t tm) : asciiOk t = true :=
  asciiOk_timeChars h.chars

/-- the ISO 8601 notations of a time of day (without the optional leading `T`): `HH`, `HH:MM`, `HHMM`,
    `HH:MM:SS`, `HHMMSS`, the latter two with a fraction of 1..6 digits after `.` or `,` -/
inductive IsoTime : List Char → Ep → Prop
  | hour {h : Nat} (hh : h < 24) : IsoTime (pad 2 h) [h, 0, 0, 0]
  | hm {h m : Nat} (hh : h < 24) (hm : m < 60) : IsoTime (tHMp h m) [h, m, 0, 0]
  | hmBasic {h m : Nat} (hh : h < 24) (hm : m < 60) : IsoTime (tHMb h m) [h, m, 0, 0]
  | hms {h m s : Nat} (hh : h < 24) (hm : m < 60) (hs : s < 60) : IsoTime (tHMSp h m s) [h, m, s, 0]
  | hmsBasic {h m s : Nat} (hh : h < 24) (hm : m < 60) (hs : s < 60) : IsoTime (tHMSb h m s) [h, m, s, 0]
  | hmsFrac {h m s : Nat} (hh : h < 24) (hm : m < 60) (hs : s < 60) (c : Char) (hc : c = '.' ∨ c = ',')
      (q : List Char) (hq : q ≠ []) (hd : ∀ z ∈ q, isDigit z = true) (hl : q.length ≤ 6) :
      IsoTime (tHMSp h m s ++ c :: q) [h, m, s, fracUs q]
  | hmsBasicFrac {h m s : Nat} (hh : h < 24) (hm : m < 60) (hs : s < 60) (c : Char) (hc : c = '.' ∨ c = ',')
      (q : List Char) (hq : q ≠ []) (hd : ∀ z ∈ q, isDigit z = true) (hl : q.length ≤ 6) :
      IsoTime (tHMSb h m s ++ c :: q) [h, m, s, fracUs q]

theorem IsoTime.valid {t : List Char} {tm : Ep} (h : IsoTime t tm) : validTime tm = true := by
  cases h with
  | hmsFrac hh hm hs c hc q hq hd hl => simp [validTime, *, fracUs_lt q hd hl]
  | hmsBasicFrac hh hm hs c hc q hq hd hl => simp [validTime, *, fracUs_lt q hd hl]
  | _ => simp [validTime, *]

theorem lastOk_digits {q : List Char} (hq : q ≠ []) (hd : ∀ z ∈ q, isDigit z = true) : LastOk q := by
  cases hl : q.getLast? with
  | none => exact absurd (List.getLast?_eq_none_iff.1 hl) hq
  | some z => rw [LastOk, hl, Option.map_some, (isDigit_props (hd z (List.mem_of_getLast? hl))).1]

theorem IsoTime.text {t : List Char} {tm : Ep} (h : IsoTime t tm) : IsoTimeText t tm := by
  have tp : ∀ n, ∀ c ∈ pad 2 n, TimeChar c := fun n => timeChar_digits (pad_digits 2 n)
  have lp : ∀ n, LastOk (pad 2 n) := fun n => (dig12_pad2 n).firstLast.2
  have col : ∀ {b : List Char}, (∀ c ∈ b, TimeChar c) → ∀ c ∈ ':' :: b, TimeChar c := timeChar_cons timeChar_colon
  have c1 := isoNext_colon true false (Or.inl rfl)
  have c2 := isoNext_colon false true (Or.inr rfl)
  have d1 := fun n => isoNext_digit true false (Or.inl rfl) (isDigit_digitChar n)
  have d2 := fun n => isoNext_digit false false (Or.inr rfl) (isDigit_digitChar n)
  cases h with
  | @hour h hh =>
    exact ⟨by simp only [pad2, isoHMSF, take2_digits h (by omega), isoNext_nil], tp h, lp h⟩
  | @hm h m hh hm =>
    exact ⟨by simp only [tHMp, pad2, List.cons_append, List.nil_append, isoHMSF, take2_digits h (by omega), c1,
        take2_digits m (by omega), isoNext_nil],
      timeChar_append (tp h) (col (tp m)), .append_left _ (.append_left [':'] (lp m))⟩
  | @hmBasic h m hh hm =>
    exact ⟨by simp only [tHMb, pad2, List.cons_append, List.nil_append, isoHMSF, take2_digits h (by omega), d1,
        take2_digits m (by omega), isoNext_nil],
      timeChar_append (tp h) (tp m), .append_left _ (lp m)⟩
  | @hms h m s hh hm hs =>
    exact ⟨by simp only [tHMSp, pad2, List.cons_append, List.nil_append, isoHMSF, take2_digits h (by omega), c1,
        take2_digits m (by omega), c2, take2_digits s (by omega), isoNext_nil],
      timeChar_append (timeChar_append (tp h) (col (tp m))) (col (tp s)), .append_left _ (.append_left [':'] (lp s))⟩
  | @hmsBasic h m s hh hm hs =>
    exact ⟨by simp only [tHMSb, pad2, List.cons_append, List.nil_append, isoHMSF, take2_digits h (by omega), d1,
        take2_digits m (by omega), d2, take2_digits s (by omega), isoNext_nil],
      timeChar_append (timeChar_append (tp h) (tp m)) (tp s), .append_left _ (lp s)⟩
  | @hmsFrac h m s hh hm hs c hc q hq hd hl =>
    refine ⟨?_, timeChar_append (timeChar_append (timeChar_append (tp h) (col (tp m))) (col (tp s)))
        (timeChar_cons (timeChar_sep hc) (timeChar_digits hd)),
      .append_left _ (.append_left [c] (lastOk_digits hq hd))⟩
    cases q with
    | nil => exact absurd rfl hq
    | cons x xs =>
      simp only [tHMSp, pad2, List.cons_append, List.nil_append, isoHMSF, take2_digits h (by omega), c1,
        take2_digits m (by omega), c2, take2_digits s (by omega), isoNext_frac true hc,
        isoFrac_digits h m s hq hd]
  | @hmsBasicFrac h m s hh hm hs c hc q hq hd hl =>
    refine ⟨?_, timeChar_append (timeChar_append (timeChar_append (tp h) (tp m)) (tp s))
        (timeChar_cons (timeChar_sep hc) (timeChar_digits hd)),
      .append_left _ (.append_left [c] (lastOk_digits hq hd))⟩
    cases q with
    | nil => exact absurd rfl hq
    | cons x xs =>
      simp only [tHMSb, pad2, List.cons_append, List.nil_append, isoHMSF, take2_digits h (by omega), d1,
        take2_digits m (by omega), d2, take2_digits s (by omega), isoNext_frac false hc,
        isoFrac_digits h m s hq hd]

theorem renderTime_cases {h m s us : Nat} :
    renderTime [h, m, s, us] = (if us = 0 then tHMSp h m s else tHMSp h m s ++ '.' :: pad 6 us) := by
  by_cases hus : us = 0 <;> simp [renderTime, tHMSp, hus]

theorem isoTime_renderTime {e : Ep} (h : validTime e = true) : IsoTime (renderTime e) e := by
  obtain ⟨hh, m, s, us, rfl, h1, h2, h3, h4⟩ := validTime_shape h
  rw [renderTime_cases]
  split
  · next hus => subst hus; exact .hms h1 h2 h3
  · have := IsoTime.hmsFrac h1 h2 h3 '.' (Or.inl rfl) (pad 6 us) (by simp [pad6]) (pad_digits 6 us)
      (by rw [pad_length]; exact Nat.le_refl 6)
    rwa [fracUs_pad 6 us (Nat.le_refl 6) (by simpa using h4), Nat.sub_self, Nat.pow_zero, Nat.mul_one] at this

theorem isoHMSF_first {t : List Char} {e : Ep} (h : isoHMSF t = some e) : ∃ a r, t = a :: r ∧ isDigit a = true := by
  match t, h with
  | a :: b :: r, h =>
    refine ⟨a, b :: r, rfl, ?_⟩
    by_cases ha : isDigit a = true
    · exact ha
    · simp [isoHMSF, take2, ha] at h
  | [_], h => simp [isoHMSF, take2] at h
  | [], h => simp [isoHMSF, take2] at h

/-- all four `strptime` formats hold a colon -/
theorem strpTime_nocolon {s : List Char} (h : ':' ∉ s) : strpTime s = none := by
  have : ∀ n r, field12 s = some (n, ':' :: r) → False := fun n r e => by
    match s, e with
    | a :: b :: t, e =>
      simp only [field12] at e
      split at e
      · split at e <;> cases e <;> simp at h
      · cases e
    | [a], e => simp only [field12] at e; split at e <;> cases e
  unfold strpTime
  split
  · next e => exact (this _ _ e).elim
  · rfl

/-- `convert_time_str` on a text of time characters with a digit at both ends, with or without a leading `T`: what
    `fromisoformat` reads if that is a valid time, else what `strptime` reads -/
theorem convertStr_time_optT {t : List Char} (hc : ∀ c ∈ t, TimeChar c) (hf : ∃ a r, t = a :: r ∧ isDigit a = true)
    (hl : LastOk t) (T : Bool) :
    convertStr .time (optT T t) =
      ((isoHMSF t).filter validTime).elim ((Res.ofOption (strpTime (optT T t))).bind (checkEp .time)) .ok := by
  obtain ⟨a, r, rfl, ha⟩ := hf
  have hd : dropT (optT T (a :: r)) = a :: r := by cases T <;> simp [optT, dropT, isDigit_bne ha (d := 'T') rfl]
  have hA : asciiOk (optT T (a :: r)) = true := by
    cases T
    · exact asciiOk_timeChars hc
    · exact (asciiOk_cons 'T' _).trans (by rw [asciiOk_timeChars hc]; rfl)
  have hT : trimmedB (optT T (a :: r)) = true := by
    cases T
    · exact (trimmedB_iff _).2 ⟨firstOk_cons (isDigit_props ha).1, hl⟩
    · exact trimmedB_append (X := ['T']) rfl hl
  rw [convertStr_time_eq hA hT (by rw [hd]; exact hasTz_timeChars hc), hd]

theorem convertStr_time_of_iso {t : List Char} {tm : Ep} (h : IsoTimeText t tm) (hv : validTime tm = true)
    (T : Bool) : convertStr .time (optT T t) = .ok tm := by
  rw [convertStr_time_optT h.chars (isoHMSF_first h.iso) h.last T, h.iso, Option.filter_some, if_pos hv]
  rfl

/-- such a text is rejected when `fromisoformat` reads no valid time and the text holds no colon for `strptime` -/
theorem convertStr_time_rejected {t : List Char} (hc : ∀ c ∈ t, TimeChar c)
    (hf : ∃ a r, t = a :: r ∧ isDigit a = true) (hl : LastOk t) (hn : ':' ∉ t)
    (hiso : ∀ e, isoHMSF t = some e → validTime e = false) (T : Bool) :
    convertStr .time (optT T t) = .err .value := by
  have hs : strpTime (optT T t) = none := strpTime_nocolon (by cases T <;> simp [optT, hn])
  rw [convertStr_time_optT hc hf hl T, hs]
  cases hi : isoHMSF t with
  | none => rfl
  | some e => rw [Option.filter_some, if_neg (by rw [hiso e hi]; nofun)]; rfl

theorem IsoTime.convert {t : List Char} {tm : Ep} (h : IsoTime t tm) (T : Bool) :
    convertStr .time (optT T t) = .ok tm :=
  convertStr_time_of_iso h.text h.valid T

theorem convertStr_renderTime {e : Ep} (h : validTime e = true) : convertStr .time (renderTime e) = .ok e :=
  (isoTime_renderTime h).convert false

end Edzed.Interval
