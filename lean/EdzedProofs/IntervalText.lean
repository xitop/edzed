/-
Characters and digit strings for C13: the ten digit characters, what being a digit, a letter or whitespace
excludes, zero-padded numbers and their values, `strip`, whitespace (`White`) and blanks, texts without surrounding
whitespace (`trimmedB`), the one condition on what comes next in a text (`Next`), tokens of one or two digits
(`Dig12`); and what `convertStr` does with a trimmed text and with whitespace around it (`convertStr_of_trimmed`,
`convertStr_time_eq`, `convertStr_padded`).  Core Lean only.
-/
import EdzedModel.Interval
import EdzedProofs.Interval

namespace Edzed.Interval

theorem digit_facts : ∀ k, k < 10 →
    isDigit (Char.ofNat (48 + k)) = true ∧ dval (Char.ofNat (48 + k)) = k := by decide

@[simp] theorem isDigit_digitChar (n : Nat) : isDigit (digitChar n) = true :=
  (digit_facts (n % 10) (Nat.mod_lt _ (by decide))).1
@[simp] theorem dval_digitChar (n : Nat) : dval (digitChar n) = n % 10 :=
  (digit_facts (n % 10) (Nat.mod_lt _ (by decide))).2

@[simp] theorem asciiC_dash : asciiC '-' = true := by decide

theorem pad2 (n : Nat) : pad 2 n = [digitChar (n / 10), digitChar n] := by simp [pad]

theorem pad4 (n : Nat) : pad 4 n =
    [digitChar (n / 1000), digitChar (n / 100), digitChar (n / 10), digitChar n] := by
  simp [pad, Nat.div_div_eq_div_mul]

theorem pad6 (n : Nat) : pad 6 n =
    [digitChar (n / 100000), digitChar (n / 10000), digitChar (n / 1000), digitChar (n / 100),
     digitChar (n / 10), digitChar n] := by
  simp [pad, Nat.div_div_eq_div_mul]

theorem isDigit_bound {c : Char} (h : isDigit c = true) : 48 ≤ c.toNat ∧ c.toNat ≤ 57 := by
  simpa [isDigit] using h

theorem dval_le {c : Char} (h : isDigit c = true) : dval c ≤ 9 := by
  have := isDigit_bound h; unfold dval; omega

theorem isDigit_props {c : Char} (h : isDigit c = true) : isSpace c = false ∧ asciiC c = true := by
  have hb := isDigit_bound h
  constructor
  · simp only [isSpace, Bool.or_eq_false_iff, Bool.and_eq_false_iff, decide_eq_false_iff_not]
    constructor <;> omega
  · simp only [asciiC, Bool.and_eq_true, decide_eq_true_eq]; omega

/-- all the proofs need to know about `T Z + - : . , / ;` beside digits and letters -/
theorem ne_of_class {P : Char → Bool} {c d : Char} (hc : P c = true) (hd : P d = false) : c ≠ d :=
  fun e => by rw [e, hd] at hc; cases hc

theorem isDigit_ne {c d : Char} (hc : isDigit c = true) (hd : isDigit d = false) : c ≠ d :=
  ne_of_class hc hd

theorem isDigit_bne {c d : Char} (hc : isDigit c = true) (hd : isDigit d = false) : (c == d) = false :=
  beq_eq_false_iff_ne.2 (isDigit_ne hc hd)

theorem isDigit_nonalpha {c : Char} (h : isDigit c = true) : isAlpha c = false := by
  have := isDigit_bound h
  simp only [isAlpha, isUpper, isLower, Bool.or_eq_false_iff, Bool.and_eq_false_iff, decide_eq_false_iff_not]
  omega

theorem isAlpha_props {c : Char} (h : isAlpha c = true) :
    isDigit c = false ∧ isSpace c = false ∧ asciiC c = true := by
  have hb : (65 ≤ c.toNat ∧ c.toNat ≤ 90) ∨ (97 ≤ c.toNat ∧ c.toNat ≤ 122) := by
    simpa [isAlpha, isUpper, isLower] using h
  refine ⟨?_, ?_, ?_⟩
  · simp only [isDigit, Bool.and_eq_false_iff, decide_eq_false_iff_not]; omega
  · simp only [isSpace, Bool.or_eq_false_iff, Bool.and_eq_false_iff, decide_eq_false_iff_not]
    constructor <;> omega
  · simp only [asciiC, Bool.and_eq_true, decide_eq_true_eq]; omega

theorem digitChar_ne (n : Nat) {d : Char} (hd : isDigit d = false) : digitChar n ≠ d :=
  isDigit_ne (isDigit_digitChar n) hd

theorem digitChar_bne (n : Nat) {d : Char} (hd : isDigit d = false) : (digitChar n == d) = false :=
  isDigit_bne (isDigit_digitChar n) hd

-- the shapes below are the ones `simp` leaves in the proofs about renderings: `(x == c) = false` from the
-- matchers' tests, `x ≠ c` and `c ≠ x` from list membership, `('T' = x) = False` from `List.contains`
@[simp] theorem isSpace_digitChar (n : Nat) : isSpace (digitChar n) = false := (isDigit_props (isDigit_digitChar n)).1
@[simp] theorem isAlpha_digitChar (n : Nat) : isAlpha (digitChar n) = false := isDigit_nonalpha (isDigit_digitChar n)
@[simp] theorem asciiC_digitChar (n : Nat) : asciiC (digitChar n) = true := (isDigit_props (isDigit_digitChar n)).2
@[simp] theorem digitChar_bne_minus (n : Nat) : (digitChar n == '-') = false := digitChar_bne n rfl
@[simp] theorem digitChar_bne_W (n : Nat) : (digitChar n == 'W') = false := digitChar_bne n rfl
@[simp] theorem digitChar_ne_hyphen (n : Nat) : digitChar n ≠ '-' := digitChar_ne n rfl
@[simp] theorem digitChar_ne_blank (n : Nat) : digitChar n ≠ ' ' := digitChar_ne n rfl
@[simp] theorem slash_ne_digitChar (n : Nat) : '/' ≠ digitChar n := (digitChar_ne n rfl).symm
@[simp] theorem semicolon_ne_digitChar (n : Nat) : ';' ≠ digitChar n := (digitChar_ne n rfl).symm
@[simp] theorem hyphen_ne_digitChar (n : Nat) : '-' ≠ digitChar n := (digitChar_ne_hyphen n).symm
@[simp] theorem T_ne_digitChar (n : Nat) : ('T' = digitChar n) = False := eq_false (digitChar_ne n rfl).symm
@[simp] theorem colon_ne_digitChar (n : Nat) : ¬ ':' = digitChar n := (digitChar_ne n rfl).symm

@[simp] theorem asciiC_comma : asciiC ',' = true := by decide
@[simp] theorem isDigit_comma : isDigit ',' = false := by decide
@[simp] theorem isAlpha_colon : isAlpha ':' = false := by decide

theorem foldl_digits_bound (l : List Char) (hd : ∀ c ∈ l, isDigit c = true) (a : Nat) :
    l.foldl (fun a c => 10 * a + dval c) a + 1 ≤ (a + 1) * 10 ^ l.length := by
  induction l generalizing a with
  | nil => simp
  | cons c t ih =>
    have hc := dval_le (hd c (by simp))
    have := ih (fun x hx => hd x (by simp [hx])) (10 * a + dval c)
    simp only [List.foldl_cons, List.length_cons]
    calc _ ≤ (10 * a + dval c + 1) * 10 ^ t.length := this
      _ ≤ ((a + 1) * 10) * 10 ^ t.length := Nat.mul_le_mul_right _ (by omega)
      _ = (a + 1) * 10 ^ (t.length + 1) := by rw [Nat.mul_assoc, Nat.pow_succ, Nat.mul_comm 10]

theorem numOf_lt (l : List Char) (hd : ∀ c ∈ l, isDigit c = true) : numOf l < 10 ^ l.length := by
  have := foldl_digits_bound l hd 0
  simp only [Nat.zero_add, Nat.one_mul] at this
  exact this

theorem fracUs_lt (q : List Char) (hd : ∀ c ∈ q, isDigit c = true) (hl : q.length ≤ 6) :
    fracUs q < 1000000 := by
  have ht : q.take 6 = q := List.take_of_length_le hl
  simp only [fracUs, ht]
  have h1 := numOf_lt q hd
  have h2 : 10 ^ q.length * 10 ^ (6 - q.length) = 1000000 := by
    rw [← Nat.pow_add, show q.length + (6 - q.length) = 6 by omega]
  calc numOf q * 10 ^ (6 - q.length) < 10 ^ q.length * 10 ^ (6 - q.length) :=
        Nat.mul_lt_mul_of_pos_right h1 (Nat.pow_pos (by decide))
    _ = 1000000 := h2

theorem numOf_append_single (l : List Char) (c : Char) : numOf (l ++ [c]) = 10 * numOf l + dval c := by
  simp [numOf, List.foldl_append]

theorem pad_length (k n : Nat) : (pad k n).length = k := by
  induction k generalizing n with
  | zero => rfl
  | succ k ih => simp [pad, ih]

theorem pad_digits (k n : Nat) : ∀ c ∈ pad k n, isDigit c = true := by
  induction k generalizing n with
  | zero => simp [pad]
  | succ k ih =>
    intro c hc
    simp only [pad, List.mem_append, List.mem_singleton] at hc
    rcases hc with hc | hc
    · exact ih _ c hc
    · rw [hc]; exact isDigit_digitChar n

theorem numOf_pad (k n : Nat) : numOf (pad k n) = n % 10 ^ k := by
  induction k generalizing n with
  | zero => simp [pad, numOf, Nat.mod_one]
  | succ k ih =>
    simp only [pad, numOf_append_single, ih, dval_digitChar]
    rw [Nat.pow_succ, Nat.mul_comm (10 ^ k) 10, Nat.mod_mul]
    omega

theorem fracUs_pad (k v : Nat) (hk : k ≤ 6) (hv : v < 10 ^ k) : fracUs (pad k v) = v * 10 ^ (6 - k) := by
  have ht : (pad k v).take 6 = pad k v := List.take_of_length_le (by rw [pad_length]; exact hk)
  simp only [fracUs, ht, numOf_pad, pad_length, Nat.mod_eq_of_lt hv]

theorem natStr_lt10 {n : Nat} (h : n < 10) : natStr n = [digitChar n] := by
  simp [natStr, h, pad]

theorem natStr_ge10 {n : Nat} (h : 10 ≤ n) (h' : n < 100) : natStr n = [digitChar (n / 10), digitChar n] := by
  have : ¬ n < 10 := by omega
  simp [natStr, this, h', pad]

theorem numOf_natStr {n : Nat} (h : n < 100) : numOf (natStr n) = n := by
  by_cases c : n < 10
  · simp [natStr_lt10 c, numOf]; omega
  · simp [natStr_ge10 (Nat.le_of_not_lt c) h, numOf]; omega

theorem take2digits_pad2 (n : Nat) (r : List Char) : take2digits (pad 2 n ++ r) = some (pad 2 n, r) := by
  simp [pad2, take2digits]

theorem asciiOk_cons (c : Char) (l : List Char) : asciiOk (c :: l) = (asciiC c && asciiOk l) := by
  simp [asciiOk]

def trimmedB (s : List Char) : Bool :=
  match s.head?, s.getLast? with
  | some a, some b => !isSpace a && !isSpace b
  | _, _ => false

/-- only whitespace (what `str.strip()` removes) -/
def White (g : List Char) : Prop := ∀ c ∈ g, isSpace c = true

theorem White.nil : White [] := fun _ h => nomatch h

def FirstOk (X : List Char) : Prop := X.head?.map isSpace = some false
def LastOk (X : List Char) : Prop := X.getLast?.map isSpace = some false

theorem dropWhile_spaces (pre s : List Char) (hpre : White pre) :
    (pre ++ s).dropWhile isSpace = s.dropWhile isSpace := by
  induction pre with
  | nil => rfl
  | cons x p ih =>
    simp only [List.cons_append, List.dropWhile_cons, hpre x (by simp), ↓reduceIte]
    exact ih (fun c hc => hpre c (by simp [hc]))

theorem strip_padded (pre s post : List Char) (hpre : White pre) (hpost : White post)
    (hs : trimmedB s = true) :
    strip (pre ++ s ++ post) = s := by
  unfold trimmedB at hs
  cases s with
  | nil => simp at hs
  | cons a t =>
    obtain ⟨t', b, hb⟩ : ∃ t' b, a :: t = t' ++ [b] :=
      ⟨(a :: t).dropLast, (a :: t).getLast (by simp), (List.dropLast_concat_getLast (by simp)).symm⟩
    have hlast : (a :: t).getLast? = some b := by rw [hb]; simp
    rw [hlast] at hs
    simp only [List.head?_cons, Bool.and_eq_true, Bool.not_eq_true'] at hs
    unfold strip
    rw [List.append_assoc, dropWhile_spaces pre _ hpre]
    simp only [List.cons_append, List.dropWhile_cons, hs.1, Bool.false_eq_true, ↓reduceIte]
    rw [← List.cons_append, hb, List.append_assoc, List.reverse_append, List.reverse_append]
    simp only [List.reverse_cons, List.reverse_nil, List.nil_append, List.singleton_append, List.append_assoc]
    rw [dropWhile_spaces post.reverse _ (fun c hc => hpost c (List.mem_reverse.1 hc))]
    simp [hs.2]

theorem asciiOk_append (a b : List Char) : asciiOk (a ++ b) = (asciiOk a && asciiOk b) := by
  simp [asciiOk]

theorem trimmedB_iff (s : List Char) : trimmedB s = true ↔ FirstOk s ∧ LastOk s := by
  unfold trimmedB FirstOk LastOk
  cases h1 : s.head? <;> cases h2 : s.getLast? <;> simp

theorem firstOk_cons {a : Char} {r : List Char} (h : isSpace a = false) : FirstOk (a :: r) := by
  simp [FirstOk, h]

theorem firstOk_append {X : List Char} (Y : List Char) (h : FirstOk X) : FirstOk (X ++ Y) := by
  unfold FirstOk at h ⊢
  cases X with
  | nil => simp at h
  | cons a r => exact h

theorem LastOk.append_left (A : List Char) {B : List Char} (h : LastOk B) : LastOk (A ++ B) := by
  unfold LastOk at h ⊢
  rw [List.getLast?_append]
  cases hb : B.getLast? with
  | none => rw [hb] at h; simp at h
  | some z => rw [hb] at h; simpa using h

theorem trimmedB_append {X Y : List Char} (hX : FirstOk X) (hY : LastOk Y) : trimmedB (X ++ Y) = true :=
  (trimmedB_iff _).2 ⟨firstOk_append Y hX, .append_left X hY⟩

theorem strip_trimmed {s : List Char} (h : trimmedB s = true) : strip s = s := by
  simpa using strip_padded [] s [] White.nil White.nil h

theorem isSpace_props {c : Char} (h : isSpace c = true) :
    isDigit c = false ∧ isAlpha c = false ∧ asciiC c = true := by
  have hb : (9 ≤ c.toNat ∧ c.toNat ≤ 13) ∨ (28 ≤ c.toNat ∧ c.toNat ≤ 32) := by
    simpa [isSpace] using h
  refine ⟨?_, ?_, ?_⟩
  · simp only [isDigit, Bool.and_eq_false_iff, decide_eq_false_iff_not]; omega
  · simp only [isAlpha, isUpper, isLower, Bool.or_eq_false_iff, Bool.and_eq_false_iff, decide_eq_false_iff_not]
    omega
  · simp only [asciiC, Bool.and_eq_true, decide_eq_true_eq]; omega

def blanks (p : List Char) : Prop := ∀ c ∈ p, c = ' '

theorem blanks_nil : blanks [] := fun _ h => nomatch h

theorem blanks.append {a b : List Char} (ha : blanks a) (hb : blanks b) : blanks (a ++ b) := fun c hc =>
  (List.mem_append.1 hc).elim (ha c) (hb c)

theorem white_of_blanks {g : List Char} (h : blanks g) : White g := fun c hc => by
  rw [h c hc]; rfl

theorem strip_white {g : List Char} (h : White g) : strip g = [] := by
  have e : g.dropWhile isSpace = [] := by
    have := dropWhile_spaces g [] h
    rwa [List.append_nil] at this
  simp only [strip, e, List.reverse_nil, List.dropWhile_nil]

def Next (Q : Char → Prop) (R : List Char) : Prop := R = [] ∨ ∃ c r, R = c :: r ∧ Q c

theorem Next.mono {Q Q' : Char → Prop} {R : List Char} (h : Next Q R) (hq : ∀ c, Q c → Q' c) : Next Q' R :=
  h.imp_right fun ⟨c, r, e, hc⟩ => ⟨c, r, e, hq c hc⟩

theorem Next.replace {Q : Char → Prop} {A x B w : List Char} (h : Next Q (A ++ (x ++ B))) (hb : Q ' ') (hw : blanks w)
    (he : w = [] → B = []) : Next Q (A ++ w ++ B) := by
  cases A with
  | cons a A' =>
    rcases h with h | ⟨c, r, h, hc⟩
    · cases h
    · exact Or.inr ⟨a, _, rfl, (List.cons.inj h).1 ▸ hc⟩
  | nil =>
    cases w with
    | nil => exact Or.inl (by simp [he rfl])
    | cons b w' => exact Or.inr ⟨b, _, rfl, hw b (by simp) ▸ hb⟩

def EndOk (R : List Char) : Prop := R = [] ∨ ∃ r, R = ' ' :: r

abbrev NoDigitNext : List Char → Prop := Next (isDigit · = false)

theorem EndOk.noDigit {R : List Char} (h : EndOk R) : NoDigitNext R :=
  h.imp_right fun ⟨r, e⟩ => ⟨' ', r, e, rfl⟩

def Dig12 (t : List Char) : Prop :=
  (∃ x, t = [x] ∧ isDigit x = true) ∨ (∃ x y, t = [x, y] ∧ isDigit x = true ∧ isDigit y = true)

theorem Dig12.digits {t : List Char} (h : Dig12 t) : ∀ c ∈ t, isDigit c = true := by
  rcases h with ⟨x, rfl, hx⟩ | ⟨x, y, rfl, hx, hy⟩ <;> simp [*]

theorem Dig12.firstLast {D : List Char} (hD : Dig12 D) : FirstOk D ∧ LastOk D := by
  rcases hD with ⟨x, rfl, hx⟩ | ⟨x, y, rfl, hx, hy⟩
  · simp [FirstOk, LastOk, (isDigit_props hx).1]
  · simp [FirstOk, LastOk, (isDigit_props hx).1, (isDigit_props hy).1]

theorem dig12_natStr {n : Nat} (h : n < 100) : Dig12 (natStr n) := by
  by_cases c : n < 10
  · exact Or.inl ⟨_, natStr_lt10 c, isDigit_digitChar n⟩
  · exact Or.inr ⟨_, _, natStr_ge10 (Nat.le_of_not_lt c) h, isDigit_digitChar _, isDigit_digitChar _⟩

theorem dig12_pad2 (n : Nat) : Dig12 (pad 2 n) :=
  Or.inr ⟨_, _, pad2 n, isDigit_digitChar _, isDigit_digitChar _⟩

def Fld (n : Nat) (F : List Char) : Prop := Dig12 F ∧ numOf F = n

theorem fld_natStr {n : Nat} (h : n < 100) : Fld n (natStr n) := ⟨dig12_natStr h, numOf_natStr h⟩

theorem fld_pad2 {n : Nat} (h : n < 100) : Fld n (pad 2 n) :=
  ⟨dig12_pad2 n, by rw [numOf_pad]; exact Nat.mod_eq_of_lt h⟩

theorem digits12_tok {M : List Char} (hM : Dig12 M) {R : List Char} (hR : NoDigitNext R) :
    digits12 (M ++ R) = some (M, R) := by
  rcases hM with ⟨x, rfl, hx⟩ | ⟨x, y, rfl, hx, hy⟩ <;> rcases hR with rfl | ⟨c, r, rfl, hc⟩ <;>
    simp [digits12, *]

theorem Dig12.head_digit {H : List Char} (hH : Dig12 H) (X : List Char) : ∃ c r, H ++ X = c :: r ∧ isDigit c = true := by
  rcases hH with ⟨x, rfl, hx⟩ | ⟨x, y, rfl, hx, hy⟩
  · exact ⟨x, X, rfl, hx⟩
  · exact ⟨x, y :: X, rfl, hx⟩

@[simp] theorem isDigit_colon : isDigit ':' = false := by decide
@[simp] theorem isDigit_space : isDigit ' ' = false := by decide
@[simp] theorem isDigit_dot : isDigit '.' = false := by decide

/-- `convert_time_str` on an ASCII text without surrounding whitespace and without a zone character: what
    `fromisoformat` reads if that is a valid time, else what `strptime` reads -/
theorem convertStr_time_eq {s : List Char} (ha : asciiOk s = true) (ht : trimmedB s = true)
    (hz : hasTz (dropT s) = false) :
    convertStr .time s =
      ((isoHMSF (dropT s)).filter validTime).elim ((Res.ofOption (strpTime s)).bind (checkEp .time)) .ok := by
  have hs := strip_trimmed ht
  simp only [convertStr, ha, Bool.not_true, Bool.false_eq_true, ↓reduceIte, convertTimeStr, hs, convertTimeStripped,
    hz]
  cases isoHMSF (dropT s) with
  | none => rfl
  | some e => cases hv : validTime e <;> simp [Option.filter, hv]

theorem asciiOk_white {g : List Char} (h : White g) : asciiOk g = true :=
  List.all_eq_true.2 fun c hc => (isSpace_props (h c hc)).2.2

theorem asciiOk_blanks {p : List Char} (h : blanks p) : asciiOk p = true := asciiOk_white (white_of_blanks h)

theorem convertStr_padded {k : Kind} {s pre post : List Char} (ha : asciiOk s = true) (ht : trimmedB s = true)
    (hpre : White pre) (hpost : White post) : convertStr k (pre ++ s ++ post) = convertStr k s := by
  have hA : asciiOk (pre ++ s ++ post) = true := by
    rw [asciiOk_append, asciiOk_append, asciiOk_white hpre, ha, asciiOk_white hpost]; rfl
  cases k <;> simp only [convertStr, hA, ha, convertTimeStr, convertDateStr, convertDateTimeStr,
    strip_padded pre s post hpre hpost ht, strip_trimmed ht]

theorem convertStr_of_trimmed {k : Kind} {s : List Char} {e : Ep} (ha : asciiOk s = true) (ht : trimmedB s = true)
    (h : (match k with
      | .time => convertTimeStripped s
      | .date => convertDateCore s
      | .datetime => convertDateTimeStripped s) = .ok e) : convertStr k s = .ok e := by
  have hs := strip_trimmed ht
  cases k <;> simpa [convertStr, ha, convertTimeStr, convertDateStr, convertDateTimeStr, hs] using h

end Edzed.Interval
