/-
Tie of the C03 model (EdzedModel/Fsm.lean) to the TRANSLATED source of `FSM._ctx_event`
(lean/EdzedModel/Gen/TranslatedFsm.lean, regenerated from the current Python AST by tools/py2lean_fsm.py on
every check -- the SAME generated program that C04 ties to EdzedModel/FsmTimer.lean).
`F03.prims d` instantiates the primitives of the translated program (one per call / lookup the method makes) with
the operations of the model; `body_run` runs the method up to its `try` block (the first half is the model's `check`,
the second posts `_next_event` or enters the `try` block); `round_run` runs one pass of the chain loop, which is the
model's `iter`.  The theorems about the whole method are in EdzedProps/C03.lean, `translated_fsm03_…`.
-/
import EdzedModel.Fsm
import EdzedProofs.Fsm
import EdzedModel.Gen.TranslatedFsm
import EdzedProofs.PyBool

namespace Edzed.TrTie.F03
open Edzed.Fsm Edzed.Gen.TrM

/-- exception classes raised by `_ctx_event` and what it calls -/
inductive Exc where
  | unknownEvent | circuitError | valueError | assertion
  | other     -- any class the model does not raise (TypeError, RuntimeError, …)
  deriving DecidableEq, Repr, Inhabited

/-- how the model's result shows at the Python level: the value returned or the exception class -/
def flowOf : Res → Flow Exc Bool
  | .accepted => .ret true
  | .rejected => .ret false
  | .unknownEvent => .raise .unknownEvent
  | .errMultiple => .raise .circuitError
  | .errChain => .raise .circuitError
  | .errBadState => .raise .valueError
  | .errAssert => .raise .assertion

/-- the exception class of an error result -/
def excOfRes : Res → Exc
  | .unknownEvent => .unknownEvent
  | .errBadState => .valueError
  | .errAssert => .assertion
  | _ => .circuitError

def excOf (name : String) : Exc :=
  if name == "EdzedUnknownEvent" then .unknownEvent
  else if name == "EdzedCircuitError" then .circuitError
  else if name == "AssertionError" then .assertion
  else if name == "ValueError" then .valueError
  else .other

/-! What the instantiation fixes (everything else comes from the AST):
  * the block as the method sees it is `TS`: the model's `Fsm` (state, output, `_fsm_event_active`,
    `_next_event`), the value of the context variable `fsm_event_data` in the current context, the ordered log
    of actions/events performed so far, and whether an `_enable_event` context is open;
  * callbacks READ the context variable: `runCond`, `runCbExit`, `runCbEnter` take the event data they log from
    `TS.ctx`, i.e. from whatever the translated program has put there with `fsm_event_data.set(…)` -- the model
    passes that data explicitly (`cur.data`, `nx.data`), so the tie proves that each action reads what the
    model says it reads;
  * `self.event(…)` calls made by an entry action and by `_start_timer` of a zero-duration timed state are
    inside the primitives `runCbEnter` / `startTimer` (the model's `runCbs` / `nested`); the recursive call
    itself is tied separately (`translated_fsm03_post_is_model`);
  * timers are markers: `_stop_timer()` logs `stopTimer`, `_start_timer(duration, ev)` logs `startTimer state`
    and ignores the duration (C04 covers durations and timer handles); the type of timed events is
    instantiated with `EType × Bool`, the flag saying that the state's duration is zero, in which case
    `startTimer` delivers the event at once through the model's `nested`;
  * exceptions are compared by CLASS (`Exc`): the model's `errMultiple` and `errChain` are both
    `EdzedCircuitError` in the source.
-/

/-- the block as `_ctx_event` sees it -/
structure TS where
  f : Fsm
  ctx : Data            -- `fsm_event_data.get()` in the current context
  log : List Action     -- actions and events so far
  enabled : Bool        -- inside `with self._enable_event:`

def TS.emit (t : TS) (l : List Action) : TS := { t with log := t.log ++ l }

/-- the primitives of `_ctx_event` = the operations of the C03 model -/
def prims (d : Def) : FsmPrims TS EType Data State (EType × Bool) Val Val Exc where
  exc := excOf
  asGoto := fun e => match e with | .goto q => some q | .ev _ => none
  isStr := fun e => match e with | .ev _ => true | .goto _ => false
  isEvent := fun _ e => match e with | .ev n => d.events.contains n | .goto _ => false
  isMutableMapping := fun _ => true
  readOnly := fun x => x
  dataGet := fun x key => (x.get? key).getD Val.none
  isUndef := fun v => v.isUndef
  getState := fun t => t.f.state
  setState := fun oq t => match oq with
    | some q => { t with f := { t.f with state := some q }, log := t.log ++ [Action.setState q] }
    | none => { t with f := { t.f with state := none } }
  getNext := fun t => t.f.next.map fun r => (r.etype, r.data, some r.target)
  setNext := fun o t =>
    { t with f := { t.f with next := o.bind fun x => x.2.2.map fun q => ⟨x.1, x.2.1, q⟩ } }
  getActive := fun t => t.f.active
  setActive := fun b t => { t with f := { t.f with active := b } }
  isInitialized := fun t => !t.f.output.isUndef
  chainLimit := fun _ => d.chainLimit
  transition := fun _ e oq => match e with
    | .ev n => tget d.trans n oq
    | .goto _ => none
  timedEvent := fun _ oq => oq.bind fun q => timedOf d q
  setEventData := fun x t => ({ t with ctx := x }, .ok ())
  checkState := fun oq t => match oq with
    | some q => if d.states.contains q then (t, .ok ()) else (t, .error .valueError)
    | none => (t, .error .valueError)
  runCond := fun e t => match e with
    | .ev n => (t.emit (condLog d n t.ctx), .ok ((condsOf d n).all fun c => (c.2.eval t.ctx).truthy))
    | .goto _ => (t, .ok true)
  runCbExit := fun oq t => match oq with
    | some q => (t.emit (exitLog d q t.ctx), .ok ())
    | none => (t, .ok ())
  runCbEnter := fun oq t => match oq with
    | some q =>
      ({ t with f := (runCbs d q t.ctx t.f (entersOf d q)).1,
                log := t.log ++ (runCbs d q t.ctx t.f (entersOf d q)).2.2 },
       match (runCbs d q t.ctx t.f (entersOf d q)).2.1 with
       | some r => .error (excOfRes r)
       | none => .ok ())
    | none => (t, .ok ())
  sendEvents := fun kind t => match t.f.state with
    | some q =>
      (t.emit [if kind == "on_exit" then Action.onExit q t.f.output else Action.onEnter q t.f.output], .ok ())
    | none => (t, .ok ())
  sendNotrans := fun e oq t => match e, oq with
    | .ev n, some q => (t.emit [Action.notrans n q], .ok ())
    | _, _ => (t, .ok ())
  stopTimer := fun t => (t.emit [Action.stopTimer], .ok ())
  startTimer := fun _ te t => match t.f.state with
    | some q =>
      if te.2 then
        ({ t with f := (nested d t.f te.1 []).1,
                  log := t.log ++ Action.startTimer q :: (nested d t.f te.1 []).2.2 },
         if (nested d t.f te.1 []).2.1.isError then .error (excOfRes (nested d t.f te.1 []).2.1) else .ok ())
      else (t.emit [Action.startTimer q], .ok ())
    | none => (t, .ok ())
  calcOutput := fun t => match t.f.state with
    | some q => (t, .ok (Fsm.calcOutput d q))
    | none => (t, .error .assertion)
  setOutput := fun v t =>
    ({ t with f := (Fsm.setOutput t.f v).1, log := t.log ++ (Fsm.setOutput t.f v).2 }, .ok ())
  enableEvent := fun b t => { t with enabled := b }

/-! the primitives one by one (so that `prims d` itself is never unfolded) -/
theorem prims_exc (d : Def) : (prims d).exc = (excOf) := rfl
theorem prims_asGoto (d : Def) : (prims d).asGoto = (fun e => match e with | .goto q => some q | .ev _ => none) := rfl
theorem prims_isStr (d : Def) : (prims d).isStr = (fun e => match e with | .ev _ => true | .goto _ => false) := rfl
theorem prims_isEvent (d : Def) : (prims d).isEvent = (fun _ e => match e with | .ev n => d.events.contains n | .goto _ => false) := rfl
theorem prims_isMutableMapping (d : Def) : (prims d).isMutableMapping = (fun _ => true) := rfl
theorem prims_readOnly (d : Def) : (prims d).readOnly = (fun x => x) := rfl
theorem prims_dataGet (d : Def) : (prims d).dataGet = (fun x key => (x.get? key).getD Val.none) := rfl
theorem prims_isUndef (d : Def) : (prims d).isUndef = (fun v => v.isUndef) := rfl
theorem prims_getState (d : Def) : (prims d).getState = (fun t => t.f.state) := rfl
theorem prims_setState (d : Def) : (prims d).setState = (fun oq t => match oq with
    | some q => { t with f := { t.f with state := some q }, log := t.log ++ [Action.setState q] }
    | none => { t with f := { t.f with state := none } }) := rfl
theorem prims_getNext (d : Def) : (prims d).getNext = (fun t => t.f.next.map fun r => (r.etype, r.data, some r.target)) := rfl
theorem prims_setNext (d : Def) : (prims d).setNext = (fun o t =>
    { t with f := { t.f with next := o.bind fun x => x.2.2.map fun q => ⟨x.1, x.2.1, q⟩ } }) := rfl
theorem prims_getActive (d : Def) : (prims d).getActive = (fun t => t.f.active) := rfl
theorem prims_setActive (d : Def) : (prims d).setActive = (fun b t => { t with f := { t.f with active := b } }) := rfl
theorem prims_isInitialized (d : Def) : (prims d).isInitialized = (fun t => !t.f.output.isUndef) := rfl
theorem prims_chainLimit (d : Def) : (prims d).chainLimit = (fun _ => d.chainLimit) := rfl
theorem prims_transition (d : Def) : (prims d).transition = (fun _ e oq => match e with
    | .ev n => tget d.trans n oq
    | .goto _ => none) := rfl
theorem prims_timedEvent (d : Def) : (prims d).timedEvent = (fun _ oq => oq.bind fun q => timedOf d q) := rfl
theorem prims_setEventData (d : Def) : (prims d).setEventData = (fun x t => ({ t with ctx := x }, .ok ())) := rfl
theorem prims_checkState (d : Def) : (prims d).checkState = (fun oq t => match oq with
    | some q => if d.states.contains q then (t, .ok ()) else (t, .error .valueError)
    | none => (t, .error .valueError)) := rfl
theorem prims_runCond (d : Def) : (prims d).runCond = (fun e t => match e with
    | .ev n => (t.emit (condLog d n t.ctx), .ok ((condsOf d n).all fun c => (c.2.eval t.ctx).truthy))
    | .goto _ => (t, .ok true)) := rfl
theorem prims_runCbExit (d : Def) : (prims d).runCbExit = (fun oq t => match oq with
    | some q => (t.emit (exitLog d q t.ctx), .ok ())
    | none => (t, .ok ())) := rfl
theorem prims_runCbEnter (d : Def) : (prims d).runCbEnter = (fun oq t => match oq with
    | some q =>
      ({ t with f := (runCbs d q t.ctx t.f (entersOf d q)).1,
                log := t.log ++ (runCbs d q t.ctx t.f (entersOf d q)).2.2 },
       match (runCbs d q t.ctx t.f (entersOf d q)).2.1 with
       | some r => .error (excOfRes r)
       | none => .ok ())
    | none => (t, .ok ())) := rfl
theorem prims_sendEvents (d : Def) : (prims d).sendEvents = (fun kind t => match t.f.state with
    | some q =>
      (t.emit [if kind == "on_exit" then Action.onExit q t.f.output else Action.onEnter q t.f.output], .ok ())
    | none => (t, .ok ())) := rfl
theorem prims_sendNotrans (d : Def) : (prims d).sendNotrans = (fun e oq t => match e, oq with
    | .ev n, some q => (t.emit [Action.notrans n q], .ok ())
    | _, _ => (t, .ok ())) := rfl
theorem prims_stopTimer (d : Def) : (prims d).stopTimer = (fun t => (t.emit [Action.stopTimer], .ok ())) := rfl
theorem prims_startTimer (d : Def) : (prims d).startTimer = (fun _ te t => match t.f.state with
    | some q =>
      if te.2 then
        ({ t with f := (nested d t.f te.1 []).1,
                  log := t.log ++ Action.startTimer q :: (nested d t.f te.1 []).2.2 },
         if (nested d t.f te.1 []).2.1.isError then .error (excOfRes (nested d t.f te.1 []).2.1) else .ok ())
      else (t.emit [Action.startTimer q], .ok ())
    | none => (t, .ok ())) := rfl
theorem prims_calcOutput (d : Def) : (prims d).calcOutput = (fun t => match t.f.state with
    | some q => (t, .ok (Fsm.calcOutput d q))
    | none => (t, .error .assertion)) := rfl
theorem prims_setOutput (d : Def) : (prims d).setOutput = (fun v t =>
    ({ t with f := (Fsm.setOutput t.f v).1, log := t.log ++ (Fsm.setOutput t.f v).2 }, .ok ())) := rfl
theorem prims_enableEvent (d : Def) : (prims d).enableEvent = (fun b t => { t with enabled := b }) := rfl

theorem excOf_unknownEvent : excOf "EdzedUnknownEvent" = .unknownEvent := by simp [excOf]
theorem excOf_circuitError : excOf "EdzedCircuitError" = .circuitError := by simp [excOf]
theorem excOf_assertion : excOf "AssertionError" = .assertion := by simp [excOf]
theorem beq_on_exit : ("on_exit" == "on_exit") = true := by decide
theorem beq_on_enter : ("on_enter" == "on_exit") = false := by decide

/- `simp only [fsm03, h₁, …]` runs a piece of the translated program on the model primitives, `h₁, …` being what
   is known of the block at that point -/
attribute [fsm03] Gen.TrM.seq Gen.TrM.branch Gen.TrM.call Gen.TrM.assign Gen.TrM.skip Gen.TrM.matchOpt
  Gen.TrM.upd Gen.TrM.ret Gen.TrM.raise Gen.TrM.brk Gen.TrM.cont Gen.TrM.tryFinally Gen.TrM.forN TS.emit
  prims_exc prims_asGoto prims_isStr prims_isEvent prims_isMutableMapping prims_readOnly prims_dataGet
  prims_isUndef prims_getState prims_setState prims_getNext prims_setNext prims_getActive prims_setActive
  prims_isInitialized prims_chainLimit prims_transition prims_timedEvent prims_setEventData prims_checkState
  prims_runCond prims_runCbExit prims_runCbEnter prims_sendEvents prims_sendNotrans prims_stopTimer
  prims_startTimer prims_calcOutput prims_setOutput prims_enableEvent
  excOf_unknownEvent excOf_circuitError excOf_assertion beq_on_exit beq_on_enter
  if_true if_false Bool.not_true Bool.not_false Bool.false_eq_true Bool.or_self Bool.or_true Bool.or_false
  Bool.true_or Bool.false_or Option.isSome_some Option.isSome_none Option.isNone_some Option.isNone_none
  Option.map_some Option.map_none Option.getD_some Option.getD_none Option.bind_some Option.bind_none
  List.append_nil List.nil_append List.cons_append List.append_assoc and_self and_true true_and

/-- what is compared: the block (`_state`, output, `_fsm_event_active`, `_next_event`), the ordered log of
    actions and events with the data each read, and how the call ended -/
def view (r : TS × Flow Exc Bool) : Fsm × List Action × Flow Exc Bool := (r.1.f, r.1.log, r.2)

def retOf : Flow Exc Bool → Option Bool
  | .ret b => some b
  | _ => none

/-- how a round of the translated loop is left when the model's pass ends with `st` -/
def RoundEnds (st : Step) (fl : Flow Exc Bool) : Prop :=
  match st with
  | .fail r => fl = Flow.raise (excOfRes r)
  | .again => fl = Flow.cont
  | .done => fl = Flow.brk

/-- `round_tail03 d re q`: the tail of a round, after `self._state = newstate`, leaf by leaf.  For a goal in which the
    translated body has been run on the primitives (`simp only [fsm03]`) and the model's `enterState` is unfolded
    (`re` = the model's run of the entry callbacks, `q` the state entered) it splits on how the entry callbacks end,
    on a pending request and on the timer of `q`, and lets `simp` compare program and model in each of the seven
    cases: entry action, `continue`, timer, `continue`/`break`.  This is the direct proof of a round; it evaluates the
    whole tail once per case, which is slow to check.  `round_run` below goes through the same cases stage by
    stage, each stage of the program evaluated once. -/
macro "round_tail03" dd:term:max re:term:max q:term:max : tactic =>
  `(tactic| (
    have hst := (runCbs_same _ _ _ _ _ : Same _ $re.1).1
    generalize $re = r at hst ⊢
    obtain ⟨f1, err, l1⟩ := r
    simp only at hst
    cases err with
    | some r => simp [RoundEnds]
    | none =>
      cases hn1 : f1.next with
      | some x => simp [hn1, RoundEnds]
      | none =>
        cases ht : timedOf _ $q with
        | none => simp [hn1, ht, RoundEnds]
        | some te =>
          obtain ⟨tev, zero⟩ := te
          cases zero with
          | false => simp [hn1, ht, hst, RoundEnds]
          | true =>
            simp [hn1, ht, hst]
            have hs2 := (nested_same $dd f1 tev []).1
            generalize nested $dd f1 tev [] = r2 at hs2 ⊢
            obtain ⟨f2, r, l3⟩ := r2
            simp only at hs2
            cases hre : r.isError with
            | true => simp [hre, RoundEnds]
            | false => cases hn2 : f2.next <;> simp [hre, hn2, RoundEnds]))

/-- how the translated `for … else` ends, in terms of the model's loop result -/
def LoopEnds (r : Option Res) (fl : Flow Exc Bool) : Prop :=
  match r with
  | none => fl = Flow.next
  | some x => fl = Flow.raise (excOfRes x)

theorem seq_next {σ L X R : Type} {a b : Stmt (σ × L) X R} {sl sl1 : σ × L}
    (h : a sl = (sl1, Flow.next)) : seq a b sl = b sl1 := by
  simp only [seq, h]

theorem seq_stop {σ L X R : Type} {a b : Stmt (σ × L) X R} {sl sl1 : σ × L} {f : Flow X R}
    (h : a sl = (sl1, f)) (hf : f ≠ Flow.next) : seq a b sl = (sl1, f) := by
  simp only [seq, h]
  cases f <;> simp_all

/-- the continuation of a `seq`, named by its place -/
theorem seq_rest {σ L X R : Type} {a b : Stmt (σ × L) X R} {sl : σ × L} {r : (σ × L) × Flow X R}
    (h : seq a b sl = r) : ∃ T, T = b ∧ seq a T sl = r := ⟨b, rfl, h⟩

theorem flowOf_error (r : Res) (h : r.isError = true) : flowOf r = Flow.raise (excOfRes r) := by
  cases r <;> simp_all [Res.isError, flowOf, excOfRes]

theorem setOutput_keeps (f : Fsm) (v : Val) :
    (Fsm.setOutput f v).1.state = f.state ∧ (Fsm.setOutput f v).1.next = f.next ∧
    (Fsm.setOutput f v).1.active = f.active := setOutput_frame f v

theorem body_run (d : Def) (f : Fsm) (ctx data : Data) (log : List Action) (en : Bool) (e : EType) :
    match check d f e data with
    | (l, .error r) =>
      (ctxEventBody (prims d) (⟨f, ctx, log, en⟩, ⟨e, data, data, none⟩)).1.1 = ⟨f, data, log ++ l, en⟩ ∧
      (ctxEventBody (prims d) (⟨f, ctx, log, en⟩, ⟨e, data, data, none⟩)).2 = flowOf r
    | (l, .ok tgt) =>
      ctxEventBody (prims d) (⟨f, ctx, log, en⟩, ⟨e, data, data, none⟩) =
        if f.active then
          match f.next with
          | some _ => ((⟨f, data, log ++ l, en⟩, ⟨e, data, data, some tgt⟩), Flow.raise Exc.circuitError)
          | none => ((⟨{ f with next := some ⟨e, data, tgt⟩ }, data, log ++ l, en⟩, ⟨e, data, data, some tgt⟩),
              Flow.ret true)
        else
          match ctxEventTry0 (prims d) (⟨{ f with active := true }, data, log ++ l, en⟩,
              ⟨e, data, data, some tgt⟩) with
          | (sl1, fl) => (({ sl1.1 with f := { sl1.1.f with active := false } }, sl1.2), fl) := by
  -- the method is run inside `hR`, where it stands once
  generalize hR : ctxEventBody (prims d) _ = R
  unfold ctxEventBody at hR
  -- the read-only copy of the data and `fsm_event_data.set` are stepped over first, so that the first half is
  -- evaluated at the head of what remains.  `rw` needs the state after the step (`sl1`) before it can state the
  -- side condition, so it is given; the side condition is then closed by running the step
  rw [seq_next (sl1 := (⟨f, ctx, log, en⟩, ⟨e, data, data, none⟩)) (by simp only [fsm03]),
    seq_next (sl1 := (⟨f, data, log, en⟩, ⟨e, data, data, none⟩)) (by simp only [fsm03])] at hR
  -- the second half is what follows the first: it is named by its place, whatever its statements look like, and
  -- run once, from whatever the first half leaves
  obtain ⟨SH, hSH, hR⟩ := seq_rest hR
  have hS : ∀ (log' : List Action) (tgt : State), SH (⟨f, data, log', en⟩, ⟨e, data, data, some tgt⟩) =
      if f.active then
        match f.next with
        | some _ => ((⟨f, data, log', en⟩, ⟨e, data, data, some tgt⟩), Flow.raise Exc.circuitError)
        | none => ((⟨{ f with next := some ⟨e, data, tgt⟩ }, data, log', en⟩, ⟨e, data, data, some tgt⟩),
            Flow.ret true)
      else
        match ctxEventTry0 (prims d) (⟨{ f with active := true }, data, log', en⟩, ⟨e, data, data, some tgt⟩) with
        | (sl1, fl) => (({ sl1.1 with f := { sl1.1.f with active := false } }, sl1.2), fl) := by
    intro log' tgt
    subst hSH
    cases ha : f.active with
    | false => simp only [fsm03, pybool, ha]
    | true => cases hn : f.next <;> simp only [fsm03, pybool, ha, hn]
  clear hSH
  cases e with
  | goto q =>
    cases hq : d.states.contains q <;> simp only [fsm03, pybool, hq, hS] at hR <;> subst hR <;>
      simp only [fsm03, check, hq, flowOf]
  | ev n =>
    cases hev : d.events.contains n with
    | false => simp only [fsm03, pybool, hev] at hR; subst hR; simp only [fsm03, hev, check, flowOf]
    | true =>
      cases hst : f.state with
      | none => simp only [fsm03, pybool, hev, hst] at hR; subst hR; simp only [fsm03, hev, hst, check, flowOf]
      | some cur =>
        -- `newstate` after the two dictionary lookups is the model's `lookup`
        generalize hlk : matchOpt _ (assign _) _ = lk at hR
        have hlk' : ∀ v3, lk (⟨f, data, log, en⟩, ⟨.ev n, data, data, v3⟩) =
            ((⟨f, data, log, en⟩, ⟨.ev n, data, data, lookup d.toTables n cur⟩), Flow.next) := by
          intro v3
          subst hlk
          rw [lookup_eq]
          cases h1 : tget d.trans n (some cur) <;> simp only [fsm03, pybool, hst, h1]
        cases ho : lookup d.toTables n cur with
        | none =>
          simp only [fsm03, pybool, hev, hst, hlk', ho] at hR; subst hR; simp only [fsm03, hev, hst, ho, check, flowOf]
        | some q =>
          cases hu : f.output.isUndef with
          | true =>
            simp only [fsm03, pybool, hev, hst, hlk', ho, hu, hS] at hR; subst hR; simp only [fsm03, hev, hst, ho, hu, check]
          | false =>
            cases hall : (condsOf d n).all (fun c => (c.2.eval data).truthy) <;>
              simp only [fsm03, pybool, hev, hst, hlk', ho, hu, hall, hS] at hR <;> subst hR <;>
              simp only [fsm03, hev, hst, ho, hu, hall, check, flowOf]

/-- the one flow that `RoundEnds st` holds of: the statement that ends the pass (an equation needs the function) -/
def roundFlow : Step → Flow Exc Bool
  | .fail r => Flow.raise (excOfRes r)
  | .again => Flow.cont
  | .done => Flow.brk

theorem roundFlow_stepOf (r : Option Res) (nx : Option Req) :
    roundFlow (stepOf r nx) = match r with
      | some x => Flow.raise (excOfRes x)
      | none => if nx.isSome then Flow.cont else Flow.brk := by
  cases r with
  | some x => rfl
  | none => cases nx <;> rfl

theorem round_run (d : Def) (f : Fsm) (ctx : Data) (log : List Action) (v0 : EType) (v1 v2 : Data)
    (v3 : Option State) (cur : Req)
    (hq : f.next = none → v3 = some cur.target ∧ v1 = cur.data ∧ ctx = cur.data) :
    ctxEventLoop0 (prims d) (⟨f, ctx, log, false⟩, ⟨v0, v1, v2, v3⟩) =
      ((⟨(iter d f cur).1, (iter d f cur).2.1.data, log ++ (iter d f cur).2.2.2, false⟩,
        ⟨(f.next.map (·.etype)).getD v0, (iter d f cur).2.1.data, v2, some (iter d f cur).2.1.target⟩),
       roundFlow (iter d f cur).2.2.1) := by
  obtain ⟨st, out, act, nx⟩ := f
  rw [iter_eq]
  unfold ctxEventLoop0
  -- a pending request is unpacked: context variable, then the exit action of the intermediate state
  rw [seq_next (sl1 := (⟨⟨st, out, act, none⟩, (unpack ⟨st, out, act, nx⟩ cur).data,
        log ++ unpackLog d ⟨st, out, act, nx⟩, false⟩,
      ⟨(nx.map (·.etype)).getD v0, (unpack ⟨st, out, act, nx⟩ cur).data, v2,
        some (unpack ⟨st, out, act, nx⟩ cur).target⟩))]
  rotate_left
  · cases nx with
    | none =>
      obtain ⟨h3, h1, hc⟩ := hq rfl
      subst h3 h1 hc
      simp only [fsm03, unpack, unpackLog]
    | some x => cases st <;> simp only [fsm03, unpack, unpackLog]
  clear hq
  dsimp only
  generalize unpack ⟨st, out, act, nx⟩ cur = c
  generalize unpackLog d ⟨st, out, act, nx⟩ = ul
  generalize (nx.map (·.etype)).getD v0 = e0
  -- `self._state = newstate`
  rw [seq_next (sl1 := (⟨⟨some c.target, out, act, none⟩, c.data, log ++ ul ++ [Action.setState c.target], false⟩,
      ⟨e0, c.data, v2, some c.target⟩)) (by simp only [fsm03])]
  -- the entry action
  rw [enterState_eq]
  have hst := (runCbs_same d c.target c.data ⟨some c.target, out, act, none⟩ (entersOf d c.target)).1
  generalize hr1 : runCbs d c.target c.data ⟨some c.target, out, act, none⟩ (entersOf d c.target) = r1 at hst ⊢
  obtain ⟨f1, _ | r, l1⟩ := r1
  rotate_left
  · rw [seq_stop (sl1 := (⟨f1, c.data, log ++ ul ++ [Action.setState c.target] ++ l1, false⟩,
        ⟨e0, c.data, v2, some c.target⟩)) (f := Flow.raise (excOfRes r)) (by simp only [fsm03, hr1]) (by simp)]
    simp only [roundFlow, List.append_assoc]
  rw [seq_next (sl1 := (⟨f1, c.data, log ++ ul ++ [Action.setState c.target] ++ l1, false⟩,
      ⟨e0, c.data, v2, some c.target⟩)) (by simp only [fsm03, hr1])]
  simp only at hst
  -- `if self._next_event: continue`
  cases hn1 : f1.next.isSome with
  | true =>
    rw [seq_stop (sl1 := (⟨f1, c.data, log ++ ul ++ [Action.setState c.target] ++ l1, false⟩,
        ⟨e0, c.data, v2, some c.target⟩)) (f := Flow.cont) (by simp only [fsm03, Option.isSome_map, hn1]) (by simp)]
    simp only [hn1, roundFlow, List.append_assoc, if_true]
  | false =>
    rw [seq_next (sl1 := (⟨f1, c.data, log ++ ul ++ [Action.setState c.target] ++ l1, false⟩,
        ⟨e0, c.data, v2, some c.target⟩)) (by simp only [fsm03, Option.isSome_map, hn1])]
    simp only [hn1, Bool.false_eq_true, if_false, roundFlow_stepOf]
    -- the timer
    cases ht : timedOf d c.target with
    | none => simp only [fsm03, ht, timerRun, hn1]
    | some te =>
      obtain ⟨tev, zero⟩ := te
      cases zero with
      | false => simp only [fsm03, Option.isSome_map, ht, hst, timerRun, hn1]
      | true =>
        simp only [timerRun, ht, if_true]
        have hs2 := (nested_same d f1 tev []).1
        generalize hr2 : nested d f1 tev [] = r2 at hs2 ⊢
        obtain ⟨f2, r, l3⟩ := r2
        cases hre : r.isError with
        | true => simp only [fsm03, ht, hst, hr2, hre]
        | false => cases hn2 : f2.next.isSome <;> simp only [fsm03, Option.isSome_map, ht, hst, hr2, hre, hn2]

/-- `is_initialized()` implies `_state is not UNDEF` -/
def HasState (f : Fsm) : Prop := f.output.isUndef = false → f.state ≠ none

theorem ctxEvent_hasState (d : Def) (f : Fsm) (e : EType) (data : Data) (h : HasState f) :
    HasState (Fsm.ctxEvent d f e data).1 := by
  cases ha : f.active with
  | true =>
    rw [ctxEvent_active d f e data ha]
    have hs := nested_same d f e data
    intro hu
    rw [hs.2.1] at hu
    rw [hs.1]; exact h hu
  | false =>
    rcases hc : check d f e data with ⟨l, r | tgt⟩
    · rw [ctxEvent_check_error hc]; exact h
    · cases hn : f.next with
      | some x => rw [ctxEvent_stale_next hc ha hn]; exact h
      | none =>
        rw [ctxEvent_check_ok hc ha hn]
        rcases transition_cases d f e data tgt with ⟨f1, r, l1, hlo, _, ho, htr⟩ | ⟨f1, s, l1, _, hs, _, _, htr⟩
        · rw [htr]
          intro hu
          simp only at hu ⊢
          rw [ho] at hu
          have := (loop_plain d d.chainLimit { f with active := true } ⟨e, data, tgt⟩).state
          rw [hlo] at this
          rcases this with h' | h'
          · simp only at h'; rw [h']; exact h hu
          · simp only at h'; intro hn'; rw [hn'] at h'; cases h'
        · rw [htr]
          intro _
          simp only
          rw [(setOutput_frame f1 (Fsm.calcOutput d s)).1, hs]
          simp

theorem run_hasState (d : Def) (f : Fsm) (evs : List (EType × Data)) (h : HasState f) :
    HasState (run d f evs).1 :=
  run_inv d HasState (ctxEvent_hasState d) f evs h

end Edzed.TrTie.F03
