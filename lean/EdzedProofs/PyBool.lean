/-
The simp set `pybool`: core's reductions of `Bool`, `decide`, `if`, `Option.isSome/isNone` and
`List.isEmpty` on decided arguments, in both polarities.  A translated test changes its shape with harmless
rewrites of the Python source (`if not c: B else: A`, operands of `and`/`or` swapped, `a == b` as `b == a`,
a condition split in two); a closed `simp only [pybool, ↓reduceIte, <the decided atoms>]` evaluates every
such shape, where a list picked for today's text leaves the others standing.
-/
import EdzedProofs.SimpAttrs

attribute [pybool]
  Bool.not_true Bool.not_false Bool.not_not
  Bool.and_true Bool.true_and Bool.and_false Bool.false_and Bool.and_self
  Bool.or_true Bool.true_or Bool.or_false Bool.false_or Bool.or_self
  Bool.not_and Bool.not_or
  Bool.false_eq_true Bool.true_eq_false Bool.not_eq_true' Bool.not_eq_false' Bool.not_eq_true Bool.not_eq_false
  Bool.and_eq_true Bool.or_eq_true Bool.and_eq_false_imp Bool.or_eq_false_iff
  beq_self_eq_true bne_self_eq_false beq_iff_eq bne_iff_ne ne_eq
  decide_eq_true_eq decide_eq_false_iff_not decide_not decide_true decide_false
  if_true if_false ite_not ite_self
  eq_self not_true_eq_false not_false_eq_true and_true true_and and_false false_and or_true true_or or_false false_or
  Classical.not_not
  Option.isSome_some Option.isSome_none Option.isNone_some Option.isNone_none
  List.isEmpty_nil List.isEmpty_cons
