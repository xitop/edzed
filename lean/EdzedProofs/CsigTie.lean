/-
Tie by translation for C15: `input_signature`, `check_signature` (with `setdiff_msg`), `get_conf`, `getblocks`,
`InputGetter.__getitem__`.  The primitives of lean/EdzedModel/Gen/TranslatedCsig.lean interpreted in
lean/EdzedModel/Wiring.lean.
-/
import EdzedModel.Wiring
import EdzedModel.Gen.TranslatedCsig
import EdzedModel.Gen.TranslatedWiring
import EdzedProofs.WiringSig

namespace Edzed.CsigTie
open Edzed.Wiring

/-- Python value of an expectation: `None` | int | `(cmin, cmax)`; a malformed one has none -/
def encE : Expect → Option Gen.TrCS.E
  | .single => some none
  | .exact n => some (some (.inl n))
  | .range lo hi => some (some (.inr (lo, hi)))
  | .malformed => none

def encSig : List (String × Expect) → Option (List (String × Gen.TrCS.E))
  | [] => some []
  | (k, e) :: rest =>
    match encE e, encSig rest with
    | some x, some r => some ((k, x) :: r)
    | _, _ => none

/-- the primitives in the model; `cm` = what difflib suggests, `out` = the outputs -/
def cprims {V : Type} (c : Circ) (cm : String → List String → List String) (out : Ref → V) :
    Gen.TrCS.CPrims Inp V String (Option Gen.TrW.BType) where
  isGroup i := match i with
    | .group _ => true
    | .single _ => false
  size i := i.refs.length
  setDiff a b := a.filter fun k => !b.contains k
  closeMatches := cm
  outputOf i := match i with
    | .single r => out r
    | .group _ => out (.val .undef)
  outputsOf i := i.refs.map out
  singleName i := match i with
    | .single r => r.confName
    | .group _ => none
  groupNames i := i.refs.mapM Ref.confName
  isBase t := t.isNone
  isInstance b t := match t with
    | none => true
    | some .cblock => (match c.kind b with | some (.c _) => true | _ => false)
    | some .not => c.kind b == some (.c .not)

variable {V : Type}

def excOfErr : Err → Gen.TrCS.SigExc
  | .invalidState => .invalidState
  | .keyError => .keyError
  | _ => .typeError

/-- how `input_signature` reads one input through the primitives -/
theorem cprims_sigVal (c : Circ) (cm) (out : Ref → V) (i : Inp) :
    (if (cprims c cm out).isGroup i then some ((cprims c cm out).size i) else none) = i.sigVal := by
  cases i <;> rfl

theorem inputSignature_run (c : Circ) (cm) (out : Ref → V) (b : String) :
    Gen.TrCS.inputSignature (cprims c cm out) (c.inputs b) =
      (match Wiring.inputSignature c b with
        | .ok l => .ok l
        | .error _ => .error .invalidState) := by
  unfold Gen.TrCS.inputSignature Wiring.inputSignature
  simp only [Gen.TrCS.Q.bind, Gen.TrCS.Q.gets, Bool.not_not, cprims_sigVal]
  cases (c.inputs b).isEmpty <;> rfl

/-- the sections of the message for the unexpected names `u` and the missing names `m` -/
def sectsOf (cm : String → List String → List String) (u m : List String) : List Gen.TrCS.Sect :=
  (if u.isEmpty then [] else [.unexpected (u.map fun n => ⟨n, cm n m⟩)]) ++
  (if m.isEmpty then [] else [.missing m])

theorem parts_fold (cm : String → List String → List String) (m : List String)
    (body : List Gen.TrCS.Part → String → Gen.TrCS.Q (List Gen.TrCS.Part))
    (hbody : ∀ acc n, body acc n = .ok (acc ++ [⟨n, cm n m⟩])) (u : List String) :
    ∀ acc : List Gen.TrCS.Part, Gen.TrCS.Q.foldM u acc body = .ok (acc ++ u.map fun n => ⟨n, cm n m⟩) := by
  induction u with
  | nil => intro acc; simp [Gen.TrCS.Q.foldM, Gen.TrCS.Q.pure]
  | cons n rest ih =>
    intro acc
    rw [Gen.TrCS.Q.foldM, hbody, Gen.TrCS.Q.bind, ih]
    simp

theorem setdiffMsg_run (c : Circ) (cm) (out : Ref → V) (a e : List String) :
    Gen.TrCS.setdiffMsg (cprims c cm out) a e =
      .ok (sectsOf cm (a.filter fun k => !e.contains k) (e.filter fun k => !a.contains k)) := by
  unfold Gen.TrCS.setdiffMsg
  have hsd : ∀ x y, (cprims c cm out).setDiff x y = x.filter fun k => !y.contains k := fun _ _ => rfl
  have hcm : (cprims c cm out).closeMatches = cm := rfl
  simp only [Gen.TrCS.Q.bind, Gen.TrCS.Q.pure, Gen.TrCS.Q.gets, hsd, hcm]
  generalize List.filter (fun k => !e.contains k) a = U
  generalize List.filter (fun k => !a.contains k) e = M
  rw [parts_fold cm M _ (fun acc n => ?_) U []]
  · cases hu : U.isEmpty <;> cases hm : M.isEmpty <;>
      simp only [sectsOf, hu, hm, Bool.not_true, Bool.not_false, Bool.false_eq_true, if_true, if_false,
        List.nil_append, List.append_nil] <;> rfl
  · cases h : (cm n M).isEmpty
    · simp only [Bool.not_false, if_true]
    · simp only [Bool.not_true, Bool.false_eq_true, if_false, List.isEmpty_iff.mp h]

theorem valuediff_enc (e : Expect) (v : Option Nat) (x : Gen.TrCS.E) (h : encE e = some x) :
    Gen.Tr.sigValueDiff v x = valueDiff e v := by
  cases e with
  | single => cases h; cases v <;> rfl
  | exact n =>
    cases h
    cases v with
    | none => rfl
    | some k =>
      simp only [Gen.Tr.sigValueDiff, valueDiff, bne]
      by_cases hkn : k = n <;> simp [hkn]
  | malformed => cases h
  | range lo hi =>
    cases h
    cases v with
    | none => rfl
    | some k => cases lo <;> cases hi <;> simp [Gen.Tr.sigValueDiff, valueDiff]

theorem encSig_cons {k : String} {e : Expect} {rest : List (String × Expect)}
    {ee : List (String × Gen.TrCS.E)} (h : encSig ((k, e) :: rest) = some ee) :
    ∃ x r, encE e = some x ∧ encSig rest = some r ∧ ee = (k, x) :: r := by
  simp only [encSig] at h
  cases h1 : encE e with
  | none => simp [h1] at h
  | some x =>
    cases h2 : encSig rest with
    | none => simp [h1, h2] at h
    | some r => simp [h1, h2] at h; exact ⟨x, r, rfl, rfl, h.symm⟩

theorem all_map_enc (f : String × Gen.TrCS.E → Bool) (g : String × Expect → Bool)
    (esig : List (String × Expect)) : ∀ ee, encSig esig = some ee →
    (∀ k e x, encE e = some x → f (k, x) = g (k, e)) → ee.all f = esig.all g := by
  induction esig with
  | nil => intro ee h _; cases h; rfl
  | cons p rest ih =>
    obtain ⟨k, e⟩ := p
    intro ee h hfg
    obtain ⟨x, r, h1, h2, rfl⟩ := encSig_cons h
    simp only [List.all_cons, hfg k e x h1, ih r h2 hfg]

theorem enc_facts (bsig : List (String × Option Nat)) (esig : List (String × Expect)) :
    ∀ ee, encSig esig = some ee →
    ee.length = esig.length ∧ ee.map (·.1) = esig.map (·.1) ∧ firstMalformed bsig esig = none := by
  induction esig with
  | nil => intro ee h; cases h; simp [firstMalformed]
  | cons p rest ih =>
    obtain ⟨k, e⟩ := p
    intro ee h
    obtain ⟨x, r, h1, h2, rfl⟩ := encSig_cons h
    obtain ⟨i3, i4, i5⟩ := ih r h2
    refine ⟨by simp [i3], by simp [i4], ?_⟩
    cases e with
    | malformed => cases h1
    | single => simpa [firstMalformed] using i5
    | exact n => simpa [firstMalformed] using i5
    | range lo hi => simpa [firstMalformed] using i5

theorem values_fold (F : List String → String × Gen.TrCS.E → Gen.TrCS.Q (List String)) (G : String × Expect → Bool)
    (esig : List (String × Expect)) :
    ∀ (ee : List (String × Gen.TrCS.E)) (acc : List String), encSig esig = some ee →
    (∀ k e x acc, encE e = some x → (k, e) ∈ esig →
      F acc (k, x) = .ok (if G (k, e) then acc ++ [k] else acc)) →
    Gen.TrCS.Q.foldM ee acc F = .ok (acc ++ keysOf (esig.filter G)) := by
  induction esig with
  | nil => intro ee acc h _; cases h; simp [Gen.TrCS.Q.foldM, Gen.TrCS.Q.pure, keysOf]
  | cons p rest ih =>
    obtain ⟨k, e⟩ := p
    intro ee acc h hF
    obtain ⟨x, r, h1, h2, rfl⟩ := encSig_cons h
    simp only [Gen.TrCS.Q.foldM, hF k e x acc h1 (by simp), Gen.TrCS.Q.bind, List.filter_cons]
    rw [ih r _ h2 (fun k' e' x' acc' hx hm => hF k' e' x' acc' hx (by simp [hm]))]
    cases G (k, e) <;> simp [keysOf]

def excOfDiag (cm : String → List String → List String) : SigDiag → Gen.TrCS.SigExc
  | .names u m => .names (sectsOf cm u m)
  | .values l => .values l
  | .malformed _ => .typeError

theorem checkSignature_run (c : Circ) (cm) (out : Ref → V) (b : String) (esig : List (String × Expect))
    (ee : List (String × Gen.TrCS.E)) (he : encSig esig = some ee) :
    Gen.TrCS.checkSignature (cprims c cm out) (c.inputs b) ee =
      (match Wiring.checkSignatureD c b esig, Wiring.inputSignature c b with
        | .ok none, .ok bsig => .ok bsig
        | .ok (some d), _ => .error (excOfDiag cm d)
        | _, _ => .error .invalidState) := by
  -- the two dict comparisons of the program are the model's `sigEq` / `sameKeys` (`hde`, `hke`); then the
  -- program and `sigDiagnosis` branch alike: names differ, some item differs (one loop = one `filter`), accepted
  unfold Gen.TrCS.checkSignature Wiring.checkSignatureD
  rw [inputSignature_run]
  cases hs : Wiring.inputSignature c b with
  | error e => rfl
  | ok bsig =>
    obtain ⟨a3, a4, a5⟩ := enc_facts bsig esig ee he
    have hde : Gen.TrCS.dictEq bsig ee = sigEq bsig esig := by
      unfold Gen.TrCS.dictEq sigEq
      rw [a3]
      congr 1
      apply all_map_enc _ _ esig ee he
      intro k e x hx
      cases e <;> cases hx <;> cases bsig.lookup k with
      | none => simp
      | some v => cases v <;> simp [Gen.TrCS.sigItemEq]
    have hke : Gen.TrCS.keysEq bsig ee = sameKeys bsig esig := by
      unfold Gen.TrCS.keysEq sameKeys
      rw [a3]
      congr 1
      exact all_map_enc _ _ esig ee he (fun _ _ _ _ => rfl)
    simp only [Gen.TrCS.Q.bind, Gen.TrCS.Q.gets, hde, hke]
    rw [sigDiagnosis_eq, accepted, a5]
    cases sigEq bsig esig
    · cases h2 : sameKeys bsig esig
      · simp only [Bool.not_false, if_true, setdiffMsg_run, a4]
        rfl
      · have hall : ∀ p ∈ esig, (bsig.lookup p.1).isSome := by
          unfold sameKeys at h2
          simp only [Bool.and_eq_true, List.all_eq_true] at h2
          exact h2.2
        rw [values_fold _ (differs bsig) esig ee [] he (by
          intro k e x acc hx hm
          obtain ⟨v, hv⟩ := Option.isSome_iff_exists.mp (hall (k, e) hm)
          simp only [hv, Gen.TrCS.Q.pure, valuediff_enc e v x hx, differs])]
        simp only [Bool.not_false, Bool.not_true, if_true, Bool.false_eq_true, if_false, List.nil_append,
          keysOf, List.isEmpty_map, isEmpty_filter, Bool.not_not]
        cases esig.any (differs bsig) <;> rfl
    · rfl

theorem checkSignature_iff_diag (c : Circ) (b : String) (esig : List (String × Expect)) :
    Wiring.checkSignature c b esig = .ok () ↔ Wiring.checkSignatureD c b esig = .ok none := by
  rw [checkSignature_ok_iff, Wiring.checkSignatureD]
  cases Wiring.inputSignature c b with
  | error e => exact Iff.intro (fun ⟨_, h, _⟩ => nomatch h) nofun
  | ok bsig =>
    show _ ↔ Except.ok (sigDiagnosis bsig esig) = _
    rw [Except.ok.injEq, sigDiagnosis_none_iff]
    exact ⟨fun ⟨_, h, h2⟩ => Except.ok.inj h ▸ h2, fun h => ⟨bsig, rfl, h⟩⟩

theorem getblocks_run (c : Circ) (cm) (out : Ref → V) :
    Gen.TrCS.getblocks (cprims c cm out) c.order none = .ok c.order ∧
    Gen.TrCS.getblocks (cprims c cm out) c.order (some .cblock) = .ok (cblockNames c) ∧
    Gen.TrCS.getblocks (cprims c cm out) c.order (some .not) = .ok (notNames c) := by
  refine ⟨rfl, rfl, rfl⟩

theorem getitem_run (c : Circ) (cm) (out : Ref → V) (b name : String) :
    Gen.TrCS.inputGetterGetitem (cprims c cm out) (c.inputs b) name =
      (match Wiring.inputGet out c b name with
        | .ok v => .ok v
        | .error _ => .error .keyError) := by
  unfold Gen.TrCS.inputGetterGetitem Wiring.inputGet
  cases (c.inputs b).lookup name with
  | none => rfl
  | some i => cases i <;> rfl

/-- what `inspect.Signature.bind` demands of `n` positional arguments and the keywords `kw`, as a proposition -/
def Callable (f : FSig) (n : Nat) (kw : List String) : Prop :=
  (n ≤ f.pos.length ∨ f.varargs = true) ∧
  (∀ k ∈ kw, (∀ p ∈ f.pos.take n, p.1 ≠ k) ∧
     ((∃ p ∈ f.pos.drop n, p.1 = k) ∨ (∃ p ∈ f.kwonly, p.1 = k) ∨ f.varkw = true)) ∧
  (∀ p ∈ f.pos.drop n, p.2 = true ∨ p.1 ∈ kw) ∧
  (∀ p ∈ f.kwonly, p.2 = true ∨ p.1 ∈ kw)

theorem binds_iff (f : FSig) (n : Nat) (kw : List String) : f.binds n kw = true ↔ Callable f n kw := by
  unfold FSig.binds Callable
  simp only [Bool.and_eq_true, Bool.or_eq_true, decide_eq_true_eq, List.all_eq_true, List.any_eq_true,
    Bool.not_eq_true', beq_iff_eq, List.contains_eq_mem, List.any_eq_false, and_assoc]
  constructor
  · rintro ⟨h1, h2, h3, h4⟩
    refine ⟨h1, fun k hk => ⟨fun p hp => by simpa using (h2 k hk).1 p hp, ?_⟩, h3, h4⟩
    rcases (h2 k hk).2 with (h | h) | h
    · exact Or.inl h
    · exact Or.inr (Or.inl h)
    · exact Or.inr (Or.inr h)
  · rintro ⟨h1, h2, h3, h4⟩
    refine ⟨h1, fun k hk => ⟨fun p hp => by simpa using (h2 k hk).1 p hp, ?_⟩, h3, h4⟩
    rcases (h2 k hk).2 with h | h | h
    · exact Or.inl (Or.inl h)
    · exact Or.inl (Or.inr h)
    · exact Or.inr h

def confSum : ConfInp → String ⊕ List String
  | .single n => .inl n
  | .group ns => .inr ns

def confItem (p : String × Inp) : Option (String × ConfInp) := (p.2.conf).map fun x => (p.1, x)

theorem conf_fold (body : List (String × (String ⊕ List String)) → String × Inp →
      Gen.TrCS.Q (List (String × (String ⊕ List String))))
    (hbody : ∀ acc k i, body acc (k, i) =
      (match confItem (k, i) with
        | some p => .ok (acc ++ [(p.1, confSum p.2)])
        | none => .error .attributeError))
    (ins : Inputs) : ∀ acc : List (String × (String ⊕ List String)),
    Gen.TrCS.Q.foldM ins acc body =
    (match ins.mapM confItem with
      | some l => .ok (acc ++ l.map fun p => (p.1, confSum p.2))
      | none => .error .attributeError) := by
  induction ins with
  | nil => intro acc; simp [Gen.TrCS.Q.foldM, Gen.TrCS.Q.pure]
  | cons p rest ih =>
    obtain ⟨k, i⟩ := p
    intro acc
    simp only [Gen.TrCS.Q.foldM, List.mapM_cons, Option.bind_eq_bind, hbody]
    cases confItem (k, i) with
    | none => rfl
    | some q =>
      simp only [Gen.TrCS.Q.bind, Option.bind_some]
      rw [ih]
      cases rest.mapM confItem with
      | none => rfl
      | some l => simp

theorem getConf_run (c : Circ) (cm) (out : Ref → V) (b : String) :
    Gen.TrCS.cblockGetConf (cprims c cm out) c.finalized (c.inputs b) =
      (match Wiring.getConfInputs c b with
        | none => .ok { type := "combinational", inputs := none }
        | some none => .error .attributeError
        | some (some l) => .ok { type := "combinational", inputs := some (l.map fun p => (p.1, confSum p.2)) }) := by
  unfold Gen.TrCS.cblockGetConf Wiring.getConfInputs
  rw [show (fun p : String × Inp => (p.2.conf).map fun x => (p.1, x)) = confItem from rfl]
  cases c.finalized
  · rfl
  · simp only [Gen.TrCS.Q.bind, Gen.TrCS.Q.pure, Gen.TrCS.Q.gets, if_true]
    rw [conf_fold _ (fun acc k i => ?_) (c.inputs b) []]
    · cases (c.inputs b).mapM confItem <;> rfl
    · cases i with
      | single r =>
        simp only [show (cprims c cm out).isGroup (.single r) = false from rfl,
          show (cprims c cm out).singleName (.single r) = r.confName from rfl,
          Bool.false_eq_true, if_false, confItem, Inp.conf]
        cases r.confName <;> rfl
      | group rs =>
        simp only [show (cprims c cm out).isGroup (.group rs) = true from rfl,
          show (cprims c cm out).groupNames (.group rs) = rs.mapM Ref.confName from rfl,
          if_true, confItem, Inp.conf]
        cases rs.mapM Ref.confName <;> rfl

end Edzed.CsigTie
