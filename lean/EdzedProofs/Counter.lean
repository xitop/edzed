/- Python's floored modulo on exact rationals: its range for either sign of the modulus, and that it
   absorbs an inner reduction under addition. -/
import EdzedModel.Counter

namespace Edzed.Counter

theorem fract_nonneg (x : Rat) : 0 ≤ x - (x.floor : Int) :=
  (Rat.le_iff_sub_nonneg _ _).1 (Rat.floor_le x)

theorem fract_lt_one (x : Rat) : x - (x.floor : Int) < 1 := by
  have h := Rat.lt_floor_add_one x
  rw [Rat.intCast_add] at h
  exact Rat.sub_lt_iff.2 (by rwa [Rat.add_comm])

theorem fmod_eq_mul_fract (a : Rat) {m : Rat} (hm : m ≠ 0) :
    fmod a m = m * (a / m - ((a / m).floor : Int)) := by
  rw [Rat.sub_eq_add_neg, Rat.mul_add, Rat.mul_comm m (a / m), Rat.div_mul_cancel hm, Rat.mul_neg, ← Rat.sub_eq_add_neg, fmod]

theorem fmod_nonneg (a m : Rat) (hm : 0 < m) : 0 ≤ fmod a m := by
  rw [fmod_eq_mul_fract a (Rat.ne_of_gt hm)]
  exact Rat.mul_nonneg (Rat.le_of_lt hm) (fract_nonneg _)

theorem fmod_lt (a m : Rat) (hm : 0 < m) : fmod a m < m := by
  have := Rat.mul_lt_mul_of_pos_left (fract_lt_one (a / m)) hm
  rwa [Rat.mul_one, ← fmod_eq_mul_fract a (Rat.ne_of_gt hm)] at this

theorem fmod_nonpos (a m : Rat) (hm : m < 0) : fmod a m ≤ 0 := by
  rw [fmod_eq_mul_fract a (Rat.ne_of_lt hm)]
  exact Lean.Grind.OrderedRing.mul_nonpos_of_nonpos_of_nonneg (Rat.le_of_lt hm) (fract_nonneg _)

theorem fmod_gt (a m : Rat) (hm : m < 0) : m < fmod a m := by
  have := Lean.Grind.OrderedRing.mul_lt_mul_of_neg_left (fract_lt_one (a / m)) hm
  rwa [Rat.mul_one, ← fmod_eq_mul_fract a (Rat.ne_of_lt hm)] at this

theorem fmod_add_int (a m : Rat) (k : Int) (hm : m ≠ 0) : fmod (a + m * k) m = fmod a m := by
  have h : (a + m * k) / m = a / m + (k : Rat) := by
    rw [Rat.div_def, Rat.div_def, Rat.add_mul, Rat.mul_comm m, Rat.mul_assoc, Rat.mul_inv_cancel _ hm, Rat.mul_one]
  rw [fmod, h, Rat.floor_add_intCast, Rat.intCast_add, Rat.mul_add, fmod]
  grind

theorem fmod_fmod_add (a b m : Rat) (hm : m ≠ 0) : fmod (fmod a m + b) m = fmod (a + b) m := by
  have : fmod a m + b = (a + b) + m * ((-(a / m).floor : Int) : Rat) := by
    rw [fmod, Rat.intCast_neg]; grind
  rw [this, fmod_add_int _ _ _ hm]

end Edzed.Counter
