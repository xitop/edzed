/- Lemmas on the output model for C02.  What one `for event in events` loop sends, and which of its sends belong
   to a given slot and index; `assign_cases`, the three ways an assignment goes (refused, equal, changed), with what
   one record of a history then sends; `changes`, the successive changes of a history, whose image the sends for one
   on_output event are (`sendsOf_output_eq`), and `Linked` for the chaining of `previous` and `value`; `mem_sends` and
   `assign_ok`: one send and one accepted assignment of any history, from which most statements of C02 are read off. -/
import EdzedModel.Output
import EdzedProofs.DataLemmas

namespace Edzed.Output

/-- `{trigger, previous, value}` plus `data['source'] = name` -/
def rawData (name : String) (previous value : Val) : Data :=
  [("trigger", .str "output"), ("previous", previous), ("value", value), ("source", .str name)]

theorem kwargs_set_source (name : String) (p v : Val) :
    (kwargs p v).set "source" (.str name) = rawData name p v := by
  simp [kwargs, Data.set, rawData]

theorem rawData_get (name : String) (p v : Val) :
    (rawData name p v).get? "previous" = some p ∧ (rawData name p v).get? "value" = some v ∧
    (rawData name p v).get? "source" = some (.str name) ∧
    (rawData name p v).get? "trigger" = some (.str "output") := by
  simp [rawData, Data.get?, List.find?]

theorem send_fields (e : Ev) (slot : Slot) (i : Nat) (n : String) (p v vis : Val) :
    let s := e.send slot i n (kwargs p v) vis
    s.slot = slot ∧ s.idx = i ∧ s.ev = e ∧ s.raw = rawData n p v ∧ s.visible = vis ∧
    s.result = runFilters e.filters (rawData n p v) := by
  simp [Ev.send, kwargs_set_source]

theorem sendFrom_map_ev (slot : Slot) (n : String) (p v vis : Val) (off : Nat) (evs : List Ev) :
    (sendFrom slot n p v vis off evs).map (fun s => (s.slot, s.ev)) = evs.map (fun e => (slot, e)) := by
  induction evs generalizing off with
  | nil => rfl
  | cons e es ih => simp [sendFrom, ih, Ev.send]

theorem sendFrom_length (slot : Slot) (n : String) (p v vis : Val) (off : Nat) (evs : List Ev) :
    (sendFrom slot n p v vis off evs).length = evs.length := by
  induction evs generalizing off with
  | nil => rfl
  | cons e es ih => simp [sendFrom, ih]

theorem sendFrom_getElem? (slot : Slot) (n : String) (p v vis : Val) (off : Nat) (evs : List Ev) (j : Nat) :
    (sendFrom slot n p v vis off evs)[j]? = evs[j]?.map fun e => e.send slot (off + j) n (kwargs p v) vis := by
  induction evs generalizing off j with
  | nil => rfl
  | cons e es ih =>
    cases j with
    | zero => rfl
    | succ j => rw [sendFrom, List.getElem?_cons_succ, List.getElem?_cons_succ, ih, Nat.add_right_comm, Nat.add_assoc]

theorem mem_sendAll (slot : Slot) (n : String) (evs : List Ev) (p v vis : Val) (s : Sent)
    (h : s ∈ sendAll slot n evs p v vis) :
    s.slot = slot ∧ s.raw = rawData n p v ∧ s.visible = vis ∧
    s.result = runFilters s.ev.filters s.raw ∧ evs[s.idx]? = some s.ev := by
  obtain ⟨j, hj⟩ := List.mem_iff_getElem?.mp h
  rw [sendAll, sendFrom_getElem?, Nat.zero_add] at hj
  obtain ⟨e, he, rfl⟩ := Option.map_eq_some_iff.mp hj
  obtain ⟨h1, h2, h3, h4, h5, h6⟩ := send_fields e slot j n p v vis
  exact ⟨h1, h4, h5, by rw [h6, h3, h4], by rw [h2, h3, he]⟩

theorem filter_sendFrom (slot slot' : Slot) (n : String) (p v vis : Val) (off i : Nat) (evs : List Ev) :
    (sendFrom slot n p v vis off evs).filter (fun s => s.slot == slot' && s.idx == i) =
      if slot' = slot ∧ off ≤ i then
        ((evs[i - off]?).map fun e => e.send slot i n (kwargs p v) vis).toList
      else [] := by
  -- the indices are `off, off + 1, …`: the head is hit iff `i = off`, the tail can only be hit for `off + 1 ≤ i`
  induction evs generalizing off with
  | nil => simp [sendFrom]
  | cons e es ih =>
    rw [sendFrom, List.filter_cons, ih (off + 1)]
    by_cases hs : slot' = slot
    · subst hs
      by_cases h1 : i = off
      · subst h1
        have h0 : ¬ (i + 1 ≤ i) := by omega
        simp [Ev.send, h0]
      · by_cases h2 : off ≤ i
        · have h3 : off + 1 ≤ i := by omega
          have h4 : i - off = (i - (off + 1)) + 1 := by omega
          have h5 : ¬ (off = i) := fun h => h1 h.symm
          simp [Ev.send, h2, h3, h5]
          rw [h4]; simp
        · have h3 : ¬ (off + 1 ≤ i) := by omega
          have h5 : ¬ (off = i) := fun h => h1 h.symm
          simp [Ev.send, h2, h3, h5]
    · have : ¬ (slot = slot') := fun h => hs h.symm
      simp [Ev.send, hs, this]

theorem filter_sendAll (slot slot' : Slot) (n : String) (p v vis : Val) (i : Nat) (evs : List Ev) :
    (sendAll slot n evs p v vis).filter (fun s => s.slot == slot' && s.idx == i) =
      if slot' = slot then ((evs[i]?).map fun e => e.send slot i n (kwargs p v) vis).toList else [] := by
  simp [sendAll, filter_sendFrom]

theorem pyEqN_self_of_eq {a b : Val} (h : pyEqN a b = true) : pyEqN a a = true := by
  simp only [pyEqN, Bool.and_eq_true, Bool.not_eq_true'] at h ⊢
  exact ⟨⟨h.1.1, h.1.1⟩, Val.pyEq_refl a⟩

theorem pyEqN_nan_right (x : Val) : pyEqN x nanVal = false := by
  simp [pyEqN, isNan]

theorem pyEqN_eq_pyEq {a b : Val} (ha : isNan a = false) (hb : isNan b = false) : pyEqN a b = a.pyEq b := by
  simp [pyEqN, ha, hb]

theorem pyEqN_undef_left {v : Val} (h : v.isUndef = false) : pyEqN .undef v = false := by
  cases v <;> simp_all [pyEqN, Val.pyEq, Val.isUndef]

/-- the `on_every_output` events a block of the given kind has (a CBlock has none) -/
def everyEvs : BKind → Cfg → List Ev
  | .sblock, c => c.onEvery
  | .cblock, _ => []

theorem sendAll_nil (slot : Slot) (n : String) (p v vis : Val) : sendAll slot n [] p v vis = [] := rfl

theorem assign_undef (k : BKind) (c : Cfg) (out v : Val) (h : v.isUndef = true) :
    assign k c out v = .valueError := by
  cases k <;> simp [assign, setOutputWith, evalBlockWith, h]

theorem assign_changed (k : BKind) (c : Cfg) (out v : Val) (h : v.isUndef = false) (e : pyEqN out v = false) :
    assign k c out v = .ok { out := v, changed := true, enq := decide (k = .sblock),
                             sends := sendAll .output c.name c.onOutput out v v
                                      ++ sendAll .every c.name (everyEvs k c) out v v } := by
  cases k <;> simp [assign, setOutputWith, evalBlockWith, h, e, everyEvs, sendAll_nil]

theorem assign_cases (k : BKind) (c : Cfg) (out v : Val) :
    (v.isUndef = true ∧ assign k c out v = .valueError) ∨
    (v.isUndef = false ∧ pyEqN out v = true ∧
      assign k c out v = .ok { out := out, changed := false, enq := false,
                               sends := sendAll .every c.name (everyEvs k c) out v out }) ∨
    (v.isUndef = false ∧ pyEqN out v = false ∧
      assign k c out v = .ok { out := v, changed := true, enq := decide (k = .sblock),
                               sends := sendAll .output c.name c.onOutput out v v
                                        ++ sendAll .every c.name (everyEvs k c) out v v }) := by
  cases h : v.isUndef
  · cases e : pyEqN out v
    · exact .inr (.inr ⟨rfl, rfl, assign_changed k c out v h e⟩)
    · refine .inr (.inl ⟨rfl, rfl, ?_⟩)
      cases k
      · simp only [assign, setOutputWith, h, e, everyEvs]
        cases hc : c.onEvery <;> simp [sendAll_nil]
      · simp [assign, evalBlockWith, h, e, everyEvs, sendAll_nil]
  · exact .inl ⟨rfl, assign_undef k c out v h⟩

theorem after_assign (k : BKind) (c : Cfg) (out v : Val) :
    (Rec.mk out v (assign k c out v)).after = if v.isUndef || pyEqN out v then out else v := by
  rcases assign_cases k c out v with ⟨h, e⟩ | ⟨h, e, a⟩ | ⟨h, e, a⟩ <;> simp [Rec.after, *]

theorem rec_sends_output (k : BKind) (c : Cfg) (out v : Val) (i : Nat) (hi : i < c.onOutput.length) :
    (Rec.mk out v (assign k c out v)).sends.filter (fun s => s.slot == .output && s.idx == i) =
      if v.isUndef || pyEqN out v then [] else [c.onOutput[i].send .output i c.name (kwargs out v) v] := by
  rcases assign_cases k c out v with ⟨h, a⟩ | ⟨h, e, a⟩ | ⟨h, e, a⟩
  · simp [Rec.sends, a, h]
  · simp only [Rec.sends, a, h, e]
    rw [filter_sendAll]; rfl
  · simp only [Rec.sends, a, h, e, List.filter_append]
    rw [filter_sendAll, filter_sendAll, List.getElem?_eq_getElem hi]; rfl

theorem rec_sends_every (k : BKind) (c : Cfg) (out v : Val) (i : Nat) (hi : i < (everyEvs k c).length) :
    (Rec.mk out v (assign k c out v)).sends.filter (fun s => s.slot == .every && s.idx == i) =
      if v.isUndef then []
      else [(everyEvs k c)[i].send .every i c.name (kwargs out v) (Rec.mk out v (assign k c out v)).after] := by
  rcases assign_cases k c out v with ⟨h, a⟩ | ⟨h, e, a⟩ | ⟨h, e, a⟩
  · simp [Rec.sends, a, h]
  · simp only [Rec.sends, Rec.after, a, h]
    rw [filter_sendAll, List.getElem?_eq_getElem hi]; rfl
  · simp only [Rec.sends, Rec.after, a, h, List.filter_append]
    rw [filter_sendAll, filter_sendAll, List.getElem?_eq_getElem hi]; rfl

theorem sendsOf_cons (slot : Slot) (i : Nat) (r : Rec) (rs : List Rec) :
    sendsOf slot i (r :: rs) = r.sends.filter (fun s => s.slot == slot && s.idx == i) ++ sendsOf slot i rs := by
  simp [sendsOf, List.flatMap_cons, List.filter_append]

theorem run_cons (k : BKind) (c : Cfg) (out v : Val) (vs : List Val) :
    run k c out (v :: vs) =
      Rec.mk out v (assign k c out v) :: run k c (Rec.mk out v (assign k c out v)).after vs := rfl

theorem send_previous (e : Ev) (slot : Slot) (i : Nat) (n : String) (p v vis : Val) :
    (e.send slot i n (kwargs p v) vis).previous = some p := by
  simp [Sent.previous, Ev.send, kwargs_set_source, (rawData_get n p v).1]

theorem send_value (e : Ev) (slot : Slot) (i : Nat) (n : String) (p v vis : Val) :
    (e.send slot i n (kwargs p v) vis).value = some v := by
  simp [Sent.value, Ev.send, kwargs_set_source, (rawData_get n p v).2.1]

/-- the successive changes of a history of assignments -/
def changes (out : Val) : List Val → List (Val × Val)
  | [] => []
  | v :: vs => if v.isUndef || pyEqN out v then changes out vs else (out, v) :: changes v vs

/-- each element starts (`a`) where the one before ended (`b`), the first one at `o` -/
def Linked {α β : Type} (a b : α → β) : β → List α → Prop
  | _, [] => True
  | o, x :: rest => a x = o ∧ Linked a b (b x) rest

theorem linked_index {α β : Type} (a b : α → β) (o : β) (l : List α) (h : Linked a b o l) :
    (∀ h0 : 0 < l.length, a l[0] = o) ∧ ∀ j (hj : j + 1 < l.length), a l[j + 1] = b l[j] := by
  induction l generalizing o with
  | nil => exact ⟨fun h0 => (nomatch h0), fun j hj => (nomatch hj)⟩
  | cons x rest ih =>
    obtain ⟨h1, h2⟩ := h
    refine ⟨fun _ => h1, fun j hj => ?_⟩
    cases j with
    | zero => exact (ih _ h2).1 _
    | succ j => exact (ih _ h2).2 j (Nat.lt_of_succ_lt_succ hj)

theorem sendsOf_output_linked (k : BKind) (c : Cfg) (out : Val) (vs : List Val) (i : Nat)
    (hi : i < c.onOutput.length) :
    Linked Sent.previous Sent.value (some out) (sendsOf .output i (run k c out vs)) := by
  induction vs generalizing out with
  | nil => trivial
  | cons v vs ih =>
    rw [run_cons, sendsOf_cons, rec_sends_output k c out v i hi, after_assign]
    split
    · exact ih out
    · refine ⟨send_previous .., ?_⟩
      rw [send_value]
      exact ih v

theorem sendsOf_output_eq (k : BKind) (c : Cfg) (out : Val) (vs : List Val) (i : Nat)
    (hi : i < c.onOutput.length) :
    sendsOf .output i (run k c out vs) =
      (changes out vs).map fun pv => c.onOutput[i].send .output i c.name (kwargs pv.1 pv.2) pv.2 := by
  induction vs generalizing out with
  | nil => rfl
  | cons v vs ih =>
    rw [run_cons, sendsOf_cons, rec_sends_output k c out v i hi, ih, after_assign, changes]
    split <;> rfl

theorem sendsOf_output_changes (k : BKind) (c : Cfg) (out : Val) (vs : List Val) (i : Nat)
    (hi : i < c.onOutput.length) :
    (sendsOf .output i (run k c out vs)).map (fun s => (s.previous, s.value)) =
      (changes out vs).map fun pv => (some pv.1, some pv.2) := by
  rw [sendsOf_output_eq k c out vs i hi, List.map_map]
  exact List.map_congr_left fun pv _ => by rw [Function.comp, send_previous, send_value]

/-- an accepted assignment whose output before and after compare unequal -/
def Rec.isChange (r : Rec) : Bool := !r.value.isUndef && !(pyEqN r.before r.after)

theorem run_changes (k : BKind) (c : Cfg) (out : Val) (vs : List Val) :
    ((run k c out vs).filter Rec.isChange).map (fun r => (r.before, r.after)) = changes out vs := by
  induction vs generalizing out with
  | nil => rfl
  | cons v vs ih =>
    rw [run_cons, List.filter_cons, changes]
    simp only [Rec.isChange, after_assign]
    cases hu : v.isUndef
    · cases he : pyEqN out v
      · simp [hu, he, ih, after_assign]
      · simp [hu, he, pyEqN_self_of_eq he, ih, after_assign]
    · simp [hu, ih, after_assign]

theorem sendsOf_every_all (k : BKind) (c : Cfg) (out : Val) (vs : List Val) (i : Nat)
    (hi : i < (everyEvs k c).length) :
    (sendsOf .every i (run k c out vs)).map (fun s => (s.previous, s.value)) =
      ((run k c out vs).filter fun r => !r.value.isUndef).map fun r => (some r.before, some r.value) := by
  induction vs generalizing out with
  | nil => rfl
  | cons v vs ih =>
    rw [run_cons, sendsOf_cons, rec_sends_every k c out v i hi, List.map_append, ih, List.filter_cons]
    cases h : v.isUndef <;> simp [send_previous, send_value]

theorem changes_replicate_nan (out : Val) (n : Nat) :
    (changes out (List.replicate n nanVal)).length = n := by
  induction n generalizing out with
  | zero => rfl
  | succ n ih =>
    have hu : nanVal.isUndef = false := rfl
    simp [List.replicate_succ, changes, hu, pyEqN_nan_right, ih]

theorem res_of_mem_run {k : BKind} {c : Cfg} {out : Val} {vs : List Val} {r : Rec} (h : r ∈ run k c out vs) :
    r.res = assign k c r.before r.value := by
  induction vs generalizing out with
  | nil => cases h
  | cons v vs ih =>
    rw [run_cons] at h
    rcases List.mem_cons.1 h with h | h
    · rw [h]
    · exact ih h

theorem run_values (k : BKind) (c : Cfg) (out : Val) (vs : List Val) :
    (run k c out vs).map (·.value) = vs := by
  induction vs generalizing out with
  | nil => rfl
  | cons v vs ih => rw [run_cons, List.map_cons, ih]

theorem run_length (k : BKind) (c : Cfg) (out : Val) (vs : List Val) :
    (run k c out vs).length = vs.length := by
  simpa using congrArg List.length (run_values k c out vs)

theorem run_linked (k : BKind) (c : Cfg) (out : Val) (vs : List Val) :
    Linked Rec.before Rec.after out (run k c out vs) := by
  induction vs generalizing out with
  | nil => trivial
  | cons v vs ih => exact ⟨rfl, ih _⟩

theorem mem_sends {k : BKind} {c : Cfg} {out : Val} {vs : List Val} {r : Rec} (hr : r ∈ run k c out vs)
    (s : Sent) (h : s ∈ r.sends) :
    r.value.isUndef = false ∧ s.raw = rawData c.name r.before r.value ∧ s.visible = r.after ∧
    s.result = runFilters s.ev.filters s.raw ∧
    ((s.slot = .output ∧ c.onOutput[s.idx]? = some s.ev ∧ pyEqN r.before r.value = false) ∨
     (s.slot = .every ∧ (everyEvs k c)[s.idx]? = some s.ev)) := by
  have hr := res_of_mem_run hr
  obtain ⟨o, v, res⟩ := r
  simp only at hr
  subst hr
  rcases assign_cases k c o v with ⟨hu, a⟩ | ⟨hu, e, a⟩ | ⟨hu, e, a⟩ <;>
    simp only [Rec.sends, Rec.after, a, List.mem_append] at h ⊢
  · cases h
  · obtain ⟨h1, h2, h3, h4, h5⟩ := mem_sendAll _ _ _ _ _ _ _ h
    exact ⟨hu, h2, h3, h4, .inr ⟨h1, h5⟩⟩
  · rcases h with h | h
    · obtain ⟨h1, h2, h3, h4, h5⟩ := mem_sendAll _ _ _ _ _ _ _ h
      exact ⟨hu, h2, h3, h4, .inl ⟨h1, h5, e⟩⟩
    · obtain ⟨h1, h2, h3, h4, h5⟩ := mem_sendAll _ _ _ _ _ _ _ h
      exact ⟨hu, h2, h3, h4, .inr ⟨h1, h5⟩⟩

theorem assign_ok {k : BKind} {c : Cfg} {out : Val} {vs : List Val} {r : Rec} (hr : r ∈ run k c out vs)
    (st : Step) (h : r.res = .ok st) :
    st.changed = !(pyEqN r.before st.out) ∧ st.enq = (decide (k = .sblock) && st.changed) ∧
    (st.changed = false → st.out = r.before) ∧
    st.sends.map (fun x => (x.slot, x.ev)) =
      (if st.changed then c.onOutput.map (fun e => (Slot.output, e)) else [])
      ++ (everyEvs k c).map (fun e => (Slot.every, e)) := by
  rw [res_of_mem_run hr] at h
  rcases assign_cases k c r.before r.value with ⟨hu, a⟩ | ⟨hu, e, a⟩ | ⟨hu, e, a⟩
  · rw [a] at h; cases h
  -- equal: the stored value is kept, and it compares equal to itself because it is not NaN (`pyEqN_self_of_eq`)
  · rw [a] at h; cases h; simp [pyEqN_self_of_eq e, sendAll, sendFrom_map_ev]
  · rw [a] at h; cases h; simp [e, sendAll, sendFrom_map_ev]

theorem runFilters_append (fs gs : List Filt) (d : Data) :
    runFilters (fs ++ gs) d = (runFilters fs d).bind (runFilters gs) := by
  induction fs generalizing d with
  | nil => rfl
  | cons f fs ih =>
    simp only [List.cons_append, runFilters]
    cases f.apply d with
    | none => rfl
    | some d' => exact ih d'

theorem runFilters_snoc {fs : List Filt} {d d' : Data} (h : runFilters fs d = some d') (f : Filt) :
    runFilters (fs ++ [f]) d = f.apply d' := by
  rw [runFilters_append, h, Option.bind_some, runFilters]
  cases f.apply d' <;> rfl

theorem Sent.acts_getLast {s : Sent} {d : Data} (h : s.result = some d) :
    s.acts.getLast? = some (.deliver s.slot s.idx s.ev.dest s.ev.etype d s.visible) := by
  simp [Sent.acts, h]

theorem filterCalls_head (fs : List Filt) (d : Data) (h : fs ≠ []) : (filterCalls fs d).head? = some d := by
  cases fs with
  | nil => exact absurd rfl h
  | cons f fs => simp [filterCalls]

end Edzed.Output
