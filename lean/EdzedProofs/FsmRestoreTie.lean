/-
Tie of C06's model of persistent state (lean/EdzedModel/Persist.lean) to the TRANSLATED
`FSM._restore_state` (which calls the translated `_set_timer`): `rprims` gives the primitives of
Gen/TranslatedFsmTimer.lean the meaning they have in that model.  The theorem is in EdzedProps/C04.lean
(`translated_fsmtimer_restore_is_persist_model`).
-/
import EdzedModel.Persist
import EdzedProofs.FsmTimerTie

namespace Edzed.TrTie
open Edzed.Gen.TrM Edzed.Gen.TrT

/-- the primitives of `_restore_state` / `_set_timer` with the meaning of C06's model of persistent state
    (lean/EdzedModel/Persist.lean): a block is its `Dyn`, the saved state a triple, times are absolute µs -/
def rprims (c : Persist.FsmCls) (now : Persist.Time) :
    TimerPrims Persist.Dyn String Persist.TEv Int Unit Persist.Time Data Val
      (String × Option Persist.Time × Data) Unit where
  exc := fun _ => ()
  getState := fun d => if d.inited then some d.fstate else none
  setState := fun q d => { d with fstate := q }
  getActiveTimer := fun _ => none
  setActiveTimer := fun _ d => d
  timersEnabled := fun _ => true
  setTimersEnabled := fun _ d => d
  setPersistent := fun _ d => d
  durIsNone := fun _ => false
  durEqInf := fun _ => false
  durationOf := fun _ _ => 0
  timePeriod := fun x d => (d, .ok x)
  cmpZero := fun op x d => (d, .ok (cmpInt op x))
  callLater := fun x ev d => ({ d with timer := some (now + x.toNat, ev) }, .ok ())
  cancelled := fun _ _ => false
  cancel := fun _ d => (d, .ok ())
  timerWhen := fun d _ => match d.timer with | some (t, _) => t | none => 0
  loopToUnix := fun t => t
  event := fun _ d => (d, .error ())
  superStop := fun d => (d, .ok ())
  superStart := fun d => (d, .ok ())
  getSdata := fun d => d.sdata
  setSdata := fun sd d => { d with sdata := sd }
  istateLen2 := fun _ => false
  istatePad := fun x => x
  istateUnpack := fun x => some x
  checkState := fun q d => if c.states.contains q then (d, .ok ()) else (d, .error ())
  remaining := fun t d => (d, .ok ((t : Int) - (now : Int)))
  timedEvent := fun _ q => c.timedEv q
  calcOutput := fun d => match c.calcOut d.fstate d.sdata with
    | some o => (d, .ok o)
    | none => (d, .error ())
  isUndef := fun v => v.isUndef
  setOutput := fun v d => ({ d with out := v, inited := true }, .ok ())

theorem rprims_exc (c : Persist.FsmCls) (now : Persist.Time) : (rprims c now).exc = (fun _ => ()) := rfl
theorem rprims_getState (c : Persist.FsmCls) (now : Persist.Time) : (rprims c now).getState = (fun d => if d.inited then some d.fstate else none) := rfl
theorem rprims_setState (c : Persist.FsmCls) (now : Persist.Time) : (rprims c now).setState = (fun q d => { d with fstate := q }) := rfl
theorem rprims_getActiveTimer (c : Persist.FsmCls) (now : Persist.Time) : (rprims c now).getActiveTimer = (fun _ => none) := rfl
theorem rprims_setActiveTimer (c : Persist.FsmCls) (now : Persist.Time) : (rprims c now).setActiveTimer = (fun _ d => d) := rfl
theorem rprims_timersEnabled (c : Persist.FsmCls) (now : Persist.Time) : (rprims c now).timersEnabled = (fun _ => true) := rfl
theorem rprims_setTimersEnabled (c : Persist.FsmCls) (now : Persist.Time) : (rprims c now).setTimersEnabled = (fun _ d => d) := rfl
theorem rprims_setPersistent (c : Persist.FsmCls) (now : Persist.Time) : (rprims c now).setPersistent = (fun _ d => d) := rfl
theorem rprims_durIsNone (c : Persist.FsmCls) (now : Persist.Time) : (rprims c now).durIsNone = (fun _ => false) := rfl
theorem rprims_durEqInf (c : Persist.FsmCls) (now : Persist.Time) : (rprims c now).durEqInf = (fun _ => false) := rfl
theorem rprims_durationOf (c : Persist.FsmCls) (now : Persist.Time) : (rprims c now).durationOf = (fun _ _ => 0) := rfl
theorem rprims_timePeriod (c : Persist.FsmCls) (now : Persist.Time) : (rprims c now).timePeriod = (fun x d => (d, .ok x)) := rfl
theorem rprims_cmpZero (c : Persist.FsmCls) (now : Persist.Time) : (rprims c now).cmpZero = (fun op x d => (d, .ok (cmpInt op x))) := rfl
theorem rprims_callLater (c : Persist.FsmCls) (now : Persist.Time) : (rprims c now).callLater = (fun x ev d => ({ d with timer := some (now + x.toNat, ev) }, .ok ())) := rfl
theorem rprims_cancelled (c : Persist.FsmCls) (now : Persist.Time) : (rprims c now).cancelled = (fun _ _ => false) := rfl
theorem rprims_cancel (c : Persist.FsmCls) (now : Persist.Time) : (rprims c now).cancel = (fun _ d => (d, .ok ())) := rfl
theorem rprims_timerWhen (c : Persist.FsmCls) (now : Persist.Time) : (rprims c now).timerWhen = (fun d _ => match d.timer with | some (t, _) => t | none => 0) := rfl
theorem rprims_loopToUnix (c : Persist.FsmCls) (now : Persist.Time) : (rprims c now).loopToUnix = (fun t => t) := rfl
theorem rprims_event (c : Persist.FsmCls) (now : Persist.Time) : (rprims c now).event = (fun _ d => (d, .error ())) := rfl
theorem rprims_superStop (c : Persist.FsmCls) (now : Persist.Time) : (rprims c now).superStop = (fun d => (d, .ok ())) := rfl
theorem rprims_superStart (c : Persist.FsmCls) (now : Persist.Time) : (rprims c now).superStart = (fun d => (d, .ok ())) := rfl
theorem rprims_getSdata (c : Persist.FsmCls) (now : Persist.Time) : (rprims c now).getSdata = (fun d => d.sdata) := rfl
theorem rprims_setSdata (c : Persist.FsmCls) (now : Persist.Time) : (rprims c now).setSdata = (fun sd d => { d with sdata := sd }) := rfl
theorem rprims_istateLen2 (c : Persist.FsmCls) (now : Persist.Time) : (rprims c now).istateLen2 = (fun _ => false) := rfl
theorem rprims_istatePad (c : Persist.FsmCls) (now : Persist.Time) : (rprims c now).istatePad = (fun x => x) := rfl
theorem rprims_istateUnpack (c : Persist.FsmCls) (now : Persist.Time) : (rprims c now).istateUnpack = (fun x => some x) := rfl
theorem rprims_checkState (c : Persist.FsmCls) (now : Persist.Time) : (rprims c now).checkState = (fun q d => if c.states.contains q then (d, .ok ()) else (d, .error ())) := rfl
theorem rprims_remaining (c : Persist.FsmCls) (now : Persist.Time) : (rprims c now).remaining = (fun t d => (d, .ok ((t : Int) - (now : Int)))) := rfl
theorem rprims_timedEvent (c : Persist.FsmCls) (now : Persist.Time) : (rprims c now).timedEvent = (fun _ q => c.timedEv q) := rfl
theorem rprims_calcOutput (c : Persist.FsmCls) (now : Persist.Time) : (rprims c now).calcOutput = (fun d => match c.calcOut d.fstate d.sdata with
    | some o => (d, .ok o)
    | none => (d, .error ())) := rfl
theorem rprims_isUndef (c : Persist.FsmCls) (now : Persist.Time) : (rprims c now).isUndef = (fun v => v.isUndef) := rfl
theorem rprims_setOutput (c : Persist.FsmCls) (now : Persist.Time) : (rprims c now).setOutput = (fun v d => ({ d with out := v, inited := true }, .ok ())) := rfl

attribute [trm] rprims_exc rprims_getState rprims_setState rprims_getActiveTimer rprims_setActiveTimer
  rprims_timersEnabled rprims_setTimersEnabled rprims_setPersistent rprims_durIsNone rprims_durEqInf rprims_durationOf
  rprims_timePeriod rprims_cmpZero rprims_callLater rprims_cancelled rprims_cancel rprims_timerWhen rprims_loopToUnix
  rprims_event rprims_superStop rprims_superStart rprims_getSdata rprims_setSdata rprims_istateLen2 rprims_istatePad
  rprims_istateUnpack rprims_checkState rprims_remaining rprims_timedEvent rprims_calcOutput rprims_isUndef
  rprims_setOutput

/-- `_restore_state` has restored the state iff it returned normally with the output set; when it returns
    without restoring (expired state) it must have left the block untouched (`{}` is the block the tie starts
    from); when it raises (the error is suppressed and the block is initialised by other means) it must not have
    started a timer -/
def restoreOutcome (r : Persist.Dyn × Except Unit Unit) : Option Persist.Dyn :=
  match r.2 with
  | .ok _ => if r.1.inited then some r.1 else if r.1 = {} then none else some r.1
  | .error _ => if r.1.timer.isSome then some r.1 else none

end Edzed.TrTie
