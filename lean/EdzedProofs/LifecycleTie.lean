/-
Tie by translation for C08: the primitives of the translated programs of Gen/TranslatedLifecycle.lean
(`Circuit._run_tasks`, `_stop_sblocks`, `_init_sblocks_async`, `run_forever`) instantiated with the operations of the
model EdzedModel/Lifecycle.lean, and the lemmas for the theorems `Edzed.TrTie.translated_lifecycle_…` of
EdzedProps/C08.lean.  The loop of `_run_tasks` is `awaitJobs` by the invariant `Inv`; what `run_forever` does up to the
start loop holds on ANY primitives whose cells are fields of `RfState` (`RfCells`); on the model's primitives it ends in
the image of the model's run (`runForever_tie`).
-/
import EdzedModel.Lifecycle
import EdzedModel.Gen.TranslatedLifecycle
import EdzedProofs.Lifecycle
import EdzedProofs.TrdRun
import EdzedProofs.PyBool

namespace Edzed.LifecycleTie
open Edzed.Lifecycle Edzed.Gen.TrD Edzed.Gen

/-- the exceptions the skeleton distinguishes -/
inductive TExc where
  | cancelled      -- asyncio.CancelledError (a BaseException)
  | timeout        -- asyncio.TimeoutError (an Exception)
  | failure        -- any other Exception
  deriving DecidableEq, Repr

/-- `except Class` catches … -/
def excIs : TExc → String → Bool
  | .cancelled, c => c == "asyncio.CancelledError"
  | .timeout, c => c == "asyncio.TimeoutError" || c == "Exception"
  | .failure, c => c == "Exception"

/-! The statement combinators applied to a state, as the `match` they are: for the ties of `_run_tasks` and `_stop_sblocks` in
    EdzedProps/C08.lean, which rewrite with the loop lemmas between the steps.  Every proof of this file runs its program by
    the laws of EdzedProofs/TrdRun.lean, where the `match` is a function that distributes over `if`. -/
section
variable {σ ε ρ α β : Type}
theorem bind_apply (m : M σ ε ρ α) (k : α → M σ ε ρ β) (s : σ) :
    M.bind m k s = match m s with
      | (s1, .next a) => k a s1
      | (s1, .ret r) => (s1, .ret r)
      | (s1, .raise e) => (s1, .raise e)
      | (s1, .diverged) => (s1, .diverged) := rfl
theorem pure_apply (a : α) (s : σ) : (M.pure a : M σ ε ρ α) s = (s, .next a) := rfl
theorem raise_apply (e : ε) (s : σ) : (M.raise e : M σ ε ρ α) s = (s, .raise e) := rfl
theorem get_apply (s : σ) : (M.get : M σ ε ρ σ) s = (s, .next s) := rfl
theorem tryExcept_apply (body : M σ ε ρ α) (h : ε → M σ ε ρ α) (s : σ) :
    M.tryExcept body h s = match body s with
      | (s1, .raise e) => h e s1
      | p => p := rfl
end

@[simp] theorem excIs_cc : excIs .cancelled "asyncio.CancelledError" = true := by decide
@[simp] theorem excIs_ct : excIs .cancelled "asyncio.TimeoutError" = false := by decide
@[simp] theorem excIs_ce : excIs .cancelled "Exception" = false := by decide
@[simp] theorem excIs_tc : excIs .timeout "asyncio.CancelledError" = false := by decide
@[simp] theorem excIs_tt : excIs .timeout "asyncio.TimeoutError" = true := by decide
@[simp] theorem excIs_te : excIs .timeout "Exception" = true := by decide
@[simp] theorem excIs_fc : excIs .failure "asyncio.CancelledError" = false := by decide
@[simp] theorem excIs_ft : excIs .failure "asyncio.TimeoutError" = false := by decide
@[simp] theorem excIs_fe : excIs .failure "Exception" = true := by decide

/-- state of the tasks: the clock (time since the tasks were created) and the tasks that do not
    end by themselves (cancelled by a time-out / by the cancellation of `_run_tasks`): their fate, which
    is reached at the instant `time` (a task that was cancelled needs `cdur` to finish) -/
structure RtState where
  now : Nat
  forced : Nat → Option JobEnd

def RtState.force (s : RtState) (t : Nat) (e : JobEnd) : RtState :=
  ⟨t, fun x => if x = e.k then some e else s.forced x⟩

/-- the task has ended or is being cancelled -/
def settled (s : RtState) (j : Job) : Bool := (s.forced j.k).isSome || j.doneBy s.now

/-- `task.done()`: a cancelled task is done when it has finished (`time`); `.pending` = it was seen
    still running by the bounded wait -/
def isDone (s : RtState) (j : Job) : Bool :=
  match s.forced j.k with
  | some e => decide (e.time ≤ s.now) && e.res != .pending
  | none => j.doneBy s.now

def fateOf (s : RtState) (j : Job) : JobEnd :=
  match s.forced j.k with
  | some e => e
  | none => ⟨j.k, j.dur.getD s.now, j.fin⟩

/-- `await asyncio.wait_for(task, seconds)` on a task that is not done: returns when the task ends
    or cancels it at the deadline (`seconds ≤ 0`: at once) and raises TimeoutError; re-raises the
    task's exception; if the awaiting task is cancelled first (at `l`), the awaited one is cancelled
    with it and the CancelledError arrives when that task has finished (`l + cdur`) -/
def waitFor (limit : Option Nat) (j : Job) (seconds : Int) : M RtState TExc Unit Unit := fun s =>
  let deadline := s.now + seconds.toNat
  let w : Nat × Res := match j.dur with
    | some d => if d < deadline then (d, j.fin) else (deadline, .timeout)
    | none => (deadline, .timeout)
  match cancelledBefore limit w.1 with
  | some l => (s.force (l + j.cdur) ⟨j.k, l + j.cdur, .cancelled⟩, .raise .cancelled)
  | none =>
    match w.2 with
    | .timeout => (s.force w.1 ⟨j.k, w.1, .timeout⟩, .raise .timeout)
    | .err => (⟨w.1, s.forced⟩, .raise .failure)
    | _ => (⟨w.1, s.forced⟩, .next ())

/-- the instant a task is over, seen from a wait that gives up at `B` -/
def endBy (s : RtState) (B : Nat) (j : Job) : Nat :=
  min B (match s.forced j.k with
    | some e => e.time
    | none => j.dur.getD B)

/-- `await asyncio.wait(tasks, timeout=seconds)`: returns when the last of the tasks is over or at the
    bound `B = now + seconds`, whichever comes first; a task that is still being cancelled then is
    `.pending` -/
def waitAll (tasks : List Job) (seconds : Int) : M RtState TExc Unit Unit := fun s =>
  let B := s.now + seconds.toNat
  let t := tasks.foldl (fun m j => max m (endBy s B j)) s.now
  (⟨t, fun k => (s.forced k).map fun e => if e.time ≤ t then e else ⟨e.k, t, .pending⟩⟩, .next ())

/-- the primitives of `_run_tasks` as the model understands them; `limit` = the instant at which
    the task that runs `_run_tasks` is cancelled -/
@[reducible] def rtPrims (limit : Option Nat) : TrL.RunTasksPrims RtState TExc Nat Job where
  excIs := excIs
  sortDesc := sortJobs
  timeoutOf j := (j.timeout : Int)
  getTime := fun s => (s, .next (s.now : Int))
  taskDone s j := isDone s j
  waitFor := waitFor limit
  cancelTask j := fun s =>
    -- no effect on a task that has ended or is being cancelled; otherwise the task ends `cdur` later
    if settled s j then (s, .next ())
    else (⟨s.now, fun x => if x = j.k then some ⟨j.k, s.now + j.cdur, .cancelled⟩ else s.forced x⟩, .next ())
  headTimeout l := (deadline l : Int)
  waitAll := waitAll
  taskCancelled s j :=
    match s.forced j.k with
    | some e => decide (e.time ≤ s.now) && e.res != .pending
    | none => false
  taskException j := fun s =>
    match s.forced j.k with
    | some _ =>
      if isDone s j then (s, .raise .cancelled)   -- `exception()` of a cancelled task raises CancelledError
      else (s, .raise .failure)                   -- … of a task that is not done: InvalidStateError
    | none =>
      if j.doneBy s.now then (s, .next (if j.ok then none else some .failure))
      else (s, .raise .failure)

@[simp] theorem rt_excIs (limit : Option Nat) : (rtPrims limit).excIs = excIs := rfl
@[simp] theorem rt_sortDesc (limit : Option Nat) : (rtPrims limit).sortDesc = sortJobs := rfl
@[simp] theorem rt_timeoutOf (limit : Option Nat) (j : Job) : (rtPrims limit).timeoutOf j = (j.timeout : Int) := rfl
@[simp] theorem rt_getTime (limit : Option Nat) (s : RtState) :
    (rtPrims limit).getTime s = (s, .next (s.now : Int)) := rfl
@[simp] theorem rt_taskDone (limit : Option Nat) (s : RtState) (j : Job) :
    (rtPrims limit).taskDone s j = isDone s j := rfl
@[simp] theorem rt_waitFor (limit : Option Nat) : (rtPrims limit).waitFor = waitFor limit := rfl
@[simp] theorem rt_cancelTask (limit : Option Nat) (j : Job) (s : RtState) :
    (rtPrims limit).cancelTask j s =
      if settled s j then (s, .next ())
      else (⟨s.now, fun x => if x = j.k then some ⟨j.k, s.now + j.cdur, .cancelled⟩ else s.forced x⟩, .next ()) := rfl
@[simp] theorem rt_headTimeout (limit : Option Nat) (l : List Job) :
    (rtPrims limit).headTimeout l = (deadline l : Int) := rfl
@[simp] theorem rt_waitAll (limit : Option Nat) : (rtPrims limit).waitAll = waitAll := rfl
@[simp] theorem rt_taskCancelled (limit : Option Nat) (s : RtState) (j : Job) :
    (rtPrims limit).taskCancelled s j = (match s.forced j.k with
      | some e => decide (e.time ≤ s.now) && e.res != .pending
      | none => false) := rfl
@[simp] theorem rt_taskException (limit : Option Nat) (j : Job) (s : RtState) :
    (rtPrims limit).taskException j s = (match s.forced j.k with
      | some _ => if isDone s j then (s, .raise .cancelled) else (s, .raise .failure)
      | none =>
        if j.doneBy s.now then (s, .next (if j.ok then none else some .failure))
        else (s, .raise .failure)) := rfl

/-- the loop of the `except CancelledError:` branch -/
theorem cancel_spec (limit : Option Nat) : ∀ (l : List Job) (s : RtState), (l.map (·.k)).Nodup →
    ∃ s', TrL.runTasks_for2 (rtPrims limit) l s = (s', .next ()) ∧ s'.now = s.now ∧
      (∀ k, k ∉ l.map (·.k) → s'.forced k = s.forced k) ∧
      (∀ j ∈ l, s'.forced j.k =
        if settled s j then s.forced j.k else some ⟨j.k, s.now + j.cdur, .cancelled⟩) := by
  intro l
  induction l with
  | nil => intro s _; exact ⟨s, rfl, rfl, fun _ _ => rfl, by simp⟩
  | cons j js ih =>
    intro s hnd
    simp only [List.map_cons, List.nodup_cons] at hnd
    unfold TrL.runTasks_for2
    by_cases hd : settled s j = true
    · obtain ⟨s', h1, h2, h3, h4⟩ := ih s hnd.2
      refine ⟨s', ?_, h2, ?_, ?_⟩
      · simp [trd, hd, h1]
      · intro k hk
        simp only [List.map_cons, List.mem_cons, not_or] at hk
        exact h3 k hk.2
      · intro j' hj'
        simp only [List.mem_cons] at hj'
        rcases hj' with rfl | hj'
        · rw [h3 _ hnd.1]; simp [hd]
        · exact h4 j' hj'
    · have hd' : settled s j = false := by simpa using hd
      obtain ⟨s', h1, h2, h3, h4⟩ :=
        ih ⟨s.now, fun x => if x = j.k then some ⟨j.k, s.now + j.cdur, .cancelled⟩ else s.forced x⟩ hnd.2
      refine ⟨s', ?_, by simpa using h2, ?_, ?_⟩
      · simp [trd, hd', h1]
      · intro k hk
        simp only [List.map_cons, List.mem_cons, not_or] at hk
        rw [h3 k hk.2]
        simp [hk.1]
      · intro j' hj'
        simp only [List.mem_cons] at hj'
        rcases hj' with rfl | hj'
        · rw [h3 _ hnd.1]; simp [hd']
        · have hne : j'.k ≠ j.k := by
            intro h; exact hnd.1 (h ▸ List.mem_map.2 ⟨j', hj', rfl⟩)
          rw [h4 j' hj']
          simp [settled, hne]

/-- the remaining-time expression of `_run_tasks`, `timeout - get_time() + start_time` with the tasks
    created at instant 0, gives the model's deadline `max now timeout` -/
theorem waitFor_wake (limit : Option Nat) (j : Job) (s : RtState) :
    waitFor limit j ((j.timeout : Int) - (s.now : Int)) s =
      match cancelledBefore limit (j.wake s.now).1 with
      | some l => (s.force (l + j.cdur) ⟨j.k, l + j.cdur, .cancelled⟩, .raise .cancelled)
      | none =>
        match (j.wake s.now).2 with
        | .timeout => (s.force (j.wake s.now).1 ⟨j.k, (j.wake s.now).1, .timeout⟩, .raise .timeout)
        | .err => (⟨(j.wake s.now).1, s.forced⟩, .raise .failure)
        | _ => (⟨(j.wake s.now).1, s.forced⟩, .next ()) := by
  have hdl : s.now + ((j.timeout : Int) - (s.now : Int)).toNat = max s.now j.timeout := by omega
  unfold waitFor Job.wake
  simp only [hdl]
  cases j.dur <;> rfl

/-- the invariant of the loop of `_run_tasks` before a turn: the tasks still to come (`rest`) have no forced fate, the
    tasks already handled (`pre`) are all over, and `_run_tasks` has not been cancelled yet -/
structure Inv (limit : Option Nat) (pre rest : List Job) (s : RtState) : Prop where
  restFree : ∀ x ∈ rest, s.forced x.k = none
  preDone : ∀ j ∈ pre, isDone s j = true
  lim : ∀ l, limit = some l → s.now ≤ l

theorem isDone_forced {s : RtState} {j : Job} {e : JobEnd} (hf : s.forced j.k = some e)
    (hd : isDone s j = true) : e.time ≤ s.now := by
  simp only [isDone, hf, Bool.and_eq_true, decide_eq_true_eq] at hd
  exact hd.1

theorem isDone_mono {s s' : RtState} {j : Job} (hd : isDone s j = true) (hnow : s.now ≤ s'.now)
    (hf : s'.forced j.k = s.forced j.k) : isDone s' j = true := by
  unfold isDone at hd ⊢
  rw [hf]
  cases h : s.forced j.k with
  | some e =>
    simp only [h, Bool.and_eq_true, decide_eq_true_eq] at hd ⊢
    exact ⟨by omega, hd.2⟩
  | none =>
    simp only [h] at hd ⊢
    exact doneBy_mono j hnow hd

theorem fate_stable (s s' : RtState) (j : Job) (hd : isDone s j = true)
    (hf : s'.forced j.k = s.forced j.k) : fateOf s' j = fateOf s j := by
  unfold fateOf
  rw [hf]
  cases h : s.forced j.k with
  | some e => rfl
  | none =>
    simp only [isDone, h] at hd
    obtain ⟨d, hd1, _⟩ := doneBy_dur j hd
    simp [hd1]

theorem Inv.snoc {limit : Option Nat} {pre js : List Job} {s s' : RtState} {j : Job} (h : Inv limit pre (j :: js) s)
    (hnd : (pre.map (·.k) ++ j.k :: js.map (·.k)).Nodup)
    (hnow : s.now ≤ s'.now) (hlim : ∀ l, limit = some l → s'.now ≤ l)
    (hf : ∀ k, k ≠ j.k → s'.forced k = s.forced k)
    (hj : isDone s' j = true) : Inv limit (pre ++ [j]) js s' := by
  obtain ⟨_, hnd2, hnd3⟩ := List.nodup_append.1 hnd
  refine ⟨fun x hx => ?_, fun p hp => ?_, hlim⟩
  · rw [hf _ fun hh => (List.nodup_cons.1 hnd2).1 (List.mem_map.2 ⟨x, hx, hh⟩)]
    exact h.restFree x (List.mem_cons_of_mem _ hx)
  · simp only [List.mem_append, List.mem_singleton] at hp
    rcases hp with hp | rfl
    · exact isDone_mono (h.preDone p hp) hnow (hf _ fun hh => hnd3 _ (List.mem_map.2 ⟨p, hp, rfl⟩) _ (by simp) hh)
    · exact hj

/-- the bounded wait of the `except CancelledError:` branch, on the state `s2` the cancel loop leaves at
    instant `L` from the state `s` of the turn -/
theorem waitAll_spec (all pre js : List Job) (j : Job) (s s2 : RtState) (L : Nat)
    (hall : all = pre ++ j :: js) (hnow : s2.now = L) (hsL : s.now ≤ L)
    (hpre : ∀ x ∈ pre, s2.forced x.k = s.forced x.k ∧ isDone s x = true)
    (hj : s2.forced j.k = some ⟨j.k, L, .cancelled⟩)
    (hjs : ∀ x ∈ js, s2.forced x.k = if x.doneBy L then none else some ⟨x.k, L + x.cdur, .cancelled⟩) :
    ∃ W, waitAll all (((deadline all : Nat) : Int) - (L : Int)) s2 = (W, .next ()) ∧
      W.now = lastEnd L (js.map (Job.atCancel L (deadline all))) ∧
      (j :: js).map (fateOf W) = ⟨j.k, L, .cancelled⟩ :: js.map (Job.atCancel L (deadline all)) ∧
      ∀ x ∈ pre, fateOf W x = fateOf s x := by
  have hB : s2.now + (((deadline all : Nat) : Int) - (L : Int)).toNat = max L (deadline all) := by
    rw [hnow]; omega
  generalize deadline all = T at hB ⊢
  have epre : ∀ x ∈ pre, endBy s2 (max L T) x ≤ L := by
    intro x hx
    obtain ⟨h1, h2⟩ := hpre x hx
    unfold endBy
    rw [h1]
    cases hf : s.forced x.k with
    | some e => have := isDone_forced hf h2; simp only; omega
    | none =>
      simp only [isDone, hf] at h2
      obtain ⟨d, hd1, hd2⟩ := doneBy_dur x h2
      simp only [hd1, Option.getD_some]; omega
  have ej : endBy s2 (max L T) j ≤ L := by unfold endBy; rw [hj]; simp only; omega
  have ejs : ∀ x ∈ js, endBy s2 (max L T) x = (Job.atCancel L T x).time := by
    intro x hx
    rw [atCancel_time]
    unfold endBy
    rw [hjs x hx]
    by_cases hd : x.doneBy L = true
    · obtain ⟨d, hd1, hd2⟩ := doneBy_dur x hd
      simp only [hd, if_true, hd1, Option.getD_some]; omega
    · simp only [hd, if_false, Bool.false_eq_true]
  have ht : all.foldl (fun m x => max m (endBy s2 (max L T) x)) s2.now =
      lastEnd L (js.map (Job.atCancel L T)) := by
    rw [hall, List.foldl_append, List.foldl_cons, hnow, foldl_max_absorb _ pre L epre,
      Nat.max_eq_left ej, lastEnd_map]
    exact foldl_max_congr _ _ js L ejs
  have hwa : waitAll all ((T : Int) - (L : Int)) s2 =
      (⟨lastEnd L (js.map (Job.atCancel L T)),
        fun k => (s2.forced k).map fun e =>
          if e.time ≤ lastEnd L (js.map (Job.atCancel L T)) then e
          else ⟨e.k, lastEnd L (js.map (Job.atCancel L T)), .pending⟩⟩, .next ()) := by
    unfold waitAll
    simp only [hB, ht]
  refine ⟨_, hwa, rfl, ?_, ?_⟩
  all_goals generalize htt : lastEnd L (js.map (Job.atCancel L T)) = t
  all_goals have htL : L ≤ t := htt ▸ le_lastEnd _ _
  · have htB : t ≤ max L T := htt ▸ (lastEnd_le_iff _ _ _).2 ⟨Nat.le_max_left _ _, fun e he => by
      obtain ⟨x, _, rfl⟩ := List.mem_map.1 he
      exact atCancel_time_le _ _ x⟩
    simp only [List.map_cons]
    congr 1
    · simp [fateOf, hj, htL]
    · apply List.map_congr_left
      intro x hx
      -- `x` had ended before, or was cancelled at `L`: it ends `cdur` later, or is pending at the bound
      have h1 : (Job.atCancel L T x).time ≤ t := htt ▸ mem_le_lastEnd (List.mem_map_of_mem hx)
      rw [atCancel_time] at h1
      unfold fateOf
      simp only [hjs x hx]
      cases hd : x.doneBy L with
      | true =>
        obtain ⟨d, hd1, _⟩ := doneBy_dur x hd
        simp [atCancel_of_done T hd, hd1]
      | false =>
        rw [atCancel_of_not_done T hd]
        simp only [hd, Bool.false_eq_true, if_false, Option.map_some] at h1 ⊢
        unfold Job.cancelEnd
        by_cases hc : L + x.cdur ≤ max L T
        · rw [if_pos hc, if_pos (by omega)]
        · rw [if_neg hc, if_neg (by omega), show t = max L T by omega]
  · intro x hx
    obtain ⟨h1, h2⟩ := hpre x hx
    apply fate_stable s _ x h2
    simp only [h1]
    cases hf : s.forced x.k with
    | none => rfl
    | some e =>
      have := isDone_forced hf h2
      simp [show e.time ≤ t by omega]

/-- the loop of `_run_tasks` computes `awaitJobs` -/
theorem loop_spec (limit : Option Nat) (all : List Job) (hnd : (all.map (·.k)).Nodup) :
    ∀ (rest pre : List Job) (s : RtState) (errcnt : Int), all = pre ++ rest → Inv limit pre rest s →
      ∃ s' o, TrL.runTasks_for1 (rtPrims limit) all () 0 rest errcnt s = (s', o) ∧
        s'.now = (awaitJobs limit (deadline all) s.now rest).2.1 ∧
        rest.map (fateOf s') = (awaitJobs limit (deadline all) s.now rest).1 ∧
        (∀ p ∈ pre, fateOf s' p = fateOf s p) ∧
        ((awaitJobs limit (deadline all) s.now rest).2.2 = true → o = .raise .cancelled) ∧
        ((awaitJobs limit (deadline all) s.now rest).2.2 = false → ∃ n, o = .next n) := by
  intro rest
  induction rest with
  | nil =>
    intro pre s errcnt _ _
    exact ⟨s, .next errcnt, rfl, rfl, rfl, fun _ _ => rfl, by simp [awaitJobs], fun _ => ⟨errcnt, rfl⟩⟩
  | cons j js ih =>
    intro pre s errcnt hall hinv
    have hks : all.map (·.k) = pre.map (·.k) ++ j.k :: js.map (·.k) := by rw [hall]; simp
    rw [hks] at hnd
    obtain ⟨_, hnd2, hnd3⟩ := List.nodup_append.1 hnd
    have hkne : ∀ x ∈ pre, x.k ≠ j.k := fun x hx hh => hnd3 _ (List.mem_map.2 ⟨x, hx, rfl⟩) _ (by simp) hh
    have hfnone : s.forced j.k = none := hinv.restFree j (by simp)
    rw [TrL.runTasks_for1, bind_run]
    -- the second statement of the body (`task.cancelled()`, `task.exception()`) is set apart: after a turn that
    -- `_run_tasks` survives `j` is over, and then it only counts and goes on with `js`
    generalize hepi : andThen _ = epi
    have hepi1 : ∀ n s1, isDone s1 j = true → ∃ n', epi (s1, .next n) = TrL.runTasks_for1 (rtPrims limit) all () 0 js n' s1 := by
      intro n s1 hd
      rw [← hepi]
      cases hf : s1.forced j.k with
      | some e =>
        simp only [isDone, hf] at hd
        exact ⟨n, by simp only [trd, pybool, ↓reduceIte, hf, hd]⟩
      | none =>
        simp only [isDone, hf] at hd
        cases hok : j.ok
        · exact ⟨n + 1, by simp [trd, hf, hd, hok]⟩
        · exact ⟨n, by simp [trd, hf, hd, hok]⟩
    have tail : ∀ (s1 : RtState) (n : Int) (fj : JobEnd),
        s.now ≤ s1.now → (∀ l, limit = some l → s1.now ≤ l) → (∀ k, k ≠ j.k → s1.forced k = s.forced k) →
        isDone s1 j = true → fateOf s1 j = fj →
        ∃ s' o, epi (s1, .next n) = (s', o) ∧
          s'.now = (awaitJobs limit (deadline all) s1.now js).2.1 ∧
          (j :: js).map (fateOf s') = fj :: (awaitJobs limit (deadline all) s1.now js).1 ∧
          (∀ p ∈ pre, fateOf s' p = fateOf s p) ∧
          ((awaitJobs limit (deadline all) s1.now js).2.2 = true → o = .raise .cancelled) ∧
          ((awaitJobs limit (deadline all) s1.now js).2.2 = false → ∃ n, o = .next n) := by
      intro s1 n fj hnow hlim hf hj hfj
      obtain ⟨n', hX⟩ := hepi1 n s1 hj
      obtain ⟨s', o, h1, h2, h3, h4, h5, h6⟩ :=
        ih (pre ++ [j]) s1 n' (by rw [hall]; simp) (hinv.snoc hnd hnow hlim hf hj)
      refine ⟨s', o, hX.trans h1, h2, ?_, ?_, h5, h6⟩
      · rw [List.map_cons, h3, h4 j (by simp), hfj]
      · intro p hp
        rw [h4 p (by simp [hp])]
        exact fate_stable s s1 p (hinv.preDone p hp) (hf _ (hkne p hp))
    unfold awaitJobs
    by_cases hdone : j.doneBy s.now = true
    · simp only [hdone, trd, pybool, ↓reduceIte, isDone, hfnone]
      exact tail s errcnt _ (Nat.le_refl _) hinv.lim (fun _ _ => rfl) (by simp [isDone, hfnone, hdone])
        (by simp [fateOf, hfnone])
    · have hdone' : j.doneBy s.now = false := by simpa using hdone
      have hisd : isDone s j = false := by simp [isDone, hfnone, hdone']
      have hge := wake_ge j s.now hdone'
      simp only [hdone', Bool.false_eq_true, if_false]
      simp only [trd, tryExcept_run, pybool, ↓reduceIte, hisd, Int.add_zero, waitFor_wake]
      cases hcb : cancelledBefore limit (j.wake s.now).1 with
      | some l =>
        -- cancelled while waiting: the other tasks are cancelled and waited for, the CancelledError goes on
        obtain ⟨hl1, hl2⟩ := cancelledBefore_some hcb
        have hsL : s.now ≤ l + j.cdur := by have := hinv.lim l hl1; omega
        obtain ⟨s2, c1, c2, _, c4⟩ :=
          cancel_spec limit all (s.force (l + j.cdur) ⟨j.k, l + j.cdur, .cancelled⟩) (hks ▸ hnd)
        have c2 : s2.now = l + j.cdur := c2
        have hmem : ∀ x, x ∈ all ↔ x ∈ pre ∨ x = j ∨ x ∈ js := by
          intro x; rw [hall]; simp
        have hc : ∀ x ∈ all, x.k ≠ j.k → s2.forced x.k =
            if (s.forced x.k).isSome || x.doneBy (l + j.cdur) then s.forced x.k
            else some ⟨x.k, l + j.cdur + x.cdur, .cancelled⟩ := by
          intro x hx hne
          rw [c4 x hx]
          simp [settled, RtState.force, hne]
        obtain ⟨W, w0, w1, w2, w3⟩ := waitAll_spec all pre js j s s2 (l + j.cdur) hall c2 hsL
          (by
            intro x hx
            have hd := hinv.preDone x hx
            refine ⟨?_, hd⟩
            rw [hc x ((hmem x).2 (.inl hx)) (hkne x hx), if_pos]
            cases hf : s.forced x.k with
            | some e => rfl
            | none =>
              simp only [isDone, hf] at hd
              simpa using doneBy_mono x hsL hd)
          (by
            rw [c4 j ((hmem j).2 (.inr (.inl rfl)))]
            simp [settled, RtState.force])
          (by
            intro x hx
            have hx1 : x.k ≠ j.k := fun hh => (List.nodup_cons.1 hnd2).1 (List.mem_map.2 ⟨x, hx, hh⟩)
            rw [hc x ((hmem x).2 (.inr (.inr hx))) hx1, hinv.restFree x (List.mem_cons_of_mem _ hx)]
            simp)
        refine ⟨W, .raise .cancelled, ?_, w1, w2, w3, fun _ => rfl, by simp⟩
        simp only [trd, excIs_cc, if_true, c1, c2, w0, List.map_id']
        rw [← hepi]
        rfl
      | none =>
        have hlim' : ∀ l, limit = some l → (j.wake s.now).1 ≤ l := cancelledBefore_none hcb
        simp only []
        rcases wake_res j s.now with hto | ⟨hdur, hfin⟩
        · -- time-out: the task is cancelled, TimeoutError is counted
          simp only [hto, trd, pybool, ↓reduceIte, excIs_tc, excIs_tt]
          exact tail _ (errcnt + 1) _ hge hlim' (fun k hk => by simp [RtState.force, hk]) (by simp [isDone, RtState.force])
            (by simp [fateOf, RtState.force])
        · have hdb : j.doneBy (j.wake s.now).1 = true := by simp [Job.doneBy, hdur]
          rcases fin_cases j with ⟨hf1, _⟩ | ⟨hf1, _⟩ <;>
            simp only [hfin, hf1, trd, pybool, ↓reduceIte, excIs_fc, excIs_ft, excIs_fe] <;>
            exact tail _ errcnt _ hge hlim' (fun _ _ => rfl) (by simp [isDone, hfnone, hdb])
              (by simp [fateOf, hfnone, hdur, hf1])

/-- state of the translated `_stop_sblocks`: the events so far, the timer/stopped/started sets, the
    duration of the asynchronous part -/
structure SbState where
  trace : List Ev
  cs : CState
  dur : Nat

/-- what awaiting `_run_tasks("stop", jobs)` means in the model: the first steps of the stop_async
    tasks, then their ends in the order of time (`awaitJobs`), and the time it takes -/
def asyncSegs (bs : List Blk) (failed inited : List Nat) (jobs : List Job) : List Ev × Nat :=
  let sabs := (jobs.map (·.k)).flatMap fun k =>
    if immediate bs failed inited k then [Ev.sab k, Ev.sae k (stopJob bs failed inited k).fin]
    else [Ev.sab k]
  let r := runTasks none jobs
  let saes := (sortEnds (r.1.filter fun e => !immediate bs failed inited e.k)).map
    fun e => Ev.sae e.k (seenRes bs e)
  (sabs ++ saes, r.2.1)

/-- the primitives of `_stop_sblocks` as the model understands them; `en` = the order in which a
    set is iterated, `oa` = the enumeration of the asynchronous set (for the control tasks that run
    while `_stop_sblocks` yields) -/
@[reducible] def sbPrims (bs : List Blk) (failed inited : List Nat) (en : List Nat → List Nat) (oa : List Nat) :
    TrL.StopPrims SbState TExc Nat Job where
  excIs := excIs
  enum := en
  isAddonAsync k := (blk bs k).kind == .async || (blk bs k).kind == .ainit || (blk bs k).kind == .aplain
    || (blk bs k).kind == .outa
  hasStopAsync k := (blk bs k).kind == .async || (blk bs k).kind == .outa || (blk bs k).kind == .aplain
  stopTimeout k := ((blk bs k).stopTimeout : Int)
  notIn l k := !l.contains k
  stop k := fun s =>
    (if (blk bs k).asyncStop then
        { s with trace := s.trace ++ [Ev.stop k], cs := { s.cs with stopped := s.cs.stopped ++ [k] } }
      else { s with trace := s.trace ++ (stopSync bs s.cs k).2, cs := (stopSync bs s.cs k).1 },
     if (blk bs k).fStop then .raise .failure else .next ())
  sleep0 := fun s =>
    ({ s with trace := s.trace ++ (oa.filter (outaDelivers bs inited)).map (Ev.out · true) }, .next ())
  stopTask k := stopJob bs failed inited k
  runTasksStop jobs := fun s =>
    ({ s with trace := s.trace ++ (asyncSegs bs failed inited jobs).1, dur := (asyncSegs bs failed inited jobs).2 },
     .next ())

section
variable (bs : List Blk) (failed inited : List Nat) (en : List Nat → List Nat) (oa : List Nat)

theorem sb_for1 : ∀ (l : List Nat) (s : SbState), (∀ k ∈ l, (blk bs k).asyncStop = true) →
    TrL.stopSblocks_for1 (sbPrims bs failed inited en oa) l s =
      ({ s with trace := s.trace ++ l.map Ev.stop, cs := { s.cs with stopped := s.cs.stopped ++ l } }, .next ()) := by
  intro l
  induction l with
  | nil => intro s _; simp [TrL.stopSblocks_for1, trd]
  | cons k ks ih =>
    intro s h
    have hk : (blk bs k).asyncStop = true := h k (by simp)
    unfold TrL.stopSblocks_for1
    simp only [trd, tryExcept_run, pybool, ↓reduceIte, hk, excIs_fe]
    rw [ih _ (fun x hx => h x (by simp [hx]))]
    simp

theorem sb_for2 : ∀ (l : List Nat) (s : SbState), (∀ k ∈ l, (blk bs k).asyncStop = false) →
    TrL.stopSblocks_for2 (sbPrims bs failed inited en oa) l s =
      (⟨s.trace ++ (stopSyncAll bs s.cs l).2, (stopSyncAll bs s.cs l).1, s.dur⟩, .next ()) := by
  intro l
  induction l with
  | nil => intro s _; simp [TrL.stopSblocks_for2, trd, stopSyncAll]
  | cons k ks ih =>
    intro s h
    have hk : (blk bs k).asyncStop = false := h k (by simp)
    unfold TrL.stopSblocks_for2
    simp only [trd, tryExcept_run, pybool, ↓reduceIte, hk, excIs_fe]
    rw [ih _ (fun x hx => h x (by simp [hx]))]
    simp [stopSyncAll]

end

/-- the set comprehension of `_stop_sblocks` is the model's asynchronous set, however its condition `p` is written … -/
theorem async_filter_eq (bs : List Blk) (started : List Nat) (p : Nat → Bool)
    (h : ∀ k, (p k && ((blk bs k).kind == .async || (blk bs k).kind == .ainit || (blk bs k).kind == .aplain
      || (blk bs k).kind == .outa)) = (blk bs k).asyncStop) :
    List.filter p (List.filter (fun k => (blk bs k).kind == .async || (blk bs k).kind == .ainit
      || (blk bs k).kind == .aplain || (blk bs k).kind == .outa) started) = setA bs started := by
  rw [List.filter_filter, setA]
  exact List.filter_congr fun k _ => h k

/-- … and `blocks.difference(async_blocks)` the synchronous one -/
theorem sync_filter_eq (bs : List Blk) (started : List Nat) :
    List.filter (fun k => !(setA bs started).contains k) started = setS bs started := by
  rw [setS]
  apply List.filter_congr
  intro k hk
  simp [setA, hk]

theorem asyncSegs_eq (bs : List Blk) (failed inited oa : List Nat) :
    asyncSegs bs failed inited (oa.map (stopJob bs failed inited)) =
      (seg3 bs failed inited oa ++ seg4 bs failed inited oa,
       (runTasks none (oa.map (stopJob bs failed inited))).2.1) := by
  unfold asyncSegs seg3 seg4 ends
  simp only [List.map_map, Function.comp_def, stopJob_k_timeout, List.map_id']

/-- `except Class` for the two kinds of errors the model distinguishes -/
def errIs : Err → String → Bool
  | .cancelled, c => c == "asyncio.CancelledError"
  | .failure, c => c == "Exception"

@[simp] theorem errIs_cc : errIs .cancelled "asyncio.CancelledError" = true := by decide
@[simp] theorem errIs_ce : errIs .cancelled "Exception" = false := by decide
@[simp] theorem errIs_fc : errIs .failure "asyncio.CancelledError" = false := by decide
@[simp] theorem errIs_fe : errIs .failure "Exception" = true := by decide

structure RfState where
  simtask : Bool := false            -- `self._simtask is not None`
  error : Option Err := none         -- `self._error`
  started : List Nat := []           -- the local `started_blocks`
  startOk : Bool := false            -- the local `start_ok`
  trace : List Ev := []
  storage : List Nat := []
  timers : List Nat := []
  endTime : Nat := 0
  pending : Bool := false            -- a cancellation of the simulation task is still to be delivered

/-- `Circuit.abort(exc)` by whoever terminates the simulation: recorded only if nothing was recorded -/
def abortBy (p : Plan) (s : RfState) : RfState :=
  { s with error := match s.error with
      | some e => some e
      | none => some (if p.isError then .failure else .cancelled) }

/-- the primitives of `run_forever`: WHERE the try block is left is read off the model's plan
    (`(plan c).phase`); what follows from it is the translated skeleton's business -/
@[reducible] def rfPrims (c : Cfg) : TrL.RunForeverPrims RfState Err Nat where
  mkExc _ _ := .failure
  excIs := errIs
  enum := id
  simtaskSet s := s.simtask
  simtaskDone _ := false
  testEager := M.pure ()
  setSimtask := fun s => ({ s with simtask := true }, .next ())
  getStartedBlocks := fun s => (s, .next s.started)
  setStartedBlocks l := fun s => ({ s with started := l }, .next ())
  addStartedBlocks k := fun s => ({ s with started := s.started ++ [k] }, .next ())
  getStartOk := fun s => (s, .next s.startOk)
  setStartOk b := fun s => ({ s with startOk := b }, .next ())
  getError s := s.error
  setError e := fun s => ({ s with error := some e }, .next ())
  errIsCancelled s := s.error == some .cancelled
  noBlocks _ := c.blocks.isEmpty
  newQueue := M.pure ()
  newInitDone := M.pure ()
  checkPersistentData := M.pure ()
  resolve := M.pure ()
  finalize := M.pure ()
  allBlocks := List.range c.blocks.length
  start k := fun s =>
    if (blk c.blocks k).fStart then ({ s with trace := s.trace ++ [Ev.start k] }, .raise .failure)
    else ({ s with trace := s.trace ++ [Ev.start k, Ev.started k] }, .next ())
  sleep0 := fun s =>
    if s.error.isNone then
      -- the yield after the start loop
      if (plan c).phase == .afterStart then (abortBy (plan c) s, .raise .cancelled) else (s, .next ())
    else
      -- the yield that delivers a pending cancellation
      if s.pending then ({ s with pending := false }, .raise .cancelled) else (s, .next ())
  initSync1 := M.pure ()
  initAsync := fun s =>
    if (plan c).phase == .asyncInit then (abortBy (plan c) s, .raise .cancelled) else (s, .next ())
  initSync2 := fun s =>
    if (plan c).phase == .initFailed then (s, .raise .failure)
    else ({ s with storage := storageAtStop c.blocks (plan c) }, .next ())   -- the states are saved after the initialisation
  initDoneSet := M.pure ()
  simulate := fun s =>
    if (plan c).phase == .evalFailed then (s, .raise .failure)
    else if (plan c).pendingCancel then
      -- abort() called inside the simulation task, then an exception: the cancellation stays pending
      ({ abortBy (plan c) { s with trace := s.trace ++ (plan c).puts } with pending := true }, .raise .failure)
    else (abortBy (plan c) { s with trace := s.trace ++ (plan c).puts }, .raise .cancelled)
  storageSet _ := true
  isPersistence _ := true
  saveState k := fun s =>
    ({ s with storage := (saveOneF c.storageFault c.blocks (consumePending (plan c)) s.storage k).1 },
     if (saveOneF c.storageFault c.blocks (consumePending (plan c)) s.storage k).2 then .raise .failure else .next ())
  stampStopTime := fun s => (s, if c.storageFault = .none then .next () else .raise .failure)
  stopSblocks blocks := fun s =>
    if s.pending && !c.oa.isEmpty then
      ({ s with trace := s.trace ++ c.oa.map Ev.stop, timers := (plan c).timers, endTime := (plan c).termTime },
       .raise .cancelled)
    else
      ({ s with
          trace := s.trace ++ (Lifecycle.stopSblocks c.blocks (plan c).failed (plan c).inited blocks
            (plan c).timers c.oa c.os).trace
          timers := (Lifecycle.stopSblocks c.blocks (plan c).failed (plan c).inited blocks
            (plan c).timers c.oa c.os).st.timers
          endTime := (plan c).termTime + (Lifecycle.stopSblocks c.blocks (plan c).failed (plan c).inited blocks
            (plan c).timers c.oa c.os).dur },
       .next ())

/-- the state in which run_forever is entered -/
def rfInit (c : Cfg) : RfState :=
  { error := if c.cause.before then some (if c.cause.kind.isError then .failure else .cancelled) else none
    storage := storage0 c.blocks }

theorem rf_startLoop (c : Cfg) : ∀ (l : List Blk) (i : Nat) (s : RfState), c.blocks.drop i = l →
    TrL.runForever_for1 (rfPrims c) (List.range' i l.length) s =
      ({ s with trace := s.trace ++ (startLoop i l).1, started := s.started ++ (startLoop i l).2.1 },
       if (startLoop i l).2.2 then .raise .failure else .next ()) := by
  intro l
  induction l with
  | nil => intro i s _; simp [TrL.runForever_for1, trd, startLoop]
  | cons b rest ih =>
    intro i s h
    obtain ⟨hb, hrest⟩ := drop_cons_getD c.blocks {} i b rest h
    have hb' : blk c.blocks i = b := hb
    simp only [List.length_cons, List.range'_succ]
    unfold TrL.runForever_for1 startLoop
    simp only [trd, hb']
    cases b.fStart with
    | true => simp
    | false =>
      simp only [Bool.false_eq_true, if_false]
      rw [ih (i + 1) _ hrest]
      simp [trd]

theorem rf_saveLoop (c : Cfg) : ∀ (l : List Nat) (s : RfState),
    TrL.runForever_for2 (rfPrims c) l s =
      ({ s with storage := (saveAllF c.storageFault c.blocks (consumePending (plan c)) l s.storage).1 },
       if (saveAllF c.storageFault c.blocks (consumePending (plan c)) l s.storage).2 then .raise .failure
       else .next ()) := by
  intro l
  induction l with
  | nil => intro s; simp [TrL.runForever_for2, trd, saveAllF]
  | cons k ks ih =>
    intro s
    unfold TrL.runForever_for2 saveAllF
    simp only [trd]
    cases h : (saveOneF c.storageFault c.blocks (consumePending (plan c)) s.storage k).2 with
    | true => simp [trd]
    | false => simp [trd, ih]

@[simp] theorem consumePending_phase (p : Plan) : (consumePending p).phase = p.phase := rfl
@[simp] theorem consumePending_started (p : Plan) : (consumePending p).started = p.started := rfl

/-- `len(x) > 0` is `bool(x)`.  This and `len_pos` stand in the `simp only` lists that decide a test of a list: the source
    writes `if x:` and the linter calls them unused, but a source that writes `if len(x) > 0:` needs them. -/
@[simp] theorem decide_len_pos {α : Type} (l : List α) : decide (((l.length : Nat) : Int) > 0) = !l.isEmpty := by
  cases l <;> simp

/-- … where `pybool` has taken the `decide` off the test first -/
theorem len_pos {α : Type} (l : List α) : (((l.length : Nat) : Int) > 0) = (l.isEmpty = false) := by
  cases l <;> simp

theorem saveStep_eq (f : SFault) (bs : List Blk) (p : Plan) (st : List Nat) :
    saveStep f bs p st = if (p.phase != .startFailed && p.phase != .afterStart) then (saveAllF f bs p p.started st).1 else st := rfl

theorem storageAtStop_eq (bs : List Blk) (p : Plan) :
    storageAtStop bs (consumePending p) = storageAtStop bs p := rfl

/-- the state in which the `try` statement of run_forever is left -/
abbrev afterTry (c : Cfg) : RfState :=
  { simtask := true
    error := some (if (plan c).isError then .failure else .cancelled)
    started := (plan c).started
    startOk := (plan c).phase != .startFailed && (plan c).phase != .afterStart
    trace := (plan c).startEvs ++ (plan c).puts
    storage := storageAtStop c.blocks (plan c)
    pending := (plan c).pendingCancel }

/-! #### primitives of run_forever that the model never lets fail

In reality `_test_eager_tasks`, `asyncio.Queue()`, `asyncio.Event()`, `_check_persistent_data`,
`_resolver.resolve` and `finalize` CAN raise.  Their position relative to the `try:` of run_forever matters, so the
tie also says what the translated skeleton does when one of them fails. -/

inductive RfFault where
  | testEager | newQueue | newInitDone | checkPersistentData | resolve | finalize
  deriving DecidableEq, Repr

def failIf (b : Bool) : M RfState Err Unit Unit := fun s => if b then (s, .raise .failure) else (s, .next ())

@[reducible] def rfPrimsF (c : Cfg) (f : RfFault) : TrL.RunForeverPrims RfState Err Nat :=
  { rfPrims c with
    testEager := failIf (decide (f = .testEager))
    newQueue := failIf (decide (f = .newQueue))
    newInitDone := failIf (decide (f = .newInitDone))
    checkPersistentData := failIf (decide (f = .checkPersistentData))
    resolve := failIf (decide (f = .resolve))
    finalize := failIf (decide (f = .finalize)) }

theorem failIf_true (s : RfState) : failIf true s = (s, .raise .failure) := rfl
theorem failIf_false (s : RfState) : failIf false s = (s, .next ()) := rfl

theorem rfF_startLoop (c : Cfg) (f : RfFault) (l : List Nat) (s : RfState) :
    TrL.runForever_for1 (rfPrimsF c f) l s = TrL.runForever_for1 (rfPrims c) l s := by
  induction l generalizing s with
  | nil => rfl
  | cons k ks ih =>
    unfold TrL.runForever_for1
    simp only [trd]
    cases (blk c.blocks k).fStart <;> simp [ih]

theorem rfF_saveLoop (c : Cfg) (f : RfFault) (l : List Nat) (s : RfState) :
    TrL.runForever_for2 (rfPrimsF c f) l s = TrL.runForever_for2 (rfPrims c) l s := by
  induction l generalizing s with
  | nil => rfl
  | cons k ks ih =>
    unfold TrL.runForever_for2
    simp only [trd, ih]

section
variable {σ ε β : Type} (P : TrL.RunForeverPrims σ ε β)

theorem runForever_refused (s : σ) (hs : P.simtaskSet s = true) :
    TrL.runForever P s = (s, .raise (P.mkExc "EdzedInvalidState" "")) := by
  unfold TrL.runForever
  cases P.simtaskDone s <;> simp only [trd, pybool, ↓reduceIte, hs]

/-- `await _test_eager_tasks()` stands before the `try:` and before `_simtask` is set -/
theorem runForever_eager (s s' : σ) (e : ε) (hs : P.simtaskSet s = false) (he : P.testEager s = (s', .raise e)) :
    TrL.runForever P s = (s', .raise e) := by
  unfold TrL.runForever
  simp only [trd, pybool, ↓reduceIte, hs, he]

end

/-- `_simtask`, `_error` and the locals `started_blocks`, `start_ok` are fields of `RfState`, the exceptions are those of
    `Err`, `_test_eager_tasks()` passes, and a yield with an error recorded and no cancellation pending just returns:
    what the run of `run_forever` up to the start loop and from the yield after the `try` statement on depends on -/
structure RfCells (P : TrL.RunForeverPrims RfState Err Nat) : Prop where
  mkExc : P.mkExc = fun _ _ => .failure
  excIs : P.excIs = errIs
  simtaskSet : P.simtaskSet = (·.simtask)
  setSimtask : P.setSimtask = fun s => ({ s with simtask := true }, .next ())
  getStartedBlocks : P.getStartedBlocks = fun s => (s, .next s.started)
  setStartedBlocks : P.setStartedBlocks = fun l s => ({ s with started := l }, .next ())
  getStartOk : P.getStartOk = fun s => (s, .next s.startOk)
  setStartOk : P.setStartOk = fun b s => ({ s with startOk := b }, .next ())
  getError : P.getError = (·.error)
  setError : P.setError = fun e s => ({ s with error := some e }, .next ())
  testEager : P.testEager = M.pure ()
  sleep0 : ∀ s : RfState, s.error.isSome = true → s.pending = false → P.sleep0 s = (s, .next ())

theorem rfCells (c : Cfg) : RfCells (rfPrims c) := by
  refine ⟨rfl, rfl, rfl, rfl, rfl, rfl, rfl, rfl, rfl, rfl, rfl, fun s he hp => ?_⟩
  show (if s.error.isNone then _ else if s.pending then _ else _) = _
  cases h : s.error with
  | none => simp [h] at he
  | some e => simp [hp]

section
variable {P : TrL.RunForeverPrims RfState Err Nat} (hC : RfCells P)
include hC

/-- an error recorded before `run_forever()` is called (`abort()` before the start) is raised at once -/
theorem runForever_preset (s : RfState) (e : Err) (hs : s.simtask = false) (he : s.error = some e)
    (hp : s.pending = false) :
    TrL.runForever P s = ({ s with simtask := true, started := [], startOk := false }, .raise e) := by
  unfold TrL.runForever
  simp only [trd, tryExcept_run, hs, he, hp, hC.testEager, hC.simtaskSet, hC.setSimtask, hC.setStartedBlocks, hC.setStartOk,
    hC.getStartOk, hC.getError, hC.excIs, hC.getStartedBlocks, hC.sleep0, pybool, ↓reduceIte, decide_len_pos, len_pos]


/-- an empty circuit (`b0`) or a failing set-up call inside the `try:` (`b1` … `b5`) -/
theorem runForever_setup_fails (s : RfState) (hs : s.simtask = false) (he : s.error = none) (hp : s.pending = false)
    (b0 b1 b2 b3 b4 b5 : Bool) (h0 : ∀ s, P.noBlocks s = b0)
    (h1 : P.newQueue = failIf b1) (h2 : P.newInitDone = failIf b2) (h3 : P.checkPersistentData = failIf b3)
    (h4 : P.resolve = failIf b4) (h5 : P.finalize = failIf b5) (hb : (b0 || b1 || b2 || b3 || b4 || b5) = true) :
    TrL.runForever P s =
      ({ s with simtask := true, started := [], startOk := false, error := some .failure }, .raise .failure) := by
  unfold TrL.runForever
  simp only [trd, tryExcept_run, hs, he, hp, h0, h1, h2, h3, h4, h5, failIf, hC.testEager, hC.simtaskSet, hC.setSimtask,
    hC.setStartedBlocks, hC.setStartOk, hC.getStartOk, hC.getError, hC.mkExc, hC.excIs, hC.setError, hC.getStartedBlocks, hC.sleep0,
    errIs_fe, pybool, ↓reduceIte, decide_len_pos, len_pos]
  -- left: `if b0 then X else if b1 then X else … else <the run goes on>` with one `X`, the state the theorem names
  generalize andThen _ (orCatch _ _) = R
  simp only [Bool.or_eq_true] at hb
  rcases hb with ((((rfl | rfl) | rfl) | rfl) | rfl) | rfl <;> simp only [if_true, ite_self]

end

theorem rfCellsF (c : Cfg) (f : RfFault) (hf : f ≠ .testEager) : RfCells (rfPrimsF c f) :=
  { rfCells c with testEager := by cases f <;> first | rfl | exact absurd rfl hf }

/-- the state in which the translated `run_forever` ends when the model's run is `r` -/
abbrev RfState.ofResult (r : Result) : RfState :=
  { simtask := true, error := r.error, started := r.started, startOk := r.startOk, trace := r.trace,
    storage := r.storage, timers := r.timers, endTime := r.endTime }

/-- `run_forever` on the model's primitives ends in the image of the model's run and raises the recorded error.  The program
    is run by stages: each `try` statement is set apart (`generalize`, so that its text is never written here), run once for
    all its cases, and the run goes on from the state it leaves. -/
theorem runForever_tie (c : Cfg) (r : Result) (h : runForever c = some r) (hne : c.blocks.isEmpty = false) :
    ∃ e, r.error = some e ∧ TrL.runForever (rfPrims c) (rfInit c) = (.ofResult r, .raise e) := by
  rcases run_cases h with ⟨hb, rfl⟩ | ⟨hb, hA, hS, rfl⟩
  · have he : (rfInit c).error = some (if c.cause.kind.isError then Err.failure else .cancelled) := by
      simp only [rfInit, hb, if_true]
    refine ⟨_, rfl, (runForever_preset (rfCells c) _ _ rfl he rfl).trans ?_⟩
    simp only [rfInit, hb, if_true]
  · have hsl := fun s => rf_startLoop c c.blocks 0 s (by simp)
    have hrange : List.range c.blocks.length = List.range' 0 c.blocks.length := List.range_eq_range'
    refine ⟨_, rfl, ?_⟩
    unfold TrL.runForever
    simp only [trd, pybool, ↓reduceIte, rfInit, hb]
    -- the `try` statement, run once for all phases, is left in the state `afterTry c`
    generalize htry : M.tryExcept _ _ _ = res
    have hres : res = (afterTry c, .next ()) := by
      rw [← htry]
      simp only [trd, tryExcept_run, pybool, ↓reduceIte, abortBy, hne, hrange, hsl, errIs_fe, errIs_fc, errIs_cc]
      rcases plan_phase_cases c with ⟨hsf, hph, hie⟩ | ⟨hsf, hph⟩ | ⟨hsf, hph⟩ | ⟨hsf, hph, hie⟩ | ⟨hsf, hph, hie⟩ | ⟨hsf, hph⟩
      -- in each phase the tree has one leaf left: the primitive that raises there, and the handler's record of it
      all_goals
        simp [afterTry, plan_startEvs, plan_started, plan_puts_nil, plan_pending_false, storageAtStop, *]
      cases (plan c).pendingCancel <;> simp
    subst hres
    clear htry
    simp only [trd]
    -- the yield that swallows a pending cancellation
    generalize hyield : M.tryExcept _ _ _ = res
    have hres : res = ({ afterTry c with pending := false }, .next ()) := by
      rw [← hyield]
      simp only [trd, tryExcept_run, pybool, ↓reduceIte, afterTry, errIs_cc]
      cases (plan c).pendingCancel <;> rfl
    subst hres
    clear hyield
    simp only [trd, ite_self]
    by_cases hst : (plan c).started = []
    · -- the first start() raised: there is nothing to stop
      have hoa : c.oa = [] := by rw [hst] at hA; exact hA.eq_nil
      have hos : c.os = [] := by rw [hst] at hS; exact hS.eq_nil
      have hsf : (startLoop 0 c.blocks).2.2 = true :=
        startLoop_failed_of_nil hst (by intro hbl; simp [hbl] at hne)
      obtain ⟨hph, htt⟩ := plan_startFailed c hsf
      simp only [trd, pybool, ↓reduceIte, decide_len_pos, len_pos, hst]
      congr 2
      · exact hst.symm
      · show _ = _ ++ _ ++ (Lifecycle.stopSblocks ..).trace
        rw [hoa, hos, stopSblocks_nil_async]; exact (List.append_nil _).symm
      · show _ = saveStep ..
        rw [saveStep_eq]; simp [hph]; rfl
      · show _ = (Lifecycle.stopSblocks ..).st.timers
        rw [hoa, hos, stopSblocks_nil_async]; exact (plan_timers_nil c hst).symm
      · show _ = (plan c).termTime + (Lifecycle.stopSblocks ..).dur
        rw [htt, hoa, stopSblocks_nil_async]; rfl
    · have hne' : (plan c).started.isEmpty = false := by
        cases hl : (plan c).started with
        | nil => exact absurd hl hst
        | cons _ _ => rfl
      -- the tests of `started_blocks`, `start_ok` and the storage are decided from the atoms, however the source combines them
      cases hok : (plan c).phase != .startFailed && (plan c).phase != .afterStart
      · -- `start_ok` is false: nothing is saved
        simp only [trd, pybool, ↓reduceIte, decide_len_pos, len_pos, hne']
        congr 2
        · exact hok.symm
        · show _ = saveStep ..
          rw [saveStep_eq, consumePending_phase, hok]; rfl
      · -- the states are saved; what the storage does is logged at most
        simp only [trd, pybool, ↓reduceIte, decide_len_pos, len_pos, hne']
        generalize hsave : M.tryExcept _ _ _ = res
        have hres : res = ({ afterTry c with
            pending := false
            startOk := true
            storage := (saveAllF c.storageFault c.blocks (consumePending (plan c)) (plan c).started
              (storageAtStop c.blocks (plan c))).1 }, .next ()) := by
          rw [← hsave]
          simp only [trd, tryExcept_run, rf_saveLoop, List.filter_eq_self.2 (fun _ _ => rfl), id]
          cases (saveAllF c.storageFault c.blocks (consumePending (plan c)) (plan c).started
              (storageAtStop c.blocks (plan c))).2 <;>
            by_cases hf : c.storageFault = .none <;> simp [hf, trd]
        subst hres
        clear hsave
        simp only [trd, pybool, ↓reduceIte, decide_len_pos, len_pos, hne']
        congr 2
        · exact hok.symm
        · show _ = saveStep ..
          rw [saveStep_eq, consumePending_phase, hok]; rfl

/-- state of the translated `_init_sblocks_async` -/
structure IaState where
  jobs : Option (List Job) := none      -- what was handed to `_run_tasks("async init", …)`

def initJobOf (bs : List Blk) (k : Nat) : Job :=
  ⟨k, some (blk bs k).initDur, (blk bs k).initTimeout, !(blk bs k).fInitAsync, (blk bs k).initCancelDur⟩

@[reducible] def iaPrims (bs : List Blk) : TrL.InitAsyncPrims IaState TExc Nat Job where
  asyncBlocks := (List.range bs.length).filter fun k =>
    (blk bs k).kind == .async || (blk bs k).kind == .ainit || (blk bs k).kind == .aplain || (blk bs k).kind == .outa
  isInitialized _ k := (blk bs k).restoredOk       -- after the first synchronous pass: restored or nothing
  hasInitAsync k := ((blk bs k).kind == .async || (blk bs k).kind == .ainit) && (blk bs k).hasInitAsync
  initTimeout k := ((blk bs k).initTimeout : Int)
  initTask k := initJobOf bs k
  runTasksInit jobs := fun _ => (⟨some jobs⟩, .next ())

theorem initJobs_suffix (bs : List Blk) : ∀ (l : List Blk) (i : Nat), bs.drop i = l →
    ((l.zipIdx i).map (fun p => (p.2, p.1))).filterMap (fun (k, b) =>
        if b.wantsInitAsync then some (⟨k, some b.initDur, b.initTimeout, !b.fInitAsync, b.initCancelDur⟩ : Job) else none) =
      ((List.range' i l.length).filter fun k => (blk bs k).wantsInitAsync).map (initJobOf bs) := by
  intro l
  induction l with
  | nil => intro i _; simp
  | cons b rest ih =>
    intro i h
    obtain ⟨hb, hrest⟩ := drop_cons_getD bs {} i b rest h
    have hb' : blk bs i = b := hb
    simp only [List.zipIdx_cons, List.map_cons, List.length_cons, List.range'_succ, List.filterMap_cons,
      List.filter_cons, hb']
    rw [ih (i + 1) hrest]
    cases b.wantsInitAsync with
    | true => simp [initJobOf, hb']
    | false => simp

theorem initJobs_eq (bs : List Blk) :
    initJobs bs = ((List.range bs.length).filter fun k => (blk bs k).wantsInitAsync).map (initJobOf bs) := by
  have := initJobs_suffix bs bs 0 (by simp)
  rw [List.range_eq_range']
  simpa [initJobs, Lifecycle.enum] using this

end Edzed.LifecycleTie
