/-
Tie of the FSM model to the TRANSLATED source of `FSM._ctx_event` (lean/EdzedModel/Gen/TranslatedFsm.lean,
regenerated from the current Python AST by tools/py2lean_fsm.py on every check): `prims c` instantiates the primitives
of the translated program (one per call / lookup the method makes) with the operations of EdzedModel/FsmTimer.lean;
`Agrees c P` is what the tie assumes of a record `P` of primitives, so that `_start_timer` / `_stop_timer` may be the
translated methods; `outcome` / `outcomePost` read the end of the call on the model.
The theorems about the translated method are in EdzedProps/C04.lean, `namespace Edzed.TrTie`.
-/
import EdzedModel.FsmTimer
import EdzedProofs.FsmTimer
import EdzedProofs.SimpAttrs
import EdzedModel.Gen.TranslatedFsm

namespace Edzed.TrTie
open Edzed.FsmTimer Edzed.Gen.TrM

/-- the block as `_ctx_event` sees it: the model state, `_fsm_event_active`, and whether an
    `_enable_event` context is open -/
structure TSt where
  st : St
  active : Bool
  enabled : Bool

def TSt.map (t : TSt) (f : St → St) : TSt := { t with st := f t.st }

/-- a model operation as an effectful primitive: it has raised iff it left the state failed -/
def lift (f : St → St) : Eff TSt ErrKind Unit := fun t =>
  (t.map f, match (f t.st).failed with | some k => .error k | none => .ok ())

def excOf (name : String) : ErrKind :=
  if name == "EdzedUnknownEvent" then .unknownEvent
  else if name == "EdzedCircuitError" then .circuitError
  else if name == "AssertionError" then .assertion
  else if name == "ValueError" then .valueError
  else if name == "KeyError" then .keyError
  else if name == "EdzedInvalidState" then .invalidState
  else if name == "TypeError" then .typeError
  else .fuel    -- any other class (RuntimeError, …): a kind that no path of the model produces

/-- the primitives of `_ctx_event` = the operations of the model -/
def prims (c : Cfg) : FsmPrims TSt TEvent EvData String TEvent Val Dur ErrKind where
  exc := excOf
  asGoto := fun e => match e with | .goto q => some q | .ev _ => none
  isStr := fun e => match e with | .ev _ => true | .goto _ => false
  isEvent := fun _ e => match e with | .ev n => c.tbl.events.contains n | .goto _ => false
  isMutableMapping := fun _ => true
  readOnly := fun d => d
  dataGet := fun d key => if key == "duration" then d.dur else .none
  isUndef := fun v => v.isUndef
  getState := fun t => t.st.state
  setState := fun oq t => match oq with
    | some q => t.map (·.enter q)
    | none => t.map fun s => { s with state := none, epoch := s.epoch + 1 }
  getNext := fun t => t.st.next.map fun x => (x.1, x.2.1, some x.2.2)
  setNext := fun o t => t.map (·.setNextEv (o.bind fun x => x.2.2.map fun q => (x.1, x.2.1, q)))
  getActive := fun t => t.active
  setActive := fun b t => { t with active := b }
  isInitialized := fun t => !t.st.out.isUndef
  chainLimit := fun _ => c.tbl.chainLimit
  transition := fun _ e oq => match e with
    | .ev n => c.tbl.lookupKey n oq
    | .goto _ => none
  timedEvent := fun _ oq => oq.bind fun q => (c.tbl.timedOf q).map (·.1)
  setEventData := fun d => lift (setCtx · d)
  checkState := fun oq t => match oq with
    | some q => if c.tbl.states.contains q then (t, .ok ()) else (t, .error .valueError)
    | none => (t, .error .valueError)
  runCond := fun e t => match e with
    | .ev n => match evalConds t.st t.st.ctx (c.condsOf n) with
      | none => (t, .error .keyError)
      | some (s', ok) => ({ t with st := s' }, .ok ok)
    | .goto _ => (t, .ok true)
  runCbExit := fun oq => lift fun s => match oq with
    | some q => s.emit (.exit q s.ctx)
    | none => s
  runCbEnter := fun oq => lift fun s => match oq with
    | some q => runEnter c s q
    | none => s
  sendEvents := fun kind => lift fun s =>
    if kind == "on_exit" then (match s.state with | some q => s.emit (.onExit q) | none => s)
    else sendOnEnter s
  sendNotrans := fun e oq => lift fun s => match e, oq with
    | .ev n, some q => s.emit (.notrans n q)
    | _, _ => s
  stopTimer := lift stopTimer
  startTimer := fun item tev => lift fun s => match s.state with
    | some q => startTimer c s q tev item
    | none => s
  calcOutput := fun t => match calcOutput c t.st with
    | none => (t, .error .keyError)
    | some v => (t, .ok v)
  setOutput := fun v => lift (setOut · v)
  enableEvent := fun b t => { t with enabled := b }

/-! the primitives one by one (so that `prims c` itself is never unfolded) -/
theorem prims_exc (c : Cfg) : (prims c).exc = (excOf) := rfl
theorem prims_asGoto (c : Cfg) : (prims c).asGoto = (fun e => match e with | .goto q => some q | .ev _ => none) := rfl
theorem prims_isStr (c : Cfg) : (prims c).isStr = (fun e => match e with | .ev _ => true | .goto _ => false) := rfl
theorem prims_isEvent (c : Cfg) : (prims c).isEvent = (fun _ e => match e with | .ev n => c.tbl.events.contains n | .goto _ => false) := rfl
theorem prims_isMutableMapping (c : Cfg) : (prims c).isMutableMapping = (fun _ => true) := rfl
theorem prims_readOnly (c : Cfg) : (prims c).readOnly = (fun d => d) := rfl
theorem prims_dataGet (c : Cfg) : (prims c).dataGet = (fun d key => if key == "duration" then d.dur else .none) := rfl
theorem prims_isUndef (c : Cfg) : (prims c).isUndef = (fun v => v.isUndef) := rfl
theorem prims_getState (c : Cfg) : (prims c).getState = (fun t => t.st.state) := rfl
theorem prims_setState (c : Cfg) : (prims c).setState = (fun oq t => match oq with
    | some q => t.map (·.enter q)
    | none => t.map fun s => { s with state := none, epoch := s.epoch + 1 }) := rfl
theorem prims_getNext (c : Cfg) : (prims c).getNext = (fun t => t.st.next.map fun x => (x.1, x.2.1, some x.2.2)) := rfl
theorem prims_setNext (c : Cfg) : (prims c).setNext = (fun o t => t.map (·.setNextEv (o.bind fun x => x.2.2.map fun q => (x.1, x.2.1, q)))) := rfl
theorem prims_getActive (c : Cfg) : (prims c).getActive = (fun t => t.active) := rfl
theorem prims_setActive (c : Cfg) : (prims c).setActive = (fun b t => { t with active := b }) := rfl
theorem prims_isInitialized (c : Cfg) : (prims c).isInitialized = (fun t => !t.st.out.isUndef) := rfl
theorem prims_chainLimit (c : Cfg) : (prims c).chainLimit = (fun _ => c.tbl.chainLimit) := rfl
theorem prims_transition (c : Cfg) : (prims c).transition = (fun _ e oq => match e with
    | .ev n => c.tbl.lookupKey n oq
    | .goto _ => none) := rfl
theorem prims_timedEvent (c : Cfg) : (prims c).timedEvent = (fun _ oq => oq.bind fun q => (c.tbl.timedOf q).map (·.1)) := rfl
theorem prims_setEventData (c : Cfg) : (prims c).setEventData = (fun d => lift (setCtx · d)) := rfl
theorem prims_checkState (c : Cfg) : (prims c).checkState = (fun oq t => match oq with
    | some q => if c.tbl.states.contains q then (t, .ok ()) else (t, .error .valueError)
    | none => (t, .error .valueError)) := rfl
theorem prims_runCond (c : Cfg) : (prims c).runCond = (fun e t => match e with
    | .ev n => match evalConds t.st t.st.ctx (c.condsOf n) with
      | none => (t, .error .keyError)
      | some (s', ok) => ({ t with st := s' }, .ok ok)
    | .goto _ => (t, .ok true)) := rfl
theorem prims_runCbExit (c : Cfg) : (prims c).runCbExit = (fun oq => lift fun s => match oq with
    | some q => s.emit (.exit q s.ctx)
    | none => s) := rfl
theorem prims_runCbEnter (c : Cfg) : (prims c).runCbEnter = (fun oq => lift fun s => match oq with
    | some q => runEnter c s q
    | none => s) := rfl
theorem prims_sendEvents (c : Cfg) : (prims c).sendEvents = (fun kind => lift fun s =>
    if kind == "on_exit" then (match s.state with | some q => s.emit (.onExit q) | none => s)
    else sendOnEnter s) := rfl
theorem prims_sendNotrans (c : Cfg) : (prims c).sendNotrans = (fun e oq => lift fun s => match e, oq with
    | .ev n, some q => s.emit (.notrans n q)
    | _, _ => s) := rfl
theorem prims_stopTimer (c : Cfg) : (prims c).stopTimer = (lift stopTimer) := rfl
theorem prims_startTimer (c : Cfg) : (prims c).startTimer = (fun item tev => lift fun s => match s.state with
    | some q => startTimer c s q tev item
    | none => s) := rfl
theorem prims_calcOutput (c : Cfg) : (prims c).calcOutput = (fun t => match calcOutput c t.st with
    | none => (t, .error .keyError)
    | some v => (t, .ok v)) := rfl
theorem prims_setOutput (c : Cfg) : (prims c).setOutput = (fun v => lift (setOut · v)) := rfl
theorem prims_enableEvent (c : Cfg) : (prims c).enableEvent = (fun b t => { t with enabled := b }) := rfl

/-- `P` is `prims c` except that the two timer methods may be ANY implementation that does what the model's
    operations do in the states in which `_ctx_event` calls them (inside a transition of a block that has a
    state and has not failed) -- in particular the translated `_start_timer` / `_stop_timer`
    (EdzedProofs/FsmTimerTie.lean) -/
structure Agrees (c : Cfg) (P : FsmPrims TSt TEvent EvData String TEvent Val Dur ErrKind) : Prop where
  same : P.exc = (prims c).exc ∧
    P.asGoto = (prims c).asGoto ∧
    P.isStr = (prims c).isStr ∧
    P.isEvent = (prims c).isEvent ∧
    P.isMutableMapping = (prims c).isMutableMapping ∧
    P.readOnly = (prims c).readOnly ∧
    P.dataGet = (prims c).dataGet ∧
    P.isUndef = (prims c).isUndef ∧
    P.getState = (prims c).getState ∧
    P.setState = (prims c).setState ∧
    P.getNext = (prims c).getNext ∧
    P.setNext = (prims c).setNext ∧
    P.getActive = (prims c).getActive ∧
    P.setActive = (prims c).setActive ∧
    P.isInitialized = (prims c).isInitialized ∧
    P.chainLimit = (prims c).chainLimit ∧
    P.transition = (prims c).transition ∧
    P.timedEvent = (prims c).timedEvent ∧
    P.setEventData = (prims c).setEventData ∧
    P.checkState = (prims c).checkState ∧
    P.runCond = (prims c).runCond ∧
    P.runCbExit = (prims c).runCbExit ∧
    P.runCbEnter = (prims c).runCbEnter ∧
    P.sendEvents = (prims c).sendEvents ∧
    P.sendNotrans = (prims c).sendNotrans ∧
    P.calcOutput = (prims c).calcOutput ∧
    P.setOutput = (prims c).setOutput ∧
    P.enableEvent = (prims c).enableEvent
  startTimer : ∀ (item : Dur) (tev : TEvent) (t : TSt), t.active = true → t.st.failed = none →
    t.st.state.isSome = true → P.startTimer item tev t = (prims c).startTimer item tev t
  stopTimer : ∀ (t : TSt), t.st.failed = none → P.stopTimer t = (prims c).stopTimer t

theorem agrees_self (c : Cfg) : Agrees c (prims c) :=
  ⟨⟨rfl, rfl, rfl, rfl, rfl, rfl, rfl, rfl, rfl, rfl, rfl, rfl, rfl, rfl, rfl, rfl, rfl, rfl, rfl, rfl, rfl, rfl, rfl, rfl, rfl, rfl, rfl, rfl⟩, fun _ _ _ _ _ _ => rfl, fun _ _ => rfl⟩

/-- how the model reports the end of `_ctx_event`: the value returned; EdzedUnknownEvent raised by
    `_ctx_event` itself (the state is not marked) is passed on to the caller; any other exception aborts
    the simulation -/
def outcome (r : TSt × Flow ErrKind Bool) : St × Res :=
  match r.2 with
  | .ret b => (r.1.st, .ret b)
  | .raise k =>
    if k = .unknownEvent ∧ r.1.st.failed = none then (r.1.st, .unknown) else (r.1.st.fail k, .err k)
  | _ => (r.1.st, .aborted)

/-- the recursive call: `_fsm_event_active` is set -/
def outcomePost (r : TSt × Flow ErrKind Bool) : St × Bool :=
  match r.2 with
  | .ret b => (r.1.st, b)
  | .raise k => (r.1.st.fail k, false)
  | _ => (r.1.st, false)

/-! The updates of single fields, projection by projection: with these in the `trm` set the updates stay folded under
`simp`, so that hypotheses and model terms that mention `setCtx s d`, `s.emit x`, … keep matching the goal. -/

theorem setCtx_proj (s : St) (d : EvData) :
    (setCtx s d).now = s.now ∧ (setCtx s d).state = s.state ∧ (setCtx s d).out = s.out ∧
    (setCtx s d).input = s.input ∧ (setCtx s d).gate = s.gate ∧ (setCtx s d).active = s.active ∧
    (setCtx s d).timers = s.timers ∧ (setCtx s d).nextId = s.nextId ∧ (setCtx s d).epoch = s.epoch ∧
    (setCtx s d).next = s.next ∧ (setCtx s d).stopped = s.stopped ∧ (setCtx s d).failed = s.failed ∧
    (setCtx s d).ctx = d ∧ (setCtx s d).log = s.log :=
  ⟨rfl, rfl, rfl, rfl, rfl, rfl, rfl, rfl, rfl, rfl, rfl, rfl, rfl, rfl⟩

theorem emit_proj (s : St) (x : Entry) :
    (s.emit x).now = s.now ∧ (s.emit x).state = s.state ∧ (s.emit x).out = s.out ∧
    (s.emit x).input = s.input ∧ (s.emit x).gate = s.gate ∧ (s.emit x).active = s.active ∧
    (s.emit x).timers = s.timers ∧ (s.emit x).nextId = s.nextId ∧ (s.emit x).epoch = s.epoch ∧
    (s.emit x).next = s.next ∧ (s.emit x).stopped = s.stopped ∧ (s.emit x).failed = s.failed ∧
    (s.emit x).ctx = s.ctx :=
  ⟨rfl, rfl, rfl, rfl, rfl, rfl, rfl, rfl, rfl, rfl, rfl, rfl, rfl⟩

theorem enter_proj (s : St) (q : String) :
    (s.enter q).now = s.now ∧ (s.enter q).state = some q ∧ (s.enter q).out = s.out ∧
    (s.enter q).input = s.input ∧ (s.enter q).gate = s.gate ∧ (s.enter q).active = s.active ∧
    (s.enter q).timers = s.timers ∧ (s.enter q).nextId = s.nextId ∧ (s.enter q).epoch = s.epoch + 1 ∧
    (s.enter q).next = s.next ∧ (s.enter q).stopped = s.stopped ∧ (s.enter q).failed = s.failed ∧
    (s.enter q).ctx = s.ctx ∧ (s.enter q).log = s.log :=
  ⟨rfl, rfl, rfl, rfl, rfl, rfl, rfl, rfl, rfl, rfl, rfl, rfl, rfl, rfl⟩

theorem setInput_proj (s : St) (v : Option Val) :
    (s.setInput v).now = s.now ∧ (s.setInput v).state = s.state ∧ (s.setInput v).out = s.out ∧
    (s.setInput v).input = v ∧ (s.setInput v).gate = s.gate ∧ (s.setInput v).active = s.active ∧
    (s.setInput v).timers = s.timers ∧ (s.setInput v).nextId = s.nextId ∧ (s.setInput v).epoch = s.epoch ∧
    (s.setInput v).next = s.next ∧ (s.setInput v).stopped = s.stopped ∧ (s.setInput v).failed = s.failed ∧
    (s.setInput v).ctx = s.ctx ∧ (s.setInput v).log = s.log :=
  ⟨rfl, rfl, rfl, rfl, rfl, rfl, rfl, rfl, rfl, rfl, rfl, rfl, rfl, rfl⟩

theorem setNextEv_proj (s : St) (x : Option (TEvent × EvData × String)) :
    (s.setNextEv x).now = s.now ∧ (s.setNextEv x).state = s.state ∧ (s.setNextEv x).out = s.out ∧
    (s.setNextEv x).input = s.input ∧ (s.setNextEv x).gate = s.gate ∧ (s.setNextEv x).active = s.active ∧
    (s.setNextEv x).timers = s.timers ∧ (s.setNextEv x).nextId = s.nextId ∧
    (s.setNextEv x).epoch = s.epoch ∧ (s.setNextEv x).next = x ∧ (s.setNextEv x).stopped = s.stopped ∧
    (s.setNextEv x).failed = s.failed ∧ (s.setNextEv x).ctx = s.ctx ∧ (s.setNextEv x).log = s.log :=
  ⟨rfl, rfl, rfl, rfl, rfl, rfl, rfl, rfl, rfl, rfl, rfl, rfl, rfl, rfl⟩

attribute [trm] Gen.TrM.seq Gen.TrM.branch Gen.TrM.call Gen.TrM.assign Gen.TrM.skip Gen.TrM.matchOpt Gen.TrM.upd
  Gen.TrM.ret Gen.TrM.raise Gen.TrM.brk Gen.TrM.cont Gen.TrM.tryFinally Gen.TrM.forN lift TSt.map excOf
  prims_exc prims_asGoto prims_isStr prims_isEvent prims_isMutableMapping prims_readOnly prims_dataGet prims_isUndef
  prims_getState prims_setState prims_getNext prims_setNext prims_getActive prims_setActive prims_isInitialized
  prims_chainLimit prims_transition prims_timedEvent prims_setEventData prims_checkState prims_runCond prims_runCbExit
  prims_runCbEnter prims_sendEvents prims_sendNotrans prims_stopTimer prims_startTimer prims_calcOutput prims_setOutput
  prims_enableEvent setCtx_proj emit_proj enter_proj setInput_proj setNextEv_proj

/-- the block inside the `try:` of `_ctx_event`: `_fsm_event_active` is set, no `_enable_event`
    context is open -/
@[reducible] def T (s : St) : TSt := ⟨s, true, false⟩

/-- the model's loop without what follows it: the state at the `break` (`true`) or at the failure -/
def loopB (c : Cfg) : Nat → St → EvData → String → St × Bool
  | 0, s, _, _ => (s.fail .circuitError, false)
  | n + 1, s, d, q =>
    let r := popNext s d q
    let s2 := enterState c r.1 r.2.1 r.2.2
    if s2.failed.isSome then (s2, false)
    else if s2.next.isSome then loopB c n s2 r.2.1 r.2.2
    else (s2, true)

theorem enterLoop_eq_loopB (c : Cfg) : ∀ (n : Nat) (s : St) (d : EvData) (q : String),
    enterLoop c n s d q =
      (match loopB c n s d q with
       | (s', true) => finish c s'
       | (s', false) => s') := by
  intro n
  induction n with
  | zero => intro s d q; simp [enterLoop, loopB]
  | succ n ih =>
    intro s d q
    unfold enterLoop loopB
    dsimp only
    split
    · rfl
    · split
      · exact ih _ _ _
      · rfl

/-- how a round of the loop may end; `continue` and reaching the end of the loop body are the same thing
    for the loop -/
def RoundEnds (s2 : St) (fl : Flow ErrKind Bool) : Prop :=
  match s2.failed with
  | some k => fl = Flow.raise k
  | none => if s2.next.isSome then (fl = Flow.cont ∨ fl = Flow.next) else fl = Flow.brk

theorem fail_of_failed (s : St) (k : ErrKind) (h : s.failed = some k) : s.fail k = s :=
  fail_eq_self s k h

theorem seq_next {σ L X R : Type} {a b : Stmt (σ × L) X R} {sl sl1 : σ × L} (h : a sl = (sl1, Flow.next)) :
    seq a b sl = b sl1 := by
  simp only [seq, h]

/-- the statements after the first two (three) of a method, named by their position, without being written out: a
    pattern that spelled the test they begin with, or their shape, would not survive that test being inverted or its
    arms being swapped in the source -/
theorem seq_rest2 {σ L X R : Type} {a b t : Stmt (σ × L) X R} {Q : Stmt (σ × L) X R → Prop}
    (h : ∀ T, T = t → Q (seq a (seq b T))) : Q (seq a (seq b t)) := h t rfl

theorem seq_rest3 {σ L X R : Type} {a b c t : Stmt (σ × L) X R} {Q : Stmt (σ × L) X R → Prop}
    (h : ∀ T, T = t → Q (seq a (seq b (seq c T)))) : Q (seq a (seq b (seq c t))) := h t rfl

theorem seq_elim {σ L X R : Type} {P : (σ × L) × Flow X R → Prop} {a b : Stmt (σ × L) X R}
    {sl sl1 : σ × L} (h : a sl = (sl1, Flow.next)) (hb : P (b sl1)) : P (seq a b sl) := by
  simp only [seq, h]; exact hb

theorem seq_stop {σ L X R : Type} {a b : Stmt (σ × L) X R} {sl sl1 : σ × L} {f : Flow X R}
    (h : a sl = (sl1, f)) (hf : f ≠ Flow.next) : seq a b sl = (sl1, f) := by
  simp only [seq, h]
  cases f <;> simp_all

theorem setOut_failed (s : St) (v : Val) : (setOut s v).failed = s.failed := (setOut_fields s v).1

theorem sendOnEnter_failed (s : St) : (sendOnEnter s).failed = s.failed := by
  unfold sendOnEnter; split <;> rfl

theorem setOut_undef (s : St) (v : Val) (h : v.isUndef = true) : setOut s v = s := by
  simp [setOut, h]

/-- the result of an executed transition -/
def resOf (s2 : St) : St × Res :=
  match s2.failed with
  | some k => (s2, .err k)
  | none => (s2, .ret true)

theorem ctxEvent_target {c : Cfg} {s s1 : St} {e : TEvent} {d : EvData} {q : String}
    (h : resolve c (setCtx s d) e d = (s1, .target q)) :
    FsmTimer.ctxEvent c s e d = resOf (enterLoop c c.tbl.chainLimit (leave s1) d q) := by
  unfold FsmTimer.ctxEvent
  rw [h]
  rfl

end Edzed.TrTie
