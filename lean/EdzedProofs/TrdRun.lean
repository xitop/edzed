/-
Running a translated program of the monad `Gen.TrD.M` on a state by `simp only [trd, <equations of the primitives>]`.

`M.bind m k s` is a `match` on `m s`, stuck when a primitive's outcome is an `if`.  Here the `match` is a function of the
outcome: `andThen k` passes it on to the following statements `k`, `orCatch h` to an `except` clause `h`; both distribute
over `if`.  One pass therefore runs the program for all cases at once and leaves a tree of `if`s over the primitives'
conditions with the final states at its leaves.  `trd` leaves a `try` statement standing, so that it can be set apart
(`generalize h : M.tryExcept _ _ _ = r`) where all its cases end alike; `tryExcept_run`, which is not in `trd`, enters it.
-/
import EdzedModel.Gen.TranslatedDispatch
import EdzedProofs.SimpAttrs

namespace Edzed.Gen.TrD
variable {σ ε ρ α β : Type}

def andThen (k : α → M σ ε ρ β) : σ × Out ε ρ α → σ × Out ε ρ β
  | (s, .next a) => k a s
  | (s, .ret r) => (s, .ret r)
  | (s, .raise e) => (s, .raise e)
  | (s, .diverged) => (s, .diverged)

def orCatch (h : ε → M σ ε ρ α) : σ × Out ε ρ α → σ × Out ε ρ α
  | (s, .raise e) => h e s
  | p => p

-- trap: `bind_run` and an unfolding of `M.bind` (`M.bind`, a `bind_apply` of the file at hand) rewrite the same term;
-- use one of them in a call, not both
@[trd] theorem bind_run (m : M σ ε ρ α) (k : α → M σ ε ρ β) (s : σ) : M.bind m k s = andThen k (m s) := rfl
theorem tryExcept_run (b : M σ ε ρ α) (h : ε → M σ ε ρ α) (s : σ) : M.tryExcept b h s = orCatch h (b s) := rfl
@[trd] theorem pure_run (a : α) (s : σ) : (M.pure a : M σ ε ρ α) s = (s, .next a) := rfl
@[trd] theorem raise_run (e : ε) (s : σ) : (M.raise e : M σ ε ρ α) s = (s, .raise e) := rfl
@[trd] theorem ret_run (r : ρ) (s : σ) : (M.ret r : M σ ε ρ α) s = (s, .ret r) := rfl
@[trd] theorem get_run (s : σ) : (M.get : M σ ε ρ σ) s = (s, .next s) := rfl
-- trap: `(if b = true then f else g) s` is an `if` applied to the state; rewriting its test by a `rfl` equation leaves
-- the `Decidable` instance of the old test behind, the term is then not type-correct for `simp` and every later
-- `simp only` does nothing, without an error.  Let `ite_run` move the state inside first, in a pass of its own, or give
-- the test as an equation of propositions.
@[trd] theorem ite_run (c : Prop) [Decidable c] (f g : σ → β) (s : σ) :
    (if c then f else g) s = if c then f s else g s := by split <;> rfl

@[trd] theorem andThen_next (k : α → M σ ε ρ β) (s : σ) (a : α) : andThen k (s, .next a) = k a s := rfl
@[trd] theorem andThen_ret (k : α → M σ ε ρ β) (s : σ) (r : ρ) : andThen k (s, .ret r) = (s, .ret r) := rfl
@[trd] theorem andThen_raise (k : α → M σ ε ρ β) (s : σ) (e : ε) : andThen k (s, .raise e) = (s, .raise e) := rfl
@[trd] theorem andThen_ite (k : α → M σ ε ρ β) (c : Prop) [Decidable c] (p q : σ × Out ε ρ α) :
    andThen k (if c then p else q) = if c then andThen k p else andThen k q := by split <;> rfl

@[trd] theorem orCatch_next (h : ε → M σ ε ρ α) (s : σ) (a : α) : orCatch h (s, .next a) = (s, .next a) := rfl
@[trd] theorem orCatch_ret (h : ε → M σ ε ρ α) (s : σ) (r : ρ) : orCatch h (s, .ret r) = (s, .ret r) := rfl
@[trd] theorem orCatch_raise (h : ε → M σ ε ρ α) (s : σ) (e : ε) : orCatch h (s, .raise e) = h e s := rfl
@[trd] theorem orCatch_ite (h : ε → M σ ε ρ α) (c : Prop) [Decidable c] (p q : σ × Out ε ρ α) :
    orCatch h (if c then p else q) = if c then orCatch h p else orCatch h q := by split <;> rfl

@[trd] theorem pair_ite (c : Prop) [Decidable c] (s : σ) (x y : Out ε ρ α) :
    (s, if c then x else y) = if c then (s, x) else (s, y) := by split <;> rfl

theorem andThen_pure_unit (p : σ × Out ε ρ Unit) : andThen (fun _ => (M.pure () : M σ ε ρ Unit)) p = p := by
  rcases p with ⟨t, o⟩; cases o <;> rfl

end Edzed.Gen.TrD
