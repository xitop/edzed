/-
The reference program of `SBlock.event`: the method written by hand in named parts, for arbitrary primitives
(`Gen.TrD.EventPrims`).  The translated program is this one (`event_eq_eventRef`: by `rfl`, up to the way the leading
type checks are written): every semantic edit of the method changes the generated text and breaks that theorem.
Then what holds of the parts whatever the primitives mean: the `except` clauses as an `if`-tree (`callPart_raise`),
and how `event()` ends given what its parts do in the states they meet (`event_of_body`, …).
It is a module of its own because three instances use it: C11 (EdzedProofs/DispatchTie.lean), C05
(EdzedProofs/InitSbEarly.lean) and C09, which cannot import DispatchTie: `Edzed.TrTie.evPrims` there would
capture the `evPrims` of C09's statements.
-/
import EdzedModel.Gen.TranslatedDispatch
import EdzedProofs.TrdRun

namespace Edzed.TrTie
open Edzed.Gen.TrD

section reference
variable {σ ε τ δ ν η ρ γ : Type} (P : EventPrims σ ε τ δ ν η ρ γ)

/-- the two `isinstance` checks at the top -/
def checkPart (etype : τ) : M σ ε ρ Unit :=
  if P.isStr etype then
    if (!P.etypeTruthy (etype)) then M.raise (P.mkExc "ValueError" "") else M.pure ()
  else
    if (!P.isEventType etype) then
      M.raise (P.mkExc "TypeError" "")
    else M.pure ()

/-- the recursion guard has found the block busy -/
def refusePart {α : Type} : M σ ε ρ α :=
  let exc := P.mkExc "EdzedCircuitError" "recursion"
  M.bind (P.abort exc) fun _ =>
  M.raise (exc)

/-- early initialisation of a block whose second initialisation step is pending -/
def initPart : M σ ε ρ Unit :=
  M.bind M.get fun st =>
  if (decide ((0 : Int) ≤ P.initSteps st) && decide (P.initSteps st < (2 : Int))) then
    M.bind (M.withCtx P.enableEnter P.enableExit (
        M.bind (P.initSblockFull) fun _ =>
        M.pure ()
      )) fun (_ : Unit) =>
    M.pure ()
  else
    M.pure ()

/-- `type(self)._ct_handlers.get(etype)` for a str, else None -/
def lookupPart (etype : τ) : M σ ε ρ (Option η) :=
  if P.isStr etype then
    let handler := P.lookup etype
    M.pure (handler)
  else
    M.pure (none)

/-- the call of the handler and the `except` clauses around it -/
def callPart (handler : Option η) (etype : τ) (data : δ) : M σ ε ρ ρ :=
  M.tryExcept (
    match handler with
    | none =>
      M.bind (P.callDefault etype data) fun retval =>
      M.pure (retval)
    | some handler =>
      M.bind (P.callHandler handler data) fun retval =>
      M.pure (retval)
  ) (fun exc_ =>
    if P.excIs exc_ "EdzedUnknownEvent" then
      M.raise exc_
    else
    if P.excIs exc_ "Exception" then
      M.bind (
        if P.tbDeep exc_ then
          let sim_err := P.mkExc "EdzedCircuitError" ""
          M.bind (P.abort sim_err) fun _ =>
          M.pure ()
        else
          M.pure ()
      ) fun (_ : Unit) =>
      M.raise exc_
    else
      M.raise exc_)

/-- the body of the outer `try` -/
def bodyPart (fuel : Nat) (etype : τ) (data : δ) : M σ ε ρ Unit :=
  M.bind (event_loop1 P data fuel etype) fun etype =>
  M.bind (initPart P) fun (_ : Unit) =>
  M.bind (lookupPart P etype) fun handler =>
  M.bind (callPart P handler etype data) fun retval =>
  M.ret (retval)

def eventRef (fuel : Nat) (etype : τ) (data : δ) : M σ ε ρ Unit :=
  M.bind (checkPart P etype) fun (_ : Unit) =>
  M.bind M.get fun st =>
  if P.getActive st then
    refusePart P
  else
    M.bind (P.setActive true) fun _ =>
    M.bind (
      M.tryFinally (bodyPart P fuel etype data) (
        M.bind (P.setActive false) fun _ =>
        M.pure ())
    ) fun (_ : Unit) =>
    M.pure ()

theorem callPart_next (handler : Option η) (etype : τ) (data : δ) (s s' : σ) (v : ρ)
    (h : handler.elim (P.callDefault etype data) (P.callHandler · data) s = (s', .next v)) :
    callPart P handler etype data s = (s', .next v) := by
  cases handler <;> dsimp only [callPart, M.tryExcept, M.bind, Option.elim] at h ⊢ <;> rw [h] <;> rfl

theorem callPart_raise (handler : Option η) (etype : τ) (data : δ) (s s' : σ) (e : ε)
    (h : handler.elim (P.callDefault etype data) (P.callHandler · data) s = (s', .raise e)) :
    callPart P handler etype data s =
      if P.excIs e "EdzedUnknownEvent" = true then (s', .raise e)
      else if P.excIs e "Exception" = true ∧ P.tbDeep e = true then
        M.bind (M.bind (P.abort (P.mkExc "EdzedCircuitError" "")) fun _ => M.pure ())
          (fun (_ : Unit) => M.raise e) s'
      else (s', .raise e) := by
  cases handler <;> dsimp only [callPart, M.tryExcept, M.bind, Option.elim] at h ⊢ <;> rw [h] <;> dsimp only
  all_goals
    cases P.excIs e "EdzedUnknownEvent" <;> cases P.excIs e "Exception" <;> cases P.tbDeep e <;> rfl

end reference

/-- a negated test is the test with the arms swapped -/
theorem ite_bnot {α : Type} (c : Bool) (a b : α) : (if (!c) = true then a else b) = if c = true then b else a := by
  cases c <;> rfl

/-- The program generated from the current source of `SBlock.event` IS the reference program: by `rfl`; or, when
    the leading type checks are written as another equivalent cascade of tests, by deciding them; or, when a test
    further down (under the binder of the loop's result) is inverted with its arms swapped, after every negated test
    on both sides has been turned round. -/
theorem event_eq_eventRef {σ ε τ δ ν η ρ γ : Type} : @event σ ε τ δ ν η ρ γ = @eventRef σ ε τ δ ν η ρ γ := by
  first
  | rfl
  | (funext P fuel etype data
     unfold event eventRef checkPart
     cases P.isStr etype <;> cases P.etypeTruthy etype <;> cases P.isEventType etype <;> rfl)
  | (funext P fuel etype data
     unfold event eventRef checkPart refusePart bodyPart initPart lookupPart callPart
     simp only [ite_bnot]
     first
     | rfl
     | (cases P.isStr etype <;> cases P.etypeTruthy etype <;> cases P.isEventType etype <;> rfl))

section stages
variable {σ ε τ δ ν η ρ γ : Type} (P : EventPrims σ ε τ δ ν η ρ γ)

/-- how `event()` ends when the body of its `try` ends with `o` -/
def eventEnd : Out ε ρ Unit → Out ε ρ Unit
  | .next _ => .next ()
  | o => o

/-- `return retval` after the call of the handler -/
def bodyEnd : Out ε ρ ρ → Out ε ρ Unit
  | .next v => .ret v
  | .ret v => .ret v
  | .raise e => .raise e
  | .diverged => .diverged

/-- an event that passes the type checks and the guard: the body with the guard set, then the `finally` -/
theorem event_of_body {n : Nat} {et : τ} {data : δ} {s s1 s2 s3 : σ} {o : Out ε ρ Unit}
    (hc : checkPart P et s = (s, .next ())) (ha : P.getActive s = false)
    (h1 : P.setActive true s = (s1, .next ())) (hb : bodyPart P n et data s1 = (s2, o))
    (h3 : P.setActive false s2 = (s3, .next ())) :
    event P n et data s = (s3, eventEnd o) := by
  rw [event_eq_eventRef]
  unfold eventRef M.tryFinally
  simp only [bind_run, hc, andThen_next, get_run, ha, Bool.false_eq_true, if_false, h1, hb, h3, pure_run]
  cases o <;> rfl

theorem bodyPart_of_call {n : Nat} {et et' : τ} {data : δ} {s1 s2 s3 : σ} {o : Out ε ρ ρ}
    (hl : event_loop1 P data n et s1 = (s1, .next et')) (hi : initPart P s1 = (s2, .next ()))
    (hcall : callPart P (if P.isStr et' then P.lookup et' else none) et' data s2 = (s3, o)) :
    bodyPart P n et data s1 = (s3, bodyEnd o) := by
  have hk : lookupPart P et' s2 = (s2, .next (if P.isStr et' then P.lookup et' else none)) := by
    unfold lookupPart; split <;> rfl
  unfold bodyPart
  simp only [bind_run, hl, andThen_next, hi, hk, hcall]
  cases o <;> rfl

theorem bodyPart_of_init_raise {n : Nat} {et et' : τ} {data : δ} {s1 s2 : σ} {e : ε}
    (hl : event_loop1 P data n et s1 = (s1, .next et')) (hi : initPart P s1 = (s2, .raise e)) :
    bodyPart P n et data s1 = (s2, .raise e) := by
  unfold bodyPart
  simp only [bind_run, hl, andThen_next, hi, andThen_raise]

end stages

end Edzed.TrTie
