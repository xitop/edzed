/-
C05 (start-up), core Lean only: the bound on `_run_tasks`; `Walk`, the traversal of the synchronous call tree
and of the phases for any preorder that contains the elementary steps, and `Grow`, what a piece of the start-up
may write (log, outputs, error register); when the start-up succeeds and what `wait_init` does then.
-/
import EdzedModel.Init
import EdzedProofs.DataLemmas

namespace Edzed.Init

def maxTimeout (l : List Task) : Nat := l.foldr (fun t m => max t.timeout m) 0

theorem stepTask_bounds (now : Nat) (t : Task) :
    now ≤ (stepTask now t).1 ∧ (stepTask now t).1 ≤ max now t.timeout := by
  unfold stepTask
  split
  · split
    · exact ⟨Nat.le_refl _, Nat.le_max_left ..⟩
    · split
      · exact ⟨Nat.le_refl _, Nat.le_max_left ..⟩
      · split
        · exact ⟨by dsimp only; omega, Nat.le_trans (by dsimp only; omega) (Nat.le_max_right ..)⟩
        · exact ⟨by dsimp only; omega, Nat.le_max_right ..⟩
  · split
    · exact ⟨Nat.le_refl _, Nat.le_max_left ..⟩
    · exact ⟨by dsimp only; omega, Nat.le_max_right ..⟩

theorem maxTimeout_cons (t : Task) (r : List Task) : maxTimeout (t :: r) = max t.timeout (maxTimeout r) := rfl

theorem runTasks_bounds (l : List Task) :
    ∀ now, now ≤ (runTasks now l).1 ∧ (runTasks now l).1 ≤ max now (maxTimeout l) := by
  induction l with
  | nil => intro now; exact ⟨Nat.le_refl _, Nat.le_max_left ..⟩
  | cons t r ih =>
    intro now
    have h1 := stepTask_bounds now t
    have h2 := ih (stepTask now t).1
    refine ⟨Nat.le_trans h1.1 h2.1, Nat.le_trans h2.2 (Nat.max_le.mpr ⟨Nat.le_trans h1.2 ?_, ?_⟩)⟩
    · exact Nat.max_le.mpr ⟨Nat.le_max_left .., Nat.le_trans (Nat.le_max_left ..) (Nat.le_max_right ..)⟩
    · exact Nat.le_trans (Nat.le_max_right t.timeout _) (Nat.le_max_right ..)

theorem maxTimeout_insertBy (key : Task → Nat) (le : Nat → Nat → Bool) (x : Task) (l : List Task) :
    maxTimeout (insertBy key le x l) = max x.timeout (maxTimeout l) := by
  induction l with
  | nil => rfl
  | cons y r ih =>
    unfold insertBy
    split
    · rw [maxTimeout_cons, ih, maxTimeout_cons, Nat.max_left_comm]
    · rfl

theorem maxTimeout_sortBy (key : Task → Nat) (le : Nat → Nat → Bool) (l : List Task) :
    maxTimeout (sortBy key le l) = maxTimeout l := by
  have h : ∀ acc, maxTimeout (l.foldl (fun acc x => insertBy key le x acc) acc)
      = max (maxTimeout l) (maxTimeout acc) := by
    induction l with
    | nil => intro acc; exact (Nat.zero_max _).symm
    | cons x r ih =>
      intro acc
      rw [List.foldl, ih, maxTimeout_insertBy, maxTimeout_cons, Nat.max_left_comm, Nat.max_assoc]
  exact (h []).trans (Nat.max_zero _)

theorem schedule_fst (tasks : List Task) : (schedule tasks).1 = (runTasks 0 (sortDesc tasks)).1 := by
  simp [schedule]

@[simp] theorem push_out (s : St) (e : Entry) : (s.push e).out = s.out := rfl
@[simp] theorem push_steps (s : St) (e : Entry) : (s.push e).steps = s.steps := rfl
@[simp] theorem push_ok (s : St) (e : Entry) : (s.push e).ok = s.ok := rfl
@[simp] theorem push_log (s : St) (e : Entry) : (s.push e).log = s.log ++ [e] := rfl
@[simp] theorem raise_out (s : St) (e : Err) : (s.raise e).out = s.out := rfl
@[simp] theorem raise_log (s : St) (e : Err) : (s.raise e).log = s.log := rfl
@[simp] theorem raise_steps (s : St) (e : Err) : (s.raise e).steps = s.steps := rfl
@[simp] theorem raise_ok (s : St) (e : Err) : (s.raise e).ok = false := by simp [St.raise, St.ok]
@[simp] theorem swallow_out (s : St) : s.swallow.out = s.out := rfl
@[simp] theorem swallow_log (s : St) : s.swallow.log = s.log := rfl
@[simp] theorem swallow_steps (s : St) : s.swallow.steps = s.steps := rfl
@[simp] theorem setOut_log (s : St) (b : Nat) (v : Val) : (s.setOut b v).log = s.log := rfl
@[simp] theorem setOut_steps (s : St) (b : Nat) (v : Val) : (s.setOut b v).steps = s.steps := rfl
@[simp] theorem setOut_ok (s : St) (b : Nat) (v : Val) : (s.setOut b v).ok = s.ok := rfl
@[simp] theorem setOut_out (s : St) (b : Nat) (v : Val) : (s.setOut b v).out = upd s.out b v := rfl
@[simp] theorem setSteps_log (s : St) (b : Nat) (k : Int) : (s.setSteps b k).log = s.log := rfl
@[simp] theorem setSteps_out (s : St) (b : Nat) (k : Int) : (s.setSteps b k).out = s.out := rfl
@[simp] theorem setSteps_ok (s : St) (b : Nat) (k : Int) : (s.setSteps b k).ok = s.ok := rfl
@[simp] theorem setSteps_steps (s : St) (b : Nat) (k : Int) : (s.setSteps b k).steps = upd s.steps b k := rfl
@[simp] theorem setActive_log (s : St) (b : Nat) (x : Bool) : (s.setActive b x).log = s.log := rfl
@[simp] theorem setActive_out (s : St) (b : Nat) (x : Bool) : (s.setActive b x).out = s.out := rfl
@[simp] theorem setActive_ok (s : St) (b : Nat) (x : Bool) : (s.setActive b x).ok = s.ok := rfl
@[simp] theorem setActive_steps (s : St) (b : Nat) (x : Bool) : (s.setActive b x).steps = s.steps := rfl
@[simp] theorem handlerFrame_log (s : St) : s.handlerFrame.log = s.log := by
  unfold St.handlerFrame; split <;> rfl
@[simp] theorem handlerFrame_out (s : St) : s.handlerFrame.out = s.out := by
  unfold St.handlerFrame; split <;> rfl
@[simp] theorem monitor_log (s : St) : s.monitor.log = s.log := by
  unfold St.monitor; split <;> rfl
@[simp] theorem monitor_out (s : St) : s.monitor.out = s.out := by
  unfold St.monitor; split <;> rfl
@[simp] theorem upd_same {α : Type} (f : Nat → α) (b : Nat) (x : α) : upd f b x b = x := by simp [upd]
theorem upd_other {α : Type} {f : Nat → α} {b i : Nat} {x : α} (h : i ≠ b) : upd f b x i = f i := if_neg h

@[simp] theorem handlerFrame_steps (s : St) : s.handlerFrame.steps = s.steps := by
  unfold St.handlerFrame; split <;> rfl
theorem handlerFrame_aborted (s : St) (h : s.aborted = true) : s.handlerFrame.aborted = true := by
  unfold St.handlerFrame; split
  · rfl
  · exact h
theorem exc_isSome_of_ok {s : St} (h : s.ok = true) : s.exc.isSome = false := by
  simp only [St.ok, Bool.and_eq_true] at h
  cases he : s.exc <;> simp_all

theorem handlerFrame_of_ok (s : St) (h : s.ok = true) : s.handlerFrame = s := by
  unfold St.handlerFrame; simp [exc_isSome_of_ok h]
theorem monitor_of_ok (s : St) (h : s.ok = true) : s.monitor = s := by
  unfold St.monitor; simp [exc_isSome_of_ok h]

@[simp] theorem monitor_steps (s : St) : s.monitor.steps = s.steps := by
  unfold St.monitor; split <;> rfl
theorem monitor_aborted (s : St) (h : s.aborted = true) : s.monitor.aborted = true := by
  unfold St.monitor; split
  · rfl
  · exact h
@[simp] theorem refuse_log (s : St) : s.refuse.log = s.log := by unfold St.refuse; split <;> rfl
@[simp] theorem refuse_steps (s : St) : s.refuse.steps = s.steps := by unfold St.refuse; split <;> rfl
@[simp] theorem refuse_out (s : St) : s.refuse.out = s.out := by unfold St.refuse; split <;> rfl
theorem refuse_aborted (s : St) : s.refuse.aborted = true := by
  unfold St.refuse; split
  · next h => exact h
  · rfl

theorem exec_not_ok (c : Cfg) (fuel : Nat) (call : Call) (s : St) (h : s.ok = false) :
    exec c fuel call s = s := by
  cases fuel with
  | zero => simp [exec, h]
  | succ f => simp [exec, body, h]

theorem foldl_exec_not_ok (c : Cfg) (l : List Nat) (s : St) (h : s.ok = false) :
    l.foldl (fun s b => exec c c.fuel (.initS b false) s) s = s := by
  induction l with
  | nil => rfl
  | cons a r ih => simp only [List.foldl]; rw [exec_not_ok c _ _ s h]; exact ih

theorem foldl_exec_ok (c : Cfg) (l : List Nat) (s : St)
    (h : (l.foldl (fun s b => exec c c.fuel (.initS b false) s) s).ok = true) : s.ok = true := by
  cases hs : s.ok with
  | true => rfl
  | false => rw [foldl_exec_not_ok c l s hs, hs] at h; cases h

theorem exec_initS (c : Cfg) (fuel : Nat) (b : Nat) (full : Bool) (s : St) (hok : s.ok = true) :
    exec c (fuel + 1) (.initS b full) s = initBody c (exec c fuel) b full s := by
  simp [exec, body, hok]

theorem initBody_zero (c : Cfg) (rec : Call → St → St) (b : Nat) (full : Bool) (s : St) (h0 : s.steps b = 0) :
    initBody c rec b full s =
      if full = true ∧ (step1 c rec b s).ok = true then step2 c rec b (step1 c rec b s) else step1 c rec b s := by
  unfold initBody; simp [h0]

theorem initBody_one (c : Cfg) (rec : Call → St → St) (b : Nat) (full : Bool) (s : St) (h1 : s.steps b = 1) :
    initBody c rec b full s = if s.ok = true then step2 c rec b s else s := by
  unfold initBody; simp [h1]

theorem initBody_done (c : Cfg) (rec : Call → St → St) (b : Nat) (full : Bool) (s : St)
    (h0 : s.steps b ≠ 0) (h1 : s.steps b ≠ 1) : initBody c rec b full s = s := by
  unfold initBody; simp [h0, h1]

theorem initdefBody_cases (c : Cfg) (rec : Call → St → St) (b : Nat) (a : St) :
    (initdefBody c rec b a = a ∧ ((c.blk b).initdef = Option.none ∨ (a.out b).isUndef = false)) ∨
    ∃ v how, (c.blk b).initdef = some (v, how) ∧ (a.out b).isUndef = true ∧
      initdefBody c rec b a = rec (applyCall how b v) (a.push (.initdef b (a.out b).isUndef)) := by
  unfold initdefBody
  split
  · next v how hv =>
    cases hu : (a.out b).isUndef with
    | true => exact .inr ⟨v, how, hv, rfl, rfl⟩
    | false => exact .inl ⟨rfl, .inr rfl⟩
  · next hv => exact .inl ⟨rfl, .inl hv⟩

/-- entries that record progress only: no routine of a block is called, nothing is refused -/
def Note : Entry → Prop
  | .start _ | .arrive _ | .asyncDone _ | .asyncFail _ | .asyncCancel _ | .fuelOut => True
  | _ => False

/-- the block has an initialisation source of its own -/
def OwnSource (k : Blk) : Prop :=
  (∃ v h, k.persist = .restores v h) ∨ (∃ v f, k.async = .returns v f) ∨ (∃ v, k.regular = .sets v) ∨
  (∃ v, k.regular = .viaEvent v) ∨ k.regular = .quietNone ∨ k.initdef.isSome = true ∨ k.start.isSome = true

/-- closure of the blocks with an own source under the on_output edges;
    defined by scripts and edges only -- the creation order does not enter -/
inductive Reach (c : Cfg) : Nat → Prop
  | own (b : Nat) : OwnSource (c.blk b) → Reach c b
  | edge (a b : Nat) : Reach c a → b ∈ (c.blk a).dests → Reach c b

/-- the blocks whose output the call sets directly are in `Q` -/
def Legit (Q : Nat → Prop) : Call → Prop
  | .setOutput b _ => Q b
  | .send ds _ => ∀ d ∈ ds, Q d
  | .event d _ => Q d
  | .initS _ _ => True

theorem applyCall_legit {Q : Nat → Prop} (how : How) (b : Nat) (v : Val) (hb : Q b) :
    Legit Q (applyCall how b v) := by
  cases how <;> exact hb

theorem legit_true (call : Call) : Legit (fun _ => True) call := by
  cases call <;> simp [Legit]

/-- an early initialisation (`init_sblock(self, full=True)` called by `event`) that does not fail completes
    both steps -/
def InitPost (rec : Call → St → St) : Prop :=
  ∀ d s, s.ok = true → (s.steps d = 0 ∨ s.steps d = 1) →
    (rec (.initS d true) s).ok = true → (rec (.initS d true) s).steps d = 2

theorem step2_ok_steps (c : Cfg) (rec : Call → St → St) (b : Nat) (s : St)
    (h : (step2 c rec b s).ok = true) : (step2 c rec b s).steps b = 2 := by
  unfold step2 at h ⊢
  dsimp only at h ⊢
  split
  · next h1 => rw [if_pos h1] at h; simp_all
  · next h1 =>
    rw [if_neg h1] at h
    split
    · next h2 => rw [if_pos h2] at h; simp_all
    · simp

theorem initBody_post (c : Cfg) (rec : Call → St → St) (d : Nat) (s : St)
    (h01 : s.steps d = 0 ∨ s.steps d = 1) (hok : (initBody c rec d true s).ok = true) :
    (initBody c rec d true s).steps d = 2 := by
  rcases h01 with h0 | h1
  · rw [initBody_zero c rec d true s h0] at hok ⊢
    by_cases hk : (step1 c rec d s).ok = true
    · rw [if_pos ⟨rfl, hk⟩] at hok ⊢; exact step2_ok_steps _ _ _ _ hok
    · rw [if_neg (fun h => hk h.2)] at hok; exact absurd hok hk
  · rw [initBody_one c rec d true s h1] at hok ⊢
    by_cases hk : s.ok = true
    · rw [if_pos hk] at hok ⊢; exact step2_ok_steps _ _ _ _ hok
    · rw [if_neg hk] at hok; exact absurd hok hk

theorem exec_initPost (c : Cfg) : ∀ fuel, InitPost (exec c fuel)
  | 0 => by
    intro d s hok _ hres
    simp only [exec, hok, if_true, raise_ok] at hres
    exact absurd hres (by simp)
  | fuel + 1 => by
    intro d s hok h01 hres
    rw [exec_initS c fuel d true s hok] at hres ⊢
    exact initBody_post c _ d s h01 hres

/-- `if 0 <= init_steps_completed < 2: with _enable_event: init_sblock(self, full=True)`, the block marked active -/
def earlyInit (rec : Call → St → St) (d : Nat) (a : St) : St :=
  if 0 ≤ a.steps d ∧ a.steps d < 2 then (rec (.initS d true) (a.setActive d false)).setActive d true else a

/-- the handler with its `except` clause, then the flag is cleared -/
def runHandler (rec : Call → St → St) (d : Nat) (v : Val) (a : St) : St :=
  (if a.ok then (rec (.setOutput d v) (a.push (.handle d v (a.steps d)))).handlerFrame else a).setActive d false

theorem eventBody_eq (rec : Call → St → St) (d : Nat) (v : Val) (s : St) :
    eventBody rec d v s =
      if (s.push (.arrive d)).active d = true then ((s.push (.arrive d)).push (.refused d)).refuse
      else runHandler rec d v (earlyInit rec d ((s.push (.arrive d)).setActive d true)) := rfl

/-! A preorder `R` on states that contains the elementary steps of the start-up contains every call of the
synchronous call tree and every phase built from such calls.  What `init_sblock` itself does (`initBody`) is
left to the relation: that is where `init_steps_completed` is handled. -/

structure Walk (c : Cfg) (Q : Nat → Prop) (R : St → St → Prop) : Prop where
  trans : ∀ {s t u}, R s t → R t u → R s u
  quiet : ∀ {s t : St}, t.log = s.log → t.steps = s.steps → t.out = s.out →
    (s.aborted = true → t.aborted = true) → R s t
  note : ∀ s e, Note e → R s (s.push e)
  refused : ∀ s d, R s ((s.push (.refused d)).refuse)
  handle : ∀ s d v, ¬ (0 ≤ s.steps d ∧ s.steps d < 2) → R s (s.push (.handle d v (s.steps d)))
  setOut : ∀ s b v, Q b → v.isUndef = false → R s (s.setOut b v)
  own : ∀ b, OwnSource (c.blk b) → Q b
  edge : ∀ a d, Q a → d ∈ (c.blk a).dests → Q d

def Sat (Q : Nat → Prop) (R : St → St → Prop) (rec : Call → St → St) : Prop :=
  ∀ call s, Legit Q call → R s (rec call s)

/-- what `init_sblock` does is in `R` whenever the nested calls are: the one obligation `Walk` leaves to the relation -/
def InitS (c : Cfg) (Q : Nat → Prop) (R : St → St → Prop) : Prop :=
  ∀ rec : Call → St → St, Sat Q R rec → ∀ b full s, R s (initBody c rec b full s)

namespace Walk
variable {c : Cfg} {Q : Nat → Prop} {R : St → St → Prop} (w : Walk c Q R)
include w

theorem refl (s : St) : R s s := w.quiet rfl rfl rfl id

theorem setOutputBody {rec : Call → St → St} (hr : Sat Q R rec) (b : Nat) (v : Val) (s : St) (hb : Q b) :
    R s (setOutputBody c rec b v s) := by
  unfold Init.setOutputBody
  split
  · exact w.quiet rfl rfl rfl id
  · next hv =>
    split
    · exact w.refl s
    · exact w.trans (w.setOut s b v hb (Bool.eq_false_iff.mpr hv)) (hr _ _ (fun d hd => w.edge b d hb hd))

theorem sendBody {rec : Call → St → St} (hr : Sat Q R rec) (ds : List Nat) (v : Val) (s : St)
    (hd : ∀ d ∈ ds, Q d) : R s (sendBody rec ds v s) := by
  unfold Init.sendBody
  cases ds with
  | nil => exact w.refl s
  | cons d r =>
    exact w.trans (hr (.event d v) _ (hd d (List.mem_cons_self ..)))
      (hr (.send r v) _ (fun x hx => hd x (List.mem_cons_of_mem _ hx)))

theorem earlyInit {rec : Call → St → St} (hr : Sat Q R rec) (hp : InitPost rec) (d : Nat) (a : St)
    (ha : a.ok = true) : R a (earlyInit rec d a) ∧
      ((earlyInit rec d a).ok = true → ¬ (0 ≤ (earlyInit rec d a).steps d ∧ (earlyInit rec d a).steps d < 2)) := by
  unfold Init.earlyInit
  split
  · next hc =>
    refine ⟨w.trans (w.quiet (t := a.setActive d false) rfl rfl rfl id)
      (w.trans (hr (.initS d true) _ trivial) (w.quiet rfl rfl rfl id)), fun hok => ?_⟩
    have := hp d (a.setActive d false) ha (by rw [setActive_steps]; omega) hok
    rw [setActive_steps]
    omega
  · next hc => exact ⟨w.refl a, fun _ => hc⟩

theorem runHandler {rec : Call → St → St} (hr : Sat Q R rec) (d : Nat) (v : Val) (a : St) (hd : Q d)
    (hh : a.ok = true → ¬ (0 ≤ a.steps d ∧ a.steps d < 2)) : R a (runHandler rec d v a) := by
  unfold Init.runHandler
  refine w.trans (t := if a.ok then
    (rec (.setOutput d v) (a.push (.handle d v (a.steps d)))).handlerFrame else a) ?_ (w.quiet rfl rfl rfl id)
  split
  · next hok =>
    exact w.trans (w.handle a d v (hh hok)) (w.trans (hr (.setOutput d v) _ hd)
      (w.quiet (handlerFrame_log _) (handlerFrame_steps _) (handlerFrame_out _) (handlerFrame_aborted _)))
  · exact w.refl a

theorem eventBody {rec : Call → St → St} (hr : Sat Q R rec) (hp : InitPost rec) (d : Nat) (v : Val) (s : St)
    (hs : s.ok = true) (hd : Q d) : R s (eventBody rec d v s) := by
  rw [eventBody_eq]
  have k1 : R s (s.push (.arrive d)) := w.note s (.arrive d) trivial
  split
  · exact w.trans k1 (w.refused _ d)
  · have k2 := w.earlyInit hr hp d ((s.push (.arrive d)).setActive d true) hs
    exact w.trans k1 (w.trans (w.quiet (t := (s.push (.arrive d)).setActive d true) rfl rfl rfl id)
      (w.trans k2.1 (w.runHandler hr d v _ hd k2.2)))

theorem regularBody {rec : Call → St → St} (hr : Sat Q R rec) (b : Nat) (s : St) :
    R s (regularBody c rec b s) := by
  unfold Init.regularBody
  split
  · exact w.refl s
  · next v hv => exact hr (.setOutput b v) _ (w.own b (Or.inr (Or.inr (Or.inl ⟨v, hv⟩))))
  · next v hv => exact hr (.event b v) _ (w.own b (Or.inr (Or.inr (Or.inr (Or.inl ⟨v, hv⟩)))))
  · exact w.quiet rfl rfl rfl id
  · next hq =>
    split
    · exact w.setOut s b _ (w.own b (Or.inr (Or.inr (Or.inr (Or.inr (Or.inl hq)))))) rfl
    · exact w.refl s

section steps
variable {rec : Call → St → St} (hr : Sat Q R rec) (b : Nat)
  (hk : ∀ s k, R s (s.setSteps b k)) (hP : ∀ s, R s (s.push (.restore b)))
  (hR : ∀ s, R s (s.push (.regular b)))
  (hD : ∀ s, (s.out b).isUndef = true → R s (s.push (.initdef b (s.out b).isUndef)))
include hr

include hk hP in
theorem step1_of_steps (s : St) : R s (step1 c rec b s) := by
  unfold step1
  dsimp only
  refine w.trans (t := match (c.blk b).persist with
    | .none => s.setSteps b (-1)
    | .raises => (s.setSteps b (-1)).push (.restore b)
    | .restores v how => (rec (applyCall how b v) ((s.setSteps b (-1)).push (.restore b))).swallow) ?_ (hk _ 1)
  have k1 : R s ((s.setSteps b (-1)).push (.restore b)) := w.trans (hk s (-1)) (hP _)
  split
  · exact hk s (-1)
  · exact k1
  · next v how hp =>
    exact w.trans k1 (w.trans (hr _ _ (applyCall_legit how b v (w.own b (Or.inl ⟨v, how, hp⟩))))
      (w.quiet rfl rfl rfl id))

include hD in
theorem initdefBody_of_steps (s : St) : R s (initdefBody c rec b s) := by
  rcases initdefBody_cases c rec b s with ⟨e, _⟩ | ⟨v, how, hv, hu, e⟩ <;> rw [e]
  · exact w.refl s
  · exact w.trans (hD s hu) (hr _ _ (applyCall_legit how b v
      (w.own b (Or.inr (Or.inr (Or.inr (Or.inr (Or.inr (Or.inl (by rw [hv]; rfl))))))))))

include hk hR hD in
theorem step2_of_steps (s : St) : R s (step2 c rec b s) := by
  unfold step2
  dsimp only
  have k1 : R s (Init.regularBody c rec b ((s.setSteps b (-2)).push (.regular b))) :=
    w.trans (w.trans (hk s (-2)) (hR _)) (w.regularBody hr b _)
  split
  · exact k1
  · have k2 := w.trans k1 (w.initdefBody_of_steps hr b hD _)
    split
    · exact k2
    · exact w.trans k2 (hk _ 2)

include hk hP hR hD in
theorem initBody_of_steps (full : Bool) (s : St) : R s (initBody c rec b full s) := by
  have h1 := w.step1_of_steps hr b hk hP
  have h2 := w.step2_of_steps hr b hk hR hD
  unfold initBody
  dsimp only
  split
  · split
    · exact w.trans (h1 s) (h2 _)
    · exact h1 s
  · split
    · exact h2 s
    · exact w.refl s

end steps

theorem exec (hi : InitS c Q R) : ∀ fuel, Sat Q R (exec c fuel)
  | 0 => by
    intro call s _
    simp only [Init.exec]
    split
    · exact w.trans (w.note s .fuelOut trivial) (w.quiet rfl rfl rfl id)
    · exact w.refl s
  | fuel + 1 => by
    intro call s hl
    show R s (body c (Init.exec c fuel) call s)
    unfold body
    split
    · exact w.refl s
    · next hok =>
      have hr := exec hi fuel
      cases call with
      | setOutput b v => exact w.setOutputBody hr b v s hl
      | send ds v => exact w.sendBody hr ds v s hl
      | event d v => exact w.eventBody hr (exec_initPost c fuel) d v s (by simpa using hok) hl
      | initS b full => exact hi _ hr b full s

theorem fold {α : Type} (f : St → α → St) (hf : ∀ s a, R s (f s a)) (l : List α) :
    ∀ s, R s (l.foldl f s) := by
  induction l with
  | nil => exact w.refl
  | cons a r ih => intro s; exact w.trans (hf s a) (ih _)

variable (hx : Sat Q R (Init.exec c c.fuel))
include hx

theorem startStep (s : St) (b : Nat) :
    R s (if !s.ok then s else
      match (c.blk b).start with
      | some v => (Init.exec c c.fuel (.setOutput b v) (s.push (.start b))).monitor
      | Option.none => s) := by
  split
  · exact w.refl s
  · split
    · next v hv =>
      exact w.trans (w.note s (.start b) trivial) (w.trans
        (hx (.setOutput b v) _ (w.own b (Or.inr (Or.inr (Or.inr (Or.inr (Or.inr (Or.inr (by rw [hv]; rfl)))))))))
        (w.quiet (monitor_log _) (monitor_steps _) (monitor_out _) (monitor_aborted _)))
    · exact w.refl s

theorem phase0 (s : St) : R s (phase0 c s) :=
  w.fold _ (w.startStep hx) _ s

theorem syncPhase (s : St) : R s (syncPhase c s) :=
  w.fold _ (fun s b => hx (.initS b false) s trivial) _ s

theorem applyEvent (s : St) (e : AEvent) : R s (applyEvent c s e) := by
  unfold Init.applyEvent
  split
  · exact w.refl s
  · split
    · exact w.note s (.asyncCancel e.blk) trivial
    · split
      · next v f hv =>
        have k := w.trans (w.note s (.asyncDone e.blk) trivial)
          (hx (.setOutput e.blk v) _ (w.own e.blk (Or.inr (Or.inl ⟨v, f, hv⟩))))
        split
        · exact w.trans k (w.quiet (monitor_log _) (monitor_steps _) (monitor_out _) (monitor_aborted _))
        · exact w.trans k (w.quiet rfl rfl rfl id)
      · exact w.note s (.asyncFail e.blk) trivial
      · exact w.refl s

omit hx in
theorem check (s : St) : R s (check c s) := by
  unfold Init.check
  split
  · exact w.refl _
  · split
    · exact w.refl _
    · exact w.quiet rfl rfl rfl id

omit hx in
theorem firstPass (s : St) : R s (firstPass c s) := by
  unfold Init.firstPass
  split
  · exact w.refl _
  · dsimp only; split <;> exact w.quiet rfl rfl rfl id

theorem lastPhases (s : St) : R s (Init.firstPass c (Init.check c (Init.syncPhase c s))) :=
  w.trans (w.syncPhase hx s) (w.trans (w.check _) (w.firstPass _))

end Walk

/-- what the property says about single calls -/
def EntryOK : Entry → Prop
  | .async _ u t => u = true ∧ t > 0            -- init_async only if uninitialised and init_timeout > 0
  | .initdef _ u => u = true                    -- initdef only if still uninitialised
  | .handle _ _ k => ¬ (0 ≤ k ∧ k < 2)          -- a handler never runs with pending synchronous steps
  | _ => True

def isAsync : Entry → Bool
  | .async _ _ _ => true
  | _ => false

/-- a piece of the start-up appends legitimate entries, none of them an `init_async`; if a refusal is among
    them the error register is set, and the register is never cleared; outputs are set in `Q` only -/
structure Grow (Q : Nat → Prop) (s t : St) : Prop where
  ext : ∃ e, t.log = s.log ++ e ∧ (∀ x ∈ e, EntryOK x ∧ isAsync x = false) ∧
    ((∃ d, Entry.refused d ∈ e) → t.aborted = true)
  ab : s.aborted = true → t.aborted = true
  out : ∀ x, t.out x ≠ .undef → s.out x ≠ .undef ∨ Q x

namespace Grow
variable {Q : Nat → Prop}

theorem quiet {s t : St} (hl : t.log = s.log) (ho : t.out = s.out) (ha : s.aborted = true → t.aborted = true) :
    Grow Q s t :=
  ⟨⟨[], by simp [hl], by simp, by simp⟩, ha, fun x hx => Or.inl (by rw [← ho]; exact hx)⟩

theorem trans {s t u : St} (h1 : Grow Q s t) (h2 : Grow Q t u) : Grow Q s u := by
  obtain ⟨e1, he1, hn1, hr1⟩ := h1.ext
  obtain ⟨e2, he2, hn2, hr2⟩ := h2.ext
  refine ⟨⟨e1 ++ e2, by rw [he2, he1, List.append_assoc], ?_, ?_⟩, fun h => h2.ab (h1.ab h), ?_⟩
  · intro x hx
    rcases List.mem_append.mp hx with hx | hx
    · exact hn1 x hx
    · exact hn2 x hx
  · intro ⟨d, hd⟩
    rcases List.mem_append.mp hd with hd | hd
    · exact h2.ab (hr1 ⟨d, hd⟩)
    · exact hr2 ⟨d, hd⟩
  · intro x hx
    rcases h2.out x hx with h | h
    · exact h1.out x h
    · exact Or.inr h

theorem push (s : St) (e : Entry) (he : EntryOK e) (ha : isAsync e = false) (hr : ∀ d, e ≠ .refused d) :
    Grow Q s (s.push e) :=
  ⟨⟨[e], rfl, fun x hx => by rw [List.mem_singleton.mp hx]; exact ⟨he, ha⟩,
    fun ⟨d, hd⟩ => absurd (List.mem_singleton.mp hd).symm (hr d)⟩, id, fun _ hx => Or.inl hx⟩

end Grow

theorem growWalk (c : Cfg) (Q : Nat → Prop) (own : ∀ b, OwnSource (c.blk b) → Q b)
    (edge : ∀ a d, Q a → d ∈ (c.blk a).dests → Q d) : Walk c Q (Grow Q) where
  trans := Grow.trans
  quiet := fun hl _ ho ha => Grow.quiet hl ho ha
  note := fun s e he => Grow.push s e (by cases e <;> trivial) (by cases e <;> first | rfl | cases he)
    (fun d h => by rw [h] at he; exact he)
  refused := fun s d =>
    ⟨⟨[.refused d], by rw [refuse_log]; rfl, fun x hx => by rw [List.mem_singleton.mp hx]; exact ⟨trivial, rfl⟩,
      fun _ => refuse_aborted _⟩, fun _ => refuse_aborted _, fun x hx => Or.inl (by rw [refuse_out] at hx; exact hx)⟩
  handle := fun s d v h => Grow.push s _ h rfl nofun
  setOut := fun s b v hb _ =>
    ⟨⟨[], by simp, by simp, by simp⟩, id, fun x hx => by
      by_cases e : x = b
      · exact Or.inr (e ▸ hb)
      · left; simpa [upd_other e] using hx⟩
  own := own
  edge := edge

theorem Grow.initBody {c : Cfg} {Q : Nat → Prop} (w : Walk c Q (Grow Q)) : InitS c Q (Grow Q) :=
  fun _ hr b full s => w.initBody_of_steps hr b (fun _ _ => Grow.quiet rfl rfl id)
    (fun s => Grow.push s _ trivial rfl nofun) (fun s => Grow.push s _ trivial rfl nofun)
    (fun s hu => Grow.push s _ hu rfl nofun) full s

theorem mem_eligible (c : Cfg) (s : St) (b : Nat) :
    b ∈ eligible c s ↔
      b < c.n ∧ (s.out b).isUndef = true ∧ (c.blk b).async ≠ .none ∧ (c.blk b).timeout > 0 := by
  simp [eligible, and_assoc]

/-- the entries written when the tasks are created -/
def asyncEntries (c : Cfg) (s : St) : List Entry :=
  if s.ok then (eligible c s).map fun b => .async b (s.out b).isUndef (c.blk b).timeout else []

/-- the state in which the tasks have been created and none has run yet -/
def started (c : Cfg) (s : St) : St := { s with log := s.log ++ asyncEntries c s }

theorem pushAsync_eq (c : Cfg) (out0 : Nat → Val) (l : List Nat) : ∀ s : St, s.out = out0 →
    l.foldl (fun (s : St) b => s.push (.async b (s.out b).isUndef (c.blk b).timeout)) s =
      { s with log := s.log ++ l.map fun b => Entry.async b (out0 b).isUndef (c.blk b).timeout } := by
  induction l with
  | nil => intro s _; simp
  | cons b r ih =>
    intro s ho
    have h := ih (s.push (.async b (s.out b).isUndef (c.blk b).timeout)) ho
    subst ho
    simp only [List.foldl, h]
    simp [St.push]

theorem asyncPhase_not_ok (c : Cfg) (s : St) (h : s.ok = false) : asyncPhase c s = s := by
  unfold asyncPhase; simp [h]

theorem started_not_ok (c : Cfg) (s : St) (h : s.ok = false) : started c s = s := by
  simp [started, asyncEntries, h]

theorem asyncPhase_ok (c : Cfg) (s : St) (h : s.ok = true) :
    ∃ (evs : List AEvent) (n : Nat), asyncPhase c s =
      if (evs.foldl (applyEvent c) (started c s)).ok
      then { evs.foldl (applyEvent c) (started c s) with elapsed := n }
      else evs.foldl (applyEvent c) (started c s) := by
  refine ⟨(schedule ((eligible c s).map (mkTask c))).2, (schedule ((eligible c s).map (mkTask c))).1, ?_⟩
  have e : started c s = (eligible c s).foldl
      (fun (s : St) b => s.push (.async b (s.out b).isUndef (c.blk b).timeout)) s := by
    rw [pushAsync_eq c s.out _ s rfl, started, asyncEntries, h, if_pos rfl]
  rw [e]
  unfold asyncPhase
  simp only [h, Bool.not_true, Bool.false_eq_true, if_false]

theorem Walk.asyncPhase {c : Cfg} {Q : Nat → Prop} {R : St → St → Prop} (w : Walk c Q R)
    (hx : Sat Q R (Init.exec c c.fuel)) (s : St) : R (started c s) (Init.asyncPhase c s) := by
  cases hok : s.ok with
  | false => rw [asyncPhase_not_ok c s hok, started_not_ok c s hok]; exact w.refl s
  | true =>
    obtain ⟨evs, n, e⟩ := asyncPhase_ok c s hok
    rw [e]
    have k := w.fold (Init.applyEvent c) (w.applyEvent hx) evs (started c s)
    generalize evs.foldl (Init.applyEvent c) (started c s) = t at k ⊢
    split
    · exact w.trans k (w.quiet rfl rfl rfl id)
    · exact k

theorem Walk.run {c : Cfg} {Q : Nat → Prop} {R : St → St → Prop} (w : Walk c Q R)
    (hx : Sat Q R (Init.exec c c.fuel)) :
    R init (afterSync1 c) ∧ R (started c (afterSync1 c)) (run c) :=
  ⟨w.trans (w.phase0 hx init) (w.syncPhase hx _), w.trans (w.asyncPhase hx _) (w.lastPhases hx _)⟩

/-- log entries are legitimate, only reachable blocks get an output, a refused recursive event has set the error
    register -/
structure Inv (c : Cfg) (s : St) : Prop where
  log : ∀ e ∈ s.log, EntryOK e
  out : ∀ b, s.out b ≠ .undef → Reach c b
  rf : (∃ d, Entry.refused d ∈ s.log) → s.aborted = true

theorem Grow.inv {c : Cfg} {s t : St} (h : Grow (Reach c) s t) (hi : Inv c s) : Inv c t := by
  obtain ⟨e, he, hn, hr⟩ := h.ext
  refine ⟨fun x hx => ?_, fun b hb => ?_, fun ⟨d, hd⟩ => ?_⟩
  · rw [he] at hx
    rcases List.mem_append.mp hx with hx | hx
    · exact hi.log x hx
    · exact (hn x hx).1
  · rcases h.out b hb with h' | h'
    · exact hi.out b h'
    · exact h'
  · rw [he] at hd
    rcases List.mem_append.mp hd with hd | hd
    · exact h.ab (hi.rf ⟨d, hd⟩)
    · exact hr ⟨d, hd⟩

theorem started_inv {c : Cfg} {s : St} (hi : Inv c s) : Inv c (started c s) := by
  have hm : ∀ x ∈ asyncEntries c s, EntryOK x ∧ ∀ d, x ≠ .refused d := by
    intro x hx
    unfold asyncEntries at hx
    split at hx
    · obtain ⟨b, hb, rfl⟩ := List.mem_map.mp hx
      exact ⟨⟨((mem_eligible c s b).mp hb).2.1, ((mem_eligible c s b).mp hb).2.2.2⟩, nofun⟩
    · cases hx
  refine ⟨fun x hx => ?_, hi.out, fun ⟨d, hd⟩ => ?_⟩
  · rcases List.mem_append.mp hx with hx | hx
    · exact hi.log x hx
    · exact (hm x hx).1
  · rcases List.mem_append.mp hd with hd | hd
    · exact hi.rf ⟨d, hd⟩
    · exact absurd rfl ((hm _ hd).2 d)

theorem init_inv (c : Cfg) : Inv c init :=
  ⟨fun _ he => (nomatch he), fun _ hb => absurd rfl hb, fun ⟨_, hd⟩ => (nomatch hd)⟩

theorem afterSync2_inv (c : Cfg) : Inv c (syncPhase c (afterAsync c)) := by
  have w := growWalk c (Reach c) Reach.own Reach.edge
  have hx := w.exec (Grow.initBody w) c.fuel
  exact (w.syncPhase hx _).inv ((w.asyncPhase hx _).inv (started_inv ((w.run hx).1.inv (init_inv c))))

theorem run_inv (c : Cfg) : Inv c (run c) :=
  have w := growWalk c (Reach c) Reach.own Reach.edge
  (w.trans (w.check _) (w.firstPass _)).inv (afterSync2_inv c)

theorem ok_iff (s : St) : s.ok = true ↔ s.exc = Option.none ∧ s.aborted = false := by
  simp only [St.ok, Bool.and_eq_true]
  cases s.exc <;> cases s.aborted <;> simp

theorem swallow_ok_of_ok (s : St) (h : s.ok = true) : s.swallow.ok = true := by
  simp only [St.ok, St.swallow, Bool.and_eq_true] at h ⊢
  exact ⟨rfl, h.2⟩

theorem failed_eq_not_ok (s : St) : s.failed = !s.ok := by
  simp only [St.failed, St.ok]
  cases s.aborted <;> cases s.exc <;> simp

theorem not_ok_of_aborted {s : St} (h : s.aborted = true) : s.ok = false := by
  simp [St.ok, h]

theorem allInitialised_iff (c : Cfg) (s : St) :
    allInitialised c s = true ↔ ∀ b, b < c.n → s.out b ≠ .undef := by
  simp [allInitialised, Val.isUndef_false_iff]

theorem check_of_not_ok (c : Cfg) (s : St) (h : s.ok = false) : check c s = s := by
  unfold check; simp [h]

theorem check_of_ok (c : Cfg) (s : St) (h : s.ok = true) :
    check c s = if allInitialised c s = true then s else s.raise .notInit := by
  unfold check; simp [h]

theorem check_not_ok (c : Cfg) (s : St) (h : s.ok = false) : (check c s).ok = false := by
  rw [check_of_not_ok c s h]; exact h

theorem check_ok_iff (c : Cfg) (s : St) :
    (check c s).ok = true ↔ s.ok = true ∧ allInitialised c s = true := by
  cases hs : s.ok with
  | false => simp [check_not_ok c s hs]
  | true => rw [check_of_ok c s hs]; cases allInitialised c s <;> simp [hs]

theorem firstPass_of_ok (c : Cfg) (s : St) (h : s.ok = true) :
    firstPass c s = if c.cblocks.any CScript.fails = true then ({ s with initDone := true } : St).raise .firstPass
      else { s with initDone := true, firstPassDone := true, cout := c.cblocks.map CScript.value } := by
  unfold firstPass; simp [h]

theorem firstPass_ok_iff (c : Cfg) (s : St) :
    (firstPass c s).ok = true ↔ s.ok = true ∧ c.cblocks.any CScript.fails = false := by
  cases hs : s.ok with
  | false => simp [firstPass, hs]
  | true =>
    rw [firstPass_of_ok c s hs]
    cases c.cblocks.any CScript.fails
    · exact ⟨fun _ => ⟨rfl, rfl⟩, fun _ => hs⟩
    · rw [if_pos rfl, raise_ok]
      exact ⟨fun h => (nomatch h), fun h => (nomatch h.2)⟩

theorem run_ok_iff (c : Cfg) :
    (run c).ok = true ↔ (syncPhase c (afterAsync c)).ok = true ∧
      allInitialised c (syncPhase c (afterAsync c)) = true ∧ c.cblocks.any CScript.fails = false := by
  show (firstPass c (check c _)).ok = true ↔ _
  rw [firstPass_ok_iff, check_ok_iff, and_assoc]

theorem run_of_ok (c : Cfg) (h : (run c).ok = true) :
    run c = { syncPhase c (afterAsync c) with
      initDone := true, firstPassDone := true, cout := c.cblocks.map CScript.value } := by
  obtain ⟨fok, hall, hcb⟩ := (run_ok_iff c).mp h
  show firstPass c (check c _) = _
  rw [check_of_ok c _ fok, if_pos hall, firstPass_of_ok c _ fok, hcb]
  rfl

theorem not_error_of_returned {v : View} (h : waitInit v = .returned) : v.error = false := by
  rcases v with ⟨i, d, e⟩
  revert h
  cases i <;> cases d <;> cases e <;> decide

theorem waitInit_raised {v : View} (he : v.error = true) (hw : waitInit v ≠ .waiting) : waitInit v = .raised := by
  rcases v with ⟨i, d, e⟩
  revert he hw
  cases i <;> cases d <;> cases e <;> decide

end Edzed.Init
