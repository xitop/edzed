/- Laws of the value domain (`==` is reflexive and symmetric, UNDEF, the truth value of a bool) and of the event-data dictionary
   `Data`, whose operations are observed through `get?` -/
import EdzedModel.Basic.Val

namespace Edzed.Data

theorem get?_cons (p : String × Val) (d : Data) (k : String) :
    get? (p :: d) k = if p.1 = k then some p.2 else get? d k := by
  unfold get?
  by_cases h : p.1 = k <;> simp [h]

theorem has_cons (p : String × Val) (d : Data) (k : String) :
    has (p :: d) k = (p.1 == k || has d k) := by
  unfold has; simp

theorem has_eq_isSome (d : Data) (k : String) : has d k = (get? d k).isSome := by
  induction d with
  | nil => rfl
  | cons p d ih =>
    rw [get?_cons, has_cons, ih]
    by_cases h : p.1 = k <;> simp [h]

theorem has_of_get?_some {d : Data} {k : String} {v : Val} (h : d.get? k = some v) : d.has k = true := by
  rw [has_eq_isSome, h]
  rfl

theorem has_of_mem_keys (d : Data) (k : String) (h : k ∈ d.map (·.1)) : d.has k = true := by
  obtain ⟨p, hp, rfl⟩ := List.mem_map.mp h
  exact List.any_eq_true.mpr ⟨p, hp, by simp⟩

theorem get?_append (d e : Data) (k : String) :
    get? (d ++ e) k = match get? d k with | some v => some v | none => get? e k := by
  induction d with
  | nil => rfl
  | cons p d ih =>
    simp only [List.cons_append, get?_cons]
    by_cases h : p.1 = k <;> simp [h, ih]

/-- the replacing branch of `set` -/
theorem get?_replace (d : Data) (k : String) (v : Val) (k' : String) :
    get? (d.map (fun p => if p.1 == k then (k, v) else p)) k' =
      if k' = k then (if has d k then some v else none) else get? d k' := by
  induction d with
  | nil => simp [get?, has]
  | cons p d ih =>
    simp only [List.map_cons, get?_cons, ih, has_cons]
    by_cases h1 : p.1 = k <;> by_cases h2 : k' = k <;> grind

theorem get?_set (d : Data) (k : String) (v : Val) (k' : String) :
    get? (set d k v) k' = if k' = k then some v else get? d k' := by
  have hh : set d k v =
      if has d k then d.map (fun p => if p.1 == k then (k, v) else p) else d ++ [(k, v)] := rfl
  rw [hh]
  by_cases h : has d k = true
  · simp only [h, if_true, get?_replace]
  · have hn : get? d k = none := by
      rw [has_eq_isSome] at h; simpa using h
    rw [if_neg h, get?_append, get?_cons]
    by_cases h2 : k' = k
    · subst h2; simp [hn]
    · have : ¬ k = k' := fun e => h2 e.symm
      simp only [h2, this, if_false]
      cases get? d k' <;> rfl

theorem get?_set_same (d : Data) (k : String) (v : Val) : (d.set k v).get? k = some v := by
  rw [get?_set, if_pos rfl]

theorem get?_set_other (d : Data) (k k' : String) (v : Val) (h : k' ≠ k) :
    (d.set k v).get? k' = d.get? k' := by
  rw [get?_set, if_neg h]

theorem has_set_of_has (d : Data) (k k' : String) (v : Val) (h : d.has k' = true) :
    (d.set k v).has k' = true := by
  rw [has_eq_isSome] at h ⊢
  rw [get?_set]
  split
  · rfl
  · exact h

theorem erase_cons (p : String × Val) (d : Data) (k : String) :
    erase (p :: d) k = if p.1 = k then erase d k else p :: erase d k := by
  unfold erase
  by_cases h : p.1 = k <;> simp [h]

/-- `d.pop(k, None)` / `del d[k]` -/
theorem get?_erase (d : Data) (k k' : String) :
    get? (erase d k) k' = if k' = k then none else get? d k' := by
  induction d with
  | nil => simp [erase, get?]
  | cons p d ih =>
    rw [erase_cons]
    by_cases h1 : p.1 = k
    · simp only [h1, if_true, ih, get?_cons]; grind
    · simp only [h1, if_false, ih, get?_cons]; grind

theorem has_erase_of_ne (d : Data) (k k' : String) (hne : k' ≠ k) (h : d.has k' = true) :
    (d.erase k).has k' = true := by
  rw [has_eq_isSome] at h ⊢
  rw [get?_erase, if_neg hne]
  exact h

end Edzed.Data

namespace Edzed

theorem Atom.pyEq_refl (a : Atom) : a.pyEq a = true := by
  cases a <;> simp [Atom.pyEq]

theorem Atom.listEq_refl (l : List Atom) : Atom.listEq l l = true := by
  induction l with
  | nil => rfl
  | cons a l ih => simp [Atom.listEq, Atom.pyEq_refl, ih]

theorem Val.pyEq_refl (v : Val) : v.pyEq v = true := by
  cases v <;> simp [Val.pyEq, Atom.pyEq_refl, Atom.listEq_refl]

theorem Val.bool_truthy (x : Bool) : (Val.bool x).truthy = x := by
  cases x <;> decide

theorem Val.bool_isUndef (x : Bool) : (Val.bool x).isUndef = false := rfl

theorem Atom.pyEq_comm (a b : Atom) : a.pyEq b = b.pyEq a := by
  cases a <;> cases b <;> simp [Atom.pyEq, Bool.beq_comm]

theorem Atom.listEq_comm (l m : List Atom) : Atom.listEq l m = Atom.listEq m l := by
  induction l generalizing m with
  | nil => cases m <;> rfl
  | cons a l ih => cases m with
    | nil => rfl
    | cons b m => simp [Atom.listEq, Atom.pyEq_comm a b, ih m]

theorem Val.pyEq_comm (v w : Val) : v.pyEq w = w.pyEq v := by
  cases v <;> cases w <;> simp [Val.pyEq, Atom.pyEq_comm, Atom.listEq_comm]

theorem Val.undef_pyEq (w : Val) : Val.pyEq .undef w = w.isUndef := by
  cases w <;> rfl

theorem Val.pyEq_not_undef (a v : Val) (h : a.pyEq v = true) (hv : v.isUndef = false) : a.isUndef = false := by
  cases a with
  | undef => rw [Val.undef_pyEq, hv] at h; cases h
  | _ => rfl

theorem Val.isUndef_iff (w : Val) : w.isUndef = true ↔ w = .undef := by
  cases w <;> simp [Val.isUndef]

theorem Val.isUndef_false_iff (w : Val) : w.isUndef = false ↔ w ≠ .undef := by
  cases w <;> simp [Val.isUndef]

end Edzed
