/-
Tie by translation for C15: the primitives of the generated programs (lean/EdzedModel/Gen/TranslatedWiring.lean,
namespace Edzed.Gen.TrW) interpreted in the hand-written model (`prims`), and the lemmas behind the
`translated_wiring_…` theorems of EdzedProps/C15.lean: each translated method, run on any circuit, is the model's
operation (`ofExcept`, `ofState`).  No proof spells out generated text: the programs are regenerated from the Python
source at every check.  So a call or a loop is stated followed by an arbitrary rest (`checked_run`, `bind_stage`,
`items_stage`): a user rewrites with it and never names the result of the call; and what a loop lemma assumes of the
body of the loop is one equation for the body, in the primitives (`resolve_loop`) or through the model's step
(`ItemBody`, `conn_loop`, `pass_loop`): the caller only evaluates generated text.  Names: `…_run` a translated method is
the model's operation; `…_loop` a loop with an arbitrary body; `…_stage` a call or loop followed by an arbitrary rest.
-/
import EdzedModel.Wiring
import EdzedModel.Gen.TranslatedWiring
import EdzedProofs.Wiring
import EdzedProofs.PyBool

namespace Edzed.WiringTie
open Edzed.Wiring

def excOf : Err → Gen.TrW.PyExc
  | .keyError => "KeyError"
  | .valueError => "ValueError"
  | .typeError => "TypeError"
  | .invalidState => "EdzedInvalidState"
  | .circuitError => "EdzedCircuitError"

/-- Python `d[k] = v` on the ordered dict `CBlock.inputs` -/
def dictSet (l : Inputs) (k : String) (v : Inp) : Inputs :=
  if l.any (fun p => p.1 == k) then l.map (fun p => if p.1 == k then (k, v) else p) else l ++ [(k, v)]

/-- a positional argument of `connect()` is one reference -/
def argRef : Inp → Ref
  | .single r => r
  | .group _ => .val .undef

def refOfS : SRef → Ref
  | .name s => .name s
  | .obj n => .obj false n

def sOfRef : Ref → SRef
  | .obj _ n => .obj n
  | .name s => .name s
  | _ => .name ""

def setAt (l : List Slot) (i : Nat) (f : Slot → Slot) : List Slot :=
  match l, i with
  | [], _ => []
  | x :: r, 0 => f x :: r
  | x :: r, i + 1 => x :: setAt r i f

/-- indices (with the required type) of the registrations that still hold a name, from `i` on -/
def unresolvedFrom : Nat → List Slot → List (Nat × Bool)
  | _, [] => []
  | i, sl :: r =>
    match sl.ref with
    | .name _ => (i, sl.needS) :: unresolvedFrom (i + 1) r
    | .obj _ => unresolvedFrom (i + 1) r

/-- the primitives in the model; `newKind`: the class of the block being created (`addblock`) -/
def prims (newKind : BKind) : Gen.TrW.WPrims Circ String Inp Inp Ref (Option Nat) (Nat × Bool) Bool where
  hasError c := c.stopped
  finalized c := c.finalized
  setFinalized v c := { c with finalized := v }
  setStorage d c := { c with storage := d }
  isBlockObj _ := true
  nameKnown c n := (c.kind n).isSome
  storeBlock n c := { c with order := c.order ++ [n], kind := upd c.kind n (some newKind) }
  inputsTruthy c b := !(c.inputs b).isEmpty
  isIterator _ := false
  isStr a := match a with
    | .single (.name _) => true
    | .single (.val (.atom (.str _))) => true
    | _ => false
  isSequence a := match a with
    | .group _ => true
    | .single r => r.isMultiple
  storeArgs l := .group (l.map argRef)
  storeTuple a := normInp a
  storeSingle a := a
  setInput b k v c := { c with inputs := upd c.inputs b (dictSet (c.inputs b) k v) }
  snapshot t c := match t with
    | .cblock => cblockNames c
    | .not => notNames c
  inputItems c b := c.inputs b
  isGroup i := match i with
    | .group _ => true
    | .single _ => false
  members i := i.refs
  single i := match i with
    | .single r => r
    | .group _ => .val .undef
  mkGroup rs := .group rs
  mkSingle r := .single r
  validateBlk r c := match validateBlk c r with
    | .ok (c', r') => (c', .ok r')
    | .error e => (c, .error (excOf e))
  isConst r := match r with
    | .obj _ _ => false
    | _ => true
  addIconn b r c := match r with
    | .obj _ a => { c with iconn := upd c.iconn b (addSet (c.iconn b) a) }
    | _ => c
  addOconnByName r b c := match r with
    | .obj _ a => { c with oconn := upd c.oconn a (addSet (c.oconn a) b) }
    | _ => c
  getRef c k := match c.slots[k.1]? with
    | some sl => refOfS sl.ref
    | none => .val .undef
  setRef k r c := { c with slots := setAt c.slots k.1 fun sl => { sl with ref := sOfRef r } }
  refIsStr r := match r with
    | .name _ => true
    | _ => false
  isInstance c r needS := match r with
    | .obj _ n =>
      match c.kind n with
      | none => false
      | some k => !(needS && k != .s)
    | _ => false
  appendUnresolved _ c := c                 -- the worklist is derived: the registrations holding a name
  unresolved c := unresolvedFrom 0 c.slots
  clearUnresolved c := c
  typeOf k := k.2

def outcome {α : Type} (r : Circ × Except Gen.TrW.PyExc α) : Circ × Option Gen.TrW.PyExc :=
  match r with
  | (c, .ok _) => (c, none)
  | (c, .error e) => (c, some e)

/-- what the model's operation reports, as a run of a program: on an error the circuit is unchanged -/
def ofExcept (c : Circ) : Except Err Circ → Circ × Except Gen.TrW.PyExc Unit
  | .ok c' => (c', .ok ())
  | .error e => (c, .error (excOf e))

/-- how the model reports the state reached and the error, as a run of a program -/
def ofState (r : Circ × Option Err) : Circ × Except Gen.TrW.PyExc Unit :=
  match r with
  | (w, none) => (w, .ok ())
  | (w, some e) => (w, .error (excOf e))

/-- the keys of every `CBlock.inputs` dict are distinct (they are the keys of a Python dict) -/
def KeysOK (c : Circ) : Prop :=
  ∀ b cls, c.kind b = some (.c cls) → ((c.inputs b).map (·.1)).Nodup

section monad
variable {σ α β γ : Type}

theorem gets_bind (f : σ → α) (k : α → Gen.TrW.W σ β) (s : σ) :
    Gen.TrW.W.bind (Gen.TrW.W.gets f) k s = k (f s) s := rfl

theorem pure_bind (a : α) (k : α → Gen.TrW.W σ β) (s : σ) :
    Gen.TrW.W.bind (Gen.TrW.W.pure a) k s = k a s := rfl

theorem modify_bind (f : σ → σ) (k : Unit → Gen.TrW.W σ β) (s : σ) :
    Gen.TrW.W.bind (Gen.TrW.W.modify f) k s = k () (f s) := rfl

theorem raise_bind (e : Gen.TrW.PyExc) (k : α → Gen.TrW.W σ β) (s : σ) :
    Gen.TrW.W.bind (Gen.TrW.W.raise e) k s = (s, .error e) := rfl

theorem bind_bind (m : Gen.TrW.W σ α) (f : α → Gen.TrW.W σ β) (g : β → Gen.TrW.W σ γ) (s : σ) :
    Gen.TrW.W.bind (Gen.TrW.W.bind m f) g s = Gen.TrW.W.bind m (fun a => Gen.TrW.W.bind (f a) g) s := by
  unfold Gen.TrW.W.bind
  rcases m s with ⟨s1, r⟩
  cases r <;> rfl
theorem bind_ok {m : Gen.TrW.W σ α} {s s' : σ} {a : α} (h : m s = (s', .ok a)) (k : α → Gen.TrW.W σ β) :
    Gen.TrW.W.bind m k s = k a s' := by
  unfold Gen.TrW.W.bind; rw [h]
theorem bind_err {m : Gen.TrW.W σ α} {s s' : σ} {e : Gen.TrW.PyExc} (h : m s = (s', .error e))
    (k : α → Gen.TrW.W σ β) : Gen.TrW.W.bind m k s = (s', .error e) := by
  unfold Gen.TrW.W.bind; rw [h]
theorem ite_run (c : Bool) (a b : Gen.TrW.W σ α) (s : σ) :
    (if c = true then a else b) s = if c = true then a s else b s := by
  cases c <;> rfl

theorem test_run {σ α : Type} (f : σ → Bool) (a b : Gen.TrW.W σ α) (s : σ) :
    Gen.TrW.W.bind (Gen.TrW.W.gets f) (fun c_ => if c_ = true then a else b) s = if f s = true then a s else b s := by
  show (if f s = true then a else b) s = _
  cases f s <;> rfl

end monad

theorem prims_isBlockObj (k : BKind) (n : String) : (prims k).isBlockObj n = true := rfl
theorem prims_nameKnown (k : BKind) (c : Circ) (n : String) : (prims k).nameKnown c n = (c.kind n).isSome := rfl

theorem checkNotFinalized_run (k : BKind) (c : Circ) :
    Gen.TrW.checkNotFinalized (prims k) c =
      (c, match Wiring.checkNotFinalized c with
          | Except.ok () => Except.ok ()
          | Except.error e => Except.error (excOf e)) := by
  rcases c with ⟨_, _, _, _, _, fin, st, _, _⟩
  cases st <;> cases fin <;> rfl

theorem checked_run {α : Type} (kd : BKind) (k : Unit → Gen.TrW.W Circ α) (c : Circ) :
    Gen.TrW.W.bind (Gen.TrW.checkNotFinalized (prims kd)) k c =
      match Wiring.checkNotFinalized c with
      | .error e => (c, .error (excOf e))
      | .ok () => k () c := by
  have h := checkNotFinalized_run kd c
  cases hc : Wiring.checkNotFinalized c with
  | error e => rw [hc] at h; exact bind_err h k
  | ok u => rw [hc] at h; exact bind_ok h k

theorem isMultiple_prims (k : BKind) (a : Inp) :
    Gen.TrW.isMultiple (prims k) a = (match a with
      | .group _ => true
      | .single r => r.isMultiple) := by
  cases a with
  | group rs => rfl
  | single r =>
    cases r with
    | val v =>
      cases v with
      | atom a => cases a <;> rfl
      | _ => rfl
    | _ => rfl

theorem stored_is_normInp (k : BKind) (a : Inp) :
    (if Gen.TrW.isMultiple (prims k) a then (prims k).storeTuple a else (prims k).storeSingle a) = normInp a := by
  cases a with
  | group rs => rfl
  | single r =>
    cases r with
    | val v =>
      cases v with
      | atom a => cases a <;> rfl
      | _ => rfl
    | _ => rfl

theorem pos_stage {α : Type} (body : Unit → Inp → Gen.TrW.W Circ Unit)
    (hbody : ∀ r c, body () (Inp.single r) c = (c, if r.isMultiple then .error "ValueError" else .ok ()))
    (k : Unit → Gen.TrW.W Circ α) (c : Circ) (pos : List Ref) :
    Gen.TrW.W.bind (Gen.TrW.W.foldM (pos.map Inp.single) () body) k c =
      if pos.any Ref.isMultiple then (c, .error "ValueError") else k () c := by
  induction pos with
  | nil => rfl
  | cons r rest ih =>
    rw [List.map_cons, Gen.TrW.W.foldM, bind_bind, Gen.TrW.W.bind, hbody, List.any_cons]
    cases r.isMultiple
    · exact ih
    · rfl

theorem dictSet_new (l : Inputs) (k : String) (v : Inp) (h : l.any (fun p => p.1 == k) = false) :
    dictSet l k v = l ++ [(k, v)] := by
  simp [dictSet, h]

theorem prims_setInput (k : BKind) (c : Circ) (b x : String) (v : Inp) :
    (prims k).setInput b x v c = { c with inputs := upd c.inputs b (dictSet (c.inputs b) x v) } := rfl

theorem kw_loop (k : BKind) (b : String) (body : Unit → String × Inp → Gen.TrW.W Circ Unit)
    (hbody : ∀ x c, body () x c = ((prims k).setInput b x.1 (normInp x.2) c, .ok ()))
    (named : Inputs) : ∀ (c : Circ), (named.map (·.1)).Nodup →
    (∀ p ∈ named, (c.inputs b).any (fun q => q.1 == p.1) = false) →
    Gen.TrW.W.foldM named () body c =
      ({ c with inputs := upd c.inputs b (c.inputs b ++ named.map fun p => (p.1, normInp p.2)) }, .ok ()) := by
  induction named with
  | nil =>
    intro c _ _
    show (c, _) = _
    rw [List.map_nil, List.append_nil, upd_self]
  | cons p rest ih =>
    intro c hnd hnew
    obtain ⟨kk, i⟩ := p
    rw [List.map_cons, List.nodup_cons] at hnd
    have h0 := hnew (kk, i) (List.mem_cons_self ..)
    rw [Gen.TrW.W.foldM, bind_ok (hbody (kk, i) c), prims_setInput, dictSet_new _ _ _ h0, ih _ hnd.2]
    · simp only [upd_same, upd_upd, List.map_cons, List.append_assoc, List.cons_append, List.nil_append]
    · intro p hp
      simp only [upd_same, List.any_append, hnew p (List.mem_cons_of_mem _ hp)]
      have : kk ≠ p.1 := fun e => hnd.1 (e ▸ List.mem_map.mpr ⟨p, hp, rfl⟩)
      simp [this]

theorem prims_inputsTruthy (k : BKind) (c : Circ) (b : String) :
    (prims k).inputsTruthy c b = !(c.inputs b).isEmpty := rfl

theorem prims_storeArgs (k : BKind) (l : List Inp) : (prims k).storeArgs l = .group (l.map argRef) := rfl

theorem connect_run (k : BKind) (c : Circ) (b : String) (cls : CCls) (pos : List Ref) (named : Inputs)
    (hb : c.kind b = some (.c cls)) (hnd : (named.map (·.1)).Nodup) :
    Gen.TrW.connect (prims k) b (pos.map Inp.single) named c = ofExcept c (Wiring.connect c b pos named) := by
  unfold Gen.TrW.connect Wiring.connect
  simp only [hb]
  rw [checked_run]
  cases Wiring.checkNotFinalized c with
  | error e => rfl
  | ok u =>
    -- the refusals of program and model are the same tests in the same order: both are turned into the same tree of
    -- `if`s (`test_run`, `apply_ite`), then descended by `ite_congr rfl`; `split`, or a case distinction taken while the
    -- goal still holds the whole translated method, elaborates that method again at every leaf and is very slow to check
    simp only [test_run, prims_inputsTruthy, List.isEmpty_map, Bool.not_not, apply_ite (ofExcept c)]
    -- (the second test up to the order of its conjuncts and the spelling of its negations)
    refine ite_congr rfl (fun _ => rfl) fun hin =>
      ite_congr (by simp only [Bool.and_comm, pybool]) (fun _ => rfl) fun _ => ite_congr rfl (fun _ => rfl) fun hu => ?_
    -- the keyword loop (it stands in both arms of `if args:`) appends one item per name to a dict without them
    generalize hK : Gen.TrW.W.bind (Gen.TrW.W.bind (Gen.TrW.W.pure named) _) _ = kw
    have hkw : ∀ c : Circ, (∀ p ∈ named, (c.inputs b).any (fun q => q.1 == p.1) = false) →
        kw c = ({ c with inputs := upd c.inputs b (c.inputs b ++ named.map fun p => (p.1, normInp p.2)) }, .ok ()) := by
      intro c hnew
      rw [← hK, bind_bind, pure_bind]
      refine (bind_ok (kw_loop k b _ (fun x c => ?_) named c hnd hnew) _).trans rfl
      rw [modify_bind, stored_is_normInp]; rfl
    clear hK
    have hin' : c.inputs b = [] := List.isEmpty_iff.mp (by simpa using hin)
    cases hp : pos.isEmpty
    · simp only [Bool.not_false, if_true, bind_bind, pure_bind]
      rw [pos_stage _ fun r c => ?body]
      case body =>
        simp only [gets_bind, isMultiple_prims]
        cases r.isMultiple <;> rfl
      refine ite_congr rfl (fun _ => rfl) fun _ => ?_
      rw [modify_bind, prims_setInput, prims_storeArgs, hin', List.map_map,
        show List.map (argRef ∘ Inp.single) pos = pos from List.map_id'' (fun _ => rfl) pos, hkw]
      · simp only [ofExcept, upd_same, upd_upd, connectInputs, hp, Bool.false_eq_true, if_false]
        rfl
      · intro p hp'
        have hne : ¬(p.1 == "_") = true := fun e => hu (List.any_eq_true.mpr ⟨p, hp', e⟩)
        have : ("_" == p.1) = false := beq_eq_false_iff_ne.mpr fun e => hne (e ▸ beq_self_eq_true _)
        show List.any (upd c.inputs b [("_", Inp.group pos)] b) _ = false
        rw [upd_same, List.any_cons, this]
        rfl
    · cases List.isEmpty_iff.mp hp
      refine (hkw c (by intro p _; rw [hin']; rfl)).trans ?_
      rw [hin']
      rfl

theorem setPersistentData_run (k : BKind) (c : Circ) (d : Option Nat) :
    Gen.TrW.setPersistentData (prims k) d c = ofExcept c (Wiring.setStorage c d) := by
  unfold Gen.TrW.setPersistentData Wiring.setStorage
  rw [checked_run]
  cases Wiring.checkNotFinalized c <;> rfl

theorem addblock_eq (k : BKind) (c : Circ) (n : String) :
    Gen.TrW.addblock (prims k) n c =
      match Wiring.checkNotFinalized c with
      | .error e => (c, .error (excOf e))
      | .ok () =>
        if (c.kind n).isSome then (c, .error "ValueError") else ((prims k).storeBlock n c, .ok ()) := by
  unfold Gen.TrW.addblock
  rw [checked_run]
  cases Wiring.checkNotFinalized c with
  | error e => rfl
  | ok u =>
    -- the atoms of the two tests decided, the tests evaluated in whatever form the source writes them
    cases hk : (c.kind n).isSome <;>
      simp only [test_run, prims_isBlockObj, prims_nameKnown, hk, pybool, ↓reduceIte] <;> rfl

/-- `Block.__init__`'s name rules come first, then `Circuit.addblock` -/
theorem addblock_run (k : BKind) (c : Circ) (n : String) (reserved : Bool) :
    Wiring.addBlock c n k reserved =
      if n.isEmpty then .error .valueError
      else if startsUnderscore n && !reserved then .error .valueError
      else match Gen.TrW.addblock (prims k) n c with
        | (c', .ok ()) => .ok c'
        | (_, .error _) =>
          match Wiring.checkNotFinalized c with
          | .error e => .error e
          | .ok () => .error .valueError := by
  unfold Wiring.addBlock
  rw [addblock_eq]
  cases Wiring.checkNotFinalized c with
  | error e => rfl
  | ok u => cases (c.kind n).isSome <;> rfl

def withSlots (l : List Slot) (c : Circ) : Circ := { c with slots := l }

/-- the guards of the model's operations read nothing of the registrations: `Except.map` goes through
    the `if`s, and what is left agrees by computation -/
theorem addBlock_slots (c : Circ) (l : List Slot) (n : String) (k : BKind) (r : Bool) :
    Wiring.addBlock (withSlots l c) n k r = (Wiring.addBlock c n k r).map (withSlots l) := by
  unfold Wiring.addBlock
  have h1 : Wiring.checkNotFinalized (withSlots l c) = Wiring.checkNotFinalized c := rfl
  have h2 : (withSlots l c).kind = c.kind := rfl
  rw [h1, h2]
  cases Wiring.checkNotFinalized c <;> simp only [apply_ite (Except.map (withSlots l))] <;> rfl

theorem connect_slots (c : Circ) (l : List Slot) (b : String) (pos : List Ref) (named : Inputs) :
    Wiring.connect (withSlots l c) b pos named = (Wiring.connect c b pos named).map (withSlots l) := by
  unfold Wiring.connect
  have h1 : Wiring.checkNotFinalized (withSlots l c) = Wiring.checkNotFinalized c := rfl
  have h2 : (withSlots l c).kind = c.kind := rfl
  have h3 : (withSlots l c).inputs = c.inputs := rfl
  rw [h1, h2, h3]
  generalize c.kind b = kb
  rcases kb with _ | _ | cls
  · rfl
  · rfl
  · cases Wiring.checkNotFinalized c <;> simp only [apply_ite (Except.map (withSlots l))] <;> rfl

theorem findblock_slots (c : Circ) (l : List Slot) (s : String) :
    Wiring.findblock (withSlots l c) s = (Wiring.findblock c s).map (fun p => (withSlots l p.1, p.2)) := by
  unfold Wiring.findblock withSlots
  cases (c.kind s).isSome <;> simp [Except.map]

theorem validateName_slots (c : Circ) (l : List Slot) (s : String) :
    Wiring.validateName (withSlots l c) s =
      (Wiring.validateName c s).map (fun p => (withSlots l p.1, p.2)) := by
  unfold Wiring.validateName
  rw [findblock_slots, addBlock_slots, addBlock_slots]
  have hk : (withSlots l c).kind = c.kind := rfl
  rw [hk]
  cases (startsUnderscore s && !(c.kind s).isSome)
  · rfl
  cases (s == "_ctrl")
  · cases notTarget? s with
    | none => rfl
    | some t =>
      cases Wiring.addBlock c s (.c .not) true with
      | error e => rfl
      | ok c1 =>
        simp only [Except.map, connect_slots]
        cases Wiring.connect c1 s [.name t] [] <;> rfl
  · cases Wiring.addBlock c s .s true <;> rfl

theorem validateBlk_slots (c : Circ) (l : List Slot) (r : Ref) :
    Wiring.validateBlk (withSlots l c) r =
      (Wiring.validateBlk c r).map (fun p => (withSlots l p.1, p.2)) := by
  cases r with
  | const v => rfl
  | name s => exact validateName_slots c l s
  | obj f n =>
    simp only [Wiring.validateBlk]
    have hk : (withSlots l c).kind = c.kind := rfl
    rw [hk]
    split <;> rfl
  | val v =>
    cases v with
    | undef => rfl
    | tup l => rfl
    | lst l => rfl
    | atom a =>
      cases a with
      | none => rfl
      | num q k => rfl
      | str s => exact validateName_slots c l s

theorem getElem?_done (done rest : List Slot) (sl : Slot) :
    (done ++ sl :: rest)[done.length]? = some sl := by
  simp

theorem setAt_done (done rest : List Slot) (sl : Slot) (f : Slot → Slot) :
    setAt (done ++ sl :: rest) done.length f = done ++ f sl :: rest := by
  induction done with
  | nil => rfl
  | cons x r ih => simp [setAt, ih]

theorem getRef_at (kd : BKind) (cm : Circ) (done rest : List Slot) (sl : Slot) (b : Bool) :
    (prims kd).getRef (withSlots (done ++ sl :: rest) cm) (done.length, b) = refOfS sl.ref := by
  show (match (done ++ sl :: rest)[done.length]? with
    | some sl => refOfS sl.ref
    | none => .val .undef) = _
  rw [getElem?_done]

theorem setRef_at (kd : BKind) (cm : Circ) (done rest : List Slot) (sl : Slot) (b : Bool) (r : Ref) :
    (prims kd).setRef (done.length, b) r (withSlots (done ++ sl :: rest) cm) =
      withSlots (done ++ { sl with ref := sOfRef r } :: rest) cm := by
  show withSlots (setAt (done ++ sl :: rest) done.length _) cm = _
  rw [setAt_done]

theorem prims_validateBlk (kd : BKind) (r : Ref) (c : Circ) :
    (prims kd).validateBlk r c = (match Wiring.validateBlk c r with
      | .ok (c', r') => (c', .ok r')
      | .error e => (c, .error (excOf e))) := rfl

theorem prims_isInstance_obj (kd : BKind) (c : Circ) (f : Bool) (n : String) (needS : Bool) :
    (prims kd).isInstance c (.obj f n) needS =
      match c.kind n with
      | none => false
      | some k => !(needS && k != .s) := rfl

theorem checkType_obj (kd : BKind) (c : Circ) (s : String) (needS : Bool) :
    Gen.TrW.checkType (prims kd) (.obj false s) needS c =
      (c, match c.kind s with
          | none => .error "TypeError"
          | some k => if needS && k != .s then .error "TypeError" else .ok ()) := by
  unfold Gen.TrW.checkType
  simp only [test_run, prims_isInstance_obj]
  cases c.kind s with
  | none => simp only [pybool, ↓reduceIte]; rfl
  | some k => cases needS <;> cases hk : (k != BKind.s) <;> simp only [hk, pybool, ↓reduceIte] <;> rfl

theorem bind_stage {m : Gen.TrW.W Circ Unit} {k : Unit → Gen.TrW.W Circ Unit} {c : Circ}
    {r : Circ × Option Err} {f : Circ → Circ × Option Err} (hm : m c = ofState r)
    (hk : ∀ w, r = (w, none) → k () w = ofState (f w)) :
    Gen.TrW.W.bind m k c = ofState (match (generalizing := false) r with
      | (w, some e) => (w, some e)
      | (w, none) => f w) := by
  obtain ⟨w, e⟩ := r
  cases e with
  | some e => exact bind_err hm k
  | none => exact (bind_ok hm k).trans (hk w rfl)

theorem bind_skip {m : Gen.TrW.W Circ Unit} {k : Unit → Gen.TrW.W Circ Unit} {c : Circ}
    {r : Circ × Option Err} (hm : m c = ofState r) (hk : ∀ w, k () w = (w, .ok ())) :
    Gen.TrW.W.bind m k c = ofState r := by
  obtain ⟨w, e⟩ := r
  cases e with
  | some e => exact bind_err hm k
  | none => exact (bind_ok hm k).trans (hk w)

theorem resolve_loop (kd : BKind) (body : Unit → Nat × Bool → Gen.TrW.W Circ Unit)
    (hbody : ∀ (k : Nat × Bool) (c : Circ), body () k c =
      Gen.TrW.W.bind ((prims kd).validateBlk ((prims kd).getRef c k)) (fun r =>
        Gen.TrW.W.bind (Gen.TrW.checkType (prims kd) r k.2) fun _ => Gen.TrW.W.modify ((prims kd).setRef k r)) c)
    (todo : List Slot) : ∀ (done : List Slot) (cm : Circ),
    Gen.TrW.W.foldM (unresolvedFrom done.length todo) () body (withSlots (done ++ todo) cm) =
      ofState (Wiring.resolveSlots cm done todo) := by
  induction todo with
  | nil =>
    intro done cm
    simp only [unresolvedFrom, Gen.TrW.W.foldM, Gen.TrW.W.pure, List.append_nil, Wiring.resolveSlots, ofState]
    rfl
  | cons sl rest ih =>
    intro done cm
    unfold Wiring.resolveSlots unresolvedFrom
    have hnext : ∀ (sl' : Slot) (c1 : Circ), Gen.TrW.W.foldM (unresolvedFrom (done.length + 1) rest) () body
        (withSlots (done ++ sl' :: rest) c1) = ofState (Wiring.resolveSlots c1 (done ++ [sl']) rest) := by
      intro sl' c1
      have := ih (done ++ [sl']) c1
      simp only [List.length_append, List.length_cons, List.length_nil, List.append_assoc, List.cons_append,
        List.nil_append] at this
      exact this
    cases hs : sl.ref with
    | obj n => exact hnext sl cm
    | name s =>
      simp only [Gen.TrW.W.foldM, Gen.TrW.W.bind, hbody, Gen.TrW.W.modify]
      rw [getRef_at, hs, show refOfS (.name s) = .name s from rfl, prims_validateBlk,
        validateBlk_slots]
      cases hv : Wiring.validateBlk cm (.name s) with
      | error e => rfl
      | ok p =>
        obtain ⟨c1, r'⟩ := p
        obtain ⟨rfl, hn⟩ := validateName_spec (show Wiring.validateName cm s = .ok (c1, r') from hv)
        obtain ⟨kk, hkk⟩ := Option.isSome_iff_exists.mp hn.kind
        have hct := checkType_obj kd (withSlots (done ++ sl :: rest) c1) s sl.needS
        rw [show (withSlots (done ++ sl :: rest) c1).kind = c1.kind from rfl, hkk] at hct
        simp only [hkk, show (some kk != some BKind.s) = (kk != .s) from rfl, Except.map, hct]
        cases (sl.needS && kk != .s)
        · simp only [Bool.false_eq_true, if_false, setRef_at]
          exact hnext _ c1
        · rfl

theorem resolve_run (kd : BKind) (c : Circ) :
    Gen.TrW.resolve (prims kd) c = ofState (Wiring.resolve c) := by
  unfold Gen.TrW.resolve
  rw [bind_bind, gets_bind]
  refine bind_skip (resolve_loop kd _ (fun k c => ?_) c.slots [] c) fun _ => rfl
  rw [bind_bind, gets_bind]
  rfl

/-- `_BlockResolver.register`, run on the holder object just created (the last registration) -/
theorem register_run (kd : BKind) (c : Circ) (r : SRef) (needS : Bool) :
    Gen.TrW.register (prims kd) (c.slots.length, needS) (withSlots (c.slots ++ [⟨r, needS⟩]) c) =
      match Wiring.register c r needS with
      | .ok c' => (c', .ok ())
      | .error e => (withSlots (c.slots ++ [⟨r, needS⟩]) c, .error (excOf e)) := by
  unfold Gen.TrW.register Wiring.register
  rw [gets_bind, getRef_at]
  cases r with
  | name s => rfl
  | obj n =>
    have hct := checkType_obj kd (withSlots (c.slots ++ [⟨.obj n, needS⟩]) c) n needS
    rw [show (withSlots (c.slots ++ [⟨.obj n, needS⟩]) c).kind = c.kind from rfl] at hct
    cases hkn : c.kind n with
    | none =>
      simp only [hkn] at hct ⊢
      exact bind_err hct _
    | some k =>
      simp only [hkn] at hct ⊢
      cases hc : (needS && k != .s)
      · rw [hc] at hct
        exact bind_ok hct _
      · rw [hc] at hct
        exact bind_err hct _

theorem validateOutput_run (kd : BKind) (b : String) (r : Ref) (c : Circ) :
    Gen.TrW.validateOutput (prims kd) b r c = (prims kd).validateBlk r c := by
  unfold Gen.TrW.validateOutput Gen.TrW.W.tryExcept
  rcases (prims kd).validateBlk r c with ⟨c1, res⟩
  cases res with
  | ok a => rfl
  | error e => simp only; split <;> rfl

theorem validate_stage {α : Type} (kd : BKind) (b : String) (r : Ref) (k : Ref → Gen.TrW.W Circ α) (c : Circ) :
    Gen.TrW.W.bind (Gen.TrW.validateOutput (prims kd) b r) k c =
      match Wiring.validateBlk c r with
      | .error e => (c, .error (excOf e))
      | .ok (c1, r') => k r' c1 := by
  rw [Gen.TrW.W.bind, validateOutput_run, prims_validateBlk]
  cases Wiring.validateBlk c r <;> rfl

theorem mapM_stage {α : Type} (kd : BKind) (b : String) (rs : List Ref) :
    ∀ (k : List Ref → Gen.TrW.W Circ α) (c : Circ),
    Gen.TrW.W.bind (Gen.TrW.W.mapM rs fun r => Gen.TrW.validateOutput (prims kd) b r) k c =
      match Wiring.validateList c rs with
      | (c1, .error e) => (c1, .error (excOf e))
      | (c1, .ok rs') => k rs' c1 := by
  induction rs with
  | nil => intro k c; rfl
  | cons r rest ih =>
    intro k c
    rw [Gen.TrW.W.mapM, bind_bind, validate_stage, Wiring.validateList]
    cases Wiring.validateBlk c r with
    | error e => rfl
    | ok p =>
      simp only [bind_bind, ih, pure_bind]
      cases Wiring.validateList p.1 rest with
      | mk c2 res => cases res <;> rfl

theorem map_replace_of_absent (l : Inputs) (k : String) (v : Inp) (h : ∀ p ∈ l, p.1 ≠ k) :
    l.map (fun p => if p.1 == k then (k, v) else p) = l := by
  induction l with
  | nil => rfl
  | cons x r ih =>
    rw [List.map_cons, if_neg (by simpa using h x (List.mem_cons_self ..)),
      ih fun p hp => h p (List.mem_cons_of_mem _ hp)]

theorem dictSet_mid (done rest : Inputs) (k : String) (i v : Inp)
    (hnd : ((done ++ (k, i) :: rest).map (·.1)).Nodup) :
    dictSet (done ++ (k, i) :: rest) k v = done ++ (k, v) :: rest := by
  rw [List.map_append, List.map_cons, List.nodup_append, List.nodup_cons] at hnd
  obtain ⟨_, ⟨hr, _⟩, hd⟩ := hnd
  have hany : (done ++ (k, i) :: rest).any (fun p => p.1 == k) = true := by simp
  rw [dictSet, if_pos hany, List.map_append, List.map_cons, if_pos (beq_self_eq_true k),
    map_replace_of_absent done k v fun p hp e =>
      hd p.1 (List.mem_map.mpr ⟨p, hp, rfl⟩) k (List.mem_cons_self ..) e,
    map_replace_of_absent rest k v fun p hp e => hr (e ▸ List.mem_map.mpr ⟨p, hp, rfl⟩)]

theorem setInput_mid (kd : BKind) {c1 : Circ} {b k : String} {i : Inp} {done rest : Inputs} (v : Inp)
    (hin : c1.inputs b = done ++ (k, i) :: rest) (hnd : ((done ++ (k, i) :: rest).map (·.1)).Nodup) :
    (prims kd).setInput b k v c1 = { c1 with inputs := upd c1.inputs b (done ++ (k, v) :: rest) } := by
  rw [prims_setInput, hin, dictSet_mid _ _ _ _ _ hnd]

/-- the body of the loop over `blk.inputs.items()`: it resolves one item as the model's `resolveInput` does, stores it
    under its name and collects the resolved references -/
abbrev ItemBody (kd : BKind) (b : String) (body : List Ref → String × Inp → Gen.TrW.W Circ (List Ref)) : Prop :=
  ∀ (c : Circ) (k : String) (i : Inp) (acc : List Ref),
    body acc (k, i) c =
      (match Wiring.resolveInput c i with
        | (c1, .error e) => (c1, .error (excOf e))
        | (c1, .ok i') => ((prims kd).setInput b k i' c1, .ok (acc ++ i'.refs)))

/-- storing by name is storing in place, since the names are distinct and resolving leaves the dict alone -/
theorem items_stage {α : Type} (kd : BKind) (b : String)
    (body : List Ref → String × Inp → Gen.TrW.W Circ (List Ref))
    (hbody : ItemBody kd b body)
    (rest : List Ref → Gen.TrW.W Circ α)
    (todo : Inputs) : ∀ (c : Circ) (done : Inputs) (acc : List Ref),
    (c.kind b).isSome → c.inputs b = done ++ todo → ((done ++ todo).map (·.1)).Nodup →
    Gen.TrW.W.bind (Gen.TrW.W.foldM todo acc body) rest c =
      (match Wiring.resolveItems c b done todo with
        | (c', none) => rest (acc ++ allRefs (mapI todo)) c'
        | (c', some e) => (c', .error (excOf e))) := by
  induction todo with
  | nil =>
    intro c done acc _ _ _
    simp [Gen.TrW.W.foldM, pure_bind, Wiring.resolveItems, mapI, allRefs]
  | cons p tl ih =>
    obtain ⟨k, i⟩ := p
    intro c done acc hb hin hnd
    rw [Gen.TrW.W.foldM, bind_bind, Gen.TrW.W.bind, hbody, Wiring.resolveItems]
    cases hr : Wiring.resolveInput c i with
    | mk c1 res =>
      have ri := resolveInput_rl hr
      cases res with
      | error e => rfl
      | ok i' =>
        simp only [setInput_mid kd i' ((ri.1.grow.inputs b id hb).trans hin) hnd]
        rw [ih { c1 with inputs := upd c1.inputs b (done ++ (k, i') :: tl) } (done ++ [(k, i')]) _
          (ri.1.grow.isSome hb) (by simp [upd]) (by simpa [List.map_append] using hnd)]
        have : allRefs (mapI ((k, i) :: tl)) = i'.refs ++ allRefs (mapI tl) := by
          rw [ri.2 i' rfl, ← allRefs_cons (k := k)]; simp [mapI]
        rw [this, List.append_assoc]

theorem conn_loop (b : String) (body : Unit → Ref → Gen.TrW.W Circ Unit)
    (hbody : ∀ r c, body () r c = (Wiring.connectAll c b [r], .ok ())) (refs : List Ref) :
    ∀ (c : Circ), Gen.TrW.W.foldM refs () body c = (Wiring.connectAll c b refs, .ok ()) := by
  induction refs with
  | nil => intro c; rfl
  | cons r rest ih =>
    intro c
    rw [Gen.TrW.W.foldM, bind_ok (hbody r c), ih]
    cases r <;> rfl

/-- an older block keeps what its inputs resolve to, hence their names; a new block is an SBlock or a fresh inverter -/
theorem keysOK_growR {P : String → Prop} {c c' : Circ} (g : GrowR P c c') (hk : KeysOK c) : KeysOK c' := by
  intro x cls hx
  cases hc : c.kind x with
  | some k0 =>
    have := g.kind x k0 hc
    rw [hx] at this; cases this
    rw [← mapI_keys, g.res x (isSome_of_kind hc), mapI_keys]
    exact hk x cls hc
  | none =>
    obtain ⟨_, t, ht, _⟩ := g.new_cblock hc hx
    rw [ht]
    simp

theorem pass_loop (body : Unit → String → Gen.TrW.W Circ Unit)
    (hbody : ∀ b c, (c.kind b).isSome → ((c.inputs b).map (·.1)).Nodup →
      body () b c = ofState (Wiring.finalizeBlk c b))
    (L : List String) : ∀ (c : Circ), KeysOK c → (∀ b ∈ L, ∃ cls, c.kind b = some (.c cls)) →
    Gen.TrW.W.foldM L () body c = ofState (Wiring.finalizePass c L) := by
  induction L with
  | nil => intro c _ _; rfl
  | cons b rest ih =>
    intro c hk hL
    obtain ⟨cls, hb⟩ := hL b (List.mem_cons_self ..)
    exact bind_stage (hbody b c (isSome_of_kind hb) (hk b cls hb)) fun c1 hf =>
      ih c1 (keysOK_growR (finalizeBlk_fb (isSome_of_kind hb) hf).grow hk) fun x hx => by
        obtain ⟨cx, hcx⟩ := hL x (List.mem_cons_of_mem _ hx)
        exact ⟨cx, (finalizeBlk_fb (isSome_of_kind hb) hf).grow.kind x _ hcx⟩

theorem blk_run (kd : BKind) (b : String) (c : Circ) (body : List Ref → String × Inp → Gen.TrW.W Circ (List Ref))
    (hbody : ItemBody kd b body)
    (rest : List Ref → Gen.TrW.W Circ Unit) (hrest : ∀ refs c1, rest refs c1 = (Wiring.connectAll c1 b refs, .ok ()))
    (hb : (c.kind b).isSome) (hnd : ((c.inputs b).map (·.1)).Nodup) :
    Gen.TrW.W.bind (Gen.TrW.W.foldM (c.inputs b) [] body) rest c = ofState (Wiring.finalizeBlk c b) := by
  rw [items_stage kd b body hbody rest _ c [] [] hb rfl hnd, Wiring.finalizeBlk]
  cases hr : Wiring.resolveItems c b [] (c.inputs b) with
  | mk c1 e =>
    cases e with
    | some e => rfl
    | none =>
      simp only [hrest, ofState, (resolveItems_rl b _ c [] _ _ hb rfl hr).2 rfl, List.nil_append]

theorem snapshot_cblock (kd : BKind) (c : Circ) : (prims kd).snapshot .cblock c = cblockNames c := rfl
theorem snapshot_not (kd : BKind) (c : Circ) : (prims kd).snapshot .not c = notNames c := rfl

theorem finalizeCore_keys {c c' : Circ} (hk : KeysOK c) (h : Wiring.finalizeCore c = (c', none)) :
    KeysOK c' := by
  obtain ⟨c1, e1, p1, ⟨_, hne, _⟩ | ⟨_, p2⟩⟩ := finalizeCore_passes h
  · exact absurd rfl hne
  · exact keysOK_growR p2.grow (keysOK_growR p1.grow hk)

theorem passes_loop (kd : BKind) (F : Unit → Gen.TrW.BType → Gen.TrW.W Circ Unit)
    (hF : ∀ t c, KeysOK c → F () t c = ofState (Wiring.finalizePass c ((prims kd).snapshot t c)))
    (c : Circ) (hk : KeysOK c) :
    Gen.TrW.W.foldM [.cblock, .not] () F c = ofState (Wiring.finalizeCore c) :=
  bind_stage (hF .cblock c hk) fun c1 h1 =>
    bind_skip (hF .not c1 (keysOK_growR
      (finalizePass_fp _ c c1 none (fun _ => isSome_of_mem_cblockNames) h1).grow hk)) fun _ => rfl

/-- the second snapshot is taken from the circuit the first pass left -/
theorem finalizeInner_run (kd : BKind) (c : Circ) (hk : KeysOK c) :
    Gen.TrW.finalizeInner (prims kd) c = ofState (Wiring.finalizeCore c) ∧
    (∀ c', Wiring.finalizeCore c = (c', none) → KeysOK c') := by
  refine ⟨?_, fun c' => finalizeCore_keys hk⟩
  have hcls : ∀ (t : Gen.TrW.BType) (c : Circ), ∀ b ∈ (prims kd).snapshot t c,
      ∃ cls, c.kind b = some (.c cls) := by
    intro t c b hb
    cases t with
    | cblock => exact (mem_cblockNames.mp hb).2
    | not => exact ⟨.not, (mem_notNames.mp hb).2⟩
  unfold Gen.TrW.finalizeInner
  rw [bind_bind, pure_bind]
  refine bind_skip (passes_loop kd _ (fun t c hk => ?_) c hk) fun _ => rfl
  simp only [bind_bind, gets_bind]
  refine bind_skip (pass_loop _ (fun b c hb hnd => ?_) _ c hk (hcls t c)) fun _ => rfl
  simp only [pure_bind, bind_bind, gets_bind]
  refine blk_run kd b c _ (fun c k i acc => ?_) _ (fun refs c1 => ?_) hb hnd
  · rw [gets_bind]
    cases i with
    | group rs =>
      rw [show (prims kd).isGroup (.group rs) = true from rfl, show (prims kd).members (.group rs) = rs from rfl,
        if_pos rfl, mapM_stage, Wiring.resolveInput]
      cases Wiring.validateList c rs with
      | mk c1 res => cases res <;> rfl
    | single r =>
      rw [show (prims kd).isGroup (.single r) = false from rfl, show (prims kd).single (.single r) = r from rfl,
        if_neg Bool.false_ne_true, validate_stage, Wiring.resolveInput]
      cases Wiring.validateBlk c r <;> rfl
  · rw [bind_bind, pure_bind]
    exact (bind_ok (conn_loop b _ (fun r c => by cases r <;> rfl) refs c1) _).trans rfl

theorem resolveSlots_keys {c c' : Circ} {done todo : List Slot} {e : Option Err}
    (h : Wiring.resolveSlots c done todo = (c', e)) (hk : KeysOK c) : KeysOK c' :=
  -- the growth is to `{ c' with slots := c.slots }`; applied to `b cls hb` its `KeysOK` is that of `c'` by computation
  fun b cls hb => keysOK_growR (GrowR.ofNoP (resolveSlots_grow _ _ _ _ _ h).1) hk b cls hb

theorem finalize_run (kd : BKind) (c : Circ) (hk : KeysOK c) :
    Gen.TrW.finalize (prims kd) c = ofState (Wiring.finalize c) := by
  unfold Gen.TrW.finalize Wiring.finalize
  rw [gets_bind, show (prims kd).finalized c = c.finalized from rfl]
  cases c.finalized
  · exact bind_stage (resolve_run kd c) fun c1 h1 =>
      bind_stage (finalizeInner_run kd c1 (resolveSlots_keys h1 hk)).1 fun c2 _ => rfl
  · rfl

/-- the model's completion of the wiring at the start -/
def startPrefix (c : Circ) : Circ × Option Err :=
  match Wiring.resolve c with
  | (c1, some e) => (c1, some e)
  | (c1, none) => Wiring.finalize c1

theorem startWiring_run (kd : BKind) (c : Circ) (hk : KeysOK c) :
    Gen.TrW.startWiring (prims kd) c = ofState (startPrefix c) :=
  bind_stage (resolve_run kd c) fun c1 h1 =>
    bind_skip (finalize_run kd c1 (resolveSlots_keys h1 hk)) fun _ => rfl

theorem start_uses_prefix (c : Circ) (h1 : c.stopped = false) (h2 : c.order.isEmpty = false) :
    Wiring.start c =
      (match startPrefix c with
        | (c2, some e) => ({ c2 with stopped := true }, some e)
        | (c2, none) => ({ c2 with stopped := true }, Wiring.startBlocks c2 c2.order)) := by
  unfold Wiring.start startPrefix
  simp only [h1, h2, Bool.false_eq_true, if_false]
  cases Wiring.resolve c with
  | mk c1 e1 =>
    cases e1 with
    | some e => rfl
    | none =>
      simp only
      cases Wiring.finalize c1 with
      | mk c2 e2 => cases e2 <;> rfl

end Edzed.WiringTie
