/-
Lemmas for C19 (EdzedProps/C19.lean), about the model of `edzed/utils/timeunits.py`.  A duration string is
described by a rendering (`TradR`, `IsoR`: number texts, letters, whitespace) or by a well-formed
beginning in front of any rest (`TradP`, `IsoP`).  The matchers read the pieces of a beginning group by
group, which leaves them at a known place (`matchTrad_prefix`, `matchIso_prefix`): from there a rendering
is accepted, and a rest that no group still open can take is refused (`matchTrad_stuck`, `matchIso_stuck`).
The evaluation loop depends on the captured numbers only, and what `timestr`/`timestr_approx` print is such
a rendering (`printR`).  The roundings of `timestr_approx` are followed through its chain of `if`s by one
invariant (`Chain`).
-/
import EdzedModel.TimeUnits

namespace Edzed.TimeUnits

/-- lets the examples of C19 evaluate `convert` on concrete strings by `decide` -/
instance : DecidableEq (Except Err Rat) := fun a b =>
  match a, b with
  | .ok x, .ok y => if h : x = y then isTrue (by rw [h]) else isFalse (fun e => h (by cases e; rfl))
  | .error x, .error y => if h : x = y then isTrue (by rw [h]) else isFalse (fun e => h (by cases e; rfl))
  | .ok _, .error _ => isFalse (fun e => nomatch e)
  | .error _, .ok _ => isFalse (fun e => nomatch e)

theorem secPerDay_eq : Gen.secPerDay = 86400 := by decide
theorem secPerHour_eq : Gen.secPerHour = 3600 := by decide
theorem secPerMin_eq : Gen.secPerMin = 60 := by decide

/-! ## Characters, white space and digits -/

def allWs (w : List Char) : Prop := ∀ c ∈ w, isWs c = true
def allDigits (w : List Char) : Prop := ∀ c ∈ w, c.isDigit = true

/-- what a lexical function needs to know of the text behind the part it reads -/
def headSat (p : Char → Bool) : List Char → Prop
  | [] => True
  | c :: _ => p c = true

def numEnd (c : Char) : Bool := !c.isDigit && !isMark c

theorem headSat_mono {p q : Char → Bool} (h : ∀ c, p c = true → q c = true) :
    ∀ {l : List Char}, headSat p l → headSat q l
  | [], _ => trivial
  | c :: _, hc => h c hc

theorem isWs_numEnd {c : Char} (h : isWs c = true) : numEnd c = true := by
  simp only [isWs, Bool.or_eq_true, beq_iff_eq] at h
  rcases h with ((((h | h) | h) | h) | h) | h <;> subst h <;> decide

theorem isWs_not_digit {c : Char} (h : isWs c = true) : c.isDigit = false := by
  have := isWs_numEnd h
  simp only [numEnd, Bool.and_eq_true, Bool.not_eq_true'] at this
  exact this.1

theorem isMark_not_digit {c : Char} (h : isMark c = true) : c.isDigit = false := by
  simp only [isMark, Bool.or_eq_true, beq_iff_eq] at h
  rcases h with h | h <;> subst h <;> decide

theorem beq_false_of_sat {p : Char → Bool} {c u : Char} (hc : p c = true) (hu : p u = false) :
    (c == u) = false := by
  cases h : c == u with
  | false => rfl
  | true => rw [beq_iff_eq.mp h, hu] at hc; cases hc

theorem digit_not_ws {c : Char} (h : c.isDigit = true) : isWs c = false := by
  cases hw : isWs c with
  | false => rfl
  | true => rw [isWs_not_digit hw] at h; cases h

theorem skipWs_cons_of_not_ws {c : Char} (cs : List Char) (h : isWs c = false) :
    skipWs (c :: cs) = c :: cs := by simp [skipWs, h]

theorem skipWs_append_ws (w cs : List Char) (hw : allWs w) : skipWs (w ++ cs) = skipWs cs := by
  induction w with
  | nil => rfl
  | cons c w ih =>
    have hc : isWs c = true := hw c (by simp)
    have : allWs w := fun x hx => hw x (by simp [hx])
    simp [skipWs, hc, ih this]

theorem skipWs_all_ws (w : List Char) (hw : allWs w) : skipWs w = [] := by
  have := skipWs_append_ws w [] hw
  simpa [skipWs] using this

theorem skipWs_idem (cs : List Char) : skipWs (skipWs cs) = skipWs cs := by
  induction cs with
  | nil => rfl
  | cons c cs ih =>
    cases h : isWs c with
    | true => simp [skipWs, h, ih]
    | false => simp [skipWs, h]

theorem skipWs_of_headSat (cs : List Char) (h : headSat (fun c => !isWs c) cs) : skipWs cs = cs := by
  cases cs with
  | nil => rfl
  | cons c cs => simp [headSat] at h; simp [skipWs, h]

theorem takeDigits_append (ds : List Char) (hds : allDigits ds) (rest : List Char)
    (hr : headSat (fun c => !c.isDigit) rest) : takeDigits (ds ++ rest) = (ds, rest) := by
  induction ds with
  | nil =>
    cases rest with
    | nil => rfl
    | cons c r => simp [headSat] at hr; simp [takeDigits, hr]
  | cons d ds ih =>
    have hd : d.isDigit = true := hds d (by simp)
    have := ih (fun c hc => hds c (by simp [hc]))
    simp [takeDigits, hd, this]

theorem allDigits_natStr (n : Nat) : allDigits (natStr n) := fun _ hc =>
  Nat.isDigit_of_mem_toDigits (by decide) (by decide) hc

theorem natStr_ne_nil (n : Nat) : natStr n ≠ [] := Nat.toDigits_ne_nil

theorem digitsVal_natStr (n : Nat) : digitsVal (natStr n) = n := Nat.ofDigitChars_ten_toDigits

theorem headSat_mid (mid rest : List Char) (hm : allWs mid) (hr : headSat numEnd rest) :
    headSat numEnd (mid ++ rest) := by
  cases mid with
  | nil => simpa using hr
  | cons c w => simp [headSat]; exact isWs_numEnd (hm c (by simp))

theorem headSat_ws (w : List Char) (hw : allWs w) : headSat numEnd w :=
  List.append_nil w ▸ headSat_mid w [] hw trivial

theorem headSat_ws_nodigit (w : List Char) (hw : allWs w) : headSat (fun c => !c.isDigit) w :=
  headSat_mono (fun c h => by simp only [numEnd, Bool.and_eq_true] at h; exact h.1) (headSat_ws w hw)

theorem isEmpty_false_of_ne_nil {l : List Char} (h : l ≠ []) : l.isEmpty = false := by
  cases l with
  | nil => exact absurd rfl h
  | cons c cs => rfl

theorem allWs_nil : allWs [] := fun _ h => nomatch h

/-! ## Number texts: what `parseNum` reads -/

/-- the text of a number: a non-empty digit string, optionally a decimal mark and a non-empty
    digit string -/
structure NumText where
  ip : List Char
  fr : Option (Char × List Char) := none

def fracText : Option (Char × List Char) → List Char
  | none => []
  | some (c, fd) => c :: fd

def fracVal : Option (Char × List Char) → Rat
  | none => 0
  | some (_, fd) => (digitsVal fd : Rat) / ((10 ^ fd.length : Nat) : Rat)

def fracWF : Option (Char × List Char) → Prop
  | none => True
  | some (c, fd) => isMark c = true ∧ fd ≠ [] ∧ allDigits fd

namespace NumText

def text (t : NumText) : List Char := t.ip ++ fracText t.fr

def WF (t : NumText) : Prop := t.ip ≠ [] ∧ allDigits t.ip ∧ fracWF t.fr

def val (t : NumText) : Rat := (digitsVal t.ip : Rat) + fracVal t.fr

def hasFrac (t : NumText) : Bool := t.fr.isSome

def isComma (t : NumText) : Bool :=
  match t.fr with
  | some (c, _) => c == ','
  | none => false

def num (t : NumText) : Num := ⟨t.val, t.hasFrac, t.isComma⟩

end NumText

/-- the number `t` ends in front of `rest`: no digit follows, and no decimal mark unless `t` has its
    fraction already.  Then `parseNum` reads `t` and stops (`parseNum_text`); it would also stop at a
    mark that no digit follows, which is not needed here -/
def NumText.EndsAt (t : NumText) (rest : List Char) : Prop :=
  headSat (fun c => !c.isDigit && (t.hasFrac || !isMark c)) rest

theorem NumText.endsAt_of_numEnd (t : NumText) {rest : List Char} (h : headSat numEnd rest) :
    t.EndsAt rest :=
  headSat_mono (fun c h => by
    simp only [numEnd, Bool.and_eq_true, Bool.not_eq_true'] at h
    simp [h.1, h.2]) h

theorem parseNum_text (t : NumText) (wf : t.WF) (rest : List Char) (he : t.EndsAt rest) :
    parseNum (t.text ++ rest) = some (t.num, rest) := by
  obtain ⟨ip, fr⟩ := t
  obtain ⟨hne, hip, hfrw⟩ := wf
  have hr : headSat (fun c => !c.isDigit) rest :=
    headSat_mono (fun c h => by simp only [Bool.and_eq_true] at h; exact h.1) he
  cases ip with
  | nil => exact absurd rfl hne
  | cons d ds =>
  unfold parseNum
  cases fr with
  | none =>
    have htd : takeDigits ((d :: ds) ++ rest) = (d :: ds, rest) := takeDigits_append _ hip _ hr
    simp only [NumText.text, fracText, List.append_nil, htd]
    cases rest with
    | nil => simp [NumText.num, NumText.val, NumText.hasFrac, NumText.isComma, fracVal, Rat.add_zero]
    | cons c r =>
      have : isMark c = false := by
        simp [NumText.EndsAt, headSat, NumText.hasFrac] at he
        exact he.2
      simp [this, NumText.num, NumText.val, NumText.hasFrac, NumText.isComma, fracVal, Rat.add_zero]
  | some mf =>
    obtain ⟨c, fd⟩ := mf
    obtain ⟨hmk, hfne, hfd⟩ := hfrw
    have htd : takeDigits ((d :: ds) ++ (c :: (fd ++ rest))) = (d :: ds, c :: (fd ++ rest)) :=
      takeDigits_append _ hip _ (by simp [headSat, isMark_not_digit hmk])
    have htf : takeDigits (fd ++ rest) = (fd, rest) := takeDigits_append _ hfd _ hr
    simp only [NumText.text, fracText, List.append_assoc, List.cons_append, htd] at htd ⊢
    simp only [hmk, ↓reduceIte, htf]
    cases fd with
    | nil => exact absurd rfl hfne
    | cons e es => simp [NumText.num, NumText.val, NumText.hasFrac, NumText.isComma, fracVal]

theorem NumText.text_skipWs (t : NumText) (wf : t.WF) (rest : List Char) :
    skipWs (t.text ++ rest) = t.text ++ rest := by
  obtain ⟨ip, fr⟩ := t
  obtain ⟨hne, hip, _⟩ := wf
  cases ip with
  | nil => exact absurd rfl hne
  | cons d ds =>
    have : isWs d = false := digit_not_ws (hip d (by simp))
    simp [NumText.text, skipWs, this]

theorem parseNum_none (cs : List Char) (h : headSat (fun c => !c.isDigit) cs) : parseNum cs = none := by
  cases cs with
  | nil => simp [parseNum, takeDigits]
  | cons c r => simp [headSat] at h; simp [parseNum, takeDigits, h]

theorem NumText.text_head_digit (t : NumText) (wf : t.WF) (rest : List Char) :
    headSat (fun c => c.isDigit) (t.text ++ rest) ∧ t.text ++ rest ≠ [] := by
  obtain ⟨ip, fr⟩ := t
  obtain ⟨hne, hip, _⟩ := wf
  cases ip with
  | nil => exact absurd rfl hne
  | cons d ds => exact ⟨by simpa [NumText.text, headSat] using hip d (by simp), by simp [NumText.text]⟩

/-! ## One optional group over a number text -/

/-- what may stand in front of a group and of its letter: white space in the traditional
    expression (`ws`), nothing in the ISO one -/
def lead : Bool → List Char → List Char
  | true, cs => skipWs cs
  | false, cs => cs

theorem optGroup_text (ws : Bool) (isU : Char → Bool) (t : NumText) (wf : t.WF) (rest : List Char)
    (he : t.EndsAt rest) :
    optGroup ws isU (t.text ++ rest) =
      match lead ws rest with
      | u :: r => if isU u then (some t.num, r) else (none, t.text ++ rest)
      | [] => (none, t.text ++ rest) := by
  unfold optGroup
  rw [parseNum_text t wf rest he]
  cases ws <;> rfl

theorem optGroupLast_text (isU : Char → Bool) (t : NumText) (wf : t.WF) (rest : List Char)
    (he : t.EndsAt rest) :
    optGroupLast isU (t.text ++ rest) =
      match skipWs rest with
      | u :: r => if isU u then (some t.num, r) else (some t.num, u :: r)
      | [] => (some t.num, []) := by
  unfold optGroupLast
  rw [parseNum_text t wf rest he]
  rfl

/-- the group of the unit `isU` does not start here -/
def Blocked (ws : Bool) (isU : Char → Bool) (tail : List Char) : Prop :=
  optGroup ws isU (lead ws tail) = (none, lead ws tail)

theorem blocked_head (ws : Bool) (isU : Char → Bool) (tail : List Char)
    (h : headSat (fun c => !c.isDigit) (lead ws tail)) : Blocked ws isU tail := by
  simp [Blocked, optGroup, parseNum_none _ h]

theorem blocked_text (ws : Bool) (isU : Char → Bool) (t : NumText) (wt : t.WF) (rest : List Char)
    (he : t.EndsAt rest) (hu : headSat (fun c => !isU c) (lead ws rest)) :
    Blocked ws isU (t.text ++ rest) := by
  have e : lead ws (t.text ++ rest) = t.text ++ rest := by
    cases ws
    · rfl
    · exact NumText.text_skipWs t wt rest
  unfold Blocked
  rw [e, optGroup_text ws isU t wt rest he]
  cases h : lead ws rest with
  | nil => rfl
  | cons c r =>
    rw [h] at hu
    simp only [headSat, Bool.not_eq_true'] at hu
    simp only [hu, Bool.false_eq_true, ↓reduceIte]

theorem blocked_ws (isU : Char → Bool) (w : List Char) (hw : allWs w) (tail : List Char)
    (h : Blocked true isU tail) : Blocked true isU (w ++ tail) := by
  unfold Blocked at h ⊢
  simp only [lead] at h ⊢
  rwa [skipWs_append_ws _ _ hw]

-- `optGroup_text` and `optGroupLast_text` once more for a lower-case unit letter directly behind the number;
-- nothing in this file uses the next five declarations
def isUnitLetter (c : Char) : Bool := c == 'd' || c == 'h' || c == 'm' || c == 's'
def unitRank (c : Char) : Nat := if c = 'd' then 0 else if c = 'h' then 1 else if c = 'm' then 2 else 3

theorem unitLetter_numEnd_not_ws (c : Char) (h : isUnitLetter c = true) : numEnd c = true ∧ isWs c = false := by
  simp only [isUnitLetter, Bool.or_eq_true, beq_iff_eq] at h
  rcases h with ((h | h) | h) | h <;> subst h <;> decide

theorem optGroup_cons (isU : Char → Bool) (t : NumText) (wf : t.WF) (c : Char) (R : List Char)
    (hc : isUnitLetter c = true) :
    optGroup true isU (t.text ++ c :: R) =
      if isU c then (some t.num, R) else (none, t.text ++ c :: R) := by
  obtain ⟨h1, h2⟩ := unitLetter_numEnd_not_ws c hc
  rw [optGroup_text true isU t wf _ (t.endsAt_of_numEnd (rest := c :: R) h1)]
  simp only [lead, skipWs_cons_of_not_ws _ h2]

theorem optGroupLast_cons (isU : Char → Bool) (t : NumText) (wf : t.WF) (c : Char) (R : List Char)
    (hc : isUnitLetter c = true) :
    optGroupLast isU (t.text ++ c :: R) =
      if isU c then (some t.num, R) else (some t.num, c :: R) := by
  obtain ⟨h1, h2⟩ := unitLetter_numEnd_not_ws c hc
  rw [optGroupLast_text isU t wf _ (t.endsAt_of_numEnd (rest := c :: R) h1)]
  simp only [skipWs_cons_of_not_ws _ h2]

/-! ## The traditional expression -/

/-- `<ws> number <ws> letter` -/
structure Piece where
  pre : List Char := []
  num : NumText
  mid : List Char := []
  upper : Bool := false
  bare : Bool := false      -- the unit letter is left out (seconds only)

namespace Piece

def letter (lo up : Char) (p : Piece) : List Char :=
  if p.bare then [] else [if p.upper then up else lo]

def text (lo up : Char) (p : Piece) : List Char :=
  p.pre ++ (p.num.text ++ (p.mid ++ p.letter lo up))

def WF (p : Piece) : Prop := allWs p.pre ∧ allWs p.mid ∧ p.num.WF

end Piece

/-- `lo`, `up` can serve as the two spellings of a unit letter -/
structure Letters (lo up : Char) : Prop where
  lo_ws : isWs lo = false
  up_ws : isWs up = false
  lo_end : numEnd lo = true
  up_end : numEnd up = true

theorem letter_sat {isU : Char → Bool} {lo up : Char} {v : Bool} (hlo : isU lo = v) (hup : isU up = v)
    (b : Bool) : isU (if b then up else lo) = v := by
  cases b
  · exact hlo
  · exact hup

inductive TUnit where
  | d | h | m | s
  deriving DecidableEq, Repr

namespace TUnit
def lo : TUnit → Char | .d => 'd' | .h => 'h' | .m => 'm' | .s => 's'
def up : TUnit → Char | .d => 'D' | .h => 'H' | .m => 'M' | .s => 'S'
theorem letters (u : TUnit) : Letters u.lo u.up := by
  cases u <;> exact ⟨by decide, by decide, by decide, by decide⟩
end TUnit

/-- the test of the traditional expression for the letter of a unit (either case: `re.IGNORECASE`) -/
def TUnit.isU : TUnit → Char → Bool
  | .d => isD | .h => isH | .m => isM | .s => isS

theorem letter_iff (u v : TUnit) (b : Bool) : u.isU (if b then v.up else v.lo) = decide (u = v) := by
  cases u <;> cases v <;> exact letter_sat (by decide +kernel) (by decide +kernel) b

theorem piece_text_parts (v : TUnit) (p : Piece) (wf : p.WF) (hb : p.bare = false) (tail : List Char) :
    p.text v.lo v.up ++ tail =
        p.pre ++ (p.num.text ++ (p.mid ++ (if p.upper then v.up else v.lo) :: tail)) ∧
      p.num.EndsAt (p.mid ++ (if p.upper then v.up else v.lo) :: tail) ∧
      skipWs (p.mid ++ (if p.upper then v.up else v.lo) :: tail) = (if p.upper then v.up else v.lo) :: tail := by
  have L := v.letters
  refine ⟨by simp [Piece.text, Piece.letter, hb],
    NumText.endsAt_of_numEnd _ (headSat_mid _ _ wf.2.1 (letter_sat L.lo_end L.up_end p.upper)), ?_⟩
  rw [skipWs_append_ws _ _ wf.2.1, skipWs_cons_of_not_ws _ (letter_sat L.lo_ws L.up_ws p.upper)]

theorem optGroup_piece (u v : TUnit) (p : Piece) (wf : p.WF) (hb : p.bare = false) (tail : List Char) :
    optGroup true u.isU (skipWs (p.text v.lo v.up ++ tail)) =
      if u = v then (some p.num.num, tail) else (none, skipWs (p.text v.lo v.up ++ tail)) := by
  obtain ⟨e, he, hs⟩ := piece_text_parts v p wf hb tail
  rw [e, skipWs_append_ws _ _ wf.1, NumText.text_skipWs _ wf.2.2, optGroup_text true _ _ wf.2.2 _ he]
  simp only [lead, hs, letter_iff, decide_eq_true_eq]

theorem optGroupLast_piece (u : TUnit) (p : Piece) (wf : p.WF) (hb : p.bare = false) (tail : List Char) :
    optGroupLast u.isU (skipWs (p.text u.lo u.up ++ tail)) = (some p.num.num, tail) := by
  obtain ⟨e, he, hs⟩ := piece_text_parts u p wf hb tail
  rw [e, skipWs_append_ws _ _ wf.1, NumText.text_skipWs _ wf.2.2, optGroupLast_text _ _ wf.2.2 _ he]
  simp only [hs, letter_iff, decide_true, ↓reduceIte]

theorem blocked_piece (u v : TUnit) (h : u ≠ v) (p : Piece) (wf : p.WF) (hb : p.bare = false)
    (tail : List Char) : Blocked true u.isU (p.text v.lo v.up ++ tail) :=
  (optGroup_piece u v p wf hb tail).trans (if_neg h)

theorem piece_text_parts_bare (p : Piece) (wf : p.WF) (hb : p.bare = true) (lo up : Char) (post : List Char)
    (hpost : allWs post) :
    p.text lo up ++ post = p.pre ++ (p.num.text ++ (p.mid ++ post)) ∧ allWs (p.mid ++ post) := by
  refine ⟨by simp [Piece.text, Piece.letter, hb], fun c hc => ?_⟩
  rcases List.mem_append.mp hc with h | h
  · exact wf.2.1 c h
  · exact hpost c h

def optText (lo up : Char) : Option Piece → List Char
  | none => []
  | some p => p.text lo up

/-- an optional piece of a unit that is not the last one: well-formed, with its letter -/
def OptWF (p : Option Piece) : Prop := ∀ q, p = some q → q.WF ∧ q.bare = false

theorem optWF_none : OptWF none := fun _ h => nomatch h

theorem pieceWF_none : ∀ q : Piece, none = some q → q.WF := fun _ h => nomatch h

theorem blocked_opt (u v : TUnit) (h : u ≠ v) (p : Option Piece) (wf : OptWF p) (tail : List Char)
    (ht : p.isSome = true ∨ Blocked true u.isU tail) : Blocked true u.isU (optText v.lo v.up p ++ tail) := by
  cases p with
  | none =>
    rcases ht with h | h
    · cases h
    · simpa [optText] using h
  | some q => exact blocked_piece u v h q (wf q rfl).1 (wf q rfl).2 tail

theorem blocked_last (u v : TUnit) (h : u ≠ v) (p : Option Piece) (wf : ∀ q, p = some q → q.WF)
    (post : List Char) (hpost : allWs post) : Blocked true u.isU (optText v.lo v.up p ++ post) := by
  cases p with
  | none => exact blocked_head true _ _ (by simp [optText, lead, skipWs_all_ws _ hpost, headSat])
  | some q =>
    cases hb : q.bare with
    | true =>
      obtain ⟨e, hmp⟩ := piece_text_parts_bare q (wf q rfl) hb v.lo v.up post hpost
      rw [optText, e]
      exact blocked_ws _ _ (wf q rfl).1 _ (blocked_text true _ _ (wf q rfl).2.2 _
        (NumText.endsAt_of_numEnd _ (headSat_ws _ hmp)) (by simp [lead, skipWs_all_ws _ hmp, headSat]))
    | false => exact blocked_piece u v h q (wf q rfl) hb post

theorem stage (u : TUnit) (p : Option Piece) (wf : OptWF p) (tail : List Char)
    (ht : p.isSome = true ∨ Blocked true u.isU tail) :
    ∃ r, optGroup true u.isU (skipWs (optText u.lo u.up p ++ tail)) = (p.map (·.num.num), r) ∧
      skipWs r = skipWs tail := by
  cases p with
  | none => exact ⟨skipWs tail, ht.resolve_left (fun h => nomatch h), skipWs_idem _⟩
  | some q => exact ⟨tail, (optGroup_piece u u q (wf q rfl).1 (wf q rfl).2 tail).trans (if_pos rfl), rfl⟩

theorem stageLast (u : TUnit) (p : Option Piece) (wf : ∀ q, p = some q → q.WF) (post : List Char)
    (hpost : allWs post) :
    ∃ r, optGroupLast u.isU (skipWs (optText u.lo u.up p ++ post)) = (p.map (·.num.num), r) ∧
      skipWs r = [] := by
  cases p with
  | none =>
    exact ⟨[], by simp [optText, skipWs_all_ws _ hpost, optGroupLast, parseNum, takeDigits], rfl⟩
  | some q =>
    simp only [optText, Option.map]
    cases hb : q.bare with
    | true =>
      obtain ⟨e, hmp⟩ := piece_text_parts_bare q (wf q rfl) hb u.lo u.up post hpost
      refine ⟨[], ?_, rfl⟩
      rw [e, skipWs_append_ws _ _ (wf q rfl).1, NumText.text_skipWs _ (wf q rfl).2.2,
        optGroupLast_text _ _ (wf q rfl).2.2 _ (NumText.endsAt_of_numEnd _ (headSat_ws _ hmp))]
      simp [skipWs_all_ws _ hmp]
    | false => exact ⟨post, optGroupLast_piece u q (wf q rfl) hb post, skipWs_all_ws _ hpost⟩

/-- a beginning of a traditional duration string: pieces with their unit letters -/
structure TradP where
  d : Option Piece := none
  h : Option Piece := none
  m : Option Piece := none
  s : Option Piece := none

namespace TradP

def text (r : TradP) (tail : List Char) : List Char :=
  optText 'd' 'D' r.d ++ (optText 'h' 'H' r.h ++ (optText 'm' 'M' r.m ++ (optText 's' 'S' r.s ++ tail)))

def WF (r : TradP) : Prop := OptWF r.d ∧ OptWF r.h ∧ OptWF r.m ∧ OptWF r.s

end TradP

/-- a piece of the unit or of a smaller one is there -/
def TradP.hasFrom (r : TradP) : TUnit → Bool
  | .d => r.d.isSome || r.h.isSome || r.m.isSome || r.s.isSome
  | .h => r.h.isSome || r.m.isSome || r.s.isSome
  | .m => r.m.isSome || r.s.isSome
  | .s => r.s.isSome

/-- no group of days, hours or minutes that the pieces present still allow can start at `tail` -/
def TradP.NoGroupAt (r : TradP) (tail : List Char) : Prop :=
  (r.hasFrom .d = true ∨ Blocked true isD tail) ∧ (r.hasFrom .h = true ∨ Blocked true isH tail) ∧
    (r.hasFrom .m = true ∨ Blocked true isM tail)

theorem matchTrad_prefix (r : TradP) (wf : r.WF) (tail : List Char) (hc : r.NoGroupAt tail) :
    matchTrad (r.text tail) =
      match optGroupLast isS (skipWs (optText 's' 'S' r.s ++ tail)) with
      | (s, r') =>
        if (skipWs r').isEmpty then
          some { d := r.d.map (·.num.num), h := r.h.map (·.num.num), m := r.m.map (·.num.num), s := s }
        else none := by
  obtain ⟨wd, wh, wm, wsec⟩ := wf
  obtain ⟨hd, hh, hm⟩ := hc
  simp only [TradP.hasFrom, Bool.or_eq_true, or_assoc] at hd hh hm
  -- a group that is absent must not start at the next piece that is there: that has another letter
  have bS : ∀ u : TUnit, u ≠ .s → (r.s.isSome = true ∨ Blocked true u.isU tail) →
      Blocked true u.isU (optText 's' 'S' r.s ++ tail) := fun u a c => blocked_opt u .s a r.s wsec tail c
  have bM : ∀ u : TUnit, u ≠ .m → u ≠ .s → (r.m.isSome = true ∨ r.s.isSome = true ∨ Blocked true u.isU tail) →
      Blocked true u.isU (optText 'm' 'M' r.m ++ (optText 's' 'S' r.s ++ tail)) :=
    fun u a a' c => blocked_opt u .m a r.m wm _ (c.imp_right (bS u a'))
  obtain ⟨r0, e0, s0⟩ := stage .d r.d wd _
    (hd.imp_right fun c => blocked_opt .d .h (by decide) r.h wh _ (c.imp_right (bM .d (by decide) (by decide))))
  obtain ⟨r1, e1, s1⟩ := stage .h r.h wh _ (hh.imp_right (bM .h (by decide) (by decide)))
  obtain ⟨r2, e2, s2⟩ := stage .m r.m wm _ (hm.imp_right (bS .m (by decide)))
  simp only [TUnit.isU, TUnit.lo, TUnit.up] at e0 e1 e2 s0
  unfold matchTrad TradP.text
  simp only [e0, s0, e1, s1, e2, s2]

structure TradR where
  d : Option Piece := none
  h : Option Piece := none
  m : Option Piece := none
  s : Option Piece := none
  post : List Char := []

namespace TradR

def text (r : TradR) : List Char :=
  optText 'd' 'D' r.d ++ (optText 'h' 'H' r.h ++ (optText 'm' 'M' r.m ++ (optText 's' 'S' r.s ++ r.post)))

/-- lexically well formed: whitespace where whitespace is meant, digits in the numbers, every
    unit but the seconds with its letter -/
def WF (r : TradR) : Prop :=
  OptWF r.d ∧ OptWF r.h ∧ OptWF r.m ∧ (∀ q, r.s = some q → q.WF) ∧ allWs r.post

def groups (r : TradR) : Groups :=
  { d := r.d.map (·.num.num), h := r.h.map (·.num.num), m := r.m.map (·.num.num),
    s := r.s.map (·.num.num) }

end TradR

theorem matchTrad_text (r : TradR) (wf : r.WF) : matchTrad r.text = some r.groups := by
  obtain ⟨wd, wh, wm, wsec, wpost⟩ := wf
  have bS := fun u h => blocked_last u .s h r.s wsec r.post wpost
  obtain ⟨r3, e3, s3⟩ := stageLast .s r.s wsec r.post wpost
  simp only [TUnit.isU, TUnit.lo, TUnit.up] at e3
  have := matchTrad_prefix ⟨r.d, r.h, r.m, none⟩ ⟨wd, wh, wm, optWF_none⟩ (optText 's' 'S' r.s ++ r.post)
    ⟨Or.inr (bS .d (by decide)), Or.inr (bS .h (by decide)), Or.inr (bS .m (by decide))⟩
  have e0 : optText 's' 'S' none = [] := rfl
  simp only [e0, List.nil_append, e3, s3, List.isEmpty_nil, ↓reduceIte] at this
  exact this

theorem matchTrad_bad_tail (r : TradP) (wf : r.WF) (tail : List Char) (hc : r.NoGroupAt tail)
    (ht : skipWs tail ≠ [])
    (hs : r.hasFrom .s = true ∨ ∃ g r', optGroupLast isS (skipWs tail) = (g, r') ∧ skipWs r' ≠ []) :
    matchTrad (r.text tail) = none := by
  rw [matchTrad_prefix r wf tail hc]
  cases hsec : r.s with
  | some q =>
    have := optGroupLast_piece .s q (wf.2.2.2 q hsec).1 (wf.2.2.2 q hsec).2 tail
    simp only [TUnit.isU, TUnit.lo, TUnit.up] at this
    simp only [optText, this, isEmpty_false_of_ne_nil ht, Bool.false_eq_true, ↓reduceIte]
  | none =>
    rcases hs with h | ⟨g, r', h1, h2⟩
    · simp [TradP.hasFrom, hsec] at h
    · simp only [optText, List.nil_append, h1, isEmpty_false_of_ne_nil h2, Bool.false_eq_true, ↓reduceIte]

/-- `hopen`: no unit still open accepts `c` as its letter; a unit is open when neither it nor a
    smaller one has been used -/
theorem matchTrad_stuck (r : TradP) (wf : r.WF) (w : List Char) (hw : allWs w) (t : NumText) (wt : t.WF)
    (mid : List Char) (hmid : allWs mid) (c : Char) (hcw : isWs c = false) (rest : List Char)
    (he : t.EndsAt (mid ++ c :: rest)) (hopen : ∀ u : TUnit, r.hasFrom u = false → u.isU c = false) :
    matchTrad (r.text (w ++ (t.text ++ (mid ++ c :: rest)))) = none := by
  have hc : skipWs (mid ++ c :: rest) = c :: rest := by
    rw [skipWs_append_ws _ _ hmid, skipWs_cons_of_not_ws _ hcw]
  have hsk : skipWs (w ++ (t.text ++ (mid ++ c :: rest))) = t.text ++ (mid ++ c :: rest) := by
    rw [skipWs_append_ws _ _ hw, NumText.text_skipWs _ wt]
  have bl : ∀ u : TUnit, r.hasFrom u = true ∨ Blocked true u.isU (w ++ (t.text ++ (mid ++ c :: rest))) :=
    fun u => by
      cases hf : r.hasFrom u with
      | true => exact Or.inl rfl
      | false =>
        exact Or.inr (blocked_ws _ w hw _ (blocked_text true _ t wt _ he
          (by simp only [lead, hc, headSat, hopen u hf, Bool.not_false])))
  refine matchTrad_bad_tail r wf _ ⟨bl .d, bl .h, bl .m⟩ ?_ ?_
  · rw [hsk]
    exact (NumText.text_head_digit t wt _).2
  · cases hf : r.hasFrom .s with
    | true => exact Or.inl rfl
    | false =>
      refine Or.inr ⟨some t.num, c :: rest, ?_, ?_⟩
      · rw [hsk, optGroupLast_text isS t wt _ he, hc]
        exact if_neg (by rw [show isS c = false from hopen .s hf]; exact Bool.false_ne_true)
      · rw [skipWs_cons_of_not_ws _ hcw]
        exact List.cons_ne_nil _ _

/-! ## The ISO expression -/

/-- `number letter` or nothing -/
def og (U : Char) : Option NumText → List Char
  | none => []
  | some t => t.text ++ [U]

def OWF (x : Option NumText) : Prop := ∀ t, x = some t → t.WF

theorem owf_none : OWF none := fun _ h => nomatch h

theorem optGroup_og (U V : Char) (hV : numEnd V = true) (t : NumText) (wt : t.WF) (tail : List Char) :
    optGroup false (· == U) (og V (some t) ++ tail) =
      if V = U then (some t.num, tail) else (none, og V (some t) ++ tail) := by
  have e : og V (some t) ++ tail = t.text ++ (V :: tail) := by simp [og]
  rw [e, optGroup_text false _ t wt _ (t.endsAt_of_numEnd (rest := V :: tail) hV)]
  simp only [lead, beq_iff_eq]

theorem blocked_og (U V : Char) (hV : numEnd V = true) (hne : V ≠ U)
    (x : Option NumText) (wf : OWF x) (tail : List Char)
    (hb : x.isSome = true ∨ Blocked false (· == U) tail) : Blocked false (· == U) (og V x ++ tail) := by
  cases x with
  | none =>
    rcases hb with h | h
    · cases h
    · simpa [og] using h
  | some t => exact (optGroup_og U V hV t (wf t rfl) tail).trans (if_neg hne)

theorem isoStage (U : Char) (hU : numEnd U = true) (x : Option NumText) (wf : OWF x)
    (tail : List Char) (hb : x.isSome = true ∨ Blocked false (· == U) tail) :
    optGroup false (· == U) (og U x ++ tail) = (x.map (·.num), tail) := by
  cases x with
  | none => exact hb.resolve_left (fun h => nomatch h)
  | some t => exact (optGroup_og U U hU t (wf t rfl) tail).trans (if_pos rfl)

/-- three designators in the order of the expression (`Y M D`, `H M S`) -/
structure Desig (U V W : Char) : Prop where
  endU : numEnd U = true
  endV : numEnd V = true
  endW : numEnd W = true
  neVU : V ≠ U
  neWU : W ≠ U
  neWV : W ≠ V

theorem desigYMD : Desig 'Y' 'M' 'D' := ⟨by decide, by decide, by decide, by decide, by decide, by decide⟩
theorem desigHMS : Desig 'H' 'M' 'S' := ⟨by decide, by decide, by decide, by decide, by decide, by decide⟩

/-- no group of the designators `U V W` that the groups present still allow can start at `tail` -/
def NoGroup3 (U V W : Char) (x y z : Option NumText) (tail : List Char) : Prop :=
  (x.isSome = true ∨ y.isSome = true ∨ z.isSome = true ∨ Blocked false (· == U) tail) ∧
    (y.isSome = true ∨ z.isSome = true ∨ Blocked false (· == V) tail) ∧
    (z.isSome = true ∨ Blocked false (· == W) tail)

theorem noGroup3_head (U V W : Char) (x y z : Option NumText) (tail : List Char)
    (h : headSat (fun c => !c.isDigit) tail) : NoGroup3 U V W x y z tail :=
  have b := fun U => blocked_head false (· == U) tail h
  ⟨Or.inr (Or.inr (Or.inr (b U))), Or.inr (Or.inr (b V)), Or.inr (b W)⟩

theorem isoTriple {U V W : Char} (D : Desig U V W) (x y z : Option NumText) (wx : OWF x) (wy : OWF y)
    (wz : OWF z) (tail : List Char) (hc : NoGroup3 U V W x y z tail) :
    optGroup false (· == U) (og U x ++ (og V y ++ (og W z ++ tail))) =
        (x.map (·.num), og V y ++ (og W z ++ tail)) ∧
      optGroup false (· == V) (og V y ++ (og W z ++ tail)) = (y.map (·.num), og W z ++ tail) ∧
      optGroup false (· == W) (og W z ++ tail) = (z.map (·.num), tail) :=
  ⟨isoStage U D.endU x wx _ (hc.1.imp_right fun c => blocked_og U V D.endV D.neVU y wy _
      (c.imp_right fun c => blocked_og U W D.endW D.neWU z wz _ c)),
    isoStage V D.endV y wy _ (hc.2.1.imp_right fun c => blocked_og V W D.endW D.neWV z wz _ c),
    isoStage W D.endW z wz _ hc.2.2⟩

structure IsoR where
  pre : List Char := []
  y : Option NumText := none
  mo : Option NumText := none
  d : Option NumText := none
  t : Bool := false                 -- the letter `T` is there
  h : Option NumText := none
  m : Option NumText := none
  s : Option NumText := none
  post : List Char := []

namespace IsoR

def timeText (r : IsoR) : List Char := og 'H' r.h ++ (og 'M' r.m ++ (og 'S' r.s ++ r.post))

def rest (r : IsoR) : List Char := if r.t then 'T' :: r.timeText else r.post

def text (r : IsoR) : List Char :=
  r.pre ++ 'P' :: (og 'Y' r.y ++ (og 'M' r.mo ++ (og 'D' r.d ++ r.rest)))

def WF (r : IsoR) : Prop :=
  allWs r.pre ∧ allWs r.post ∧ OWF r.y ∧ OWF r.mo ∧ OWF r.d ∧ OWF r.h ∧ OWF r.m ∧ OWF r.s ∧
    (r.t = false → r.h = none ∧ r.m = none ∧ r.s = none)

def groups (r : IsoR) : Groups :=
  { y := r.y.map (·.num), mo := r.mo.map (·.num), d := r.d.map (·.num),
    h := r.h.map (·.num), m := r.m.map (·.num), s := r.s.map (·.num) }

def nums (r : IsoR) : List (Option NumText) := [r.s, r.m, r.h, r.d, r.mo, r.y]

def NonEmpty (r : IsoR) : Prop := r.nums.any (·.isSome) = true

end IsoR

/-- a beginning of an ISO duration string -/
structure IsoP where
  pre : List Char := []
  y : Option NumText := none
  mo : Option NumText := none
  d : Option NumText := none
  t : Bool := false
  h : Option NumText := none
  m : Option NumText := none
  s : Option NumText := none

namespace IsoP

def text (r : IsoP) (tail : List Char) : List Char :=
  r.pre ++ 'P' :: (og 'Y' r.y ++ (og 'M' r.mo ++ (og 'D' r.d ++
    (if r.t then 'T' :: (og 'H' r.h ++ (og 'M' r.m ++ (og 'S' r.s ++ tail))) else tail))))

def WF (r : IsoP) : Prop :=
  allWs r.pre ∧ OWF r.y ∧ OWF r.mo ∧ OWF r.d ∧ OWF r.h ∧ OWF r.m ∧ OWF r.s

/-- designator `V` may not follow any more: in the part of the string where the beginning ends
    (date part, or time part behind the `T`), `V` or a later designator has been used already, or `V`
    is no designator of that part -/
def Closed (r : IsoP) (V : Char) : Prop :=
  if r.t then
    (V = 'H' → (r.h.isSome || r.m.isSome || r.s.isSome) = true) ∧
    (V = 'M' → (r.m.isSome || r.s.isSome) = true) ∧ (V = 'S' → r.s.isSome = true)
  else
    (V = 'Y' → (r.y.isSome || r.mo.isSome || r.d.isSome) = true) ∧
    (V = 'M' → (r.mo.isSome || r.d.isSome) = true) ∧ (V = 'D' → r.d.isSome = true)

end IsoP

/-- no group that the groups present still allow can start at `tail`, in the part of the expression
    where the beginning ends (the date part, or the time part behind the `T`) -/
def IsoP.NoGroupAt (r : IsoP) (tail : List Char) : Prop :=
  if r.t then NoGroup3 'H' 'M' 'S' r.h r.m r.s tail else NoGroup3 'Y' 'M' 'D' r.y r.mo r.d tail

theorem matchIso_prefix (r : IsoP) (wf : r.WF) (tail : List Char) (hc : r.NoGroupAt tail) :
    matchIso (r.text tail) =
      if r.t then
        if (skipWs tail).isEmpty then
          some { y := r.y.map (·.num), mo := r.mo.map (·.num), d := r.d.map (·.num),
                 h := r.h.map (·.num), m := r.m.map (·.num), s := r.s.map (·.num) }
        else none
      else
        match tail with
        | c :: r' =>
          if c == 'T' then isoTime (r.y.map (·.num)) (r.mo.map (·.num)) (r.d.map (·.num)) r'
          else if (skipWs (c :: r')).isEmpty then
            some { y := r.y.map (·.num), mo := r.mo.map (·.num), d := r.d.map (·.num), h := none, m := none, s := none }
          else none
        | [] => some { y := r.y.map (·.num), mo := r.mo.map (·.num), d := r.d.map (·.num), h := none, m := none, s := none } := by
  obtain ⟨wpre, wy, wmo, wd, wh, wm, wsec⟩ := wf
  unfold matchIso IsoP.text
  rw [skipWs_append_ws _ _ wpre, skipWs_cons_of_not_ws _ (by decide)]
  simp only [beq_self_eq_true, ↓reduceIte]
  unfold isoAfterP IsoP.NoGroupAt at *
  cases ht : r.t with
  | true =>
    rw [ht] at hc
    obtain ⟨eY, eMo, eD⟩ := isoTriple desigYMD r.y r.mo r.d wy wmo wd
      ('T' :: (og 'H' r.h ++ (og 'M' r.m ++ (og 'S' r.s ++ tail)))) (noGroup3_head _ _ _ _ _ _ _ (by simp [headSat]))
    obtain ⟨eH, eM, eS⟩ := isoTriple desigHMS r.h r.m r.s wh wm wsec tail hc
    simp only [↓reduceIte, eY, eMo, eD, beq_self_eq_true, isoTime, eH, eM, eS]
  | false =>
    rw [ht] at hc
    obtain ⟨eY, eMo, eD⟩ := isoTriple desigYMD r.y r.mo r.d wy wmo wd tail hc
    simp only [Bool.false_eq_true, ↓reduceIte, eY, eMo, eD]
    cases tail <;> rfl

theorem matchIso_text (r : IsoR) (wf : r.WF) : matchIso r.text = some r.groups := by
  obtain ⟨wpre, wpost, wy, wmo, wd, wh, wm, wsec, wt⟩ := wf
  rw [show r.text = IsoP.text ⟨r.pre, r.y, r.mo, r.d, r.t, r.h, r.m, r.s⟩ r.post from rfl,
    matchIso_prefix _ ⟨wpre, wy, wmo, wd, wh, wm, wsec⟩ r.post
      (by unfold IsoP.NoGroupAt; split <;> exact noGroup3_head _ _ _ _ _ _ _ (headSat_ws_nodigit _ wpost))]
  cases ht : r.t with
  | true =>
    simp only [↓reduceIte, skipWs_all_ws _ wpost, List.isEmpty_nil]
    rfl
  | false =>
    obtain ⟨hh, hm, hs⟩ := wt ht
    simp only [Bool.false_eq_true, ↓reduceIte]
    cases hp : r.post with
    | nil => simp [IsoR.groups, hh, hm, hs]
    | cons c w =>
      have hc : isWs c = true := wpost c (by simp [hp])
      have hcT : (c == 'T') = false := beq_false_of_sat hc (by decide)
      have hall : skipWs (c :: w) = [] := skipWs_all_ws _ (by rw [← hp]; exact wpost)
      simp [hcT, hall, IsoR.groups, hh, hm, hs]

theorem matchIso_bad_tail (r : IsoP) (wf : r.WF) (tail : List Char)
    (hdig : headSat (fun c => c.isDigit) tail) (htne : tail ≠ []) (hc : r.NoGroupAt tail) :
    matchIso (r.text tail) = none := by
  rw [matchIso_prefix r wf tail hc]
  cases tail with
  | nil => exact absurd rfl htne
  | cons c0 t0 =>
    have hc0 : c0.isDigit = true := by simpa [headSat] using hdig
    have hsk : (skipWs (c0 :: t0)).isEmpty = false := by
      rw [skipWs_cons_of_not_ws _ (digit_not_ws hc0)]; rfl
    have hT : (c0 == 'T') = false := beq_false_of_sat hc0 (by decide)
    cases r.t <;> simp only [hT, hsk, Bool.false_eq_true, ↓reduceIte]

theorem noGroup3_stuck {U V W : Char} (x y z : Option NumText) (t : NumText) (wt : t.WF) (c : Char)
    (rest : List Char) (he : t.EndsAt (c :: rest))
    (h : (c = U → (x.isSome || y.isSome || z.isSome) = true) ∧ (c = V → (y.isSome || z.isSome) = true) ∧
      (c = W → z.isSome = true)) : NoGroup3 U V W x y z (t.text ++ c :: rest) := by
  have cl : ∀ (D : Char) (B : Prop), (c = D → B) → B ∨ Blocked false (· == D) (t.text ++ c :: rest) :=
    fun D B hc =>
      if e : c = D then Or.inl (hc e)
      else Or.inr (blocked_text false _ t wt _ he (by simpa [lead, headSat] using e))
  simp only [Bool.or_eq_true, or_assoc] at h
  simpa only [NoGroup3, or_assoc] using And.intro (cl U _ h.1) (And.intro (cl V _ h.2.1) (cl W _ h.2.2))

theorem matchIso_stuck (r : IsoP) (wf : r.WF) (t : NumText) (wt : t.WF) (c : Char) (rest : List Char)
    (he : t.EndsAt (c :: rest)) (hcl : r.Closed c) : matchIso (r.text (t.text ++ c :: rest)) = none := by
  obtain ⟨hd, hne⟩ := NumText.text_head_digit t wt (c :: rest)
  refine matchIso_bad_tail r wf _ hd hne ?_
  unfold IsoP.NoGroupAt
  unfold IsoP.Closed at hcl
  split <;> rename_i ht <;> simp only [ht, Bool.false_eq_true, ↓reduceIte] at hcl <;>
    exact noGroup3_stuck _ _ _ t wt c rest he hcl

theorem matchTrad_P (pre rest : List Char) (hpre : allWs pre) : matchTrad (pre ++ 'P' :: rest) = none := by
  have hn : parseNum ('P' :: rest) = none := parseNum_none _ (by simp [headSat])
  have hs : skipWs ('P' :: rest) = 'P' :: rest := skipWs_cons_of_not_ws _ (by decide)
  unfold matchTrad
  rw [skipWs_append_ws _ _ hpre, hs]
  simp [optGroup, optGroupLast, hn, hs]

theorem matchIso_digit (w : List Char) (hw : allWs w) (t : NumText) (wf : t.WF) (R : List Char) :
    matchIso (w ++ (t.text ++ R)) = none := by
  unfold matchIso
  rw [skipWs_append_ws _ _ hw, NumText.text_skipWs t wf]
  obtain ⟨ip, fr⟩ := t
  obtain ⟨hne, hip, _⟩ := wf
  cases ip with
  | nil => exact absurd rfl hne
  | cons d ds =>
    have hd : d.isDigit = true := hip d (by simp)
    have : (d == 'P') = false := beq_false_of_sat hd (by decide)
    simp [NumText.text, this]

theorem matchIso_piece (q : Piece) (wf : q.WF) (lo up : Char) (rest : List Char) :
    matchIso (q.text lo up ++ rest) = none := by
  have e : q.text lo up ++ rest = q.pre ++ (q.num.text ++ ((q.mid ++ q.letter lo up) ++ rest)) := by
    simp [Piece.text]
  rw [e]
  exact matchIso_digit _ wf.1 _ wf.2.2 _

theorem matchIso_tradP (r : TradP) (wf : r.WF) (tail : List Char) (ht : matchIso tail = none) :
    matchIso (r.text tail) = none := by
  obtain ⟨wd, wh, wm, wsec⟩ := wf
  unfold TradP.text
  cases hd : r.d with
  | some q => exact matchIso_piece q (wd q hd).1 _ _ _
  | none =>
    cases hh : r.h with
    | some q => exact matchIso_piece q (wh q hh).1 _ _ _
    | none =>
      cases hm : r.m with
      | some q => exact matchIso_piece q (wm q hm).1 _ _ _
      | none =>
        cases hs : r.s with
        | some q => exact matchIso_piece q (wsec q hs).1 _ _ _
        | none => simpa [optText] using ht

/-! ## The alphabet of the two expressions -/

/-- the characters that can occur in a duration string of either format -/
def allowedChar (c : Char) : Bool :=
  c.isDigit || isWs c || isMark c || isD c || isH c || isM c || isS c ||
    c == 'P' || c == 'T' || c == 'Y'

def allAllowed (cs : List Char) : Prop := ∀ c ∈ cs, allowedChar c = true

/-- `rest` is what is left of `cs` after consuming allowed characters only -/
def Consumes (cs rest : List Char) : Prop := ∃ pre, cs = pre ++ rest ∧ allAllowed pre

theorem Consumes.refl (cs : List Char) : Consumes cs cs := ⟨[], rfl, fun _ h => nomatch h⟩

theorem Consumes.trans {a b c : List Char} (h1 : Consumes a b) (h2 : Consumes b c) : Consumes a c := by
  obtain ⟨p1, e1, a1⟩ := h1
  obtain ⟨p2, e2, a2⟩ := h2
  refine ⟨p1 ++ p2, by rw [e1, e2, List.append_assoc], ?_⟩
  intro x hx
  rcases List.mem_append.mp hx with h | h
  · exact a1 x h
  · exact a2 x h

theorem Consumes.cons {c : Char} {cs rest : List Char} (hc : allowedChar c = true)
    (h : Consumes cs rest) : Consumes (c :: cs) rest := by
  obtain ⟨p, e, a⟩ := h
  refine ⟨c :: p, by rw [e]; rfl, ?_⟩
  intro x hx
  rcases List.mem_cons.mp hx with h | h
  · rw [h]; exact hc
  · exact a x h

theorem Consumes.all {cs : List Char} (h : Consumes cs []) : allAllowed cs := by
  obtain ⟨p, e, a⟩ := h
  rw [e, List.append_nil]; exact a

theorem consumes_skipWs (cs : List Char) : Consumes cs (skipWs cs) := by
  induction cs with
  | nil => exact Consumes.refl _
  | cons c cs ih =>
    cases h : isWs c with
    | true =>
      have : skipWs (c :: cs) = skipWs cs := by simp [skipWs, h]
      rw [this]
      exact Consumes.cons (by simp [allowedChar, h]) ih
    | false => rw [skipWs_cons_of_not_ws _ h]; exact Consumes.refl _

theorem consumes_takeDigits (cs : List Char) : Consumes cs (takeDigits cs).2 := by
  induction cs with
  | nil => exact Consumes.refl _
  | cons c cs ih =>
    cases h : c.isDigit with
    | true =>
      have : (takeDigits (c :: cs)).2 = (takeDigits cs).2 := by simp [takeDigits, h]
      rw [this]
      exact Consumes.cons (by simp [allowedChar, h]) ih
    | false =>
      have : (takeDigits (c :: cs)).2 = c :: cs := by simp [takeDigits, h]
      rw [this]; exact Consumes.refl _

theorem consumes_parseNum (cs : List Char) (n : Num) (rest : List Char)
    (h : parseNum cs = some (n, rest)) : Consumes cs rest := by
  unfold parseNum at h
  have h0 := consumes_takeDigits cs
  generalize takeDigits cs = p at h h0
  obtain ⟨ip, r0⟩ := p
  simp only at h0
  cases ip with
  | nil => simp at h
  | cons d ds =>
    simp only at h
    cases r0 with
    | nil => simp at h; rw [h.2]; exact h0
    | cons c r1 =>
      simp only at h
      cases hm : isMark c with
      | false => simp [hm] at h; rw [← h.2]; exact h0
      | true =>
        simp only [hm, ↓reduceIte] at h
        have h1 := consumes_takeDigits r1
        generalize takeDigits r1 = q at h h1
        obtain ⟨fp, r2⟩ := q
        simp only at h1
        cases fp with
        | nil => simp at h; rw [← h.2]; exact h0
        | cons e es =>
          simp at h
          rw [← h.2]
          exact h0.trans (Consumes.cons (by simp [allowedChar, hm]) h1)

theorem consumes_optGroup (ws : Bool) (isU : Char → Bool) (hU : ∀ c, isU c = true → allowedChar c = true)
    (cs : List Char) : Consumes cs (optGroup ws isU cs).2 := by
  unfold optGroup
  cases hp : parseNum cs with
  | none => exact Consumes.refl _
  | some nr =>
    obtain ⟨n, rest⟩ := nr
    have h1 := consumes_parseNum cs n rest hp
    have h2 : Consumes rest (if ws then skipWs rest else rest) := by
      cases ws
      · exact Consumes.refl _
      · exact consumes_skipWs _
    simp only
    generalize (if ws = true then skipWs rest else rest) = r at h2
    cases r with
    | nil => exact Consumes.refl _
    | cons u r =>
      simp only
      cases hu : isU u with
      | false => simp; exact Consumes.refl _
      | true =>
        simp only [↓reduceIte]
        exact h1.trans (h2.trans (Consumes.cons (hU u hu) (Consumes.refl _)))

theorem consumes_optGroupLast (isU : Char → Bool) (hU : ∀ c, isU c = true → allowedChar c = true)
    (cs : List Char) : Consumes cs (optGroupLast isU cs).2 := by
  unfold optGroupLast
  cases hp : parseNum cs with
  | none => exact Consumes.refl _
  | some nr =>
    obtain ⟨n, rest⟩ := nr
    have h1 := consumes_parseNum cs n rest hp
    have h2 := consumes_skipWs rest
    simp only
    generalize skipWs rest = r at h2
    cases r with
    | nil => exact h1.trans h2
    | cons u r =>
      simp only
      cases hu : isU u with
      | false => simp; exact h1.trans h2
      | true =>
        simp only [↓reduceIte]
        exact h1.trans (h2.trans (Consumes.cons (hU u hu) (Consumes.refl _)))

theorem consumes_of_skipWs_empty (r : List Char) (h : (skipWs r).isEmpty = true) : Consumes r [] := by
  have := consumes_skipWs r
  rwa [List.isEmpty_iff.mp h] at this

theorem allowed_eq (u : Char) (hu : allowedChar u = true) (c : Char) (h : (c == u) = true) :
    allowedChar c = true := by
  have : c = u := by simpa using h
  rw [this]; exact hu

theorem matchTrad_allowed (cs : List Char) (g : Groups) (h : matchTrad cs = some g) : allAllowed cs := by
  unfold matchTrad at h
  have c0 := consumes_skipWs cs
  have c1 := consumes_optGroup true isD (fun c h => by simp [allowedChar, h]) (skipWs cs)
  generalize optGroup true isD (skipWs cs) = p1 at h c1
  obtain ⟨d, r1⟩ := p1
  simp only at h c1
  have c2 := (consumes_skipWs r1).trans (consumes_optGroup true isH (fun c h => by simp [allowedChar, h]) (skipWs r1))
  generalize optGroup true isH (skipWs r1) = p2 at h c2
  obtain ⟨hh, r2⟩ := p2
  simp only at h c2
  have c3 := (consumes_skipWs r2).trans (consumes_optGroup true isM (fun c h => by simp [allowedChar, h]) (skipWs r2))
  generalize optGroup true isM (skipWs r2) = p3 at h c3
  obtain ⟨m, r3⟩ := p3
  simp only at h c3
  have c4 := (consumes_skipWs r3).trans (consumes_optGroupLast isS (fun c h => by simp [allowedChar, h]) (skipWs r3))
  generalize optGroupLast isS (skipWs r3) = p4 at h c4
  obtain ⟨sec, r4⟩ := p4
  simp only at h c4
  cases he : (skipWs r4).isEmpty with
  | false => simp [he] at h
  | true =>
    exact (c0.trans (c1.trans (c2.trans (c3.trans (c4.trans (consumes_of_skipWs_empty _ he)))))).all

theorem consumes_isoTime (y mo d : Option Num) (r : List Char) (g : Groups)
    (h : isoTime y mo d r = some g) : Consumes r [] := by
  unfold isoTime at h
  have c1 := consumes_optGroup false (· == 'H') (allowed_eq 'H' (by decide)) r
  generalize optGroup false (· == 'H') r = p1 at h c1
  obtain ⟨hh, r1⟩ := p1
  simp only at h c1
  have c2 := consumes_optGroup false (· == 'M') (allowed_eq 'M' (by decide)) r1
  generalize optGroup false (· == 'M') r1 = p2 at h c2
  obtain ⟨m, r2⟩ := p2
  simp only at h c2
  have c3 := consumes_optGroup false (· == 'S') (allowed_eq 'S' (by decide)) r2
  generalize optGroup false (· == 'S') r2 = p3 at h c3
  obtain ⟨sec, r3⟩ := p3
  simp only at h c3
  cases he : (skipWs r3).isEmpty with
  | false => simp [he] at h
  | true => exact c1.trans (c2.trans (c3.trans (consumes_of_skipWs_empty _ he)))

theorem consumes_isoAfterP (r : List Char) (g : Groups) (h : isoAfterP r = some g) : Consumes r [] := by
  unfold isoAfterP at h
  have c1 := consumes_optGroup false (· == 'Y') (allowed_eq 'Y' (by decide)) r
  generalize optGroup false (· == 'Y') r = p1 at h c1
  obtain ⟨y, r1⟩ := p1
  simp only at h c1
  have c2 := consumes_optGroup false (· == 'M') (allowed_eq 'M' (by decide)) r1
  generalize optGroup false (· == 'M') r1 = p2 at h c2
  obtain ⟨mo, r2⟩ := p2
  simp only at h c2
  have c3 := consumes_optGroup false (· == 'D') (allowed_eq 'D' (by decide)) r2
  generalize optGroup false (· == 'D') r2 = p3 at h c3
  obtain ⟨d, r3⟩ := p3
  simp only at h c3
  cases r3 with
  | nil => exact c1.trans (c2.trans c3)
  | cons c r' =>
    simp only at h
    cases hT : (c == 'T') with
    | true =>
      simp only [hT, ↓reduceIte] at h
      have := consumes_isoTime _ _ _ _ _ h
      exact c1.trans (c2.trans (c3.trans (Consumes.cons (allowed_eq 'T' (by decide) c hT) this)))
    | false =>
      simp only [hT, Bool.false_eq_true, ↓reduceIte] at h
      cases he : (skipWs (c :: r')).isEmpty with
      | false => simp [he] at h
      | true => exact c1.trans (c2.trans (c3.trans (consumes_of_skipWs_empty _ he)))

theorem matchIso_allowed (cs : List Char) (g : Groups) (h : matchIso cs = some g) : allAllowed cs := by
  unfold matchIso at h
  have c0 := consumes_skipWs cs
  generalize skipWs cs = r at h c0
  cases r with
  | nil => simp at h
  | cons c r =>
    simp only at h
    cases hP : (c == 'P') with
    | false => simp [hP] at h
    | true =>
      simp only [hP, ↓reduceIte] at h
      exact (c0.trans (Consumes.cons (allowed_eq 'P' (by decide) c hP) (consumes_isoAfterP _ _ h))).all

theorem matchTrad_no_calendar (cs : List Char) (g : Groups) (h : matchTrad cs = some g) :
    g.y = none ∧ g.mo = none := by
  unfold matchTrad at h
  generalize optGroup true isD (skipWs cs) = p1 at h
  obtain ⟨d, r1⟩ := p1
  simp only at h
  generalize optGroup true isH (skipWs r1) = p2 at h
  obtain ⟨hh, r2⟩ := p2
  simp only at h
  generalize optGroup true isM (skipWs r2) = p3 at h
  obtain ⟨m, r3⟩ := p3
  simp only at h
  generalize optGroupLast isS (skipWs r3) = p4 at h
  obtain ⟨sec, r4⟩ := p4
  simp only at h
  split at h
  · cases h; exact ⟨rfl, rfl⟩
  · cases h

/-! ## The evaluation loop -/

def optVal : Option Num → Rat
  | none => 0
  | some n => n.val

def noFrac : Option Num → Bool
  | none => true
  | some n => !n.frac

/-- what one group adds: its value times the scale factor (nothing for years and months) -/
def term (g : Option Num) : Option Nat → Rat
  | some k => optVal g * (k : Rat)
  | none => 0

/-- (list from the smallest unit) no fractional part behind a group that is present; `sm`: no group
    has been present so far -/
def fracFrom (sm : Bool) : List (Option Num × Option Nat) → Bool
  | [] => true
  | (g, _) :: r => (noFrac g || sm) && fracFrom (sm && g.isNone) r

def allAbsent : List (Option Num × Option Nat) → Bool
  | [] => true
  | (g, _) :: r => g.isNone && allAbsent r

def scaledSum : List (Option Num × Option Nat) → Rat
  | [] => 0
  | (g, k) :: r => term g k + scaledSum r

/-- years and months are absent or zero -/
def calOK : List (Option Num × Option Nat) → Bool
  | [] => true
  | (g, k) :: r => (k.isSome || optVal g == 0) && calOK r

theorem addGroup_eq (acc : Acc) (g : Option Num) (k : Option Nat) :
    addGroup acc g k =
      if noFrac g || acc.smallest then
        if k.isSome || optVal g == 0 then .ok ⟨acc.result + term g k, acc.smallest && g.isNone⟩
        else .error .calendar
      else .error .fraction := by
  cases g with
  | none => cases k <;> simp [addGroup, noFrac, optVal, term, Rat.zero_mul, Rat.add_zero]
  | some n =>
    cases k <;> cases hf : n.frac <;> cases hs : acc.smallest <;> by_cases hz : n.val = 0 <;>
      simp [addGroup, noFrac, optVal, term, hf, hs, hz, Rat.zero_mul, Rat.add_zero]

/-- the first refusal in the order of the loop, if there is one; `sm`: no group has been present so far -/
def firstErr (sm : Bool) : List (Option Num × Option Nat) → Option Err
  | [] => none
  | (g, k) :: r =>
    if noFrac g || sm then
      if k.isSome || optVal g == 0 then firstErr (sm && g.isNone) r else some .calendar
    else some .fraction

theorem evalLoop_eq (gs : List (Option Num × Option Nat)) (acc : Acc) :
    evalLoop acc gs =
      match firstErr acc.smallest gs with
      | some e => .error e
      | none => .ok ⟨acc.result + scaledSum gs, acc.smallest && allAbsent gs⟩ := by
  induction gs generalizing acc with
  | nil => simp [evalLoop, firstErr, scaledSum, allAbsent, Rat.add_zero]
  | cons gk gs ih =>
    obtain ⟨g, k⟩ := gk
    rw [evalLoop, addGroup_eq, firstErr, scaledSum, allAbsent]
    cases (noFrac g || acc.smallest)
    · rfl
    cases (k.isSome || optVal g == 0)
    · rfl
    simp only [↓reduceIte, ih, Rat.add_assoc, Bool.and_assoc]

theorem firstErr_spec (gs : List (Option Num × Option Nat)) (sm : Bool) :
    (firstErr sm gs = none ↔ fracFrom sm gs = true ∧ calOK gs = true) ∧
      (calOK gs = true → fracFrom sm gs = false → firstErr sm gs = some .fraction) := by
  induction gs generalizing sm with
  | nil => simp [firstErr, fracFrom, calOK]
  | cons gk gs ih =>
    obtain ⟨g, k⟩ := gk
    rw [firstErr, fracFrom, calOK]
    cases (noFrac g || sm)
    · simp
    cases (k.isSome || optVal g == 0)
    · simp
    simpa using ih (sm && g.isNone)

theorem evalGroups_eq (g : Groups) :
    evalGroups g =
      match firstErr true g.scaled with
      | some e => .error e
      | none => if allAbsent g.scaled then .error .empty else .ok (scaledSum g.scaled) := by
  unfold evalGroups
  rw [evalLoop_eq]
  cases firstErr true g.scaled with
  | some e => rfl
  | none => simp [Rat.zero_add]

theorem evalGroups_ok (g : Groups) (hcal : calOK g.scaled = true) (hfr : fracFrom true g.scaled = true)
    (hne : allAbsent g.scaled = false) :
    evalGroups g = .ok (scaledSum g.scaled) := by
  rw [evalGroups_eq, ((firstErr_spec _ _).1).mpr ⟨hfr, hcal⟩, hne]
  rfl

theorem evalGroups_refused (g : Groups) (h : fracFrom true g.scaled = false ∨ calOK g.scaled = false) :
    ∃ e, evalGroups g = .error e := by
  rw [evalGroups_eq]
  cases he : firstErr true g.scaled with
  | some e => exact ⟨e, rfl⟩
  | none =>
    obtain ⟨h1, h2⟩ := (firstErr_spec _ _).1.mp he
    rw [h1, h2] at h
    rcases h with h | h <;> cases h

theorem evalGroups_fraction (g : Groups) (hcal : calOK g.scaled = true)
    (h : fracFrom true g.scaled = false) : evalGroups g = .error .fraction := by
  rw [evalGroups_eq, (firstErr_spec _ _).2 hcal h]

theorem evalGroups_empty (g : Groups) (hne : allAbsent g.scaled = true) :
    evalGroups g = .error .empty := by
  simp only [Groups.scaled, allAbsent, Bool.and_eq_true, Option.isNone_iff_eq_none, and_true] at hne
  obtain ⟨hs, hm, hh, hd, hmo, hy⟩ := hne
  rw [evalGroups_eq]
  simp [Groups.scaled, firstErr, allAbsent, noFrac, optVal, hs, hm, hh, hd, hmo, hy]

theorem evalLoop_trailing_none (l : List (Option Num × Option Nat)) (acc : Acc) (a b : Option Nat) :
    evalLoop acc (l ++ [(none, a), (none, b)]) = evalLoop acc l := by
  induction l generalizing acc with
  | nil => simp [evalLoop, addGroup]
  | cons x l ih =>
    obtain ⟨g, sc⟩ := x
    simp only [List.cons_append, evalLoop]
    cases addGroup acc g sc with
    | error e => rfl
    | ok acc' => exact ih acc'

/-! ## `convert` on renderings -/

/-- (list from the smallest unit) only the first number that is present may have a fractional part -/
def fracSmallestOnly : List (Option NumText) → Bool
  | [] => true
  | none :: r => fracSmallestOnly r
  | some _ :: r => r.all (fun x => match x with | none => true | some t => !t.hasFrac)

def noFracText : Option NumText → Bool
  | none => true
  | some t => !t.hasFrac

def noFracs (ns : List (Option NumText)) : Bool := ns.all noFracText

def ntVal : Option NumText → Rat
  | none => 0
  | some t => t.val

def pnum (p : Option Piece) : Option NumText := p.map (·.num)

namespace TradR

def nums (r : TradR) : List (Option NumText) := [pnum r.s, pnum r.m, pnum r.h, pnum r.d]

def NonEmpty (r : TradR) : Prop := r.nums.any (·.isSome) = true

end TradR

theorem optVal_map_num (x : Option NumText) : optVal (x.map (·.num)) = ntVal x := by
  cases x <;> rfl

theorem fracFrom_allAbsent_nums {gs : List (Option Num × Option Nat)} {ns : List (Option NumText)}
    (h : gs.map Prod.fst = ns.map (Option.map NumText.num)) :
    fracFrom true gs = fracSmallestOnly ns ∧ fracFrom false gs = noFracs ns ∧
      allAbsent gs = !ns.any (·.isSome) := by
  induction ns generalizing gs with
  | nil => cases gs with
    | nil => exact ⟨rfl, rfl, rfl⟩
    | cons g gs => cases h
  | cons n ns ih => cases gs with
    | nil => cases h
    | cons g gs =>
      obtain ⟨g, k⟩ := g
      obtain ⟨rfl, ht⟩ := List.cons.inj h
      obtain ⟨ih1, ih2, ih3⟩ := ih ht
      cases n with
      | none => exact ⟨ih1, ih2, ih3⟩
      | some t =>
        refine ⟨?_, ?_, rfl⟩
        · rw [fracFrom, Bool.or_true, Bool.true_and]
          exact ih2
        · rw [fracFrom, Bool.or_false, Bool.false_and, ih2]
          rfl

theorem fracSmallestOnly_append_none (ns : List (Option NumText)) (j : Nat) :
    fracSmallestOnly (ns ++ List.replicate j none) = fracSmallestOnly ns := by
  induction ns with
  | nil => induction j with
    | zero => rfl
    | succ j ih => exact ih
  | cons n ns ih =>
    cases n with
    | none => exact ih
    | some t => simp [fracSmallestOnly]

theorem fracSmallestOnly_of_noFracs (ns : List (Option NumText)) (h : noFracs ns = true) :
    fracSmallestOnly ns = true := by
  induction ns with
  | nil => rfl
  | cons y ns ih =>
    have h2 : noFracs ns = true := (Bool.and_eq_true_iff.mp h).2
    cases y with
    | none => exact ih h2
    | some t => exact h2

theorem fracSmallestOnly_cons (x : Option NumText) (ns : List (Option NumText)) (h : noFracs ns = true) :
    fracSmallestOnly (x :: ns) = true := by
  cases x with
  | some t => exact h
  | none => exact fracSmallestOnly_of_noFracs ns h

theorem TradR.fracFrom_allAbsent (r : TradR) :
    fracFrom true r.groups.scaled = fracSmallestOnly r.nums ∧
      allAbsent r.groups.scaled = !r.nums.any (·.isSome) := by
  have h : r.groups.scaled.map Prod.fst =
      (r.nums ++ List.replicate 2 none).map (Option.map NumText.num) := by
    simp only [TradR.groups, Groups.scaled, TradR.nums, pnum, List.map, Option.map_map, List.cons_append,
      List.nil_append, Option.map_none, List.replicate]
    rfl
  obtain ⟨h1, -, h3⟩ := fracFrom_allAbsent_nums h
  exact ⟨h1.trans (fracSmallestOnly_append_none _ _), h3.trans (by rw [List.any_append]; simp)⟩

theorem convert_trad_eval (r : TradR) (wf : r.WF) : convert r.text = evalGroups r.groups := by
  unfold convert
  rw [matchTrad_text r wf]

theorem scaledSum_scaled (g : Groups) :
    scaledSum g.scaled = 86400 * optVal g.d + 3600 * optVal g.h + 60 * optVal g.m + optVal g.s := by
  have e1 : ((60 : Nat) : Rat) = 60 := rfl
  have e2 : ((3600 : Nat) : Rat) = 3600 := rfl
  have e3 : ((86400 : Nat) : Rat) = 86400 := rfl
  simp only [Groups.scaled, scaledSum, term, secPerDay_eq, secPerHour_eq, secPerMin_eq, e1, e2, e3]
  grind

theorem convert_trad_sum (r : TradR) (wf : r.WF) (hf : fracSmallestOnly r.nums = true)
    (hne : r.NonEmpty) :
    convert r.text =
      .ok (86400 * ntVal (pnum r.d) + 3600 * ntVal (pnum r.h) + 60 * ntVal (pnum r.m) + ntVal (pnum r.s)) := by
  have ev : ∀ p : Option Piece, optVal (p.map (·.num.num)) = ntVal (pnum p) := fun p => by cases p <;> rfl
  rw [convert_trad_eval r wf, evalGroups_ok _ rfl (by rw [r.fracFrom_allAbsent.1, hf]) (by rw [r.fracFrom_allAbsent.2, hne]; rfl),
    scaledSum_scaled]
  simp only [TradR.groups, ev]

theorem IsoR.fracFrom_allAbsent (r : IsoR) :
    fracFrom true r.groups.scaled = fracSmallestOnly r.nums ∧
      allAbsent r.groups.scaled = !r.nums.any (·.isSome) :=
  have ⟨h1, _, h3⟩ := fracFrom_allAbsent_nums (rfl : r.groups.scaled.map Prod.fst = r.nums.map (Option.map NumText.num))
  ⟨h1, h3⟩

theorem convert_iso_eval (r : IsoR) (wf : r.WF) : convert r.text = evalGroups r.groups := by
  have hT : matchTrad r.text = none := matchTrad_P _ _ wf.1
  unfold convert
  rw [hT, matchIso_text r wf]

theorem convert_syntax (cs : List Char) (h1 : matchTrad cs = none) (h2 : matchIso cs = none) :
    convert cs = .error .syntax := by
  unfold convert
  rw [h1, h2]

/-! ## Rounding -/

theorem natCast_toNat (z : Int) (h : 0 ≤ z) : ((z.toNat : Nat) : Rat) = (z : Rat) := by
  rw [← Rat.intCast_natCast, Int.toNat_of_nonneg h]

theorem pow10_pos (p : Nat) : 0 < 10 ^ p := Nat.pow_pos (by decide)

theorem pow10_rat_pos (p : Nat) : (0 : Rat) < ((10 ^ p : Nat) : Rat) :=
  Rat.natCast_pos.mpr (pow10_pos p)

theorem pow10_rat_ne (p : Nat) : ((10 ^ p : Nat) : Rat) ≠ 0 := (Rat.ne_of_lt (pow10_rat_pos p)).symm

theorem natCast_div_add_mod (N P : Nat) (hP : (P : Rat) ≠ 0) :
    ((N / P : Nat) : Rat) + ((N % P : Nat) : Rat) / (P : Rat) = (N : Rat) / (P : Rat) := by
  have e : (N : Rat) = ((N / P : Nat) : Rat) * (P : Rat) + ((N % P : Nat) : Rat) := by
    rw [← Rat.natCast_mul, ← Rat.natCast_add, Nat.div_add_mod']
  rw [e, Rat.div_def (_ + _), Rat.add_mul, ← Rat.div_def, ← Rat.div_def, Rat.mul_div_cancel hP]

theorem natCast_ne_zero_iff (n : Nat) : ((n : Rat) ≠ 0) ↔ n ≠ 0 := by
  constructor
  · intro h hn; exact h (by rw [hn]; rfl)
  · intro h hq
    have : (n : Rat) = ((0 : Nat) : Rat) := hq
    exact h (by exact_mod_cast this)

theorem roundHalfEven_spec (x : Rat) :
    (roundHalfEven x = x.floor ∧ x - (x.floor : Rat) ≤ 1 / 2) ∨
      (roundHalfEven x = x.floor + 1 ∧ 1 / 2 ≤ x - (x.floor : Rat)) := by
  unfold roundHalfEven
  simp only
  by_cases c1 : x - (x.floor : Rat) < 1 / 2
  · exact Or.inl ⟨if_pos c1, Rat.le_of_lt c1⟩
  rw [if_neg c1]
  by_cases c2 : 1 / 2 < x - (x.floor : Rat)
  · exact Or.inr ⟨if_pos c2, Rat.le_of_lt c2⟩
  rw [if_neg c2]
  by_cases c3 : x.floor % 2 = 0
  · exact Or.inl ⟨if_pos c3, Rat.not_lt.mp c2⟩
  · exact Or.inr ⟨if_neg c3, Rat.not_lt.mp c1⟩

theorem roundHalfEven_cases (x : Rat) :
    roundHalfEven x = x.floor ∨ roundHalfEven x = x.floor + 1 :=
  (roundHalfEven_spec x).imp And.left And.left

theorem roundHalfEven_bounds (x : Rat) :
    (roundHalfEven x : Rat) - x ≤ 1 / 2 ∧ x - (roundHalfEven x : Rat) ≤ 1 / 2 := by
  have h1 := Rat.floor_le x
  have h2 := Rat.lt_floor_add_one x
  have h3 : ((x.floor + 1 : Int) : Rat) = (x.floor : Rat) + 1 := by push_cast; rfl
  rw [h3] at h2
  rcases roundHalfEven_spec x with ⟨e, h⟩ | ⟨e, h⟩ <;> rw [e]
  · grind
  · rw [h3]; grind

theorem roundHalfEven_nonneg (x : Rat) (hx : 0 ≤ x) : 0 ≤ roundHalfEven x := by
  have hf : (0 : Int) ≤ x.floor := Rat.le_floor_iff.mpr (by simpa using hx)
  rcases roundHalfEven_cases x with h | h <;> omega

theorem scale_half {s : Rat} (hs : 0 < s) (x N : Rat) (h : N - x * s ≤ 1 / 2 ∧ x * s - N ≤ 1 / 2) :
    N / s - x ≤ 1 / (2 * s) ∧ x - N / s ≤ 1 / (2 * s) := by
  have hs0 : s ≠ 0 := (Rat.ne_of_lt hs).symm
  have he : 1 / (2 * s) * s = 1 / 2 := by
    rw [Rat.div_def, Rat.one_mul, Rat.inv_mul_rev, Rat.mul_comm, ← Rat.mul_assoc, Rat.mul_inv_cancel _ hs0,
      Rat.div_def]
  constructor <;> apply Rat.le_of_mul_le_mul_right _ hs <;>
    rw [he, Rat.sub_eq_add_neg, Rat.add_mul, Rat.neg_mul, Rat.div_mul_cancel hs0, ← Rat.sub_eq_add_neg]
  · exact h.1
  · exact h.2

theorem roundTicks_bounds (q : Rat) (hq : 0 ≤ q) (p : Nat) :
    (roundTicks q p : Rat) = ((roundHalfEven (q * ((10 ^ p : Nat) : Rat)) : Int) : Rat) ∧
    (roundTicks q p : Rat) / ((10 ^ p : Nat) : Rat) - q ≤ 1 / (2 * ((10 ^ p : Nat) : Rat)) ∧
    q - (roundTicks q p : Rat) / ((10 ^ p : Nat) : Rat) ≤ 1 / (2 * ((10 ^ p : Nat) : Rat)) := by
  have hP := pow10_rat_pos p
  have hc := natCast_toNat _ (roundHalfEven_nonneg _ (Rat.mul_nonneg hq (Rat.le_of_lt hP)))
  unfold roundTicks
  rw [hc]
  exact ⟨rfl, scale_half hP q _ (roundHalfEven_bounds _)⟩

theorem roundHalfEven_intCast (z : Int) : roundHalfEven (z : Rat) = z := by
  unfold roundHalfEven
  simp only [Rat.floor_intCast]
  have : ((z : Int) : Rat) - ((z : Int) : Rat) < 1 / 2 := by grind
  simp only [this, ↓reduceIte]

theorem roundTicks_on_grid (N p : Nat) : roundTicks ((N : Rat) / ((10 ^ p : Nat) : Rat)) p = N := by
  unfold roundTicks
  rw [Rat.div_mul_cancel (pow10_rat_ne p)]
  have : ((N : Nat) : Rat) = ((N : Int) : Rat) := (Rat.intCast_natCast N).symm
  rw [this, roundHalfEven_intCast]
  simp

theorem div_pow_zero (x : Rat) : x / ((10 ^ 0 : Nat) : Rat) = x := by
  have := Rat.mul_div_cancel (a := x) (pow10_rat_ne 0)
  rwa [show x * ((10 ^ 0 : Nat) : Rat) = x from Rat.mul_one x] at this

theorem roundTicks_natCast (k : Nat) : roundTicks (k : Rat) 0 = k := by
  have := roundTicks_on_grid k 0
  rwa [div_pow_zero] at this

theorem roundHalfEven_le_of_lt (x : Rat) (M : Int) (h : x < (M : Rat)) : roundHalfEven x ≤ M := by
  have hf : x.floor < M := Rat.floor_lt_iff.mpr h
  rcases roundHalfEven_cases x with e | e <;> omega

theorem le_roundHalfEven_of_le (x : Rat) (K : Int) (h : (K : Rat) ≤ x) : K ≤ roundHalfEven x := by
  have hf : K ≤ x.floor := Rat.le_floor_iff.mpr h
  rcases roundHalfEven_cases x with e | e <;> omega

theorem roundTicks_le_of_lt (q : Rat) (p M : Nat) (h : q * ((10 ^ p : Nat) : Rat) < (M : Rat)) :
    roundTicks q p ≤ M := by
  unfold roundTicks
  have := roundHalfEven_le_of_lt _ (M : Int) (by rw [Rat.intCast_natCast]; exact h)
  omega

theorem roundUnit_bounds (x : Rat) (hx : 0 ≤ x) (u : Nat) (hu : 0 < u) :
    (roundUnit x u : Rat) - x ≤ (u : Rat) / 2 ∧ x - (roundUnit x u : Rat) ≤ (u : Rat) / 2 := by
  have hI : (0 : Rat) < (u : Rat)⁻¹ := Rat.inv_pos.mpr (Rat.natCast_pos.mpr hu)
  unfold roundUnit
  rw [Rat.div_def]
  generalize hy : x * (u : Rat)⁻¹ + 1 / 2 = y
  have h1 := Rat.floor_le y
  have h2 := Rat.lt_floor_add_one y
  have hy0 : 0 ≤ y := hy ▸ Rat.add_nonneg (Rat.mul_nonneg hx (Rat.le_of_lt hI)) (by decide +kernel)
  have hc := natCast_toNat _ (Rat.le_floor_iff.mpr (by simpa using hy0) : (0 : Int) ≤ y.floor)
  rw [Rat.natCast_mul, hc]
  -- `⌊y⌋ ≤ y = x / u + 1/2 < ⌊y⌋ + 1`
  have h3 : x * (u : Rat)⁻¹ + 1 / 2 < ((y.floor : Rat) + 1 / 2) + 1 / 2 := by
    rw [Rat.add_assoc, show (1 / 2 + 1 / 2 : Rat) = 1 from by decide +kernel, hy]
    rwa [Rat.intCast_add, Rat.intCast_one] at h2
  have := scale_half hI x (y.floor : Rat)
    ⟨Rat.sub_right_le_iff_le_add.mpr (by rw [Rat.add_comm, hy]; exact h1),
      Rat.sub_right_le_iff_le_add.mpr (Rat.le_of_lt (by rw [Rat.add_comm]; exact Rat.add_lt_add_right.mp h3))⟩
  rwa [Rat.div_def, Rat.inv_inv, Rat.mul_comm, Rat.div_def 1, Rat.one_mul, Rat.inv_mul_rev, Rat.inv_inv,
    ← Rat.div_def] at this

theorem roundUnit_multiple (u k : Nat) (hu : 0 < u) : roundUnit ((u * k : Nat) : Rat) u = u * k := by
  have hU0 : (u : Rat) ≠ 0 := (Rat.ne_of_lt (Rat.natCast_pos.mpr hu)).symm
  unfold roundUnit
  rw [Rat.natCast_mul, Rat.mul_comm, Rat.mul_div_cancel hU0, Rat.add_comm, ← Rat.intCast_natCast k,
    Rat.floor_add_intCast, show (1 / 2 : Rat).floor = 0 from by decide +kernel, Int.zero_add,
    Int.toNat_natCast]

theorem roundUnit_mono (u : Nat) (hu : 0 < u) {x y : Rat} (h : x ≤ y) : roundUnit x u ≤ roundUnit y u := by
  unfold roundUnit
  refine Nat.mul_le_mul_left _ (Int.toNat_le_toNat (Rat.floor_monotone ?_))
  rw [Rat.div_def, Rat.div_def]
  exact Rat.add_le_add_right.mpr (Rat.mul_le_mul_of_nonneg_right h
    (Rat.le_of_lt (Rat.inv_pos.mpr (Rat.natCast_pos.mpr hu))))

theorem le_roundUnit (u lo : Nat) (hu : 0 < u) {x : Rat} (h : ((u * lo : Nat) : Rat) ≤ x) :
    u * lo ≤ roundUnit x u := roundUnit_multiple u lo hu ▸ roundUnit_mono u hu h

theorem roundUnit_le (u hi : Nat) (hu : 0 < u) {x : Rat} (h : x ≤ ((u * hi : Nat) : Rat)) :
    roundUnit x u ≤ u * hi := roundUnit_multiple u hi hu ▸ roundUnit_mono u hu h

theorem roundTo_on_grid (N p : Nat) :
    roundTo ((N : Rat) / ((10 ^ p : Nat) : Rat)) p = (N : Rat) / ((10 ^ p : Nat) : Rat) := by
  unfold roundTo
  rw [roundTicks_on_grid]

theorem roundTo_nonneg (q : Rat) (p : Nat) : 0 ≤ roundTo q p := by
  unfold roundTo
  rw [Rat.div_def]
  exact Rat.mul_nonneg Rat.natCast_nonneg (Rat.le_of_lt (Rat.inv_pos.mpr (pow10_rat_pos p)))

theorem roundTo_natCast (n p : Nat) : roundTo (n : Rat) p = n := by
  have e : (n : Rat) = ((n * 10 ^ p : Nat) : Rat) / ((10 ^ p : Nat) : Rat) := by
    rw [Rat.natCast_mul, Rat.mul_div_cancel (pow10_rat_ne p)]
  rw [e, roundTo_on_grid, ← e]

theorem roundTo_le_natCast (q : Rat) (p H : Nat) (h : q < (H : Rat)) : roundTo q p ≤ (H : Rat) := by
  have hP := pow10_rat_pos p
  have hN : roundTicks q p ≤ H * 10 ^ p :=
    roundTicks_le_of_lt q p _ (by rw [Rat.natCast_mul]; exact Rat.mul_lt_mul_of_pos_right h hP)
  apply Rat.le_of_mul_le_mul_right _ hP
  unfold roundTo
  rw [Rat.div_mul_cancel (pow10_rat_ne p), ← Rat.natCast_mul]
  exact Rat.natCast_le_natCast.mpr hN

theorem roundTo_zero (v : Rat) : roundTo v 0 = ((roundHalfEven v).toNat : Rat) := by
  unfold roundTo roundTicks
  rw [div_pow_zero, show v * ((10 ^ 0 : Nat) : Rat) = v from Rat.mul_one v]

/-! ## What the printers print converts back -/

theorem digitsVal_padZeros (p : Nat) (ds : List Char) : digitsVal (padZeros p ds) = digitsVal ds := by
  simp [digitsVal, padZeros, Nat.ofDigitChars_append, Nat.ofDigitChars_replicate_zero]

theorem length_padZeros (p : Nat) (ds : List Char) (h : ds.length ≤ p) : (padZeros p ds).length = p := by
  simp [padZeros]; omega

theorem allDigits_padZeros (p : Nat) (ds : List Char) (h : allDigits ds) : allDigits (padZeros p ds) := by
  intro c hc
  simp only [padZeros, List.mem_append, List.mem_replicate] at hc
  rcases hc with ⟨_, rfl⟩ | hc
  · decide
  · exact h c hc

/-- the number text of `f"{s:.{p}f}"` -/
def fixedNum (whole frac p : Nat) : NumText :=
  ⟨natStr whole, if p = 0 then none else some ('.', padZeros p (natStr frac))⟩

theorem fixedStr_eq (whole frac p : Nat) : fixedStr whole frac p = (fixedNum whole frac p).text := by
  unfold fixedStr fixedNum NumText.text
  cases p <;> simp [fracText]

theorem fixedNum_wf (whole frac p : Nat) : (fixedNum whole frac p).WF := by
  refine ⟨natStr_ne_nil _, allDigits_natStr _, ?_⟩
  unfold fixedNum
  cases p with
  | zero => simp [fracWF]
  | succ p =>
    simp only [Nat.add_one_ne_zero, ↓reduceIte, fracWF]
    refine ⟨by decide, ?_, allDigits_padZeros _ _ (allDigits_natStr _)⟩
    intro h
    have := congrArg List.length h
    simp [padZeros] at this
    exact natStr_ne_nil _ this.2

theorem fixedNum_val (whole frac p : Nat) (hf : frac < 10 ^ p) :
    (fixedNum whole frac p).val = (whole : Rat) + (frac : Rat) / ((10 ^ p : Nat) : Rat) := by
  unfold fixedNum NumText.val
  cases p with
  | zero =>
    have : frac = 0 := by simpa using hf
    simp [fracVal, digitsVal_natStr, this]
    grind
  | succ p =>
    have hl : (natStr frac).length ≤ p + 1 :=
      (Nat.length_toDigits_le_iff (by decide) (by omega)).mpr hf
    simp only [Nat.add_one_ne_zero, ↓reduceIte, fracVal, digitsVal_natStr, digitsVal_padZeros,
      length_padZeros _ _ hl]

def natText (n : Nat) : NumText := ⟨natStr n, none⟩

theorem natText_wf (n : Nat) : (natText n).WF := ⟨natStr_ne_nil _, allDigits_natStr _, trivial⟩

theorem natText_val (n : Nat) : (natText n).val = (n : Rat) := by
  simp only [natText, NumText.val, fracVal, digitsVal_natStr, Rat.add_zero]

/-- a piece as the printers write it: the separator, a number, the unit's letter; there iff `c` -/
def optPiece (c : Prop) [Decidable c] (sep : List Char) (t : NumText) : Option Piece :=
  if c then some { pre := sep, num := t } else none

theorem optPiece_wf (c : Prop) [Decidable c] {sep : List Char} (hs : allWs sep) {t : NumText} (wt : t.WF) :
    OptWF (optPiece c sep t) := by
  intro q hq
  unfold optPiece at hq
  split at hq
  · cases hq
    exact ⟨⟨hs, allWs_nil, wt⟩, rfl⟩
  · cases hq

theorem optPiece_natText_noFrac (c : Prop) [Decidable c] (sep : List Char) (n : Nat) :
    noFracText (pnum (optPiece c sep (natText n))) = true := by
  unfold optPiece
  split <;> rfl

theorem optPiece_isSome (c : Prop) [Decidable c] (sep : List Char) (t : NumText) :
    (pnum (optPiece c sep t)).isSome = decide c := by
  unfold optPiece
  by_cases h : c
  · rw [if_pos h, decide_eq_true h]; rfl
  · rw [if_neg h, decide_eq_false h]; rfl

theorem ntVal_optPiece (c : Prop) [Decidable c] (sep : List Char) (t : NumText) (h : ¬c → t.val = 0) :
    ntVal (pnum (optPiece c sep t)) = t.val := by
  unfold optPiece
  by_cases hc : c
  · rw [if_pos hc]; rfl
  · rw [if_neg hc, h hc]; rfl

theorem optText_optPiece (lo up : Char) (c : Prop) [Decidable c] (sep : List Char) (t : NumText) :
    optText lo up (optPiece c sep t) = if c then sep ++ (t.text ++ [lo]) else [] := by
  unfold optPiece
  split <;> simp [optText, Piece.text, Piece.letter]

theorem convert_ws_front (w : List Char) (hw : allWs w) (cs : List Char) : convert (w ++ cs) = convert cs := by
  unfold convert matchTrad matchIso
  rw [skipWs_append_ws w cs hw]

def sepAll (sep : List Char) (ps : List (List Char)) : List Char := (ps.map (sep ++ ·)).flatten

theorem joinParts_sepAll (sep : List Char) (p : List Char) (ps : List (List Char)) :
    sep ++ joinParts sep (p :: ps) = sepAll sep (p :: ps) := by
  induction ps generalizing p with
  | nil => simp [joinParts, sepAll]
  | cons q ps ih =>
    rw [joinParts, List.append_assoc, ← List.append_assoc, ih q]
    · simp [sepAll]
    · exact fun h => nomatch h

/-- `convert` does not see whether the separator also stands in front of the first part; with it
    there, no part has to know which parts precede it -/
theorem convert_joinParts (sep : List Char) (hs : allWs sep) (ps : List (List Char)) :
    convert (joinParts sep ps) = convert (sepAll sep ps) := by
  cases ps with
  | nil => rfl
  | cons p ps => rw [← joinParts_sepAll, convert_ws_front sep hs]

theorem sepAll_opt (sep : List Char) (c : Prop) [Decidable c] (x : List Char) (ps : List (List Char)) :
    sepAll sep ((if c then [x] else []) ++ ps) = (if c then sep ++ x else []) ++ sepAll sep ps := by
  split <;> simp [sepAll]

/-- what `timestr` and `timestr_approx` print: the parts that are there (`cd ch cm cs`), each behind
    the separator, the seconds with `p` decimal places -/
def printR (cd ch cm cs : Prop) [Decidable cd] [Decidable ch] [Decidable cm] [Decidable cs]
    (d h m sec frac p : Nat) (sep : List Char) : TradR where
  d := optPiece cd sep (natText d)
  h := optPiece ch sep (natText h)
  m := optPiece cm sep (natText m)
  s := optPiece cs sep (fixedNum sec frac p)

theorem convert_parts (cd ch cm cs : Prop) [Decidable cd] [Decidable ch] [Decidable cm] [Decidable cs]
    (d h m sec frac p : Nat) (sep : List Char) (hs : allWs sep) (hfr : frac < 10 ^ p)
    (hd : d ≠ 0 → cd) (hh : h ≠ 0 → ch) (hm : m ≠ 0 → cm) (hsec : sec ≠ 0 ∨ frac ≠ 0 → cs)
    (hne : cs ∨ 86400 * d + 3600 * h + 60 * m + sec ≠ 0) :
    convert (joinParts sep (
      (if cd then [natStr d ++ ['d']] else []) ++ (if ch then [natStr h ++ ['h']] else []) ++
      (if cm then [natStr m ++ ['m']] else []) ++ (if cs then [fixedStr sec frac p ++ ['s']] else []))) =
      .ok (((86400 * d + 3600 * h + 60 * m + sec : Nat) : Rat) + (frac : Rat) / ((10 ^ p : Nat) : Rat)) := by
  have z : ∀ {c : Prop} {n : Nat}, (n ≠ 0 → c) → ¬c → n = 0 :=
    fun hc nc => Decidable.of_not_not fun hn => nc (hc hn)
  have wf : (printR cd ch cm cs d h m sec frac p sep).WF :=
    ⟨optPiece_wf _ hs (natText_wf _), optPiece_wf _ hs (natText_wf _), optPiece_wf _ hs (natText_wf _),
      fun q hq => (optPiece_wf _ hs (fixedNum_wf _ _ _) q hq).1, allWs_nil⟩
  -- if nothing is printed every part is zero, and so is the number
  have hne' : (printR cd ch cm cs d h m sec frac p sep).NonEmpty := by
    simp only [TradR.NonEmpty, TradR.nums, printR, List.any_cons, List.any_nil, optPiece_isSome, Bool.or_false,
      Bool.or_eq_true, decide_eq_true_eq]
    rcases hne with h | h
    · exact Or.inl h
    · refine Decidable.by_contra fun hn => h ?_
      rw [z hd fun c => hn (Or.inr (Or.inr (Or.inr c))), z hh fun c => hn (Or.inr (Or.inr (Or.inl c))),
        z hm fun c => hn (Or.inr (Or.inl c)), z (fun x => hsec (Or.inl x)) fun c => hn (Or.inl c)]
  -- what is printed, with the separator in front of the first part too, is the text of `printR`
  rw [convert_joinParts sep hs]
  refine (congrArg convert (?_ : _ = (printR cd ch cm cs d h m sec frac p sep).text)).trans ?_
  · -- `sepAll_opt` is about a part in front of a list: the last part gets the empty list behind it
    rw [← List.append_nil (if cs then [fixedStr sec frac p ++ ['s']] else [])]
    simp only [List.append_assoc, sepAll_opt, fixedStr_eq]
    simp only [TradR.text, printR, optText_optPiece, natText, NumText.text, fracText, List.append_nil, sepAll,
      List.map_nil, List.flatten_nil]
  rw [convert_trad_sum _ wf
    (fracSmallestOnly_cons _ _ (by
      simp only [noFracs, List.all_cons, List.all_nil, printR, optPiece_natText_noFrac, Bool.and_self])) hne']
  simp only [printR]
  rw [ntVal_optPiece _ _ _ (fun c => by rw [natText_val, z hd c]; rfl),
    ntVal_optPiece _ _ _ (fun c => by rw [natText_val, z hh c]; rfl),
    ntVal_optPiece _ _ _ (fun c => by rw [natText_val, z hm c]; rfl),
    ntVal_optPiece _ _ _ (fun c => by
      rw [fixedNum_val _ _ _ hfr, z (fun x => hsec (Or.inl x)) c, z (fun x => hsec (Or.inr x)) c, Rat.div_def]
      exact (Rat.zero_add _).trans (Rat.zero_mul _)),
    natText_val, natText_val, natText_val, fixedNum_val _ _ _ hfr]
  simp only [Rat.natCast_add, Rat.natCast_mul, Rat.add_assoc]
  rfl

theorem dhms_sum (w : Nat) :
    86400 * (w / 86400) + 3600 * (w % 86400 / 3600) + 60 * (w % 86400 % 3600 / 60) +
      w % 86400 % 3600 % 60 = w := by
  rw [Nat.add_assoc, Nat.add_assoc, Nat.div_add_mod, Nat.div_add_mod, Nat.div_add_mod]

theorem convert_timestrTicks (ticks p : Nat) (sep : List Char) (hs : allWs sep) :
    convert (timestrTicks ticks p sep) = .ok ((ticks : Rat) / ((10 ^ p : Nat) : Rat)) := by
  -- `timestr` always prints minutes and seconds: the parts list in the form of `convert_parts`
  have e : ∀ (A : List (List Char)) x y,
      A ++ [x, y] = A ++ (if True then [x] else []) ++ (if True then [y] else []) :=
    fun A x y => (List.append_assoc A [x] [y]).symm
  unfold timestrTicks
  simp only [secPerDay_eq, secPerHour_eq, secPerMin_eq]
  rw [e, convert_parts _ _ True True _ _ _ _ _ p sep hs (Nat.mod_lt _ (pow10_pos p))
    id Or.inr (fun _ => trivial) (fun _ => trivial) (Or.inl trivial),
    dhms_sum, natCast_div_add_mod ticks _ (pow10_rat_ne p)]

theorem dh_sum (w : Nat) (h : w % 3600 = 0) :
    86400 * (w / 86400) + 3600 * (w % 86400 / 3600) + 60 * 0 + w % 86400 % 3600 = w := by
  have : w % 86400 % 3600 = 0 := (Nat.mod_mod_of_dvd _ (by decide)).trans h
  omega

theorem convert_approxRender (r : ARounded) (w f p : Nat) (sep : List Char) (hs : allWs sep)
    (hp : (if r.a.isFloat then r.a.sprec else 0) = p)
    (hw : roundTicks r.a.v p / 10 ^ p = w) (hf : roundTicks r.a.v p % 10 ^ p = f)
    (hS : r.omitSec = true → f = 0 ∧ w % 60 = 0 ∧ 60 ≤ w)
    (hM : r.omitMin = true → r.omitSec = true ∧ w % 3600 = 0) :
    convert (approxRender r sep) = .ok ((w : Rat) + (f : Rat) / ((10 ^ p : Nat) : Rat)) := by
  have hfr : f < 10 ^ p := hf ▸ Nat.mod_lt _ (pow10_pos p)
  unfold approxRender approxParts
  simp only [hp, hw, hf, secPerDay_eq, secPerHour_eq, secPerMin_eq]
  -- something is printed: the seconds, or the value is a minute at least
  have hpos : ∀ x, x = w → r.omitSec = false ∨ x ≠ 0 := fun x hx => by
    cases hoS : r.omitSec with
    | false => exact Or.inl rfl
    | true => exact Or.inr (hx ▸ Nat.ne_of_gt (Nat.lt_of_lt_of_le (by decide) (hS hoS).2.2))
  cases hoM : r.omitMin with
  | true =>
    obtain ⟨hoS, hw3600⟩ := hM hoM
    have hs0 : w % 86400 % 3600 = 0 := (Nat.mod_mod_of_dvd _ (by decide)).trans hw3600
    simp only [↓reduceIte]
    rw [convert_parts _ _ _ _ _ _ _ _ _ p sep hs hfr id Or.inr (fun c => absurd rfl c)
      (fun c => c.elim (fun c => absurd hs0 c) (fun c => absurd (hS hoS).1 c)) (hpos _ (dh_sum w hw3600)),
      dh_sum w hw3600]
  | false =>
    simp only [Bool.false_eq_true, ↓reduceIte, true_and]
    rw [convert_parts _ _ _ _ _ _ _ _ _ p sep hs hfr id Or.inr (fun c => Or.inr (Or.inr c))
      (fun c => Decidable.of_not_not fun hn =>
        have hS := hS (Bool.not_eq_false _ ▸ hn)
        c.elim (fun c => c ((Nat.mod_mod_of_dvd _ (by decide)).trans
          ((Nat.mod_mod_of_dvd _ (by decide)).trans hS.2.1))) (fun c => c hS.1))
      (hpos _ (dhms_sum w)), dhms_sum]

/-! ## The roundings of `timestr_approx` -/

/-- the number a `timestr`/`timestr_approx` argument stands for -/
def Secs.val : Secs → Rat
  | .int n => (n : Rat)
  | .float q => q

/-- the value is a whole number of ticks of the decimal place it is printed with -/
def OnGrid (a : AVal) : Prop :=
  ∃ N : Nat, a.v = (N : Rat) / ((10 ^ (if a.isFloat then a.sprec else 0) : Nat) : Rat)

/-- one `if lo <= x < hi: x = round(x, …)` of the chain; `mk` is the rounding -/
def roundStep (lo hi : Rat) (mk : Rat → AVal) (a : AVal) : AVal :=
  if lo ≤ a.v ∧ a.v < hi then mk a.v else a

def decStep (p : Nat) (v : Rat) : AVal := ⟨roundTo v p, true, p⟩
def intStep (v : Rat) : AVal := ⟨((roundHalfEven v).toNat : Rat), false, 0⟩

def fstep1 (q : Rat) : AVal := if q < 1 then decStep 3 q else ⟨q, true, 0⟩
def fstep2 : AVal → AVal := roundStep 1 10 (decStep 2)
def fstep3 : AVal → AVal := roundStep 10 60 (decStep 1)
def fstep4 : AVal → AVal := roundStep 60 ((10 * Gen.secPerHour : Nat) : Rat) intStep

theorem approxFloat_eq (q : Rat) : approxFloat q = fstep4 (fstep3 (fstep2 (fstep1 q))) := rfl

theorem c36000 : ((10 * Gen.secPerHour : Nat) : Rat) = 36000 := by decide

theorem onGrid_decStep (p : Nat) (v : Rat) : OnGrid (decStep p v) := ⟨roundTicks v p, rfl⟩

theorem onGrid_intStep (v : Rat) : OnGrid (intStep v) :=
  ⟨(roundHalfEven v).toNat, (div_pow_zero _).symm⟩

theorem onGrid_natCast (k : Nat) : OnGrid ⟨(k : Rat), false, 0⟩ := ⟨k, (div_pow_zero _).symm⟩

theorem onGrid_intCast (n : Int) (hn : 0 ≤ n) : OnGrid ⟨(n : Rat), false, 0⟩ := by
  obtain ⟨N, rfl⟩ : ∃ N : Nat, n = (N : Int) := ⟨n.toNat, by omega⟩
  rw [Rat.intCast_natCast]
  exact onGrid_natCast N

/-- the number of decimal places `timestr_approx` keeps of a float below 10 hours -/
def places (q : Rat) : Nat := if q < 1 then 3 else if q < 10 then 2 else if q < 60 then 1 else 0

/-- Where `q` stands after the steps of the chain for the classes below `b`: not reached yet, or
    rounded to the places of its class.  A rounded value is below `b` or a whole number (the carry
    into the next class), and neither is moved by a later step. -/
def Chain (b q : Rat) (a : AVal) : Prop :=
  (b ≤ q ∧ a = ⟨q, true, 0⟩) ∨
  (q < b ∧ a.v = roundTo q (places q) ∧ OnGrid a ∧ (a.v < b ∨ ∃ n : Nat, a.v = n))

theorem chain_step (lo hi : Rat) (H p : Nat) (mk : Rat → AVal) (hlh : lo ≤ hi) (hH : hi = (H : Rat))
    (hv : ∀ v, (mk v).v = roundTo v p) (hg : ∀ v, OnGrid (mk v))
    (hp : ∀ q, lo ≤ q → q < hi → places q = p) (q : Rat) (a : AVal) (h : Chain lo q a) :
    Chain hi q (roundStep lo hi mk a) := by
  unfold roundStep
  rcases h with ⟨hq, rfl⟩ | ⟨hq, hav, hag, hs⟩
  · by_cases c : q < hi
    · rw [if_pos ⟨hq, c⟩]
      refine Or.inr ⟨c, by rw [hv, hp q hq c], hg q, ?_⟩
      rw [hv, hH]
      exact (Rat.le_iff_lt_or_eq.mp (roundTo_le_natCast q p H (hH ▸ c))).imp_right fun e => ⟨H, e⟩
    · rw [if_neg fun h => c h.2]
      exact Or.inl ⟨Rat.not_lt.mp c, rfl⟩
  · have hq' : q < hi := Std.lt_of_lt_of_le hq hlh
    rcases hs with hs | ⟨n, hn⟩
    · rw [if_neg fun h => Rat.not_le.mpr hs h.1]
      exact Or.inr ⟨hq', hav, hag, Or.inl (Std.lt_of_lt_of_le hs hlh)⟩
    · by_cases c : lo ≤ a.v ∧ a.v < hi
      · rw [if_pos c]
        have e : (mk a.v).v = a.v := by rw [hv, hn, roundTo_natCast]
        exact Or.inr ⟨hq', e.trans hav, hg _, Or.inr ⟨n, e.trans hn⟩⟩
      · rw [if_neg c]
        exact Or.inr ⟨hq', hav, hag, Or.inr ⟨n, hn⟩⟩

theorem approxFloat_chain (q : Rat) (hq : 0 ≤ q) :
    Chain ((10 * Gen.secPerHour : Nat) : Rat) q (approxFloat q) := by
  have h1 : fstep1 q = roundStep 0 1 (decStep 3) ⟨q, true, 0⟩ := by
    unfold fstep1 roundStep
    by_cases c : q < 1
    · rw [if_pos c, if_pos ⟨hq, c⟩]
    · rw [if_neg c, if_neg fun h => c h.2]
  have le1 : ∀ {x : Rat}, 10 ≤ x → 1 ≤ x := Rat.le_trans (by decide)
  have le10 : ∀ {x : Rat}, 60 ≤ x → 10 ≤ x := Rat.le_trans (by decide)
  rw [approxFloat_eq, h1]
  refine chain_step 60 _ _ 0 intStep (by decide) rfl (fun v => (roundTo_zero v).symm) onGrid_intStep ?_ q _
    (chain_step 10 60 60 1 (decStep 1) (by decide) rfl (fun _ => rfl) (onGrid_decStep 1) ?_ q _
    (chain_step 1 10 10 2 (decStep 2) (by decide) rfl (fun _ => rfl) (onGrid_decStep 2) ?_ q _
    (chain_step 0 1 1 3 (decStep 3) (by decide) rfl (fun _ => rfl) (onGrid_decStep 3) ?_ q _
    (Or.inl ⟨hq, rfl⟩))))
  all_goals intro x hlo hhi; unfold places
  · rw [if_neg (Rat.not_lt.mpr (le1 (le10 hlo))), if_neg (Rat.not_lt.mpr (le10 hlo)),
      if_neg (Rat.not_lt.mpr hlo)]
  · rw [if_neg (Rat.not_lt.mpr (le1 hlo)), if_neg (Rat.not_lt.mpr hlo), if_pos hhi]
  · rw [if_neg (Rat.not_lt.mpr hlo), if_pos hhi]
  · rw [if_pos hhi]

theorem approxFloat_small (q : Rat) (hq : 0 ≤ q) (h : q < 36000) :
    (approxFloat q).v = roundTo q (places q) ∧ OnGrid (approxFloat q) := by
  rcases approxFloat_chain q hq with ⟨h', _⟩ | ⟨_, hv, hg, _⟩
  · rw [c36000] at h'
    exact absurd h (Rat.not_lt.mpr h')
  · exact ⟨hv, hg⟩

theorem approxFloat_large (q : Rat) (h : 36000 ≤ q) : approxFloat q = ⟨q, true, 0⟩ := by
  rcases approxFloat_chain q (Rat.le_trans (by decide) h) with ⟨_, e⟩ | ⟨h', _⟩
  · exact e
  · rw [c36000] at h'
    exact absurd h' (Rat.not_lt.mpr h)

theorem approxFloat_nonneg_onGrid (q : Rat) (hq : 0 ≤ q) :
    0 ≤ (approxFloat q).v ∧ ((approxFloat q).v < 36000 → OnGrid (approxFloat q)) := by
  by_cases c : q < 36000
  · obtain ⟨hv, hg⟩ := approxFloat_small q hq c
    exact ⟨hv ▸ roundTo_nonneg _ _, fun _ => hg⟩
  · rw [approxFloat_large q (Rat.not_lt.mp c)]
    exact ⟨hq, fun h => absurd h c⟩

theorem c864000 : ((10 * Gen.secPerDay : Nat) : Rat) = 864000 := by decide

theorem approxCoarse_small (a : AVal) (h : a.v < 36000) : approxCoarse a = ⟨a, false, false⟩ := by
  have n1 : ¬ ((36000 : Rat) ≤ a.v ∧ a.v < 864000) := fun c => Rat.not_lt.mpr c.1 h
  have n2 : ¬ ((864000 : Rat) ≤ a.v) := fun c => Rat.not_lt.mpr (Rat.le_trans (by decide) c) h
  unfold approxCoarse
  simp only [c36000, c864000, n1, n2, ↓reduceIte]

theorem approxCoarse_large (a : AVal) (h : 36000 ≤ a.v) :
    ∃ (k : Nat) (oM : Bool), approxCoarse a = ⟨⟨(k : Rat), false, 0⟩, oM, true⟩ ∧ k % 60 = 0 ∧ 60 ≤ k ∧
      (oM = true → k % 3600 = 0 ∧ 3600 ≤ k) ∧
      k = if a.v < 864000 then roundUnit a.v 60 else roundUnit a.v 3600 := by
  unfold approxCoarse
  simp only [c36000, c864000]
  simp only [secPerHour_eq, secPerMin_eq]
  by_cases c : a.v < 864000
  · have g1 : 60 ≤ roundUnit a.v 60 := Nat.le_trans (by decide) (le_roundUnit 60 600 (by decide) h)
    have g2 := roundUnit_le 60 14400 (by decide) (Rat.le_of_lt c)
    have hmod : roundUnit a.v 60 % 60 = 0 := Nat.mul_mod_right _ _
    simp only [if_pos (And.intro h c), if_pos c]
    by_cases c2 : (864000 : Rat) ≤ (roundUnit a.v 60 : Rat)
    · -- the corner: rounding to minutes reached 10 days exactly, a multiple of an hour
      have hm : roundUnit a.v 60 = 3600 * 240 := Nat.le_antisymm g2 (Rat.natCast_le_natCast.mp c2)
      refine ⟨roundUnit a.v 60, true, ?_, hmod, g1, fun _ => hm ▸ ⟨by decide, by decide⟩, rfl⟩
      simp only [if_pos c2]
      rw [hm, roundUnit_multiple 3600 240 (by decide)]
    · refine ⟨roundUnit a.v 60, false, ?_, hmod, g1, fun h => absurd h Bool.false_ne_true, rfl⟩
      simp only [if_neg c2]
  · have c' := Rat.not_lt.mp c
    have g1 := le_roundUnit 3600 240 (by decide) c'
    simp only [if_neg (fun h : (36000 : Rat) ≤ a.v ∧ a.v < 864000 => c h.2), if_neg c, if_pos c']
    exact ⟨roundUnit a.v 3600, true, rfl,
      Nat.mod_eq_zero_of_dvd (Nat.dvd_trans (by decide) (Nat.dvd_mul_right 3600 _)),
      Nat.le_trans (by decide) g1, fun _ => ⟨Nat.mul_mod_right _ _, Nat.le_trans (by decide) g1⟩, rfl⟩

theorem approxCoarse_val_of_le (a : AVal) (h : a.v ≤ 36000) : (approxCoarse a).a.v = a.v := by
  rcases Rat.le_iff_lt_or_eq.mp h with h | h
  · rw [approxCoarse_small a h]
  · obtain ⟨k, oM, e, -, -, -, hk⟩ := approxCoarse_large a (h ▸ Rat.le_refl)
    rw [e, hk, h, if_pos (by decide)]
    exact congrArg (fun n : Nat => (n : Rat)) (roundUnit_multiple 60 600 (by decide))

theorem convert_approxRender_coarse (a : AVal) (hg : a.v < 36000 → OnGrid a)
    (sep : List Char) (hs : allWs sep) :
    convert (approxRender (approxCoarse a) sep) = .ok (approxCoarse a).a.v := by
  by_cases c1 : a.v < 36000
  · rw [approxCoarse_small a c1]
    obtain ⟨N, hN⟩ := hg c1
    rw [convert_approxRender ⟨a, false, false⟩ _ _ _ sep hs rfl rfl rfl (fun h => nomatch h) (fun h => nomatch h),
      natCast_div_add_mod _ _ (pow10_rat_ne _), hN, roundTicks_on_grid]
  · obtain ⟨k, oM, e, hm, hk, hM, _⟩ := approxCoarse_large a (Rat.not_lt.mp c1)
    rw [e]
    exact (convert_approxRender ⟨⟨(k : Rat), false, 0⟩, oM, true⟩ k 0 0 sep hs rfl
      (by rw [roundTicks_natCast, Nat.pow_zero, Nat.div_one]) (by rw [roundTicks_natCast]; exact Nat.mod_one k)
      (fun _ => ⟨rfl, hm, hk⟩) (fun h => ⟨rfl, (hM h).1⟩)).trans
      (congrArg _ ((congrArg _ (div_pow_zero _)).trans (Rat.add_zero _)))

theorem decStep_isFloat (lo hi : Rat) (p : Nat) (a : AVal) (ha : a.isFloat = true) :
    (roundStep lo hi (decStep p) a).isFloat = true := by
  unfold roundStep
  split
  · rfl
  · exact ha

theorem fstep4_float (b : AVal) (h : (fstep4 b).isFloat = true) : fstep4 b = b := by
  unfold fstep4 roundStep at h ⊢
  split
  · rename_i c; rw [if_pos c] at h; cases h
  · rfl

theorem coarse_grid (a : AVal) (hg : a.v < 36000 → OnGrid a) :
    OnGrid (approxCoarse a).a ∧ ((approxCoarse a).a.isFloat = true → (approxCoarse a).a = a) := by
  by_cases c1 : a.v < 36000
  · rw [approxCoarse_small a c1]
    exact ⟨hg c1, fun _ => rfl⟩
  · obtain ⟨k, oM, e, _⟩ := approxCoarse_large a (Rat.not_lt.mp c1)
    rw [e]
    exact ⟨onGrid_natCast k, fun h => nomatch h⟩

end Edzed.TimeUnits
