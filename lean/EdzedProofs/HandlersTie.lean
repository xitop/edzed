/-
Helper definitions and lemmas for the translation tie of `SBlock.__init_subclass__` (C11): the primitives of
the generated program (EdzedModel/Gen/TranslatedHandlers.lean) instantiated with the model
EdzedModel/Handlers.lean, the loops of the program as folds of the model, and the characterisation of the
table: an event type is handled by the first `_event_<etype>` in MRO order.
-/
import EdzedModel.Handlers
import EdzedModel.Gen.TranslatedHandlers

namespace Edzed.TrTie
open Edzed.Handlers Edzed.Gen.TrD Edzed.Gen.TrH

/-- a str object: its value and "it is a new object made by removeprefix" -/
abbrev NameObj := String × Bool

/-- `x.removeprefix(p)`: a new object when the prefix is there, else `x` itself -/
def rmPrefix (p : String) (x : NameObj) : NameObj :=
  match stripPrefix p x.1 with
  | some e => (e, true)
  | none => x

theorem rmPrefix_none {p n : String} (h : stripPrefix p n = none) : rmPrefix p (n, false) = (n, false) := by
  simp [rmPrefix, h]

theorem rmPrefix_some {p n e : String} (h : stripPrefix p n = some e) : rmPrefix p (n, false) = (e, true) := by
  simp [rmPrefix, h]

/-- the primitives of `__init_subclass__` on the model: the state is the table under construction -/
def hPrims : HandlerPrims Table String ClassD NameObj String where
  superInitSubclass := M.pure ()
  tableReset := M.modify fun _ => []
  isAddon := fun c => c.addon
  isSBlock := fun c => c.isSBlock
  isSBlockOrAddon := fun c => c.eligible
  varsItems := fun c => c.methods.map fun n => ((n, false), c.name ++ "." ++ n)
  removePrefix := rmPrefix
  sameObject := fun a b => a == b
  tableHas := fun t e => t.any (·.1 == e.1)
  tableSet := fun e m => M.modify fun t => t ++ [(e.1, m)]
  mkExc := fun cls _ => cls

-- (`rfl` is slow to elaborate here)
theorem hp_remove (x : NameObj) : hPrims.removePrefix "_event_" x = rmPrefix "_event_" x := Eq.refl _
theorem hp_same (a b : NameObj) : hPrims.sameObject a b = (a == b) := rfl
theorem hp_has (t : Table) (e : NameObj) : hPrims.tableHas t e = t.any (·.1 == e.1) := rfl
theorem hp_set (e : NameObj) (m : String) : hPrims.tableSet e m = M.modify fun t => t ++ [(e.1, m)] := rfl

/-- the outcome of the translated class creation as the model's result -/
def toBuild (p : Table × Out String Unit Unit) : Except String Table :=
  match p.2 with
  | .next _ => .ok p.1
  | .raise e => .error e
  | .ret _ => .ok p.1
  | .diverged => .error "diverged"

def errOf : Except String Table → Option String
  | .error e => some e
  | .ok _ => none

theorem for2_is_addMethods (c : ClassD) (ns : List String) (t : Table) :
    initSubclass_for2 hPrims (ns.map fun n => ((n, false), c.name ++ "." ++ n)) t =
      (ns.foldl (addName c) t, .next ()) := by
  induction ns generalizing t with
  | nil => rfl
  | cons n ns ih =>
    rw [List.map_cons, initSubclass_for2, List.foldl_cons]
    -- without the prefix `removeprefix` returns the very object; with it a new one, stored unless known
    rcases Option.eq_none_or_eq_some (stripPrefix "_event_" n) with hs | ⟨e, hs⟩ <;>
      simp only [M.bind, M.get, hp_remove, hp_same, hp_has, hp_set, rmPrefix, addName, eventName, hs]
    · simpa using ih t
    · cases ha : t.any (·.1 == e) <;> simpa [ha, M.modify, M.bind] using ih _

/-- the order check as the loop sees it: `seen` = SBlock has been met already -/
def orderOkFrom (seen : Bool) (mro : List ClassD) : Bool :=
  if seen then mro.all (fun x => !x.addon) else orderOk mro

theorem orderOk_split (pre post : List ClassD) (sb : ClassD) (hsb : sb.isSBlock = true)
    (hpre : ∀ c ∈ pre, c.isSBlock = false) :
    orderOk (pre ++ sb :: post) = post.all (fun x => !x.addon) := by
  induction pre with
  | nil => simp [orderOk, hsb]
  | cons c pre ih =>
    have hc : c.isSBlock = false := hpre c (by simp)
    simp only [List.cons_append, orderOk, hc, Bool.false_eq_true, if_false]
    exact ih (fun x hx => hpre x (by simp [hx]))

theorem for1_step_tail (c : ClassD) (mro : List ClassD) (seen' : Bool) (t : Table) :
    (if hPrims.isSBlockOrAddon c then
        M.bind (initSubclass_for2 hPrims (hPrims.varsItems c)) fun (_ : Unit) => initSubclass_for1 hPrims mro seen'
      else initSubclass_for1 hPrims mro seen') t = initSubclass_for1 hPrims mro seen' (addClass t c) := by
  have hE : hPrims.isSBlockOrAddon c = c.eligible := rfl
  have hv : hPrims.varsItems c = c.methods.map fun n => ((n, false), c.name ++ "." ++ n) := rfl
  unfold addClass
  cases he : c.eligible with
  | false => simp only [hE, he, Bool.false_eq_true, if_false]
  | true =>
    simp only [hE, he, if_true, M.bind, hv, for2_is_addMethods]
    rfl

theorem for1_is_model (mro : List ClassD) (seen : Bool) (t : Table) :
    (orderOkFrom seen mro = true →
      initSubclass_for1 hPrims mro seen t = (mro.foldl addClass t, .next (seen || mro.any (·.isSBlock))))
    ∧ (orderOkFrom seen mro = false → (initSubclass_for1 hPrims mro seen t).2 = .raise "TypeError") := by
  induction mro generalizing seen t with
  | nil => cases seen <;> simp [orderOkFrom, orderOk, initSubclass_for1, M.pure]
  | cons c mro ih =>
    rw [initSubclass_for1]
    simp only [M.bind]
    cases seen with
    | true =>
      cases hadd : c.addon with
      | true =>
        have hA : hPrims.isAddon c = true := hadd
        have ho : orderOkFrom true (c :: mro) = false := by simp [orderOkFrom, hadd]
        simp only [ho, hA, if_true, M.raise]
        exact ⟨fun h => Bool.noConfusion h, fun _ => rfl⟩
      | false =>
        have hA : hPrims.isAddon c = false := hadd
        have ho : orderOkFrom true (c :: mro) = orderOkFrom true mro := by simp [orderOkFrom, hadd]
        simp only [ho, hA, if_true, Bool.false_eq_true, if_false, M.pure, for1_step_tail, List.foldl_cons,
          Bool.true_or]
        have := ih true (addClass t c)
        simpa using this
    | false =>
      have hS : hPrims.isSBlock c = c.isSBlock := rfl
      cases hsb : c.isSBlock with
      | true =>
        have ho : orderOkFrom false (c :: mro) = orderOkFrom true mro := by simp [orderOkFrom, orderOk, hsb]
        simp only [ho, hS, hsb, if_true, Bool.false_eq_true, if_false, M.pure, for1_step_tail, List.foldl_cons,
          List.any_cons, Bool.true_or, Bool.false_or]
        have := ih true (addClass t c)
        simpa using this
      | false =>
        have ho : orderOkFrom false (c :: mro) = orderOkFrom false mro := by simp [orderOkFrom, orderOk, hsb]
        simp only [ho, hS, hsb, Bool.false_eq_true, if_false, M.pure, for1_step_tail, List.foldl_cons,
          List.any_cons, Bool.false_or]
        exact ih false (addClass t c)

theorem lookup_append (t : Table) (e e' v : String) :
    Table.lookup (t ++ [(e', v)]) e = (Table.lookup t e).or (if e' == e then some v else none) := by
  unfold Table.lookup
  rw [List.find?_append]
  cases t.find? (fun x => x.1 == e) <;> simp [List.find?]
  split <;> simp_all

theorem any_iff_lookup (t : Table) (e : String) : t.any (·.1 == e) = (Table.lookup t e).isSome := by
  unfold Table.lookup
  rw [Option.isSome_map, Bool.eq_iff_iff]
  simp [List.find?_isSome]

theorem lookup_addName (c : ClassD) (t : Table) (n e : String) :
    Table.lookup (addName c t n) e =
      (Table.lookup t e).or (if eventName n == some e then some (c.name ++ "." ++ n) else none) := by
  unfold addName
  cases hn : eventName n with
  | none => simp
  | some e' =>
    by_cases ha : t.any (fun x => x.1 == e') = true
    · simp only [ha, if_true]
      by_cases hee : e' = e
      · subst hee
        rw [any_iff_lookup] at ha
        cases h : Table.lookup t e' <;> simp_all
      · simp [hee]
    · have ha' : t.any (fun x => x.1 == e') = false := Bool.eq_false_iff.2 ha
      simp only [ha', Bool.false_eq_true, if_false, lookup_append]
      by_cases hee : e' = e <;> simp [hee]

theorem lookup_addMethods (c : ClassD) (ns : List String) (t : Table) (e : String) :
    Table.lookup (ns.foldl (addName c) t) e =
      (Table.lookup t e).or ((ns.find? (fun n => eventName n == some e)).map (fun n => c.name ++ "." ++ n)) := by
  induction ns generalizing t with
  | nil => simp
  | cons n ns ih =>
    rw [List.foldl_cons, ih, lookup_addName]
    by_cases hn : (eventName n == some e) = true
    · simp [hn, List.find?, Option.or_assoc]
    · have hn' : (eventName n == some e) = false := by simpa using hn
      simp [hn', List.find?]

theorem lookup_fold (mro : List ClassD) (t : Table) (e : String) :
    Table.lookup (mro.foldl addClass t) e = (Table.lookup t e).or (firstInMro mro e) := by
  induction mro generalizing t with
  | nil => simp [firstInMro]
  | cons c mro ih =>
    rw [List.foldl_cons, ih]
    unfold addClass firstInMro
    cases he : c.eligible with
    | false => simp [he, List.filter]
    | true =>
      simp only [he, if_true, addMethods, lookup_addMethods, List.filter, List.findSome?_cons, Option.or_assoc]
      congr 1
      cases (c.methods.find? fun n => eventName n == some e) <;> simp

theorem find_isSome_contains {β : Type} (l : List (String × β)) (e : String) :
    (l.find? (·.1 == e)).isSome = (l.map (·.1)).contains e := by
  induction l with
  | nil => rfl
  | cons x l ih =>
    by_cases h : (x.1 == e) = true
    · have h2 : (e == x.1) = true := by rw [Bool.beq_comm]; exact h
      simp [List.find?, h, h2]
    · have h' : (x.1 == e) = false := Bool.eq_false_iff.2 h
      have h2 : (e == x.1) = false := by rw [Bool.beq_comm]; exact h'
      simp only [List.find?, h', List.map_cons, List.contains_cons, h2, Bool.false_or]
      exact ih

theorem contains_keys (t : Table) (e : String) :
    (Table.lookup t e).isSome = (t.map (·.1)).contains e := by
  unfold Table.lookup
  rw [Option.isSome_map]
  exact find_isSome_contains t e

/-- The tables of the library classes, built by the model from the real class hierarchies, have the keys Python
    has in `_ct_handlers` (generated lists on both sides), and `put` is handled by the class's own method: one
    evaluation for all of them, so that the classes the hierarchies share are examined once. -/
theorem handlerTable_library :
    ((handlerTable mroInput).map (·.1) = keysInput ∧ (handlerTable mroCounter).map (·.1) = keysCounter
      ∧ (handlerTable mroOutputFunc).map (·.1) = keysOutputFunc
      ∧ (handlerTable mroOutputAsync).map (·.1) = keysOutputAsync
      ∧ (handlerTable mroControlBlock).map (·.1) = keysControlBlock
      ∧ (handlerTable mroRepeat).map (·.1) = keysRepeat ∧ (handlerTable mroTimerBlk).map (·.1) = keysTimerBlk
      ∧ (handlerTable mroTimeDate).map (·.1) = keysTimeDate ∧ (handlerTable mroTimeSpan).map (·.1) = keysTimeSpan)
    ∧ ((handlerTable mroInput).lookup "put" = some "Input._event_put"
      ∧ (handlerTable mroCounter).lookup "put" = some "Counter._event_put"
      ∧ (handlerTable mroOutputFunc).lookup "put" = some "OutputFunc._event_put") := by decide +kernel

end Edzed.TrTie
