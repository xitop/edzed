/-
C13: date-time notations whose parts (time of day, year, month name, day) are separated by blanks and come in any
order.  The time text is abstract (`TimeText`): whatever `_RE_TIME` matches as a whole and `convert_time_str` accepts.
`_RE_TIME` passes over the other pieces and takes it (`datetime_of_pieces`); then the year is found wherever it stands
among pieces that hold no four digits, then month and day in their order.  Core Lean only.
-/
import EdzedModel.Interval
import EdzedProofs.Interval
import EdzedProofs.IntervalText
import EdzedProofs.IntervalNotations
import EdzedProofs.IntervalSearch

namespace Edzed.Interval

/-- a text that `_RE_TIME` matches as a whole when the end of the string or a blank follows -/
structure TimeText (tt : List Char) : Prop where
  first : ∃ c r, tt = c :: r ∧ isDigit c = true
  ascii : asciiOk tt = true
  trimmed : trimmedB tt = true
  noT : 'T' ∉ tt
  whole : ∀ B, (B = [] ∨ ∃ r, B = ' ' :: r) → reTime (tt ++ B) = some ⟨tt.length, [tt]⟩

def insertAll {α : Type} (x : α) : List α → List (List α)
  | [] => [[x]]
  | y :: ys => (x :: y :: ys) :: (insertAll x ys).map (y :: ·)

def perms {α : Type} : List α → List (List α)
  | [] => [[]]
  | x :: xs => (perms xs).flatMap (insertAll x)

theorem mem_insertAll {α : Type} {x : α} {l ts : List α} (h : ts ∈ insertAll x l) :
    ∃ pre post, l = pre ++ post ∧ ts = pre ++ x :: post := by
  induction l generalizing ts with
  | nil =>
    simp only [insertAll, List.mem_singleton] at h
    exact ⟨[], [], rfl, by simp [h]⟩
  | cons y ys ih =>
    simp only [insertAll, List.mem_cons, List.mem_map] at h
    rcases h with rfl | ⟨t', ht', rfl⟩
    · exact ⟨[], y :: ys, rfl, rfl⟩
    · obtain ⟨pre, post, h1, h2⟩ := ih ht'
      exact ⟨y :: pre, post, by simp [h1], by simp [h2]⟩

theorem perms_perm {α : Type} : ∀ {l ts : List α}, ts ∈ perms l → ts.Perm l
  | [], ts, h => by simp only [perms, List.mem_singleton] at h; subst h; exact .nil
  | x :: xs, ts, h => by
    simp only [perms, List.mem_flatMap] at h
    obtain ⟨p, hp, hi⟩ := h
    obtain ⟨pre, post, rfl, rfl⟩ := mem_insertAll hi
    exact List.perm_middle.trans ((perms_perm hp).cons x)

theorem trimmedB_joinSp (l : List (List Char)) (hl : l ≠ []) (h : ∀ t ∈ l, trimmedB t = true) :
    trimmedB (joinSp l) = true := by
  induction l with
  | nil => exact absurd rfl hl
  | cons a rest ih =>
    cases rest with
    | nil => simpa [joinSp] using h a (by simp)
    | cons b r =>
      have ha := (trimmedB_iff a).1 (h a (by simp))
      have hr := (trimmedB_iff _).1 (ih (by simp) (fun t ht => h t (by simp [ht])))
      rw [joinSp_cons_ne a (by simp)]
      exact trimmedB_append ha.1 (.append_left [' '] hr.2)

theorem convertStr_datetime_of_raw {s : List Char} {e : Ep} (ha : asciiOk s = true) (ht : trimmedB s = true)
    (hT : 'T' ∉ s) (hr : dateTimeRaw s = .ok e) (hv : validDateTime e = true) :
    convertStr .datetime s = .ok e := by
  apply convertStr_of_trimmed (k := .datetime) ha ht
  simp [convertDateTimeStripped, hT, convertDateTimeCore, hr, checkEp, validEp, hv]

/-- a part of a blank-separated date-time text; a capital `T` would send the text to `fromisoformat` -/
abbrev CleanPart (t : List Char) : Prop := asciiOk t = true ∧ trimmedB t = true ∧ 'T' ∉ t

/-- a time text among other clean pieces, those before it without a colon, all separated by single blanks:
    `_RE_TIME` takes the time, and the date is read from the pieces that are left -/
theorem datetime_of_pieces {tt : List Char} {tm e : Ep} {pre post : List (List Char)} (ht : TimeText tt)
    (hct : convertStr .time tt = .ok tm) (hp : ∀ t ∈ pre ++ post, CleanPart t ∧ ':' ∉ t)
    (hv : validDateTime e = true) (hafter : ∀ s, Sp noStop (pre ++ post) s → afterTime s tm = .ok e) :
    convertStr .datetime (joinSp (pre ++ tt :: post)) = .ok e := by
  have hclean : ∀ t ∈ pre ++ tt :: post, CleanPart t := fun t h => by
    rcases List.mem_append.1 h with h | h
    · exact (hp t (List.mem_append_left _ h)).1
    · rcases List.mem_cons.1 h with rfl | h
      · exact ⟨ht.ascii, ht.trimmed, ht.noT⟩
      · exact (hp t (List.mem_append_right _ h)).1
  have sp := Sp.of_joinSp (stop := noStop) fun t h e => by
    have := (hclean t h).2.1
    rw [e] at this; cases this
  obtain ⟨s1, sp1, e1⟩ := sp.search (m := reTime) (grp := [tt])
    (fun r => by simp only [reTime, hourColon_nondigit (a := ' ') rfl r])
    (fun t h R hR => skip_reTime (hp t (List.mem_append_left _ h)).2 (hR.endOk))
    (fun R hR => ht.whole R (hR.endOk))
  have hc' : convertTimeStr tt = .ok tm := by simpa [convertStr, ht.ascii] using hct
  refine convertStr_datetime_of_raw
    (List.all_eq_true.2 (sp.forall_mem (P := fun c => asciiC c = true) rfl fun t h =>
      List.all_eq_true.1 (hclean t h).1))
    (trimmedB_joinSp _ (by simp) fun t h => (hclean t h).2.1)
    (fun hm => sp.forall_mem (P := (· ≠ 'T')) (by decide) (fun t h c hc e => (hclean t h).2.2 (e ▸ hc)) _ hm rfl)
    ?_ hv
  rw [dateTimeRaw_eq, e1]
  simp only [hc', Res.bind_ok]
  exact hafter s1 sp1

/-- a part of a date beside which the year and the time may stand: the patterns for the time, for `YYYY-MM-DD` and for
    the year pass over it -/
structure DatePiece (t : List Char) : Prop where
  clean : CleanPart t
  nocolon : ':' ∉ t
  ymd : ∀ R, EndOk R → Skip reYMD t R
  year : ∀ R, EndOk R → Skip reYear t R

theorem datePiece_month {name p : List Char} {mo : Nat} (hn : MonthName mo name) (hT : 'T' ∉ name) (hp : OptDot p) :
    DatePiece (name ++ p) := by
  have hc := month_piece_chars hn hp
  have hf := alpha_firstLast hn.alpha hn.long
  refine ⟨⟨?_, (trimmedB_iff _).2 ⟨firstOk_append p hf.1, lastOk_optDot hp hf.2⟩, ?_⟩,
    fun h => (dateChar_clean (hc _ h).1).2.2.2 rfl,
    fun R hR => skip_reYMD_nohyphen (fun h => (dateChar_clean (hc _ h).1).2.2.1 rfl) hR,
    fun R _ => skip_first (fun a r h => reYear_nondigit h r) (fun c h => (hc c h).2) R⟩
  · exact List.all_eq_true.2 fun c h => (hc c h).1.ascii
  · rcases hp with rfl | rfl <;> simp [hT]

theorem monthName_three {a b c : Char} {mo : Nat} (ha : isAlpha a = true) (hb : isAlpha b = true)
    (hc : isAlpha c = true) (hT : a ≠ 'T' ∧ b ≠ 'T' ∧ c ≠ 'T') (hm : nameToMonth [a, b, c] = some mo) :
    MonthName mo [a, b, c] ∧ 'T' ∉ [a, b, c] :=
  ⟨⟨by simp [ha, hb, hc], Nat.le_refl 3, hm⟩, by simp [hT.1.symm, hT.2.1.symm, hT.2.2.symm]⟩

theorem datePiece_day {D q : List Char} (hD : Dig12 D) (hq : OptDot q) : DatePiece (D ++ q) := by
  have hc := day_piece_chars hD hq
  have hl : (D ++ q).length < 4 := by
    rcases hD with ⟨x, rfl, -⟩ | ⟨x, y, rfl, -, -⟩ <;> rcases hq with rfl | rfl <;> simp
  have hs : ∀ R, EndOk R → Skip take4digits (D ++ q) R := fun R hR => skip_four_short hl hR.noDigit
  refine ⟨⟨?_, (trimmedB_iff _).2 ⟨firstOk_append q hD.firstLast.1, lastOk_optDot hq hD.firstLast.2⟩, ?_⟩,
    fun h => (dateChar_clean (hc _ h).1).2.2.2 rfl,
    fun R hR => skip_reYMD_nohyphen (fun h => (dateChar_clean (hc _ h).1).2.2.1 rfl) hR,
    fun R hR A1 a A2 e => by simp only [reYear, hs R hR A1 a A2 e]⟩
  · exact List.all_eq_true.2 fun c h => (hc c h).1.ascii
  · have : 'T' ∉ D := fun h => absurd (hD.digits _ h) (by decide)
    rcases hq with rfl | rfl <;> simp [this]

theorem year_token_clean (y : Nat) : CleanPart (pad 4 y) ∧ ':' ∉ pad 4 y := by
  simp [CleanPart, pad4, asciiOk, trimmedB]

/-- time of day, year (four digits), month name of three or more letters, day of the month (one or two digits),
    the latter two with or without a period, separated by single blanks, in ANY order.  Taking out the time leaves
    the other three; the year is found next wherever it stands, then month and day in their order. -/
theorem datetime_any_order_tokens {name p D q tt : List Char} {y mo : Nat} {tm : Ep} (hn : MonthName mo name)
    (hT : 'T' ∉ name) (hp : OptDot p) (hD : Dig12 D) (hq : OptDot q) (ht : TimeText tt)
    (hct : convertStr .time tt = .ok tm) (hv : validDateTime ([y, mo, numOf D] ++ tm) = true)
    {ts : List (List Char)} (hperm : ts.Perm [tt, pad 4 y, name ++ p, D ++ q]) :
    convertStr .datetime (joinSp ts) = .ok ([y, mo, numOf D] ++ tm) := by
  have hy := (validDateTime_ymd hv).1
  have pM := datePiece_month hn hT hp
  have pD := datePiece_day hD hq
  obtain ⟨pre, post, rfl, h3⟩ := perm_split hperm
  obtain ⟨pre1, post1, e, h2⟩ := perm_split h3
  have hsub : ∀ t ∈ pre1 ++ post1, DatePiece t := fun t h => forall_mem_pair pM pD t (h2.subset h)
  have hc : ∀ t ∈ [pad 4 y, name ++ p, D ++ q], CleanPart t ∧ ':' ∉ t :=
    List.forall_mem_cons.2 ⟨year_token_clean y, forall_mem_pair ⟨pM.clean, pM.nocolon⟩ ⟨pD.clean, pD.nocolon⟩⟩
  refine datetime_of_pieces ht hct (fun t h => hc t (h3.subset h)) hv fun s sp => ?_
  rw [e] at sp
  exact afterTime_year tm hy sp (fun t h => (hsub t h).ymd) (fun t h => (hsub t (List.mem_append_left _ h)).year)
    fun s' sp' => monthDay_pieces hn hp hD hq (fun _ h => by cases h) (fun _ h => by cases h) sp' h2

theorem afterTime_year_iso {y mo d : Nat} (tm : Ep) (hy : y ≤ 9999) (hmo : mo < 100) (hd : d < 100)
    {Z s : List Char} (hZ : Z = isoMD mo d ∨ Z = isoMDd mo d) (h : Sp noStop [pad 4 y, Z] s) :
    afterTime s tm = .ok ([y, mo, d] ++ tm) := by
  refine afterTime_year (pre := []) (post := [Z]) tm hy h (fun t ht R hR => ?_) (fun _ ht => nomatch ht)
    fun s' sp' => ?_
  · rw [List.mem_singleton.1 ht]; exact skip_reYMD_isoMD hZ hR
  · obtain ⟨rest, hw, hm⟩ := monthDay_iso hZ sp'
    rw [Nat.mod_eq_of_lt hmo, Nat.mod_eq_of_lt hd] at hm
    exact ⟨rest, hw, hm⟩

/-- the day of the month written with one digit (days 1..9) or with two digits -/
def dayTokens (d : Nat) : List (List Char) := [natStr d, pad 2 d]

theorem dayTokens_spec {d : Nat} (hd : d < 100) {t : List Char} (h : t ∈ dayTokens d) : Fld d t := by
  simp only [dayTokens, List.mem_cons, List.not_mem_nil, or_false] at h
  rcases h with rfl | rfl
  · exact fld_natStr hd
  · exact fld_pad2 hd

end Edzed.Interval
