/-
Tie of the FSM model to the TRANSLATED timer methods of `fsm.FSM` (lean/EdzedModel/Gen/TranslatedFsmTimer.lean,
regenerated from the current Python AST by tools/py2lean_fsmtimer.py on every check): `_set_timer`,
`_timer_expired`, `_start_timer`, `_stop_timer`, `stop`, `start`, `get_state`, `_restore_state`, and the loop of
`__init__` over the `t_STATE` arguments (`initDuration_fold`).

`tprims c env` instantiates the primitives of these programs with the model's meaning of the event loop and
of the block: `call_later` puts a handle into the loop's heap (`timers`), `cancel()` marks it, `cancelled()` /
`when()` read it, `utils.time_period` is `clamp` (the function itself is tied in C19), `self.event(…)` is the
recursive `eventRec` inside a transition and `deliver` outside.  The model's `stopped` is `not self._timers_enabled`; its
initial block `{}` is a started one, there is no operation for `start()`.  `ErrKind.fuel` stands here for an exception
of a class the model does not know (as in `excOf`): a failing `super().stop()`, a comparison the source never makes.
The theorems about the translated programs are in EdzedProps/C04.lean (`translated_fsmtimer_…`).
-/
import EdzedModel.FsmTimer
import EdzedProofs.FsmTimer
import EdzedProofs.FsmTie
import EdzedModel.Gen.TranslatedFsmTimer

namespace Edzed.TrTie
open Edzed.FsmTimer Edzed.Gen.TrM Edzed.Gen.TrT

def cmpInt (op : Cmp) (n : Int) : Bool :=
  match op with
  | .lt => decide (n < 0)
  | .le => decide (n ≤ 0)
  | .gt => decide (0 < n)
  | .ge => decide (0 ≤ n)

/-! `exp_timestamp - time.time()` of `_restore_state`, in the form in which `simp` meets it: the offset of the wall clock
from the loop clock cancels. -/

theorem remaining_cancel (w now wall : Int) : w + wall - (now + wall) = w - now := by
  rw [Int.add_sub_add_right]

theorem remaining_le0 (w now : Nat) : (w : Int) - (now : Int) ≤ 0 ↔ w ≤ now := by
  rw [← Int.ofNat_le]
  exact ⟨Int.le_of_sub_nonpos, Int.sub_nonpos_of_le⟩

theorem remaining_le (w now wall : Nat) : (w : Int) + (wall : Int) - ((now : Int) + (wall : Int)) ≤ 0 ↔ w ≤ now := by
  rw [remaining_cancel, remaining_le0]

theorem remaining_toNat (w now wall : Nat) :
    ((w : Int) + (wall : Int) - ((now : Int) + (wall : Int))).toNat = w - now := by
  rw [remaining_cancel, Int.toNat_sub]

/-- `call_later(d, self._timer_expired, ev)`: a new handle in the loop's heap -/
def newHandle (s : St) (d : Nat) (ev : TEvent) : Handle :=
  { id := s.nextId, when := s.now + d, ev := ev, epoch := s.epoch }

def armHandle (s : St) (d : Nat) (ev : TEvent) : St :=
  ({ s with timers := s.timers ++ [newHandle s d ev], nextId := s.nextId + 1 } : St).emit
    (.arm (newHandle s d ev))

/-- `timer.cancel()` -/
def cancelHandle (s : St) (id : Nat) : St :=
  ({ s with timers := (s.timers.map
      (fun (h : Handle) => if h.id == id then { h with cancelled := true } else h)) } : St).emit (.cancel id)

/-- the circumstances a timer method may run in: inside a state transition (`self.event` is then the
    recursive call), whether the `stop()` / `start()` of the base classes raises, and the offset of the
    wall clock from the loop clock -/
structure TEnv where
  inside : Bool
  superFails : Bool := false
  wall : Nat := 0
  /-- what `calc_output()` does when `_restore_state` calls it -/
  calcMode : CalcMode := .normal

def tprims (c : Cfg) (env : TEnv) :
    TimerPrims TSt String TEvent Dur Nat Nat (Option Val) Val (String × Option Nat × Option Val) ErrKind where
  exc := excOf
  getState := fun t => t.st.state
  setState := fun q t => t.map (·.enter q)
  getActiveTimer := fun t => t.st.active
  setActiveTimer := fun o t => t.map fun s => { s with active := o }
  timersEnabled := fun t => !t.st.stopped
  setTimersEnabled := fun b t => t.map fun s => { s with stopped := !b }
  setPersistent := fun b t => t.map fun s => { s with persistOn := b }
  durIsNone := fun d => decide (d = Dur.none)
  durEqInf := fun d => decide (d = Dur.inf)
  durationOf := fun _ oq => match oq with
    | some q => clamp (c.instDur q)
    | none => Dur.none
  timePeriod := fun d t => match d with
    | .bad => (t, .error .valueError)
    | d => (t, .ok (clamp d))
  cmpZero := fun op d t => match d with
    | .us n => (t, .ok (cmpInt op n))
    | .inf => (t, .ok (match op with | .gt => true | .ge => true | _ => false))
    | .bad => (t, .error .valueError)
    | .none => (t, .error .fuel)
  callLater := fun d ev t => match d with
    | .us n => (t.map (armHandle · n.toNat ev), .ok t.st.nextId)
    | _ => (t, .error .fuel)
  cancelled := fun t id => !handleLive t.st id
  cancel := fun id t => (t.map (cancelHandle · id), .ok ())
  timerWhen := fun t id => match liveHandle t.st id with
    | some h => h.when
    | none => 0
  loopToUnix := fun w => w + env.wall
  event := fun ev => if env.inside then lift (fun s => (eventRec c s ev {}).1) else lift (fun s => (deliver c s ev {}).1)
  superStop := fun t => (t, if env.superFails then .error .fuel else .ok ())
  superStart := fun t => (t, if env.superFails then .error .fuel else .ok ())
  getSdata := fun t => t.st.input
  setSdata := fun sd t => t.map (·.setInput sd)
  istateLen2 := fun _ => false
  istatePad := fun x => x
  istateUnpack := fun x => some x
  checkState := fun q t => (t, if c.tbl.states.contains q then .ok () else .error .valueError)
  remaining := fun w t => (t, .ok (.us ((w : Int) - ((t.st.now + env.wall : Nat) : Int))))
  timedEvent := fun _ q => (c.tbl.timedOf q).map (·.1)
  calcOutput := fun t => match calcFor c t.st env.calcMode with
    | none => (t, .error .keyError)
    | some v => (t, .ok v)
  isUndef := fun v => v.isUndef
  setOutput := fun v => lift (setOut · v)

/-! the primitives one by one (so that `tprims c env` itself is never unfolded) -/
theorem tprims_exc (c : Cfg) (env : TEnv) : (tprims c env).exc = (excOf) := rfl
theorem tprims_getState (c : Cfg) (env : TEnv) : (tprims c env).getState = (fun t => t.st.state) := rfl
theorem tprims_setState (c : Cfg) (env : TEnv) : (tprims c env).setState = (fun q t => t.map (·.enter q)) := rfl
theorem tprims_getActiveTimer (c : Cfg) (env : TEnv) : (tprims c env).getActiveTimer = (fun t => t.st.active) := rfl
theorem tprims_setActiveTimer (c : Cfg) (env : TEnv) : (tprims c env).setActiveTimer = (fun o t => t.map fun s => { s with active := o }) := rfl
theorem tprims_timersEnabled (c : Cfg) (env : TEnv) : (tprims c env).timersEnabled = (fun t => !t.st.stopped) := rfl
theorem tprims_setTimersEnabled (c : Cfg) (env : TEnv) : (tprims c env).setTimersEnabled = (fun b t => t.map fun s => { s with stopped := !b }) := rfl
theorem tprims_setPersistent (c : Cfg) (env : TEnv) : (tprims c env).setPersistent = (fun b t => t.map fun s => { s with persistOn := b }) := rfl
theorem tprims_durIsNone (c : Cfg) (env : TEnv) : (tprims c env).durIsNone = (fun d => decide (d = Dur.none)) := rfl
theorem tprims_durEqInf (c : Cfg) (env : TEnv) : (tprims c env).durEqInf = (fun d => decide (d = Dur.inf)) := rfl
theorem tprims_durationOf (c : Cfg) (env : TEnv) : (tprims c env).durationOf = (fun _ oq => match oq with
    | some q => clamp (c.instDur q)
    | none => Dur.none) := rfl
theorem tprims_timePeriod (c : Cfg) (env : TEnv) : (tprims c env).timePeriod = (fun d t => match d with
    | .bad => (t, .error .valueError)
    | d => (t, .ok (clamp d))) := rfl
theorem tprims_cmpZero (c : Cfg) (env : TEnv) : (tprims c env).cmpZero = (fun op d t => match d with
    | .us n => (t, .ok (cmpInt op n))
    | .inf => (t, .ok (match op with | .gt => true | .ge => true | _ => false))
    | .bad => (t, .error .valueError)
    | .none => (t, .error .fuel)) := rfl
theorem tprims_callLater (c : Cfg) (env : TEnv) : (tprims c env).callLater = (fun d ev t => match d with
    | .us n => (t.map (armHandle · n.toNat ev), .ok t.st.nextId)
    | _ => (t, .error .fuel)) := rfl
theorem tprims_cancelled (c : Cfg) (env : TEnv) : (tprims c env).cancelled = (fun t id => !handleLive t.st id) := rfl
theorem tprims_cancel (c : Cfg) (env : TEnv) : (tprims c env).cancel = (fun id t => (t.map (cancelHandle · id), .ok ())) := rfl
theorem tprims_timerWhen (c : Cfg) (env : TEnv) : (tprims c env).timerWhen = (fun t id => match liveHandle t.st id with
    | some h => h.when
    | none => 0) := rfl
theorem tprims_loopToUnix (c : Cfg) (env : TEnv) : (tprims c env).loopToUnix = (fun w => w + env.wall) := rfl
theorem tprims_event (c : Cfg) (env : TEnv) : (tprims c env).event = (fun ev => if env.inside then lift (fun s => (eventRec c s ev {}).1) else lift (fun s => (deliver c s ev {}).1)) := rfl
theorem tprims_superStop (c : Cfg) (env : TEnv) : (tprims c env).superStop = (fun t => (t, if env.superFails then .error .fuel else .ok ())) := rfl
theorem tprims_superStart (c : Cfg) (env : TEnv) : (tprims c env).superStart = (fun t => (t, if env.superFails then .error .fuel else .ok ())) := rfl
theorem tprims_getSdata (c : Cfg) (env : TEnv) : (tprims c env).getSdata = (fun t => t.st.input) := rfl
theorem tprims_setSdata (c : Cfg) (env : TEnv) : (tprims c env).setSdata = (fun sd t => t.map (·.setInput sd)) := rfl
theorem tprims_istateLen2 (c : Cfg) (env : TEnv) : (tprims c env).istateLen2 = (fun _ => false) := rfl
theorem tprims_istatePad (c : Cfg) (env : TEnv) : (tprims c env).istatePad = (fun x => x) := rfl
theorem tprims_istateUnpack (c : Cfg) (env : TEnv) : (tprims c env).istateUnpack = (fun x => some x) := rfl
theorem tprims_checkState (c : Cfg) (env : TEnv) : (tprims c env).checkState = (fun q t => (t, if c.tbl.states.contains q then .ok () else .error .valueError)) := rfl
theorem tprims_remaining (c : Cfg) (env : TEnv) : (tprims c env).remaining = (fun w t => (t, .ok (.us ((w : Int) - ((t.st.now + env.wall : Nat) : Int))))) := rfl
theorem tprims_timedEvent (c : Cfg) (env : TEnv) : (tprims c env).timedEvent = (fun _ q => (c.tbl.timedOf q).map (·.1)) := rfl
theorem tprims_calcOutput (c : Cfg) (env : TEnv) : (tprims c env).calcOutput = (fun t => match calcFor c t.st env.calcMode with
    | none => (t, .error .keyError)
    | some v => (t, .ok v)) := rfl
theorem tprims_isUndef (c : Cfg) (env : TEnv) : (tprims c env).isUndef = (fun v => v.isUndef) := rfl
theorem tprims_setOutput (c : Cfg) (env : TEnv) : (tprims c env).setOutput = (fun v => lift (setOut · v)) := rfl

attribute [trm] Gen.TrT.bindv Gen.TrT.runProc
  tprims_exc tprims_getState tprims_setState tprims_getActiveTimer tprims_setActiveTimer tprims_timersEnabled
  tprims_setTimersEnabled tprims_setPersistent tprims_durIsNone tprims_durEqInf tprims_durationOf tprims_timePeriod
  tprims_cmpZero tprims_callLater tprims_cancelled tprims_cancel tprims_timerWhen tprims_loopToUnix tprims_event
  tprims_superStop tprims_superStart tprims_getSdata tprims_setSdata tprims_istateLen2 tprims_istatePad
  tprims_istateUnpack tprims_checkState tprims_remaining tprims_timedEvent tprims_calcOutput tprims_isUndef
  tprims_setOutput

theorem map_cancel_of_not_live (s : St) (id : Nat) (h : handleLive s id = false) :
    s.timers.map (fun (x : Handle) => if x.id == id then { x with cancelled := true } else x) = s.timers := by
  unfold handleLive liveHandle at h
  have hn : s.timers.find? (fun h => h.id == id && !h.cancelled) = none := by
    cases hf : s.timers.find? (fun h => h.id == id && !h.cancelled) with
    | none => rfl
    | some x => rw [hf] at h; simp at h
  rw [List.find?_eq_none] at hn
  conv => rhs; rw [← List.map_id s.timers]
  apply List.map_congr_left
  intro x hx
  have := hn x hx
  by_cases hid : x.id = id
  · simp only [hid, beq_self_eq_true, ↓reduceIte, id_eq]
    have hc : x.cancelled = true := by simpa [hid] using this
    cases x; simp_all
  · simp [hid]

/-- the convention of the tie at a method boundary: an exception leaving the method marks the simulation
    as failed (`SBlock.event` aborts the simulation when a handler raises) -/
def failOnError {α : Type} (r : TSt × Except ErrKind α) : TSt × Except ErrKind α :=
  match r.2 with
  | .error k => (r.1.map (·.fail k), r.2)
  | .ok _ => r

/-- what the event loop does when a handle is due: the clock is at `when`, the handle leaves the heap -/
def loopPop (s : St) (h : Handle) : St := { popTimer s h with active := s.active }

/-- the dictionary `_duration` -/
abbrev DurTbl := String → Option Dur

/-- `key in dict` -/
def tblHas (tbl : DurTbl) (q : String) : Bool := (tbl q).isSome

/-- `dict[key] = value` -/
def tblSet (tbl : DurTbl) (q : String) (v : Dur) : DurTbl := fun k => if k = q then some v else tbl k

/-- `utils.time_period` on a duration value (tied to the source in C19) -/
def timePeriodD (d : Dur) : Except ErrKind Dur :=
  match d with
  | .bad => .error .valueError
  | d => .ok (clamp d)

/-- `_ct_default_duration`: the class defaults went through `time_period` when the class was built -/
def classDurations (c : Cfg) : DurTbl := fun q => (c.tbl.timedOf q).map (fun x => clamp x.2)

/-- what the instance table must be according to the model: `Cfg.instDur`, converted -/
def instTable (c : Cfg) : DurTbl := fun q => if (c.tbl.timedOf q).isSome then some (clamp (c.instDur q)) else none

theorem lookup_none_of_not_key (q : String) : ∀ (l : List (String × Dur)), q ∉ l.map (·.1) → l.lookup q = none := by
  intro l
  induction l with
  | nil => intro _; rfl
  | cons p tl ih =>
    intro h
    obtain ⟨a, b⟩ := p
    simp only [List.map_cons, List.mem_cons, not_or] at h
    have : (q == a) = false := by simpa using h.1
    simp only [List.lookup, this]
    exact ih h.2

/-- what one round of the loop over the `t_STATE` arguments must do to the table -/
def TStateRound (F : DurTbl → String × Dur → Except ErrKind DurTbl) : Prop :=
  ∀ (T0 : DurTbl) (q0 : String) (d0 : Dur), d0 ≠ Dur.bad → (T0 q0).isSome →
    F T0 (q0, d0) = .ok (fun k => if k = q0 then (if d0 = Dur.none then T0 q0 else some (clamp d0)) else T0 k)

def tableAfter (l : List (String × Dur)) (T0 : DurTbl) : DurTbl := fun k =>
  match l.lookup k with
  | some Dur.none => T0 k
  | some d => if (T0 k).isSome then some (clamp d) else none
  | none => T0 k

theorem tableAfter_instTable (c : Cfg) : tableAfter c.tDur (classDurations c) = instTable c := by
  funext k
  unfold tableAfter instTable Cfg.instDur classDurations
  cases ht : c.tbl.timedOf k with
  | none => cases hl : c.tDur.lookup k with
    | none => simp
    | some d => cases d <;> simp
  | some x => cases hl : c.tDur.lookup k with
    | none => simp
    | some d => cases d <;> simp

/-- the loop of `__init__` over the `t_STATE` arguments -/
theorem initDuration_fold (F : DurTbl → String × Dur → Except ErrKind DurTbl) (hF : TStateRound F) :
    ∀ (l : List (String × Dur)) (T0 : DurTbl),
    (l.map (·.1)).Nodup → (∀ p ∈ l, p.2 ≠ Dur.bad ∧ (T0 p.1).isSome) →
    l.foldlM (m := Except ErrKind) F T0 = .ok (tableAfter l T0) := by
  intro l
  induction l with
  | nil => intro T0 _ _; rfl
  | cons p tl ih =>
    intro T0 hnd hall
    obtain ⟨q0, d0⟩ := p
    have h0 := hall (q0, d0) (by simp)
    simp only at h0
    have hnd' : (tl.map (·.1)).Nodup := (List.nodup_cons.mp hnd).2
    have hq0 : q0 ∉ tl.map (·.1) := (List.nodup_cons.mp hnd).1
    have hlk : tl.lookup q0 = none := lookup_none_of_not_key q0 tl hq0
    let T1 : DurTbl := fun k => if k = q0 then (if d0 = Dur.none then T0 q0 else some (clamp d0)) else T0 k
    have hT1 : ∀ k, (T0 k).isSome → (T1 k).isSome := by
      intro k hk
      show (if k = q0 then (if d0 = Dur.none then T0 q0 else some (clamp d0)) else T0 k).isSome
      split
      · next h => subst h; split <;> simp [hk]
      · exact hk
    have hT := ih T1 hnd' (fun p hp => ⟨(hall p (List.mem_cons_of_mem _ hp)).1,
      hT1 _ (hall p (List.mem_cons_of_mem _ hp)).2⟩)
    rw [List.foldlM_cons, hF T0 q0 d0 h0.1 h0.2]
    show List.foldlM F T1 tl = _
    rw [hT]
    congr 1
    funext k
    unfold tableAfter
    by_cases hk : k = q0
    · subst hk
      have : (k == k) = true := by simp
      simp only [hlk, List.lookup, this]
      show (if k = k then (if d0 = Dur.none then T0 k else some (clamp d0)) else T0 k) = _
      cases d0 <;> simp [h0.2]
    · have hb : (k == q0) = false := by simpa using hk
      simp only [List.lookup, hb]
      have e : T1 k = T0 k := by show (if k = q0 then _ else T0 k) = T0 k; simp [hk]
      rw [e]

end Edzed.TrTie
