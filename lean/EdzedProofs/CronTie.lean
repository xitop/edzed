/-
Tie by translation for C07: what the translated methods of `blocklib/cron.py`, `blocklib/timedate.py`
(lean/EdzedModel/Gen/TranslatedCron.lean, generated from the current source by tools/py2lean_cron.py) are compared with,
and the lemmas behind `TrTie.translated_cron_…` (EdzedProps/C07.lean).  Three parts: one pass of `_maintask` as a
reference written by hand in direct style (`refHead`, `refBody`, `refTail`); the alarm table (`add_block`, `remove_block`,
`reload`) on the model's `Table`; `recalc` and `_event_reconfig` of the two client classes.
-/
import EdzedModel.Cron
import EdzedModel.Gen.TranslatedCron

namespace Edzed.Cron
open Gen.TrCron

section maintask
variable {σ T DT B : Type}

/- The fields of the generated record `MtLocals` are canonical (`v<n>`, n = position of the first binding in the
   source), so that renaming a Python local changes nothing here:
     v0 overhead   v1 reset   v2 reload   v3 short_sleep   v4 timetable   v5 tlen   v6 index
     v7 nowdt   v8 nowt   v9 wakeup   v10 step   v11 sleeptime   v12 diff -/

/-- `for blk in bs: blk.recalc(now)` -/
def recalcAll (P : MtPrims σ T DT B) (bs : List B) (now : DT) (w : σ) : σ :=
  bs.foldl (fun w b => P.recalc b now w) w

/-- after the sleep loop: a detected clock problem recalculates EVERY block registered at that moment and
    forgets the index; a pending reload just starts the next pass; otherwise the blocks registered for `wakeup`
    NOW (after the sleep) are recalculated and the index advances cyclically -/
def refTail (P : MtPrims σ T DT B) (L : MtLocals T DT) (w : σ) : Res (MtLocals T DT) σ :=
  if L.v1 then
    .next { L with v1 := false, v6 := none } (recalcAll P (P.allClients w) L.v7 w)
  else if L.v2 then .next L w
  else
    let w' := if P.hasAlarm w L.v9 then recalcAll P (P.clientsAt w L.v9) L.v7 w else w
    match L.v6 with
    | none => .raise .typeError L w'
    | some i => .next { L with v6 := some ((i + 1) % L.v5) } w'

theorem refTail_reset (P : MtPrims σ T DT B) (L : MtLocals T DT) (w : σ) (h : L.v1 = true) :
    refTail P L w = .next { L with v1 := false, v6 := none } (recalcAll P (P.allClients w) L.v7 w) := by
  unfold refTail; simp only [h, ↓reduceIte]

theorem refTail_reload (P : MtPrims σ T DT B) (L : MtLocals T DT) (w : σ) (h1 : L.v1 = false) (h2 : L.v2 = true) :
    refTail P L w = .next L w := by
  unfold refTail; simp only [h1, h2, Bool.false_eq_true, ↓reduceIte]

theorem refTail_served (P : MtPrims σ T DT B) (L : MtLocals T DT) (w : σ) (i : Nat) (h1 : L.v1 = false)
    (h2 : L.v2 = false) (h6 : L.v6 = some i) :
    refTail P L w = .next { L with v6 := some ((i + 1) % L.v5) }
      (if P.hasAlarm w L.v9 then recalcAll P (P.clientsAt w L.v9) L.v7 w else w) := by
  unfold refTail; simp only [h1, h2, h6, Bool.false_eq_true, ↓reduceIte]

theorem tail_is_ref (P : MtPrims σ T DT B) (L : MtLocals T DT) (w : σ) :
    mtAfter1 P L w = refTail P L w := by
  unfold mtAfter1 mt_j3 mt_j4 mt_j5 refTail recalcAll Flag_test_clear Flag_bool
  cases L with
  | mk overhead reset_ reload short_sleep timetable tlen index nowdt nowt wakeup step_ sleeptime diff =>
    cases reset_ <;> cases reload <;> cases index <;> simp <;> first | rfl | (split <;> rfl)

/-- `wakeup = timetable[index]`, then the sleep loop -/
def refWake (P : MtPrims σ T DT B) (L : MtLocals T DT) (w : σ) : Res (MtLocals T DT) σ :=
  match L.v6 with
  | none => .raise .typeError L w
  | some i =>
    match L.v4[i]? with
    | none => .raise .indexError L w
    | some x => mtFor1 P (List.range 3) { L with v9 := x } w

/-- the beginning of a pass: a requested reload rebuilds the timetable from the 24 full hours and the keys of
    the alarm table AS THEY ARE NOW and forgets the index; then the clock is read ONCE; an unknown index
    (start, reload, reset) is found by `bisect_left` for that reading, and ALL blocks registered at that moment
    are recalculated with the very same reading -/
def refHead (P : MtPrims σ T DT B) (L : MtLocals T DT) (w : σ) : Res (MtLocals T DT) σ :=
  let L1 : MtLocals T DT := if L.v2 then
      { L with v2 := false, v4 := P.sortedUnion P.set24 (P.alarmKeys w),
               v5 := (P.sortedUnion P.set24 (P.alarmKeys w)).length, v6 := none }
    else L
  let r := P.dtnow w
  let L2 : MtLocals T DT := { L1 with v7 := r.1, v8 := P.timeOf r.1 }
  match L1.v6 with
  | some _ => refWake P L2 r.2
  | none =>
    refWake P { L2 with v6 := some (P.bisectLeft L2.v4 L2.v8 % L2.v5) }
      (recalcAll P (P.allClients r.2) r.1 r.2)

theorem head_is_ref (P : MtPrims σ T DT B) (L : MtLocals T DT) (w : σ) :
    mtStep P L w = refHead P L w := by
  unfold mtStep mt_j1 mt_j2 refHead refWake recalcAll Flag_test_clear
  cases L with
  | mk overhead reset_ reload short_sleep timetable tlen index nowdt nowt wakeup step_ sleeptime diff =>
    cases reload <;> cases index <;> simp <;> first | rfl | (split <;> simp_all)

/-- seconds from the reading `nowt` to `wakeup` (both times of day), normalised into [−12 h, +12 h]: the next
    wake-up is never more than one hour away, so a larger difference means the other side of midnight -/
def secondsUntil (P : MtPrims σ T DT B) (wakeup nowt : T) : Rat :=
  let s : Rat := secPerHour * (P.hour wakeup - P.hour nowt)
    + secPerMin * (P.minute wakeup - P.minute nowt)
    + (P.second wakeup - P.second nowt) + (P.microsecond wakeup - P.microsecond nowt) / 1000000
  if s < -secPerDay / 2 then s + secPerDay
  else if s > secPerDay / 2 then s - secPerDay
  else s

/-- read the clock again and go on with the next value of `step` -/
def refAgain (P : MtPrims σ T DT B) (next : MtLocals T DT → σ → Res (MtLocals T DT) σ)
    (L : MtLocals T DT) (w : σ) : Res (MtLocals T DT) σ :=
  next { L with v7 := (P.dtnow w).1, v8 := P.timeOf (P.dtnow w).1 } (P.dtnow w).2

/-- how to wait `L.v11` seconds: not at all / blocking (up to half of `_TT_OK`) / `asyncio.sleep` (up to the
    estimated overhead) / waiting for a reload request with the overhead subtracted – only the last one listens
    to the queue; an item makes the pass end with `reload` set -/
def refSleep (P : MtPrims σ T DT B) (next brk : MtLocals T DT → σ → Res (MtLocals T DT) σ)
    (L : MtLocals T DT) (w : σ) : Res (MtLocals T DT) σ :=
  if L.v11 = 0 then refAgain P next L w
  else if L.v11 ≤ ttOk / 2 then
    refAgain P next { L with v3 := true } (P.blockingSleep L.v11 w)
  else if L.v11 ≤ L.v0 then
    .sleep L.v11 w (fun w => refAgain P next { L with v3 := true } w)
  else
    .waitQueue (L.v11 - L.v0) w (fun got w =>
      if got then brk { L with v3 := false, v2 := true } w
      else refAgain P next { L with v3 := false } w)

theorem sleep_is_ref (P : MtPrims σ T DT B) (next brk : MtLocals T DT → σ → Res (MtLocals T DT) σ)
    (L : MtLocals T DT) (w : σ) : mt_j7 P next brk L w = refSleep P next brk L w := by
  unfold mt_j7 mt_j8 refSleep refAgain Flag_set
  cases L with
  | mk overhead reset_ reload short_sleep timetable tlen index nowdt nowt wakeup step_ sleeptime diff =>
    simp only [beq_iff_eq, decide_eq_true_eq]

/-- the time check of steps 1, 2 (and of step 0 when already late); `L.v11` = seconds until the wake-up
    time.  A clock problem (`reset`) is an error above `_TT_ERROR` or still being early at step 2 – the loop is
    left at once, BEFORE the overhead estimate is touched; the estimate is corrected at step 1 after a long sleep
    that ended more than `_TT_OK` late, by half of (lateness − `_TT_OK`/2); the loop is left when the wake-up time has
    come (`s ≤ 0`), otherwise one more (short) sleep follows -/
def refCheck (P : MtPrims σ T DT B) (next brk : MtLocals T DT → σ → Res (MtLocals T DT) σ)
    (L : MtLocals T DT) (w : σ) : Res (MtLocals T DT) σ :=
  let s := L.v11
  if L.v10 > 1 ∨ s < 0 then
    let problem : Bool := (L.v10 == 2 && decide (s > 0)) || decide (ratAbs s > ttError)
    let L : MtLocals T DT := { L with v12 := ratAbs s, v1 := L.v1 || problem }
    if L.v1 then brk L w
    else
      let L : MtLocals T DT :=
        if L.v10 = 1 ∧ L.v3 = false ∧ ¬ (-ttOk ≤ s ∧ s ≤ 0) then
          { L with v0 := L.v0 - (s + ttOk / 2) * (1 / 2) }
        else L
      if s ≤ 0 then brk L w else refSleep P next brk L w
  else refSleep P next brk L w

theorem check_is_ref (P : MtPrims σ T DT B) (next brk : MtLocals T DT → σ → Res (MtLocals T DT) σ)
    (L : MtLocals T DT) (w : σ) : mt_j6 P next brk L w = refCheck P next brk L w := by
  unfold mt_j6 mt_j9 mt_j10 refCheck Flag_OR
  simp only [sleep_is_ref]
  cases L with
  | mk overhead reset_ reload short_sleep timetable tlen index nowdt nowt wakeup step_ sleeptime diff =>
    -- the reference's problem flag decides the first inner test on both sides
    cases (step_ == 2 && decide (sleeptime > 0) || decide (ratAbs sleeptime > ttError)) <;>
      cases reset_ <;> simp
    -- no problem, `reset` not set: the program corrects the overhead in a branch, the reference in the record
    by_cases hz : sleeptime ≤ 0 <;> simp [hz, and_assoc] <;> congr 1 <;> split <;> rfl

/- The outcomes of the check.  A fourth path – checked, still early, no problem flagged, so one more sleep – needs
   `step > 2` and is not taken in `for step in range(3)`. -/

theorem refCheck_unchecked (P : MtPrims σ T DT B) (next brk : MtLocals T DT → σ → Res (MtLocals T DT) σ)
    (L : MtLocals T DT) (w : σ) (h : ¬ (L.v10 > 1 ∨ L.v11 < 0)) :
    refCheck P next brk L w = refSleep P next brk L w := by
  unfold refCheck
  exact if_neg h

theorem refCheck_problem (P : MtPrims σ T DT B) (next brk : MtLocals T DT → σ → Res (MtLocals T DT) σ)
    (L : MtLocals T DT) (w : σ) (hc : L.v10 > 1 ∨ L.v11 < 0)
    (hp : (L.v10 == 2 && decide (L.v11 > 0) || decide (ratAbs L.v11 > ttError)) = true) :
    refCheck P next brk L w = brk { L with v12 := ratAbs L.v11, v1 := true } w := by
  unfold refCheck
  simp only [hc, hp, Bool.or_true, ↓reduceIte]

theorem refCheck_due (P : MtPrims σ T DT B) (next brk : MtLocals T DT → σ → Res (MtLocals T DT) σ)
    (L : MtLocals T DT) (w : σ) (hc : L.v10 > 1 ∨ L.v11 < 0) (h1 : L.v1 = false)
    (hp : (L.v10 == 2 && decide (L.v11 > 0) || decide (ratAbs L.v11 > ttError)) = false) (hs : L.v11 ≤ 0) :
    refCheck P next brk L w =
      brk { L with v12 := ratAbs L.v11,
                   v0 := if L.v10 = 1 ∧ L.v3 = false ∧ ¬ (-ttOk ≤ L.v11 ∧ L.v11 ≤ 0)
                         then L.v0 - (L.v11 + ttOk / 2) * (1 / 2) else L.v0 } w := by
  unfold refCheck
  cases L with
  | mk overhead reset_ reload short_sleep timetable tlen index nowdt nowt wakeup step_ sleeptime diff =>
    subst h1
    simp only [hc, hp, hs, Bool.or_false, Bool.false_eq_true, ↓reduceIte]
    split <;> rfl

/-- the body of `for step in range(3)`: the time difference, then the check -/
def refBody (P : MtPrims σ T DT B) (next brk : MtLocals T DT → σ → Res (MtLocals T DT) σ)
    (L : MtLocals T DT) (w : σ) : Res (MtLocals T DT) σ :=
  refCheck P next brk { L with v11 := secondsUntil P L.v9 L.v8 } w

theorem body_is_ref (P : MtPrims σ T DT B) (next brk : MtLocals T DT → σ → Res (MtLocals T DT) σ)
    (L : MtLocals T DT) (w : σ) : mtFor1Body P next brk L w = refBody P next brk L w := by
  unfold mtFor1Body refBody secondsUntil
  simp only [check_is_ref, decide_eq_true_eq]
  split
  · rfl
  · split <;> rfl

theorem for_is_ref (P : MtPrims σ T DT B) (L : MtLocals T DT) (w : σ) :
    mtFor1 P (List.range 3) L w =
      refBody P (fun L w => refBody P (fun L w => refBody P (refTail P) (refTail P) { L with v10 := 2 } w)
        (refTail P) { L with v10 := 1 } w) (refTail P) { L with v10 := 0 } w := by
  have e : List.range 3 = [0, 1, 2] := by decide
  have t : mtAfter1 P = refTail P := by funext L w; exact tail_is_ref P L w
  rw [e]
  simp only [mtFor1, body_is_ref, t]

end maintask

/-- the primitives of the table instantiated with the finite map of the model; `tz` = `_check_tz`,
    `compat` = `hasattr(blk, 'recalc')` -/
def tabPrims (tz : Nat → Except Exc Nat) (compat : Nat → Bool) : TabPrims Table (List Nat) Nat Nat where
  has tb t := (tb t).isSome
  get tb t := (tb t).getD []
  put tb t s := fun t' => if t' = t then some s else tb t'
  del tb t := fun t' => if t' = t then none else tb t'
  single b := [b]
  sAdd s b := if s.contains b then s else b :: s
  sDiscard s b := s.filter (· != b)
  sEmpty s := s.isEmpty
  sLen s := s.length
  hourly := hourly
  checkTz := tz
  compatible := compat

theorem add_is_model (tz : Nat → Except Exc Nat) (compat : Nat → Bool) (tb : Table) (nr : Bool) (t t' b : Nat)
    (hc : compat b = true) (ht : tz t = .ok t') :
    addBlock (tabPrims tz compat) ⟨tb, nr, t, b⟩ = .ok ⟨tb.add t' b, nr || tb.addNeedsReload t', t', b⟩ := by
  unfold addBlock addBlock_j1 Flag_OR Table.add Table.addNeedsReload Table.isKey tabPrims
  simp only [hc, ht]
  cases tb t' <;> simp [Bool.or_comm]

theorem add_incompatible (tz : Nat → Except Exc Nat) (compat : Nat → Bool) (tb : Table) (nr : Bool) (t b : Nat)
    (hc : compat b = false) :
    addBlock (tabPrims tz compat) ⟨tb, nr, t, b⟩ = .error .typeError := by
  unfold addBlock tabPrims
  simp [hc]

theorem remove_is_model (tz : Nat → Except Exc Nat) (compat : Nat → Bool) (tb : Table) (nr : Bool) (t t' b : Nat)
    (ht : tz t = .ok t') :
    removeBlock (tabPrims tz compat) ⟨tb, nr, t, b⟩ =
      .ok ⟨tb.remove t' b, nr || tb.removeNeedsReload t' b, t', b⟩ := by
  unfold removeBlock removeBlock_j1 Flag_OR Table.remove Table.removeNeedsReload tabPrims
  simp only [ht]
  cases h : tb t' with
  | none => simp
  | some s =>
    cases he : (s.filter (· != b)).isEmpty <;> simp [he, Bool.or_comm]
    all_goals (funext x; split <;> simp_all)

theorem reload_is_model (nr running wake : Bool) :
    reload ⟨nr, running, wake⟩ = .ok ⟨false, running, wake || (nr && running)⟩ := by
  unfold reload Flag_test_clear
  cases nr <;> cases running <;> cases wake <;> rfl

theorem registered_add (tb : Table) (t b t' b' : Nat) :
    (tb.add t b).registered t' b' = if t = t' ∧ b = b' then true else tb.registered t' b' := by
  unfold Table.add Table.registered
  by_cases ht : t' = t
  · subst ht
    by_cases hb : b' = b
    · subst hb
      cases h : tb t' with
      | none => simp
      | some s => by_cases hm : b' ∈ s <;> simp [hm]
    · have hb' : ¬ b = b' := fun e => hb e.symm
      cases h : tb t' with
      | none => simp [hb, hb']
      | some s => by_cases hm : b ∈ s <;> simp [hm, hb, hb']
  · have ht' : ¬ t = t' := fun e => ht e.symm
    simp [ht, ht']

theorem registered_remove (tb : Table) (t b t' b' : Nat) :
    (tb.remove t b).registered t' b' = if t = t' ∧ b = b' then false else tb.registered t' b' := by
  unfold Table.remove Table.registered
  by_cases ht : t' = t
  · subst ht
    cases h : tb t' with
    | none => simp [h]
    | some s =>
      simp only [↓reduceIte, true_and]
      have hc : (if b = b' then false else s.contains b') = (s.filter (· != b)).contains b' := by
        by_cases hb : b' = b
        · simp [hb]
        · have hb' : ¬ b = b' := fun e => hb e.symm
          simp [hb, hb']
      rw [hc]
      -- an emptied set and a missing key answer alike
      cases s.filter (· != b) <;> rfl
  · have ht' : ¬ t = t' := fun e => ht e.symm
    cases tb t <;> simp [ht, ht']

theorem noEmpty_add (tb : Table) (t b : Nat) (h : tb.NoEmpty) : (tb.add t b).NoEmpty := by
  intro t'
  unfold Table.add
  by_cases ht : t' = t
  · simp only [ht, ↓reduceIte]
    cases hs : tb t with
    | none => simp
    | some s =>
      by_cases hm : b ∈ s
      · have := h t; simp_all
      · simp [hm]
  · simp only [ht, ↓reduceIte]; exact h t'

theorem noEmpty_remove (tb : Table) (t b : Nat) (h : tb.NoEmpty) : (tb.remove t b).NoEmpty := by
  intro t'
  unfold Table.remove
  cases hs : tb t with
  | none => exact h t'
  | some s =>
    by_cases ht : t' = t
    · simp only [ht, ↓reduceIte]
      by_cases he : (s.filter (· != b)).isEmpty = true
      · simp [he]
      · simp only [he]
        intro hx
        have h1 : (s.filter (· != b)) = [] := by simpa using hx
        exact he (by simp [h1])
    · simp only [ht, ↓reduceIte]; exact h t'

theorem remove_unregistered (tb : Table) (t b : Nat) (h : tb.NoEmpty) (hr : tb.registered t b = false) :
    tb.remove t b = tb ∧ tb.removeNeedsReload t b = false := by
  unfold Table.registered at hr
  cases hs : tb t with
  | none => simp [Table.remove, Table.removeNeedsReload, hs]
  | some s =>
    have hn : b ∉ s := by simpa [hs] using hr
    have hf : s.filter (· != b) = s := by
      apply List.filter_eq_self.mpr
      intro x hx
      have : x ≠ b := fun e => hn (e ▸ hx)
      simpa using this
    have hne : s ≠ [] := fun e => h t (by rw [hs, e])
    have he : s.isEmpty = false := by cases s <;> simp_all
    have h1 : tb.remove t b = tb := by
      unfold Table.remove
      simp only [hs, hf, he]
      funext x
      by_cases hx : x = t
      · simp [hx, hs]
      · simp [hx]
    refine ⟨h1, ?_⟩
    unfold Table.removeNeedsReload
    simp [hs, hf, he]

theorem removeNeedsReload_iff (tb : Table) (t b : Nat) :
    tb.removeNeedsReload t b = (tb.isKey t && !(tb.remove t b).isKey t && !hourly t) := by
  unfold Table.removeNeedsReload Table.remove Table.isKey
  cases hs : tb t with
  | none => simp [hs]
  | some s => cases he : (s.filter (· != b)).isEmpty <;> simp [he]

theorem isKey_add (tb : Table) (t b t' : Nat) : (tb.add t b).isKey t' = (decide (t' = t) || tb.isKey t') := by
  unfold Table.add Table.isKey
  by_cases ht : t' = t <;> simp [ht]

theorem isKey_remove_other (tb : Table) (t b t' : Nat) (ht : t' ≠ t) : (tb.remove t b).isKey t' = tb.isKey t' := by
  unfold Table.remove Table.isKey
  cases tb t <;> simp [ht]

/-- one call of `add_block` / `remove_block` -/
inductive TOp where
  | add (t b : Nat)
  | remove (t b : Nat)
  deriving Repr, DecidableEq

def TOp.apply (tb : Table) : TOp → Table
  | .add t b => tb.add t b
  | .remove t b => tb.remove t b

/-- what the LAST operation on the pair `(t, b)` was: `some true` = add, `some false` = remove -/
def stepLast (t b : Nat) (acc : Option Bool) : TOp → Option Bool
  | .add t' b' => if t' = t ∧ b' = b then some true else acc
  | .remove t' b' => if t' = t ∧ b' = b then some false else acc

def lastOp (ops : List TOp) (t b : Nat) : Option Bool := ops.foldl (stepLast t b) none

theorem stepLast_acc (t b : Nat) (acc : Option Bool) (op : TOp) :
    stepLast t b acc op = (match stepLast t b none op with | some v => some v | none => acc) := by
  cases op <;> (simp only [stepLast]; split <;> rfl)

theorem foldl_stepLast_eq (t b : Nat) (ops : List TOp) (acc : Option Bool) :
    ops.foldl (stepLast t b) acc = (match lastOp ops t b with | some v => some v | none => acc) := by
  unfold lastOp
  induction ops generalizing acc with
  | nil => rfl
  | cons op ops ih =>
    simp only [List.foldl_cons]
    rw [ih, ih (stepLast t b none op), stepLast_acc t b acc op]
    cases List.foldl (stepLast t b) none ops <;> rfl

theorem lastOp_append (A Bs : List TOp) (t b : Nat) :
    lastOp (A ++ Bs) t b = (match lastOp Bs t b with | some v => some v | none => lastOp A t b) := by
  show (A ++ Bs).foldl (stepLast t b) none = _
  rw [List.foldl_append, foldl_stepLast_eq]
  rfl

theorem lastOp_map (mk : Nat → TOp) (v : Bool) (t b : Nat)
    (hmk : ∀ x, stepLast t b none (mk x) = if x = t then some v else none) (l : List Nat) :
    lastOp (l.map mk) t b = if t ∈ l then some v else none := by
  induction l with
  | nil => rfl
  | cons x xs ih =>
    have e : (x :: xs).map mk = [mk x] ++ xs.map mk := rfl
    have e1 : lastOp [mk x] t b = if x = t then some v else none := hmk x
    rw [e, lastOp_append, ih, e1]
    by_cases h1 : t ∈ xs
    · simp [h1]
    · by_cases h2 : x = t
      · simp [h1, h2]
      · have : ¬ t = x := fun e => h2 e.symm
        simp [h1, h2, this]

theorem lastOp_adds (l : List Nat) (t b : Nat) :
    lastOp (l.map (TOp.add · b)) t b = if t ∈ l then some true else none :=
  lastOp_map (TOp.add · b) true t b (fun x => by simp [stepLast]) l

theorem lastOp_removes (l : List Nat) (t b : Nat) :
    lastOp (l.map (TOp.remove · b)) t b = if t ∈ l then some false else none :=
  lastOp_map (TOp.remove · b) false t b (fun x => by simp [stepLast]) l

theorem registered_apply (tb : Table) (op : TOp) (t b : Nat) :
    (op.apply tb).registered t b = (stepLast t b none op).getD (tb.registered t b) := by
  cases op <;> (simp only [TOp.apply, stepLast, registered_add, registered_remove]; split <;> rfl)

theorem registered_after_ops (ops : List TOp) (tb : Table) (t b : Nat) :
    (ops.foldl TOp.apply tb).registered t b = ((lastOp ops t b).getD (tb.registered t b)) := by
  induction ops generalizing tb with
  | nil => rfl
  | cons op ops ih =>
    have e : lastOp (op :: ops) t b = (match lastOp ops t b with | some v => some v | none => stepLast t b none op) :=
      foldl_stepLast_eq t b ops _
    rw [List.foldl_cons, ih, registered_apply, e]
    cases lastOp ops t b <;> rfl


/-- the primitives of `TimeDate.recalc` in terms of the model's membership functions -/
def tdPrims (cal : Calendar) : TdPrims TDCfg Nat Nat where
  timesIsNone c := c.times.isNone
  datesIsNone c := c.dates.isNone
  weekdaysIsNone c := c.weekdays.isNone
  timeOf := todOf
  month now := (cal (dayOf now)).month
  day now := (cal (dayOf now)).day
  isoweekday now := (cal (dayOf now)).wday
  inTimes c t := match c.times with | some iv => timesContain iv t | none => false
  inDates c m d := match c.dates with | some iv => datesContain iv (m, d) | none => false
  inWeekdays c wd := match c.weekdays with | some w => w.contains wd | none => false
  inSpan _ _ := false

/-- … and of `TimeSpan.recalc`: `now in self._span` is membership in one of the ranges -/
def tsPrims (cal : Calendar) : TdPrims Span Nat Nat where
  timesIsNone _ := true
  datesIsNone _ := true
  weekdaysIsNone _ := true
  timeOf := todOf
  month now := (cal (dayOf now)).month
  day now := (cal (dayOf now)).day
  isoweekday now := (cal (dayOf now)).wday
  inTimes _ _ := false
  inDates _ _ _ := false
  inWeekdays _ _ := false
  inSpan sp now := sp.any fun r => inSpan r.1 (stampOf cal now) r.2

theorem td_recalc_is_pred (cal : Calendar) (c : TDCfg) (now : Nat) :
    tdRecalc (tdPrims cal) c now = timedatePred cal c now := by
  unfold tdRecalc tdIsConfigured timedatePred TDCfg.configured tdPrims
  cases c with
  | mk times dates weekdays => cases times <;> cases dates <;> cases weekdays <;> simp

theorem ts_recalc_is_pred (cal : Calendar) (sp : Span) (now : Nat) :
    tsRecalc (tsPrims cal) sp now = timespanPred cal sp now := rfl

/-- the end points of the time ranges of a TimeDate configuration (`self._times.range_endpoints()`) -/
def timeEndpoints (iv : List (Nat × Nat)) : List Nat := iv.flatMap fun r => [r.1, r.2]

/-- the table operations behind one action of `TimeDate._event_reconfig` for block `b`; `none`: the action
    would raise (`None.range_endpoints()`), or is one that only `TimeSpan._event_reconfig` has -/
def tdActOps (old new : TDCfg) (b : Nat) : RAct → Option (List TOp)
  | .removeOldEndpoints => old.times.map fun iv => (timeEndpoints iv).map (TOp.remove · b)
  | .addNewEndpoints => new.times.map fun iv => (timeEndpoints iv).map (TOp.add · b)
  | .addMidnight => some [.add 0 b]
  | .addFutureEndpoints _ => none
  | _ => some []

/-- … of `TimeSpan._event_reconfig`; `read n` = the n-th clock reading of the call -/
def tsActOps (cal : Calendar) (old new : Span) (read : Nat → Nat) (b : Nat) : RAct → Option (List TOp)
  | .removeOldEndpoints => some ((endpoints old).map fun e => TOp.remove e.tod b)
  | .addFutureEndpoints n =>
    some (((endpoints new).filter fun e =>
        decide (({ stampOf cal (read n) with tod := 0 } : Stamp).Le { e with tod := 0 })).map
      fun e => TOp.add e.tod b)
  | .addNewEndpoints => none
  | .addMidnight => none
  | _ => some []

def actsOps (f : RAct → Option (List TOp)) : List RAct → Option (List TOp)
  | [] => some []
  | a :: rest => do
    let x ← f a
    let y ← actsOps f rest
    pure (x ++ y)

/-- the readings handed to `recalc`, each named by its position among the readings of the call -/
def recalcReadings : List RAct → List Nat
  | [] => []
  | .recalc n :: rest => n :: recalcReadings rest
  | _ :: rest => recalcReadings rest

def countReads : List RAct → Nat
  | [] => 0
  | .readClock :: rest => countReads rest + 1
  | _ :: rest => countReads rest


/-- the table calls of a reconfiguration: removals, then additions, then midnight -/
theorem registered_reconfig (rem add : List Nat) (b : Nat) (tb : Table) (t : Nat) :
    ((rem.map (TOp.remove · b) ++ (add.map (TOp.add · b) ++ [TOp.add 0 b])).foldl TOp.apply tb).registered t b = true ↔
      (t = 0 ∨ t ∈ add ∨ (t ∉ rem ∧ tb.registered t b = true)) := by
  rw [registered_after_ops, lastOp_append, lastOp_append, lastOp_adds, lastOp_removes]
  have hl : lastOp [TOp.add 0 b] t b = if t = 0 then some true else none := by
    by_cases h : t = 0
    · simp [lastOp, stepLast, h]
    · have h' : ¬ 0 = t := fun e => h e.symm
      simp [lastOp, stepLast, h, h']
  rw [hl]
  by_cases h0 : t = 0
  · simp [h0]
  · by_cases ha : t ∈ add
    · simp [h0, ha]
    · by_cases hr : t ∈ rem
      · simp [h0, ha, hr]
      · simp [h0, ha, hr]

theorem mem_boundaries (c : TDCfg) (t : Nat) :
    t ∈ boundaries c ↔ t = 0 ∨ t ∈ (match c.times with | some iv => timeEndpoints iv | none => []) := by
  unfold boundaries timeEndpoints
  cases c.times <;> simp

end Edzed.Cron
