/-
C13: the traditional (colon) notations of a time of day – H, M, S with one or two digits each (independently),
optional seconds, optional fraction after `.` or `,` (`ColonText`) – are `TimeText`s (`_RE_TIME` matches each as a whole
inside a date-time string) and are read by `strptime`.  Every `ColonTime` of C13 is such a text (`ColonTime.colonText`).
With them: hyphenated dates before or after the time, `datetime.fromisoformat` on a date, `T` and a time
(`isoDateTimeRaw_T`), and the texts (`isoExt`, `tradDMY`, `tradCanon`, `ymdBasic`, `timeBases`) of the notations that
C13 states.  Core Lean only.
-/
import EdzedModel.Interval
import EdzedProofs.Interval
import EdzedProofs.IntervalText
import EdzedProofs.IntervalNotations
import EdzedProofs.IntervalOrders
import EdzedProofs.IntervalTables

namespace Edzed.Interval

theorem hourColon_tok {H : List Char} (hH : Dig12 H) (R : List Char) :
    hourColon (H ++ ':' :: R) = some (H ++ [':'], R) := by
  rcases hH with ⟨x, rfl, hx⟩ | ⟨x, y, rfl, hx, hy⟩
  · cases R with
    | nil => simp [hourColon, hx]
    | cons c r => simp [hourColon, hx]
  · simp [hourColon, hx, hy]

theorem optSeconds_some {S : List Char} (hS : Dig12 S) {R : List Char} (hR : NoDigitNext R) :
    optSeconds (':' :: (S ++ R)) = (':' :: S, R) := by
  simp [optSeconds, digits12_tok hS hR]

theorem optSeconds_none {R : List Char} (hR : EndOk R) : optSeconds R = ([], R) := by
  rcases hR with rfl | ⟨r, rfl⟩ <;> simp [optSeconds]

theorem optFraction_none {R : List Char} (hR : EndOk R) : optFraction R = ([], R) := by
  rcases hR with rfl | ⟨r, rfl⟩
  · rfl
  · cases r <;> simp [optFraction]

theorem optFraction_some (c : Char) (hc : c = '.' ∨ c = ',') (q : List Char) (hq : q ≠ [])
    (hd : ∀ z ∈ q, isDigit z = true) {R : List Char} (hR : NoDigitNext R) :
    optFraction (c :: (q ++ R)) = (c :: q, R) := by
  cases q with
  | nil => exact absurd rfl hq
  | cons x xs =>
    have hx := hd x (by simp)
    have := takeWhile_run isDigit (x :: xs) R hd hR
    simp only [List.cons_append] at this ⊢
    rcases hc with rfl | rfl <;> simp [optFraction, hx, this.1, this.2]

/-- what may follow `H:M` in a colon notation – nothing, `:S`, or `:S` and a fraction of 1..6 digits – with the
    seconds and microseconds it stands for -/
inductive ColonTail : List Char → Nat → Nat → Prop
  | none : ColonTail [] 0 0
  | sec {S : List Char} (hS : Dig12 S) : ColonTail (':' :: S) (numOf S) 0
  | frac {S : List Char} (hS : Dig12 S) (c : Char) (hc : c = '.' ∨ c = ',') (q : List Char) (hq : q ≠ [])
      (hd : ∀ z ∈ q, isDigit z = true) (hl : q.length ≤ 6) : ColonTail (':' :: (S ++ c :: q)) (numOf S) (fracUs q)

theorem noDigitNext_colon (R : List Char) : NoDigitNext (':' :: R) := Or.inr ⟨':', R, rfl, rfl⟩

/-- a colon notation: `H:M` and a tail, the fields one or two digits each, with the time it writes -/
inductive ColonText : List Char → Ep → Prop
  | mk {H M tl : List Char} {hh m s us : Nat} (fH : Fld hh H) (fM : Fld m M) (T : ColonTail tl s us) :
      ColonText (H ++ ':' :: (M ++ tl)) [hh, m, s, us]

/-- `_RE_TIME` matches the whole of a colon notation when the end of the string or a blank follows -/
theorem reTime_colon {tt : List Char} {e : Ep} (h : ColonText tt e) {R : List Char} (hR : EndOk R) :
    reTime (tt ++ R) = some ⟨tt.length, [tt]⟩ := by
  obtain ⟨⟨hH, -⟩, ⟨hM, -⟩, T⟩ := h
  rw [List.append_assoc, List.cons_append, List.append_assoc]
  unfold reTime
  rw [hourColon_tok hH]
  cases T with
  | none =>
    simp only [List.nil_append, digits12_tok hM hR.noDigit, optSeconds_none hR, optFraction_none hR]
    simp
  | sec hS =>
    simp only [List.cons_append, digits12_tok hM (noDigitNext_colon _), optSeconds_some hS hR.noDigit,
      optFraction_none hR]
    simp
  | frac hS c hc q hq hd hl =>
    have hn : NoDigitNext (c :: (q ++ R)) := Or.inr ⟨c, _, rfl, by rcases hc with rfl | rfl <;> decide⟩
    simp only [List.cons_append, List.append_assoc, digits12_tok hM (noDigitNext_colon _), optSeconds_some hS hn,
      optFraction_some c hc q hq hd hR.noDigit]
    simp

theorem timeChars_colon {tt : List Char} {e : Ep} (h : ColonText tt e) : ∀ c ∈ tt, TimeChar c := by
  obtain ⟨⟨hH, -⟩, ⟨hM, -⟩, T⟩ := h
  refine timeChar_append (timeChar_digits hH.digits) (timeChar_cons (Or.inr (Or.inl rfl))
    (timeChar_append (timeChar_digits hM.digits) ?_))
  cases T with
  | none => exact fun _ h => nomatch h
  | sec hS => exact timeChar_cons (Or.inr (Or.inl rfl)) (timeChar_digits hS.digits)
  | frac hS c hc q hq hd hl =>
    exact timeChar_cons (Or.inr (Or.inl rfl)) (timeChar_append (timeChar_digits hS.digits)
      (timeChar_cons (by rcases hc with rfl | rfl <;> simp [TimeChar]) (timeChar_digits hd)))

theorem timeText_colon {tt : List Char} {e : Ep} (h : ColonText tt e) : TimeText tt := by
  have hc := timeChars_colon h
  have hw := fun B hB => reTime_colon h (R := B) hB
  obtain @⟨H, M, tl, _, _, _, _, ⟨hH, -⟩, ⟨hM, -⟩, T⟩ := h
  have hl : LastOk (H ++ ':' :: (M ++ tl)) := by
    refine .append_left _ (.append_left [':'] ?_)
    cases T with
    | none => exact (show LastOk (M ++ []) by rw [List.append_nil]; exact hM.firstLast.2)
    | sec hS => exact .append_left _ (.append_left [':'] hS.firstLast.2)
    | frac hS c hc q hq hd hl => exact .append_left _ (.append_left [':'] (.append_left _ (.append_left [c] (lastOk_digits hq hd))))
  obtain ⟨c, r, e, hd⟩ := hH.head_digit (':' :: (M ++ tl))
  refine ⟨⟨c, r, e, hd⟩, asciiOk_timeChars hc, (trimmedB_iff _).2 ⟨e ▸ firstOk_cons (isDigit_props hd).1, hl⟩,
    fun hT => ?_, hw⟩
  rcases hc 'T' hT with h | h | h | h <;> revert h <;> decide

theorem field12_tok {H : List Char} (hH : Dig12 H) {R : List Char} (hR : NoDigitNext R) :
    field12 (H ++ R) = some (numOf H, R) := by
  rcases hH with ⟨x, rfl, hx⟩ | ⟨x, y, rfl, hx, hy⟩ <;> rcases hR with rfl | ⟨c, r, rfl, hc⟩ <;>
    simp [field12, numOf, *]

theorem strpTime_colon {tt : List Char} {e : Ep} (h : ColonText tt e) (hv : validTime e = true) :
    strpTime tt = some e := by
  obtain ⟨⟨hH, rfl⟩, ⟨hM, rfl⟩, T⟩ := h
  simp only [validTime, Bool.and_eq_true, decide_eq_true_eq] at hv
  have n1 := Nat.not_lt.2 (Nat.le_of_lt_succ hv.1.1.1)
  have n2 := Nat.not_lt.2 (Nat.le_of_lt_succ hv.1.1.2)
  have n3 := Nat.not_lt.2 (Nat.le_of_lt_succ hv.1.2)
  cases T with
  | none =>
    have fM := field12_tok hM (Or.inl rfl)
    simp only [strpTime, field12_tok hH (noDigitNext_colon _), fM, gt_iff_lt, n1, n2, ↓reduceIte]
  | @sec S hS =>
    have fS := field12_tok hS (Or.inl rfl)
    rw [List.append_nil] at fS
    simp only [strpTime, field12_tok hH (noDigitNext_colon _), field12_tok hM (noDigitNext_colon S), fS, gt_iff_lt,
      n1, n2, n3, ↓reduceIte]
  | frac hS c hc q hq hd hl =>
    have nc : NoDigitNext (c :: q) := Or.inr ⟨c, q, rfl, by rcases hc with rfl | rfl <;> rfl⟩
    have hcc : (c == '.' || c == ',') = true := by rcases hc with rfl | rfl <;> rfl
    simp only [strpTime, field12_tok hH (noDigitNext_colon _), field12_tok hM (noDigitNext_colon _),
      field12_tok hS nc, gt_iff_lt, n1, n2, n3, ↓reduceIte, hcc, strpFrac_digits q hq hd hl, Option.map_some]

/-- `fromisoformat` reads a colon notation to the same effect, or not at all (it wants two digits per field) -/
theorem isoHMSF_colon {tt : List Char} {e : Ep} (h : ColonText tt e) : isoHMSF tt = none ∨ isoHMSF tt = some e := by
  obtain @⟨H, M, tl, _, _, _, _, ⟨hH, rfl⟩, ⟨hM, rfl⟩, T⟩ := h
  rcases hH with ⟨x, rfl, hx⟩ | ⟨x, y, rfl, hx, hy⟩
  · left; cases M <;> simp [isoHMSF, take2]
  · have c1 := isoNext_colon true false (Or.inl rfl)
    have c2 := isoNext_colon false true (Or.inr rfl)
    rcases hM with ⟨u, rfl, hu⟩ | ⟨u, v, rfl, hu, hv⟩
    · left; cases T <;> simp [isoHMSF, take2, isoNext, hx, hy]
    · cases T with
      | none =>
        right
        simp only [List.cons_append, List.nil_append, isoHMSF, take2_two hx hy, c1, take2_two hu hv, isoNext_nil]
      | sec hS =>
        rcases hS with ⟨w, rfl, hw⟩ | ⟨w, z, rfl, hw, hz⟩
        · left
          simp only [List.cons_append, List.nil_append, isoHMSF, take2_two hx hy, c1, take2_two hu hv, c2]
          rfl
        · right
          simp only [List.cons_append, List.nil_append, isoHMSF, take2_two hx hy, c1, take2_two hu hv, c2,
            take2_two hw hz, isoNext_nil]
      | frac hS c hc q hq hd hl =>
        rcases hS with ⟨w, rfl, hw⟩ | ⟨w, z, rfl, hw, hz⟩
        · left
          simp only [List.cons_append, List.nil_append, isoHMSF, take2_two hx hy, c1, take2_two hu hv, c2]
          rcases hc with rfl | rfl <;> simp [take2]
        · right
          cases q with
          | nil => exact absurd rfl hq
          | cons a q' =>
            simp only [List.cons_append, List.nil_append, isoHMSF, take2_two hx hy, c1, take2_two hu hv, c2,
              take2_two hw hz, isoNext_frac true hc, isoFrac_digits _ _ _ hq hd]

theorem convertStr_time_of_strp {s : List Char} {e : Ep} (ht : TimeText s) (htz : hasTz s = false)
    (hs : strpTime s = some e) (hv : validTime e = true) (hiso : isoHMSF s = none ∨ isoHMSF s = some e) :
    convertStr .time s = .ok e := by
  obtain ⟨a, r, rfl, ha⟩ := ht.first
  have hd : dropT (a :: r) = a :: r := by simp [dropT, isDigit_bne ha (d := 'T') rfl]
  rw [convertStr_time_eq ht.ascii ht.trimmed (by rw [hd]; exact htz), hd, hs]
  rcases hiso with hi | hi
  · rw [hi]; simp only [Option.filter, Option.elim, Res.ofOption, Res.bind_ok, checkEp, validEp, hv, ↓reduceIte]
  · rw [hi, Option.filter_some, if_pos hv]; rfl

theorem colon_convert {tt : List Char} {e : Ep} (h : ColonText tt e) (hv : validTime e = true) :
    convertStr .time tt = .ok e :=
  convertStr_time_of_strp (timeText_colon h) (hasTz_timeChars (timeChars_colon h)) (strpTime_colon h hv) hv
    (isoHMSF_colon h)

/-- the five base notations of `h:m:s` to which a fraction may be appended -/
def timeBases (h m s : Nat) : List (List Char) :=
  [tHMS h m s, tHMSp h m s, 'T' :: tHMSp h m s, tHMSb h m s, 'T' :: tHMSb h m s]

/-- the colon notations of a time of day: `H:M`, `HH:MM`, `H:M:S`, `HH:MM:SS`, the latter two with a fraction of
    1..6 digits after `.` or `,`, and the canonical `str(time)` -/
inductive ColonTime : List Char → Ep → Prop
  | hm {h m : Nat} (hh : h < 24) (hm : m < 60) : ColonTime (tHM h m) [h, m, 0, 0]
  | hmPadded {h m : Nat} (hh : h < 24) (hm : m < 60) : ColonTime (tHMp h m) [h, m, 0, 0]
  | hms {h m s : Nat} (hh : h < 24) (hm : m < 60) (hs : s < 60) : ColonTime (tHMS h m s) [h, m, s, 0]
  | hmsPadded {h m s : Nat} (hh : h < 24) (hm : m < 60) (hs : s < 60) : ColonTime (tHMSp h m s) [h, m, s, 0]
  | hmsFrac {h m s : Nat} (hh : h < 24) (hm : m < 60) (hs : s < 60) (c : Char) (hc : c = '.' ∨ c = ',')
      (q : List Char) (hq : q ≠ []) (hd : ∀ z ∈ q, isDigit z = true) (hl : q.length ≤ 6) :
      ColonTime (tHMS h m s ++ c :: q) [h, m, s, fracUs q]
  | hmsPaddedFrac {h m s : Nat} (hh : h < 24) (hm : m < 60) (hs : s < 60) (c : Char) (hc : c = '.' ∨ c = ',')
      (q : List Char) (hq : q ≠ []) (hd : ∀ z ∈ q, isDigit z = true) (hl : q.length ≤ 6) :
      ColonTime (tHMSp h m s ++ c :: q) [h, m, s, fracUs q]
  | canonical {e : Ep} (h : validTime e = true) : ColonTime (renderTime e) e

theorem Fld.sec {S : List Char} {s : Nat} (f : Fld s S) : ColonTail (':' :: S) s 0 := f.2 ▸ .sec f.1

theorem Fld.frac {S : List Char} {s : Nat} (f : Fld s S) (c : Char) (hc : c = '.' ∨ c = ',') (q : List Char)
    (hq : q ≠ []) (hd : ∀ z ∈ q, isDigit z = true) (hl : q.length ≤ 6) :
    ColonTail (':' :: (S ++ c :: q)) s (fracUs q) := f.2 ▸ .frac f.1 c hc q hq hd hl

theorem ColonTime.colonText {tt : List Char} {tm : Ep} (h : ColonTime tt tm) :
    ColonText tt tm ∧ validTime tm = true := by
  have hP : ∀ {tt : List Char} {e : Ep}, ColonText tt e → validTime e = true → ColonText tt e ∧ validTime e = true :=
    fun c hv => ⟨c, hv⟩
  have n : ∀ {k : Nat}, k < 60 → Fld k (natStr k) := fun h => fld_natStr (by omega)
  have p : ∀ {k : Nat}, k < 60 → Fld k (pad 2 k) := fun h => fld_pad2 (by omega)
  cases h with
  | hm hh hm => simpa [tHM] using hP (.mk (n (by omega)) (n hm) .none) (by simp [validTime, hh, hm])
  | hmPadded hh hm => simpa [tHMp] using hP (.mk (p (by omega)) (p hm) .none) (by simp [validTime, hh, hm])
  | hms hh hm hs => simpa [tHMS] using hP (.mk (n (by omega)) (n hm) (n hs).sec) (by simp [validTime, hh, hm, hs])
  | hmsPadded hh hm hs =>
    simpa [tHMSp] using hP (.mk (p (by omega)) (p hm) (p hs).sec) (by simp [validTime, hh, hm, hs])
  | hmsFrac hh hm hs c hc q hq hd hl =>
    simpa [tHMS] using hP (.mk (n (by omega)) (n hm) ((n hs).frac c hc q hq hd hl))
      (by simp [validTime, hh, hm, hs, fracUs_lt q hd hl])
  | hmsPaddedFrac hh hm hs c hc q hq hd hl =>
    simpa [tHMSp] using hP (.mk (p (by omega)) (p hm) ((p hs).frac c hc q hq hd hl))
      (by simp [validTime, hh, hm, hs, fracUs_lt q hd hl])
  | canonical hv =>
    obtain ⟨h, m, s, us, rfl, h1, h2, h3, h4⟩ := validTime_shape hv
    rw [renderTime_cases]
    split
    · next hus => simpa [tHMSp, hus] using hP (.mk (p (by omega)) (p h2) (p h3).sec) (by simp [validTime, h1, h2, h3])
    · have := hP (.mk (p (show h < 60 by omega)) (p h2)
        ((p h3).frac '.' (Or.inl rfl) (pad 6 us) (by simp [pad6]) (pad_digits 6 us) (by simp [pad_length])))
      rw [fracUs_pad 6 us (Nat.le_refl 6) h4, Nat.sub_self, Nat.pow_zero, Nat.mul_one] at this
      simpa [tHMSp] using this hv

theorem ColonTime.timeText {tt : List Char} {tm : Ep} (h : ColonTime tt tm) : TimeText tt :=
  timeText_colon h.colonText.1

theorem ColonTime.convert {tt : List Char} {tm : Ep} (h : ColonTime tt tm) : convertStr .time tt = .ok tm :=
  colon_convert h.colonText.1 h.colonText.2

/-- a hyphenated date `Z` (`_RE_YMD` matches all of it) before or after the time of day -/
theorem datetime_dashed_of {Z mon tt : List Char} {y m d : Nat} {tm : Ep} (ht : TimeText tt)
    (hct : convertStr .time tt = .ok tm) (hv : validDateTime ([y, m, d] ++ tm) = true)
    (hre : ∀ B, reYMD (Z ++ B) = some ⟨Z.length, [pad 4 y, mon, pad 2 d]⟩)
    (hmon : (mon.all isDigit = true ∧ numOf mon = m) ∨ (mon.all isDigit = false ∧ nameToMonth mon = some m))
    (hZ : CleanPart Z) (hcol : ':' ∉ Z) :
    ∀ ts ∈ insertAll tt [Z], convertStr .datetime (joinSp ts) = .ok ([y, m, d] ++ tm) := by
  intro ts hts
  obtain ⟨hy, -, hd⟩ := validDateTime_ymd hv
  obtain ⟨pre, post, hsplit, rfl⟩ := mem_insertAll hts
  refine datetime_of_pieces ht hct (fun t h => ?_) hv fun s sp => ?_
  · rw [← hsplit, List.mem_singleton] at h
    rw [h]; exact ⟨hZ, hcol⟩
  · rw [← hsplit] at sp
    exact afterTime_ymd y m d tm sp hy (by omega) hre hmon

theorem datetime_dashed_num {y mo d : Nat} {tm : Ep} {tt : List Char} (ht : TimeText tt)
    (hct : convertStr .time tt = .ok tm) (hv : validDateTime ([y, mo, d] ++ tm) = true) :
    ∀ ts ∈ insertAll tt [ymdNum y mo d], convertStr .datetime (joinSp ts) = .ok ([y, mo, d] ++ tm) := by
  have hmo : mo < 100 := by have := (validDateTime_ymd hv).2.1; omega
  refine datetime_dashed_of ht hct hv (reYMD_num y mo d)
    (Or.inl ⟨List.all_eq_true.2 (pad_digits 2 mo), by rw [numOf_pad]; omega⟩) ?_ ?_
  · simp [CleanPart, ymdNum, pad4, pad2, asciiOk, trimmedB]
  · simp [ymdNum, pad4, pad2]

/-- `YYYYMMDD` -/
def ymdBasic (y mo d : Nat) : List Char := pad 4 y ++ pad 2 mo ++ pad 2 d

theorem take2digits_digits (a b : Nat) (r : List Char) :
    take2digits (digitChar a :: digitChar b :: r) = some ([digitChar a, digitChar b], r) := by
  simp [take2digits]

theorem numOf_two (n : Nat) : numOf [digitChar (n / 10), digitChar n] = n % 100 := by
  rw [← pad2, numOf_pad]

/-- `datetime.fromisoformat` on an extended or basic date, `T` and a time text: the fields of the date, then the time
    parser -/
theorem isoDateTimeRaw_T (y mo d : Nat) (t : List Char) {D : List Char}
    (hD : D = ymdNum y mo d ∨ D = ymdBasic y mo d) :
    isoDateTimeRaw (D ++ 'T' :: t) =
      if hasTz t then .tz else match isoHMSF t with
        | none => .fail
        | some tm => .ok ([y % 10000, mo % 100, d % 100] ++ tm) := by
  have hW : ('-' == 'W') = false := rfl
  have hl : ¬ (D ++ 'T' :: t).length < 7 := by
    rcases hD with rfl | rfl <;>
      simp only [ymdNum, ymdBasic, List.length_append, List.length_cons, pad_length] <;> omega
  unfold isoDateTimeRaw
  rw [if_neg hl]
  -- the two forms differ in the hyphens only: the tests for them come out the other way, the rest is the same
  rcases hD with rfl | rfl <;>
    simp only [ymdNum, ymdBasic, pad2, List.append_assoc, List.cons_append, List.nil_append,
      List.drop_left' (pad_length 4 y), take4digits_pad4, take2digits_digits, numOf_two, numOf_pad, beq_self_eq_true,
      digitChar_bne_W, digitChar_bne_minus, Bool.true_and, Bool.false_and, Bool.or_false, ↓reduceIte, List.drop_succ_cons,
      List.drop_zero, hW, Bool.false_eq_true, Nat.reducePow] <;>
    -- both sides read the same, but their `match`es are two compilations of the one case split
    cases hasTz t <;> cases isoHMSF t <;> rfl

theorem isoDate_clean {y mo d : Nat} {D : List Char} (hD : D = ymdNum y mo d ∨ D = ymdBasic y mo d) :
    asciiOk D = true ∧ FirstOk D := by
  rcases hD with rfl | rfl <;> simp [ymdNum, ymdBasic, pad2, pad4, asciiOk, FirstOk]

/-- ISO 8601 extended: `YYYY-MM-DDTHH:MM:SS[.ffffff]` -/
def isoExt : Ep → List Char
  | [y, mo, d, h, mi, s, us] => pad 4 y ++ '-' :: pad 2 mo ++ '-' :: pad 2 d ++ 'T' :: renderTime [h, mi, s, us]
  | _ => []

/-- traditional notation `D. Mon YYYY HH:MM:SS[.ffffff]` with a three-letter month name `a b c` -/
def tradDMY (a b c : Char) : Ep → List Char
  | [y, _, d, h, mi, s, us] =>
    natStr d ++ '.' :: ' ' :: a :: b :: c :: ' ' :: pad 4 y ++ ' ' :: renderTime [h, mi, s, us]
  | _ => []

/-- the three-letter abbreviation `date_to_string` uses -/
def monthAbbr (mo : Nat) : List Char := (Gen.monthNamesC.getD mo []).take 3

theorem abbr_noT : ∀ mo, mo < 13 → 1 ≤ mo → 'T' ∉ monthAbbr mo ∧ 'T' ∉ (monthAbbr mo).map toLower := by
  decide +kernel

/-- a capital `T` would send the text to `fromisoformat` -/
theorem monthAbbr_spec {mo : Nat} (h1 : 1 ≤ mo) (h12 : mo ≤ 12) :
    ∃ a b c, monthAbbr mo = [a, b, c] ∧ (MonthName mo [a, b, c] ∧ 'T' ∉ [a, b, c]) ∧
      MonthName mo [toLower a, toLower b, toLower c] ∧ 'T' ∉ [toLower a, toLower b, toLower c] := by
  have hlong := month_name_long h1 h12
  obtain ⟨hn, -, hl⟩ := monthName_of_take h1 h12 3 (Nat.le_refl 3) hlong
  obtain ⟨tT, tL⟩ := abbr_noT mo (by omega) h1
  have hlen : (monthAbbr mo).length = 3 := by rw [monthAbbr, List.length_take]; exact Nat.min_eq_left hlong
  change MonthName mo (monthAbbr mo) at hn
  change MonthName mo ((monthAbbr mo).map toLower) at hl
  match hab : monthAbbr mo, hlen with
  | [a, b, c], _ => rw [hab] at hn hl tT tL; exact ⟨a, b, c, rfl, ⟨hn, tT⟩, hl, tL⟩

/-- `D. Mon YYYY HH:MM:SS[.ffffff]` with the month abbreviated as `as_string()` does, optionally in lower case -/
def tradCanon (lower : Bool) (e : Ep) : List Char :=
  match monthAbbr (e.getD 1 0) with
  | [a, b, c] => if lower then tradDMY (toLower a) (toLower b) (toLower c) e else tradDMY a b c e
  | _ => []

end Edzed.Interval
