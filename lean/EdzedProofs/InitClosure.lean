/-
C05: order independence, sufficient direction (synchronous sources).  For an ACYCLIC on_output topology (a rank
function that grows along every edge), routines that do not raise, defined script values and no InitAsync block
(`Hyp`), the synchronous call
tree never fails (the recursion guard is never hit), every event initialises its destination, and at every
quiescent point the set of initialised blocks is closed under the edges; hence after `_init_sblocks_sync_2` the
initialised blocks are exactly the closure `Reach` -- whatever the creation order.  The only model artefact in the
hypotheses: the recursion budget was not exhausted (`NF`).  All of this holds only while every call succeeds, so
it is a specification with pre- and postconditions (`GSpec`), carried through the call tree by one lemma per node
(`…_g`); what holds unconditionally (`Mono`) goes through `Walk`.
-/
import EdzedModel.Init
import EdzedProofs.Init
import EdzedProofs.InitOrder
import EdzedProofs.InitAsyncOrder

namespace Edzed.Init

/-- the recursion budget was never exhausted up to this state -/
def NF (s : St) : Prop := Entry.fuelOut ∉ s.log

/-- what never goes back: the log only grows (all that is needed to carry `NF` backwards) and an output once
    set stays set -/
structure Mono (s t : St) : Prop where
  log : s.log <+: t.log
  out : ∀ x, s.out x ≠ .undef → t.out x ≠ .undef

theorem Mono.refl (s : St) : Mono s s := ⟨List.prefix_rfl, fun _ h => h⟩

theorem Mono.of_eq {s t : St} (hl : t.log = s.log) (ho : t.out = s.out) : Mono s t :=
  ⟨by rw [hl]; exact List.prefix_rfl, fun _ h => by rw [ho]; exact h⟩

theorem Mono.push (s : St) (e : Entry) : Mono s (s.push e) := ⟨List.prefix_append _ _, fun _ h => h⟩

theorem Mono.trans {s t u : St} (h1 : Mono s t) (h2 : Mono t u) : Mono s u :=
  ⟨h1.log.trans h2.log, fun x h => h2.out x (h1.out x h)⟩

theorem Mono.nf {s t : St} (h : Mono s t) (ht : NF t) : NF s := fun hs => ht (List.IsPrefix.mem hs h.log)

theorem Mono.setOut (s : St) (b : Nat) (v : Val) (hv : v.isUndef = false) : Mono s (s.setOut b v) := by
  refine ⟨List.prefix_rfl, fun x hx => ?_⟩
  by_cases e : x = b
  · subst e; simpa using (Val.isUndef_false_iff v).mp hv
  · simpa [upd_other e] using hx

theorem monoWalk (c : Cfg) : Walk c (fun _ => True) Mono where
  trans := Mono.trans
  quiet := fun hl _ ho _ => Mono.of_eq hl ho
  note := fun s e _ => Mono.push s e
  refused := fun s d => ⟨by rw [refuse_log]; exact List.prefix_append _ _, fun _ h => by rw [refuse_out]; exact h⟩
  handle := fun s _ _ _ => Mono.push s _
  setOut := fun s b v _ hv => Mono.setOut s b v hv
  own := fun _ _ => trivial
  edge := fun _ _ _ _ => trivial

theorem exec_mono (c : Cfg) (fuel : Nat) : Sat (fun _ => True) Mono (exec c fuel) :=
  (monoWalk c).exec (fun _ hr b full s => (monoWalk c).initBody_of_steps hr b (fun _ _ => Mono.of_eq rfl rfl)
    (fun s => Mono.push s _) (fun s => Mono.push s _) (fun s _ => Mono.push s _) full s) fuel

theorem asyncPhase_mono (c : Cfg) (s : St) : Mono s (asyncPhase c s) :=
  Mono.trans (t := started c s) ⟨List.prefix_append _ _, fun _ h => h⟩
    ((monoWalk c).asyncPhase (exec_mono c c.fuel) s)

/-- hypotheses on the circuit: acyclic init-event topology, non-raising routines, defined values, no InitAsync
    block (`Regular.quietNone`) -/
structure Hyp (c : Cfg) (rk : Nat → Nat) : Prop where
  acyc : ∀ b d, d ∈ (c.blk b).dests → rk b < rk d
  noRaise : ∀ b, (c.blk b).regular ≠ .raises
  noQuiet : ∀ b, (c.blk b).regular ≠ .quietNone
  pv : ∀ b v h, (c.blk b).persist = .restores v h → v.isUndef = false
  rv1 : ∀ b v, (c.blk b).regular = .sets v → v.isUndef = false
  rv2 : ∀ b v, (c.blk b).regular = .viaEvent v → v.isUndef = false
  dv : ∀ b v h, (c.blk b).initdef = some (v, h) → v.isUndef = false
  sv : ∀ b v, (c.blk b).start = some v → v.isUndef = false

def Closed (c : Cfg) (s : St) (x : Nat) : Prop :=
  s.out x ≠ .undef → ∀ d ∈ (c.blk x).dests, s.out d ≠ .undef

/-- what the completed steps of a block guarantee -/
structure Sourced (c : Cfg) (s : St) : Prop where
  saved : ∀ x, (s.steps x = 1 ∨ s.steps x = -2 ∨ s.steps x = 2) →
    (∃ v h, (c.blk x).persist = .restores v h) → s.out x ≠ .undef
  own : ∀ x, s.steps x = 2 →
    ((∃ v, (c.blk x).regular = .sets v) ∨ (∃ v, (c.blk x).regular = .viaEvent v) ∨
      (c.blk x).initdef.isSome = true) → s.out x ≠ .undef

theorem Sourced.of_mono {c : Cfg} {s t : St} (h : Sourced c s) (hs : t.steps = s.steps)
    (hm : ∀ x, s.out x ≠ .undef → t.out x ≠ .undef) : Sourced c t :=
  ⟨fun x hx hp => hm x (h.saved x (by rw [hs] at hx; exact hx) hp),
   fun x hx hp => hm x (h.own x (by rw [hs] at hx; exact hx) hp)⟩

/-- a block initialised between `s` and `t` has initialised all its destinations by `t` -/
def Fresh (c : Cfg) (s t : St) : Prop :=
  ∀ x, s.out x = .undef → t.out x ≠ .undef → ∀ d ∈ (c.blk x).dests, t.out d ≠ .undef

/-- a piece of the start-up went well: no failure, no output lost, every block it initialised has reached its
    destinations, no counter turned negative -/
structure Good (c : Cfg) (s t : St) : Prop where
  ok : t.ok = true
  mono : ∀ x, s.out x ≠ .undef → t.out x ≠ .undef
  fresh : Fresh c s t
  nn : ∀ x, 0 ≤ s.steps x → 0 ≤ t.steps x

theorem Good.rfl' {c : Cfg} {s : St} (h : s.ok = true) : Good c s s :=
  ⟨h, fun _ h => h, fun _ hs ht => absurd hs ht, fun _ h => h⟩

theorem Good.trans {c : Cfg} {s t u : St} (h1 : Good c s t) (h2 : Good c t u) :
    Good c s u := by
  refine ⟨h2.ok, fun x h => h2.mono x (h1.mono x h), fun x hs hu d hd => ?_, fun x h => h2.nn x (h1.nn x h)⟩
  -- `x` was initialised in the second piece, or in the first and its destinations stay initialised
  by_cases ht : t.out x = .undef
  · exact h2.fresh x ht hu d hd
  · exact h2.mono d (h1.fresh x hs ht d hd)

theorem Good.prim {c : Cfg} {s t : St} (hok : t.ok = true) (hout : t.out = s.out)
    (hst : t.steps = s.steps) : Good c s t :=
  ⟨hok, fun x h => by rw [hout]; exact h, fun x hs ht => by rw [hout] at ht; exact absurd hs ht,
   fun x h => by rw [hst]; exact h⟩

theorem Good.closed {c : Cfg} {s t : St} (h : Good c s t) (hc : ∀ x, Closed c s x) :
    ∀ x, Closed c t x := by
  intro x hx d hd
  by_cases hs : s.out x = .undef
  · exact h.fresh x hs hx d hd
  · exact h.mono d (hc x hs d hd)

/-- every block inside an event (`_event_active`) has rank below / at most `r`: with ranks growing along the
    edges, an event to a block of rank `r` cannot meet the recursion guard -/
def ActLt (rk : Nat → Nat) (s : St) (r : Nat) : Prop := ∀ a, s.active a = true → rk a < r
def ActLe (rk : Nat → Nat) (s : St) (r : Nat) : Prop := ∀ a, s.active a = true → rk a ≤ r

/-- when a call is made: a defined value, and the active blocks rank below its targets -/
def Pre (rk : Nat → Nat) : Call → St → Prop
  | .event d v, s => v.isUndef = false ∧ ActLt rk s (rk d)
  | .setOutput b v, s => v.isUndef = false ∧ ActLe rk s (rk b)
  | .send ds v, s => v.isUndef = false ∧ ∀ d ∈ ds, ActLt rk s (rk d)
  | .initS b _, s => ActLt rk s (rk b)

/-- what a call achieves: its targets are initialised; `init_sblock` completes the steps it is asked for -/
def Spec : Call → St → St → Prop
  | .event d _, _, t => t.out d ≠ .undef
  | .setOutput b _, _, t => t.out b ≠ .undef
  | .send ds _, _, t => ∀ d ∈ ds, t.out d ≠ .undef
  | .initS b full, s, t => (s.steps b = 0 → full = false → t.steps b = 1) ∧
      ((s.steps b = 1 ∨ (s.steps b = 0 ∧ full = true)) → t.steps b = 2)

structure Res (c : Cfg) (s t : St) : Prop where
  good : Good c s t
  act : ∀ a, t.active a = s.active a
  sourced : Sourced c s → Sourced c t

theorem Res.rfl' {c : Cfg} {s : St} (h : s.ok = true) : Res c s s :=
  ⟨Good.rfl' h, fun _ => rfl, fun h => h⟩

theorem Res.trans {c : Cfg} {s t u : St} (h1 : Res c s t) (h2 : Res c t u) :
    Res c s u :=
  ⟨h1.good.trans h2.good, fun a => by rw [h2.act, h1.act], fun h => h2.sourced (h1.sourced h)⟩

theorem Res.prim {c : Cfg} {s t : St} (hok : t.ok = true) (hout : t.out = s.out)
    (hst : t.steps = s.steps) (hact : t.active = s.active) : Res c s t :=
  ⟨Good.prim hok hout hst, fun a => by rw [hact],
   fun h => h.of_mono hst (fun x hx => by rw [hout]; exact hx)⟩

/-- the nested calls behave: what holds of them always, and what holds from `Pre`, without failure so far and with
    the budget not exhausted -/
structure GSpec (c : Cfg) (rk : Nat → Nat) (rec : Call → St → St) : Prop where
  mono : Sat (fun _ => True) Mono rec
  spec : ∀ call s, Pre rk call s → s.ok = true → NF (rec call s) →
    Res c s (rec call s) ∧ Spec call s (rec call s)

section nodes
variable {c : Cfg} {rk : Nat → Nat} {rec : Call → St → St} (hyp : Hyp c rk) (hg : GSpec c rk rec)

include hyp hg in
/-- `set_output`: `b` itself is fresh, and the postcondition of the send loop says that its destinations have been
    reached; any other fresh block was fresh for the loop as well -/
theorem setOutputBody_g (b : Nat) (v : Val) (s : St) (hv : v.isUndef = false)
    (hact : ActLe rk s (rk b)) (hok : s.ok = true) (hnf : NF (setOutputBody c rec b v s)) :
    Res c s (setOutputBody c rec b v s) ∧ (setOutputBody c rec b v s).out b ≠ .undef := by
  have hvn := (Val.isUndef_false_iff v).mp hv
  unfold setOutputBody at hnf ⊢
  rw [if_neg (by rw [hv]; exact Bool.false_ne_true)] at hnf ⊢
  split at hnf
  · next hp =>
    rw [if_pos hp]
    exact ⟨Res.rfl' hok, fun hu => by rw [hu, Val.undef_pyEq, hv] at hp; cases hp⟩
  · next hp =>
    rw [if_neg hp]
    obtain ⟨hr, hs⟩ := hg.spec (.send (c.blk b).dests v) (s.setOut b v)
      ⟨hv, fun d hd a ha => Nat.lt_of_le_of_lt (hact a ha) (hyp.acyc b d hd)⟩ hok hnf
    have hm := (Mono.setOut s b v hv).out
    refine ⟨⟨⟨hr.good.ok, fun x hx => hr.good.mono x (hm x hx), fun x hx ht => ?_, hr.good.nn⟩,
      hr.act, fun h => hr.sourced (h.of_mono rfl hm)⟩, hr.good.mono b (by simpa using hvn)⟩
    by_cases e : x = b
    · subst e; exact hs
    · exact hr.good.fresh x (by simpa [upd_other e] using hx) ht

include hg in
theorem sendBody_g (ds : List Nat) (v : Val) (s : St) (hv : v.isUndef = false)
    (hact : ∀ d ∈ ds, ActLt rk s (rk d)) (hok : s.ok = true) (hnf : NF (sendBody rec ds v s)) :
    Res c s (sendBody rec ds v s) ∧ ∀ d ∈ ds, (sendBody rec ds v s).out d ≠ .undef := by
  unfold sendBody at hnf ⊢
  cases ds with
  | nil => exact ⟨Res.rfl' hok, fun d hd => by cases hd⟩
  | cons d r =>
    dsimp only at hnf ⊢
    have hnf1 : NF (rec (.event d v) s) := (hg.mono (.send r v) _ (fun _ _ => trivial)).nf hnf
    obtain ⟨h1, s1⟩ := hg.spec (.event d v) s ⟨hv, hact d (List.mem_cons_self ..)⟩ hok hnf1
    have hpre2 : Pre rk (.send r v) (rec (.event d v) s) :=
      ⟨hv, fun x hx a ha => hact x (List.mem_cons_of_mem _ hx) a (by rw [← h1.act]; exact ha)⟩
    obtain ⟨h2, s2⟩ := hg.spec (.send r v) _ hpre2 h1.good.ok hnf
    refine ⟨h1.trans h2, ?_⟩
    intro x hx
    rcases List.mem_cons.mp hx with rfl | hx
    · exact h2.good.mono _ s1
    · exact s2 x hx

theorem runHandler_mono {rec : Call → St → St} (hmono : Sat (fun _ => True) Mono rec) (d : Nat) (v : Val) (a : St) :
    Mono a (runHandler rec d v a) := by
  unfold runHandler
  refine Mono.trans (t := if a.ok then
    (rec (.setOutput d v) (a.push (.handle d v (a.steps d)))).handlerFrame else a) ?_ (Mono.of_eq rfl rfl)
  split
  · exact (Mono.push _ _).trans ((hmono (.setOutput d v) _ trivial).trans
      (Mono.of_eq (handlerFrame_log _) (handlerFrame_out _)))
  · exact Mono.refl _

/-- a piece of `event` between two states that differ in the flag of `d` only: `Res` without its flags -/
structure Part (c : Cfg) (s t : St) : Prop where
  good : Good c s t
  sourced : Sourced c s → Sourced c t

theorem Part.trans {c : Cfg} {s t u : St} (h1 : Part c s t) (h2 : Part c t u) : Part c s u :=
  ⟨h1.good.trans h2.good, fun h => h2.sourced (h1.sourced h)⟩

theorem Part.prim {c : Cfg} {s t : St} (hok : t.ok = true) (hout : t.out = s.out) (hst : t.steps = s.steps) :
    Part c s t :=
  ⟨Good.prim hok hout hst, fun h => h.of_mono hst (fun x hx => by rw [hout]; exact hx)⟩

theorem Part.setActive {c : Cfg} {a : St} (d : Nat) (x : Bool) (hok : a.ok = true) : Part c a (a.setActive d x) :=
  Part.prim hok rfl rfl

include hg in
/-- the early initialisation runs with the flag of `d` cleared, i.e. under the precondition of the event itself,
    and sets the flag again -/
theorem earlyInit_g (d : Nat) (a : St) (hact : ∀ x, a.active x = true → x ≠ d → rk x < rk d)
    (hd : a.active d = true) (hok : a.ok = true) (hnf : NF (earlyInit rec d a)) :
    Part c a (earlyInit rec d a) ∧ (earlyInit rec d a).active = a.active := by
  unfold earlyInit at hnf ⊢
  split at hnf
  · next hc =>
    rw [if_pos hc]
    have hpre : Pre rk (.initS d true) (a.setActive d false) := by
      intro x hx
      have hxd : x ≠ d := fun e => by subst e; simp [St.setActive] at hx
      exact hact x (by simpa [St.setActive, upd_other hxd] using hx) hxd
    obtain ⟨hr, _⟩ := hg.spec _ _ hpre hok ((Mono.of_eq (t := (rec (.initS d true) (a.setActive d false)).setActive d true)
      rfl rfl).nf hnf)
    refine ⟨(Part.setActive d false hok).trans (Part.trans ⟨hr.good, hr.sourced⟩ (Part.setActive d true hr.good.ok)),
      funext fun x => ?_⟩
    show upd _ d true x = a.active x
    by_cases e : x = d
    · subst e; rw [upd_same, hd]
    · simp only [upd_other e]
      rw [hr.act x]
      simp [St.setActive, upd_other e]
  · next hc => rw [if_neg hc]; exact ⟨⟨Good.rfl' hok, fun h => h⟩, rfl⟩

include hg in
/-- the handler runs with the flag of `d` set: `set_output` of `d` itself (rank `≤`, not `<`) is allowed; the flag
    is cleared at the end -/
theorem handler_g (d : Nat) (v : Val) (a : St) (hv : v.isUndef = false) (hact : ActLe rk a (rk d))
    (hok : a.ok = true) (hnf : NF (runHandler rec d v a)) :
    Part c a (runHandler rec d v a) ∧ (runHandler rec d v a).active = upd a.active d false ∧
      (runHandler rec d v a).out d ≠ .undef := by
  unfold runHandler at hnf ⊢
  rw [if_pos hok] at hnf ⊢
  obtain ⟨hr, hs⟩ := hg.spec (.setOutput d v) (a.push (.handle d v (a.steps d))) ⟨hv, hact⟩ hok
    ((Mono.of_eq (by rw [setActive_log, handlerFrame_log]) (by rw [setActive_out, handlerFrame_out])).nf hnf)
  rw [handlerFrame_of_ok _ hr.good.ok]
  refine ⟨(Part.prim (s := a) (t := a.push (.handle d v (a.steps d))) hok rfl rfl).trans
    (Part.trans ⟨hr.good, hr.sourced⟩ (Part.setActive d false hr.good.ok)), ?_, hs⟩
  show upd _ d false = _
  rw [show (rec (.setOutput d v) (a.push (.handle d v (a.steps d)))).active = a.active from funext hr.act]

include hg in
/-- ranks rule out the recursion guard; between the two halves the flags are those of `s` with `d` set, at the
    end those of `s` again -/
theorem eventBody_g (d : Nat) (v : Val) (s : St) (hv : v.isUndef = false)
    (hact : ActLt rk s (rk d)) (hok : s.ok = true) (hnf : NF (eventBody rec d v s)) :
    Res c s (eventBody rec d v s) ∧ (eventBody rec d v s).out d ≠ .undef := by
  have hnd : s.active d = false := by
    cases h : s.active d with
    | false => rfl
    | true => exact absurd (hact d h) (Nat.lt_irrefl _)
  rw [eventBody_eq, if_neg (by rw [show (s.push (.arrive d)).active d = false from hnd]; exact Bool.false_ne_true)]
    at hnf ⊢
  have ha : ((s.push (.arrive d)).setActive d true).active = upd s.active d true := rfl
  have p0 : Part c s ((s.push (.arrive d)).setActive d true) := Part.prim hok rfl rfl
  generalize (s.push (.arrive d)).setActive d true = a at hnf ha p0 ⊢
  have hlt : ∀ x, a.active x = true → x ≠ d → rk x < rk d := fun x hx e =>
    hact x (by rw [ha] at hx; simpa [upd_other e] using hx)
  obtain ⟨p1, ha1⟩ := earlyInit_g hg d a hlt (by rw [ha, upd_same]) p0.good.ok ((runHandler_mono hg.mono d v _).nf hnf)
  obtain ⟨p2, ha2, ho⟩ := handler_g hg d v (earlyInit rec d a) hv
    (fun x hx => by
      rw [ha1] at hx
      by_cases e : x = d
      · subst e; exact Nat.le_refl _
      · exact Nat.le_of_lt (hlt x hx e)) p1.good.ok hnf
  refine ⟨⟨(p0.trans (p1.trans p2)).good, fun x => ?_, (p0.trans (p1.trans p2)).sourced⟩, ho⟩
  rw [ha2, ha1, ha]
  by_cases e : x = d
  · subst e; rw [upd_same, hnd]
  · simp [upd_other e]

/-- `hp`, `hr`: what the new counter `k` promises; vacuous for the other values of `k` -/
theorem Sourced.setSteps {c : Cfg} {s : St} (h : Sourced c s) (b : Nat) (k : Int)
    (hp : (k = 1 ∨ k = -2 ∨ k = 2) → (∃ v h, (c.blk b).persist = .restores v h) → s.out b ≠ .undef)
    (hr : k = 2 → ((∃ v, (c.blk b).regular = .sets v) ∨ (∃ v, (c.blk b).regular = .viaEvent v) ∨
      (c.blk b).initdef.isSome = true) → s.out b ≠ .undef) : Sourced c (s.setSteps b k) := by
  constructor
  · intro x hx hpx
    by_cases e : x = b
    · subst e; simp only [setSteps_steps, upd_same] at hx; exact hp hx hpx
    · rw [setSteps_steps, upd_other e] at hx; exact h.saved x hx hpx
  · intro x hx hrx
    by_cases e : x = b
    · subst e; simp only [setSteps_steps, upd_same] at hx; exact hr hx hrx
    · rw [setSteps_steps, upd_other e] at hx; exact h.own x hx hrx

/-- a whole step of `init_sblock`: while it runs the counter of `b` is negative, so the pieces in between claim
    nothing of it; the step ends by setting it to `k' ≥ 0` -/
theorem Res.step {c : Cfg} {b : Nat} {k k' : Int} {s t : St} (h : Res c (s.setSteps b k) t) (hk : 0 ≤ k')
    (hsi : Sourced c s → Sourced c (t.setSteps b k')) : Res c s (t.setSteps b k') :=
  ⟨⟨h.good.ok, h.good.mono, h.good.fresh, fun x hx => by
      by_cases e : x = b
      · subst e; simpa using hk
      · have := h.good.nn x (by simpa [upd_other e] using hx)
        simpa [upd_other e] using this⟩, h.act, hsi⟩

include hg in
theorem applyCall_g (how : How) (b : Nat) (v : Val) (s : St) (hv : v.isUndef = false) (hact : ActLt rk s (rk b))
    (hok : s.ok = true) (hnf : NF (rec (applyCall how b v) s)) :
    Res c s (rec (applyCall how b v) s) ∧ (rec (applyCall how b v) s).out b ≠ .undef := by
  cases how with
  | direct => exact hg.spec (.setOutput b v) s ⟨hv, fun a ha => Nat.le_of_lt (hact a ha)⟩ hok hnf
  | viaEvent => exact hg.spec (.event b v) s ⟨hv, hact⟩ hok hnf

include hyp hg in
theorem step1_g (b : Nat) (s : St) (hact : ActLt rk s (rk b)) (hok : s.ok = true) (hnf : NF (step1 c rec b s)) :
    Res c s (step1 c rec b s) := by
  unfold step1 at hnf ⊢
  dsimp only at hnf ⊢
  have hin : Sourced c s → Sourced c (s.setSteps b (-1)) := fun h => h.setSteps b _ (by omega) (by omega)
  have r2 : Res c (s.setSteps b (-1)) ((s.setSteps b (-1)).push (.restore b)) := Res.prim hok rfl rfl rfl
  split at hnf
  · next hp =>
    exact (Res.rfl' (s := s.setSteps b (-1)) hok).step (by decide) fun h =>
      (hin h).setSteps b _ (fun _ ⟨v, hh, e⟩ => by rw [hp] at e; cases e) (by omega)
  · next hp =>
    exact r2.step (by decide) fun h =>
      (r2.sourced (hin h)).setSteps b _ (fun _ ⟨v, hh, e⟩ => by rw [hp] at e; cases e) (by omega)
  · next v how hp =>
    obtain ⟨hr, ho⟩ := applyCall_g hg how b v ((s.setSteps b (-1)).push (.restore b)) (hyp.pv b v how hp)
      (fun a ha => hact a ha) hok (by intro h; apply hnf; simpa using h)
    have r4 := (r2.trans hr).trans (Res.prim (t := (rec (applyCall how b v)
      ((s.setSteps b (-1)).push (.restore b))).swallow) (swallow_ok_of_ok _ hr.good.ok) rfl rfl rfl)
    exact r4.step (by decide) fun h => (r4.sourced (hin h)).setSteps b _ (fun _ _ => ho) (by omega)

include hyp hg in
theorem regularBody_g (b : Nat) (s : St) (hact : ActLt rk s (rk b)) (hok : s.ok = true)
    (hnf : NF (regularBody c rec b s)) :
    Res c s (regularBody c rec b s) ∧
    (((∃ v, (c.blk b).regular = .sets v) ∨ (∃ v, (c.blk b).regular = .viaEvent v)) →
      (regularBody c rec b s).out b ≠ .undef) := by
  unfold regularBody at hnf ⊢
  split at hnf
  · next hr =>
    simp only [hr]
    exact ⟨Res.rfl' hok, fun h => by rcases h with ⟨v, e⟩ | ⟨v, e⟩ <;> cases e⟩
  · next v hr =>
    simp only [hr]
    obtain ⟨h1, h2⟩ := hg.spec (.setOutput b v) s ⟨hyp.rv1 b v hr, fun a ha => Nat.le_of_lt (hact a ha)⟩ hok hnf
    exact ⟨h1, fun _ => h2⟩
  · next v hr =>
    simp only [hr]
    obtain ⟨h1, h2⟩ := hg.spec (.event b v) s ⟨hyp.rv2 b v hr, hact⟩ hok hnf
    exact ⟨h1, fun _ => h2⟩
  · next hr => exact absurd hr (hyp.noRaise b)
  · next hr => exact absurd hr (hyp.noQuiet b)

include hyp hg in
theorem initdefBody_g (b : Nat) (s : St) (hact : ActLt rk s (rk b)) (hok : s.ok = true)
    (hnf : NF (initdefBody c rec b s)) :
    Res c s (initdefBody c rec b s) ∧
    ((c.blk b).initdef.isSome = true → (initdefBody c rec b s).out b ≠ .undef) := by
  rcases initdefBody_cases c rec b s with ⟨e, hskip⟩ | ⟨v, how, hd, hu, e⟩ <;> rw [e] at hnf ⊢
  · refine ⟨Res.rfl' hok, fun hsome hx => ?_⟩
    rcases hskip with hn | hu
    · rw [hn] at hsome; cases hsome
    · rw [hx] at hu; cases hu
  · have r1 : Res c s (s.push (.initdef b (s.out b).isUndef)) := Res.prim hok rfl rfl rfl
    obtain ⟨h1, h2⟩ := applyCall_g hg how b v (s.push (.initdef b (s.out b).isUndef)) (hyp.dv b v how hd)
      (fun a ha => hact a ha) hok hnf
    exact ⟨r1.trans h1, fun _ => h2⟩

include hyp hg in
/-- step 2 never stops half-way under `Hyp`: `init_regular` does not raise, so the counter reaches 2, and each
    source the block has (saved state from step 1, `init_regular`, initdef) has initialised it by then (`Sourced`) -/
theorem step2_g (b : Nat) (s : St) (h1 : s.steps b = 1) (hact : ActLt rk s (rk b)) (hok : s.ok = true)
    (hnf : NF (step2 c rec b s)) :
    Res c s (step2 c rec b s) ∧ (step2 c rec b s).steps b = 2 := by
  unfold step2 at hnf ⊢
  dsimp only at hnf ⊢
  generalize ha : regularBody c rec b ((s.setSteps b (-2)).push (.regular b)) = a at hnf ⊢
  have hrest : Mono a (if (!a.ok) = true then a else
      if (!(initdefBody c rec b a).ok) = true then initdefBody c rec b a
      else (initdefBody c rec b a).setSteps b 2) := by
    split
    · exact Mono.refl a
    · refine ((monoWalk c).initdefBody_of_steps hg.mono b (fun s _ => Mono.push s _) a).trans ?_
      split
      · exact Mono.refl _
      · exact Mono.of_eq rfl rfl
  have hnfa : NF a := hrest.nf hnf
  obtain ⟨ra, hra⟩ := regularBody_g hyp hg b ((s.setSteps b (-2)).push (.regular b)) hact
    (by simpa using hok) (by rw [ha]; exact hnfa)
  rw [ha] at ra hra
  have haok : a.ok = true := ra.good.ok
  simp only [haok, Bool.not_true, Bool.false_eq_true, if_false] at hnf ⊢
  have hnfr : NF (initdefBody c rec b a) := by
    refine Mono.nf ?_ hnf
    split
    · exact Mono.refl _
    · exact Mono.of_eq rfl rfl
  obtain ⟨rr, hrr⟩ := initdefBody_g hyp hg b a (fun x hx => hact x (by
    have := ra.act x; rw [this] at hx; exact hx)) haok hnfr
  have hrok : (initdefBody c rec b a).ok = true := rr.good.ok
  simp only [hrok, Bool.not_true, Bool.false_eq_true, if_false] at hnf ⊢
  refine ⟨?_, by simp⟩
  have hin : Sourced c s → Sourced c (s.setSteps b (-2)) := fun h =>
    h.setSteps b _ (fun _ hp => h.saved b (Or.inl h1) hp) (by omega)
  have r := ((Res.prim (s := s.setSteps b (-2)) (t := (s.setSteps b (-2)).push (.regular b)) hok rfl rfl rfl).trans
    ra).trans rr
  refine r.step (by decide) fun hsrc => (r.sourced (hin hsrc)).setSteps b 2 (fun _ hp => ?_) (fun _ hx => ?_)
  · exact r.good.mono b (hsrc.saved b (Or.inl h1) hp)
  · rcases hx with hx | hx | hx
    · exact rr.good.mono b (hra (Or.inl hx))
    · exact rr.good.mono b (hra (Or.inr hx))
    · exact hrr hx

include hyp hg in
theorem initBody_g (b : Nat) (full : Bool) (s : St)
    (hact : ActLt rk s (rk b)) (hok : s.ok = true) (hnf : NF (initBody c rec b full s)) :
    Res c s (initBody c rec b full s) ∧ Spec (.initS b full) s (initBody c rec b full s) := by
  by_cases h0 : s.steps b = 0
  · rw [initBody_zero c rec b full s h0] at hnf ⊢
    have hnf1 : NF (step1 c rec b s) := by
      refine Mono.nf ?_ hnf
      split
      · exact (monoWalk c).step2_of_steps hg.mono b (fun _ _ => Mono.of_eq rfl rfl) (fun s => Mono.push s _)
          (fun s _ => Mono.push s _) _
      · exact Mono.refl _
    have r1 := step1_g hyp hg b s hact hok hnf1
    have hs1 : (step1 c rec b s).steps b = 1 := step1_steps c rec b s
    cases full with
    | false =>
      simp only [Bool.false_eq_true, false_and, if_false] at hnf ⊢
      refine ⟨r1, fun _ _ => hs1, fun h => ?_⟩
      rcases h with h | ⟨_, h⟩
      · omega
      · cases h
    | true =>
      simp only [r1.good.ok, and_self, if_true] at hnf ⊢
      obtain ⟨r2, hs2⟩ := step2_g hyp hg b _ hs1
        (fun a ha => hact a (by rw [← r1.act a]; exact ha)) r1.good.ok hnf
      have hspec : Spec (.initS b true) s (step2 c rec b (step1 c rec b s)) :=
        ⟨fun _ h => Bool.noConfusion h, fun _ => hs2⟩
      exact ⟨r1.trans r2, hspec⟩
  · by_cases h1 : s.steps b = 1
    · rw [initBody_one c rec b full s h1, if_pos hok] at hnf ⊢
      obtain ⟨r2, hs2⟩ := step2_g hyp hg b s h1 hact hok hnf
      exact ⟨r2, fun h => absurd h h0, fun _ => hs2⟩
    · rw [initBody_done c rec b full s h0 h1]
      refine ⟨Res.rfl' hok, fun h => absurd h h0, fun h => ?_⟩
      rcases h with h | ⟨h, _⟩
      · exact absurd h h1
      · exact absurd h h0

include hyp hg in
theorem body_g (call : Call) (s : St) (hpre : Pre rk call s) (hok : s.ok = true) (hnf : NF (body c rec call s)) :
    Res c s (body c rec call s) ∧ Spec call s (body c rec call s) := by
  unfold body at hnf ⊢
  simp only [hok, Bool.not_true, Bool.false_eq_true, if_false] at hnf ⊢
  cases call with
  | setOutput b v => exact setOutputBody_g hyp hg b v s hpre.1 hpre.2 hok hnf
  | send ds v => exact sendBody_g hg ds v s hpre.1 hpre.2 hok hnf
  | event d v => exact eventBody_g hg d v s hpre.1 hpre.2 hok hnf
  | initS b full => exact initBody_g hyp hg b full s hpre hok hnf

end nodes

theorem exec_g (c : Cfg) (rk : Nat → Nat) (hyp : Hyp c rk) : ∀ fuel, GSpec c rk (exec c fuel)
  | 0 => ⟨exec_mono c 0, fun call s _ hok hnf => absurd (by simp [exec, hok, St.raise]) hnf⟩
  | fuel + 1 => ⟨exec_mono c (fuel + 1), body_g hyp (exec_g c rk hyp fuel)⟩

/-- what holds between the top-level calls of the start-up -/
structure Top (c : Cfg) (s : St) : Prop where
  ok : s.ok = true
  act : ∀ a, s.active a = false
  sourced : Sourced c s
  cl : ∀ x, Closed c s x
  nn : ∀ x, 0 ≤ s.steps x
  fits : Fits s

theorem top_call (c : Cfg) (rk : Nat → Nat) (hyp : Hyp c rk) (call : Call) (s : St) (h : Top c s)
    (hpre : Pre rk call s) (hnf : NF (exec c c.fuel call s)) :
    Top c (exec c c.fuel call s) ∧ Spec call s (exec c c.fuel call s) := by
  obtain ⟨r, sp⟩ := (exec_g c rk hyp c.fuel).spec call s hpre h.ok hnf
  exact ⟨⟨r.good.ok, fun a => by rw [r.act a]; exact h.act a, r.sourced h.sourced, r.good.closed h.cl,
    fun x => r.good.nn x (h.nn x), fun b => (exec_move c c.fuel b call s).shape (h.fits b)⟩, sp⟩

theorem Top.of_eq {c : Cfg} {s t : St} (h : Top c s) (hok : t.ok = true) (hact : t.active = s.active)
    (hout : t.out = s.out) (hst : t.steps = s.steps) (hlog : ∀ b, proj b t.log = proj b s.log) : Top c t :=
  ⟨hok, fun a => by rw [hact]; exact h.act a, h.sourced.of_mono hst (fun x hx => by rw [hout]; exact hx),
   fun x => by have := h.cl x; unfold Closed at this ⊢; rw [hout]; exact this,
   fun x => by rw [hst]; exact h.nn x,
   fun b => by rw [hst, hlog b]; exact h.fits b⟩

def phase0Step (c : Cfg) (s : St) (b : Nat) : St :=
  if !s.ok then s else
  match (c.blk b).start with
  | some v => (exec c c.fuel (.setOutput b v) (s.push (.start b))).monitor
  | Option.none => s

theorem phase0_eq (c : Cfg) (s : St) : phase0 c s = (List.range c.n).foldl (phase0Step c) s := rfl

theorem phase0_top (c : Cfg) (rk : Nat → Nat) (hyp : Hyp c rk) (l : List Nat) :
    ∀ s, Top c s → NF (l.foldl (phase0Step c) s) →
      Top c (l.foldl (phase0Step c) s) ∧
      (∀ b ∈ l, (c.blk b).start.isSome = true → (l.foldl (phase0Step c) s).out b ≠ .undef) := by
  induction l with
  | nil => intro s h _; exact ⟨h, fun b hb => (List.not_mem_nil hb).elim⟩
  | cons a r ih =>
    intro s h hnf
    simp only [List.foldl] at hnf ⊢
    have hm := (monoWalk c).fold _ ((monoWalk c).startStep (exec_mono c c.fuel)) r (phase0Step c s a)
    have hnf1 : NF (phase0Step c s a) := hm.nf hnf
    have key : Top c (phase0Step c s a) ∧
        ((c.blk a).start.isSome = true → (phase0Step c s a).out a ≠ .undef) := by
      unfold phase0Step at hnf1 ⊢
      simp only [h.ok, Bool.not_true, Bool.false_eq_true, if_false] at hnf1 ⊢
      split at hnf1
      · next v hv =>
        simp only [hv]
        have htop : Top c (s.push (.start a)) :=
          h.of_eq (by simpa using h.ok) rfl rfl rfl (fun b => by rw [proj_push]; simp [syncKind])
        have hnf2 : NF (exec c c.fuel (.setOutput a v) (s.push (.start a))) := by
          intro hh; apply hnf1; simpa using hh
        obtain ⟨ht, hsp⟩ := top_call c rk hyp (.setOutput a v) _ htop
          ⟨hyp.sv a v hv, fun x hx => by rw [htop.act x] at hx; cases hx⟩ hnf2
        rw [monitor_of_ok _ ht.ok]
        exact ⟨ht, fun _ => hsp⟩
      · next hv =>
        simp only [hv]
        exact ⟨h, fun hh => by simp at hh⟩
    obtain ⟨ht, hs⟩ := ih _ key.1 hnf
    refine ⟨ht, fun b hb hst => ?_⟩
    rcases List.mem_cons.mp hb with rfl | hb
    · exact hm.out _ (key.2 hst)
    · exact hs b hb hst

theorem sync_top (c : Cfg) (rk : Nat → Nat) (hyp : Hyp c rk) (l : List Nat) :
    ∀ s, Top c s → NF (l.foldl (fun s b => exec c c.fuel (.initS b false) s) s) →
      Top c (l.foldl (fun s b => exec c c.fuel (.initS b false) s) s) ∧
      ((∀ b ∈ l, s.steps b ≠ 0) →
        ∀ b ∈ l, (l.foldl (fun s b => exec c c.fuel (.initS b false) s) s).steps b = 2) := by
  induction l with
  | nil => intro s h _; exact ⟨h, fun _ b hb => (List.not_mem_nil hb).elim⟩
  | cons a r ih =>
    intro s h hnf
    simp only [List.foldl] at hnf ⊢
    have hnf1 : NF (exec c c.fuel (.initS a false) s) :=
      ((monoWalk c).fold _ (fun s x => exec_mono c c.fuel (.initS x false) s trivial) r _).nf hnf
    obtain ⟨ht, hsp⟩ := top_call c rk hyp (.initS a false) s h (fun x hx => by rw [h.act x] at hx; cases hx) hnf1
    obtain ⟨ht2, hall2⟩ := ih _ ht hnf
    refine ⟨ht2, fun hnz b hb => ?_⟩
    rcases List.mem_cons.mp hb with rfl | hb
    · -- its own turn brings the block to 2, or leaves it there; the later turns leave it alone
      have h2 : (exec c c.fuel (.initS b false) s).steps b = 2 := by
        rcases ((h.fits b).nonneg (h.nn b)).resolve_left (hnz b (List.mem_cons_self ..)) with h1 | h2
        · exact hsp.2 (Or.inl h1)
        · rw [((exec_move c c.fuel b (.initS b false) s).keep (by omega) (by omega)).1, h2]
      rw [(((moveWalk c b).fold _ (fun s x => exec_move c c.fuel b (.initS x false) s) r _).keep
        (by omega) (by omega)).1, h2]
    · exact hall2 (fun y hy => (exec_move c c.fuel y (.initS a false) s).ne_zero (hnz y (List.mem_cons_of_mem _ hy))) b hb

theorem asyncPhase_sync (c : Cfg) (s : St) (hsync : ∀ b, (c.blk b).async = .none) (hok : s.ok = true) :
    asyncPhase c s = { s with elapsed := 0 } := by
  have he : eligible c s = [] := List.filter_eq_nil_iff.mpr (fun a _ => by simp [hsync a])
  unfold asyncPhase
  simp [hok, he, schedule, runTasks, sortDesc, sortBy]

theorem init_top (c : Cfg) : Top c init :=
  ⟨rfl, fun _ => rfl,
   ⟨fun x hx _ => by simp [init] at hx, fun x hx _ => by simp [init] at hx⟩,
   fun x hx => by simp [init] at hx, fun x => by simp [init],
   fun b => by simp [init, proj, Shape]⟩

end Edzed.Init
