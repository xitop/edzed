/-
Tie of the C03 model to the TRANSLATED sources of the class-creation / instance-creation side of the FSM
(lean/EdzedModel/Gen/TranslatedFsmTables.lean, regenerated from the current Python AST of edzed/fsm.py by
tools/py2lean_fsmtables.py on every check): `_check_state`, `_build_tables`, `__init__`, `_send_events`,
`_run_cb`, `_event`.  The property theorems `translated_fsm03_…` in EdzedProps/C03.lean restate what is proved here.
The methods work on an object `Obj` of 33 fields.  A piece of a method that can fail is tied to a step of the model
in the form `Runs`: an equation on the whole object (the reasons stand there; `timersLoop_spec`, whose model side is a
test and not a step, and `sortArgs_spec` say the same with the two cases written out); what a loop of `_build_tables`
does to the object is a named function of it (`withRules`, `withTimers`, `withMethods`).
-/
import EdzedModel.Fsm
import EdzedProofs.Fsm
import EdzedModel.Gen.TranslatedFsmTables
import EdzedProofs.FsmTie03

namespace Edzed.TrTie.FT
open Edzed.Fsm Edzed.Gen.TrFT

variable {δ Du κ α ε χ η : Type}

attribute [trft] Gen.TrFT.seq Gen.TrFT.bind Gen.TrFT.pure Gen.TrFT.skip Gen.TrFT.gets Gen.TrFT.modify
  Gen.TrFT.liftE Gen.TrFT.raise Gen.TrFT.ret Gen.TrFT.cont Gen.TrFT.brk Gen.TrFT.tryElse Gen.TrFT.callProc

theorem event_spec (p : Prims δ Du κ α ε χ η) (e : η) (data : Data) (o : Obj δ Du κ α ε χ) :
    event p e data o =
      match p.ctxEvent e data o with
      | (o1, .ok b) => ({ o1 with ctxVar := o.ctxVar }, .ret b)
      | (o1, .error x) => ({ o1 with ctxVar := o.ctxVar }, .raise x) := by
  unfold event copyContextRun ctxEventCall
  simp only [Gen.TrFT.bind]
  rcases h : p.ctxEvent e data o with ⟨o1, x | b⟩ <;> simp [Gen.TrFT.ret]

theorem checkState_spec (p : Prims δ Du κ α ε χ η) (s : String) (o : Obj δ Du κ α ε χ) :
    checkState p s o = if o.ctStates.contains s then (o, .next ()) else (o, .raise "ValueError") := by
  unfold checkState
  by_cases h : s ∈ o.ctStates <;> simp [trft, h]


theorem seq_next {σ ρ β : Type} {a : M σ ρ Unit} {b : M σ ρ β} {o o' : σ} (h : a o = (o', .next ())) :
    Gen.TrFT.seq a b o = b o' := by
  simp [Gen.TrFT.seq, Gen.TrFT.bind, h]

theorem seq_raise_snd {σ ρ β : Type} {a : M σ ρ Unit} {b : M σ ρ β} {o : σ} {x : PyExc}
    (h : (a o).2 = .raise x) : (Gen.TrFT.seq a b o).2 = .raise x := by
  rcases ha : a o with ⟨o', fl⟩
  rw [ha] at h
  subst h
  simp [Gen.TrFT.seq, Gen.TrFT.bind, ha]

theorem bind_liftE_ok {σ ρ β γ : Type} {f : σ → Except PyExc β} {k : β → M σ ρ γ} {o : σ} {a : β}
    (h : f o = .ok a) : Gen.TrFT.bind (liftE f) k o = k a o := by
  simp [Gen.TrFT.bind, liftE, h]

theorem bind_gets {σ ρ β γ : Type} (g : σ → β) (k : β → M σ ρ γ) (o : σ) :
    Gen.TrFT.bind (gets g) k o = k (g o) o := by
  simp [Gen.TrFT.bind, gets]

/-- the statement `for x in <expression>: body` followed by `b`: the bound list is the expression's value -/
theorem seq_loop_next {σ ρ β γ : Type} {g : σ → List β} {body : β → M σ ρ Unit} {b : M σ ρ γ} {o o' : σ}
    (h : forEach (g o) body o = (o', .next ())) :
    Gen.TrFT.seq (Gen.TrFT.bind (gets g) fun v => forEach v body) b o = b o' :=
  seq_next h

theorem seq_loop_raise_snd {σ ρ β γ : Type} {g : σ → List β} {body : β → M σ ρ Unit} {b : M σ ρ γ} {o : σ}
    {x : PyExc} (h : (forEach (g o) body o).2 = .raise x) :
    (Gen.TrFT.seq (Gen.TrFT.bind (gets g) fun v => forEach v body) b o).2 = .raise x :=
  seq_raise_snd h

theorem forEach_cons_next {σ ρ β : Type} {body : β → M σ ρ Unit} {x : β} {rest : List β} {s s1 : σ}
    (h : body x s = (s1, .next ())) : forEach (x :: rest) body s = forEach rest body s1 := by
  simp only [forEach, h]

theorem forEach_cons_raise {σ ρ β : Type} {body : β → M σ ρ Unit} {x : β} {rest : List β} {s : σ} {e : PyExc}
    (h : (body x s).2 = .raise e) : (forEach (x :: rest) body s).2 = .raise e := by
  rcases hb : body x s with ⟨s1, fl⟩
  rw [hb] at h
  subst h
  simp only [forEach, hb]

/-- the calls `_run_cb` makes and the values it collects: the instance callback first, then the class method,
    each only if it exists; the method sees what the callback did -/
theorem runCb_spec (p : Prims δ Du κ α ε χ η) (kind name : String) (o : Obj δ Du κ α ε χ)
    (F : List (String × κ)) (Mt : List (String × α))
    (hF : o.fsmFunctions.lookup kind = some F) (hM : o.ctMethods.lookup kind = some Mt) :
    runCb p kind name o =
      match F.lookup name, Mt.lookup name with
      | none, none => ({ o with tmpList := [] }, .ret [])
      | some f, none =>
        ({ o with tmpList := [p.funcResult f { o with tmpList := [] }], calls := o.calls ++ [.func f] },
          .ret [p.funcResult f { o with tmpList := [] }])
      | none, some m =>
        ({ o with tmpList := [p.methResult m { o with tmpList := [] }], calls := o.calls ++ [.meth m] },
          .ret [p.methResult m { o with tmpList := [] }])
      | some f, some m =>
        let o1 : Obj δ Du κ α ε χ :=
          { o with tmpList := [p.funcResult f { o with tmpList := [] }], calls := o.calls ++ [.func f] }
        ({ o1 with tmpList := o1.tmpList ++ [p.methResult m o1], calls := o1.calls ++ [.meth m] },
          .ret (o1.tmpList ++ [p.methResult m o1])) := by
  unfold runCb
  cases hf : F.lookup name <;> cases hm : Mt.lookup name <;>
    simp [trft, dget, dlookup, hF, hM, hf, hm, callFunc, callMeth, excIsA]

/-- the items every on_enter / on_exit event carries -/
def sendItems (p : Prims δ Du κ α ε χ η) (trigger : String) (s : String) (o : Obj δ Du κ α ε χ) :
    List (String × Arg) :=
  [("sdata", .sdata (dofPairs ((o.sdata.filter fun kv => !(p.startsWith kv.1 "_")).map fun kv => (kv.1, kv.2)))),
   ("trigger", .str (p.removePrefix trigger "on_")), ("state", .ostr (some s)), ("value", .val o.output)]

theorem forEach_calls {β : Type} (body : β → M (Obj δ Du κ α ε χ) Unit Unit)
    (c : β → Obj δ Du κ α ε χ → Call κ α ε)
    (hb : ∀ x o, body x o = ({ o with calls := o.calls ++ [c x o] }, .next ()))
    (hc : ∀ x (o : Obj δ Du κ α ε χ) cs, c x { o with calls := cs } = c x o)
    (l : List β) (o : Obj δ Du κ α ε χ) :
    forEach l body o = ({ o with calls := o.calls ++ l.map fun x => c x o }, .next ()) := by
  induction l generalizing o with
  | nil => simp [forEach, Gen.TrFT.pure]
  | cons x rest ih =>
    simp only [forEach, hb]
    rw [ih]
    simp [hc, List.append_assoc]

theorem sendEvents_spec (p : Prims δ Du κ α ε χ η) (trigger s : String) (o : Obj δ Du κ α ε χ)
    (tbl : List (String × List ε)) (hs : o.state = some s) (ht : o.stateEvents.lookup trigger = some tbl) :
    sendEvents p trigger o =
      match tbl.lookup s with
      | none => (o, .ret ())
      | some evs => ({ o with calls := o.calls ++ evs.map fun ev => Call.send ev (sendItems p trigger s o) },
          .next ()) := by
  unfold sendEvents
  cases he : tbl.lookup s with
  | none => simp [trft, dget, dgetO, dlookup, hs, ht, he, excIsA]
  | some evs =>
    simp [trft, dget, dgetO, dlookup, hs, ht, he, excIsA]
    rw [forEach_calls _ (fun ev o1 => Call.send ev (sendItems p trigger s o1))]
    · simp [hs]
    · intro ev o1
      simp [sendEventsLoop0, Gen.TrFT.seq, Gen.TrFT.skip, Gen.TrFT.bind, Gen.TrFT.gets, Gen.TrFT.pure, sendEvent,
        Gen.TrFT.modify, sendItems]
    · intro ev o1 cs
      rfl

/-- the dict `_ct_transition` {(event, state-or-None): target} as the model's table -/
def trOf (d : List ((String × Option String) × Option String)) : TransTable :=
  d.map fun x => (x.1.1, x.1.2, x.2)

theorem trOf_append (d d' : List ((String × Option String) × Option String)) :
    trOf (d ++ d') = trOf d ++ trOf d' := by simp [trOf]

/-- the model's table as the dict `_ct_transition`: the inverse of `trOf` -/
def dictOf (tr : TransTable) : List ((String × Option String) × Option String) :=
  tr.map fun x => ((x.1, x.2.1), x.2.2)

theorem trOf_dictOf (tr : TransTable) : trOf (dictOf tr) = tr := by
  induction tr with
  | nil => rfl
  | cons x tr ih => exact congrArg (x :: ·) ih

theorem dictOf_trOf (d : List ((String × Option String) × Option String)) : dictOf (trOf d) = d := by
  induction d with
  | nil => rfl
  | cons x d ih => exact congrArg (x :: ·) ih

theorem addTransition_trOf (states : List String) (d : List ((String × Option String) × Option String))
    (tr1 : TransTable) (e : String) (fr to : Option String)
    (h : Fsm.addTransition states (trOf d) e fr to = .ok tr1) : tr1 = trOf (d ++ [((e, fr), to)]) := by
  rw [(addTransition_ok _ _ _ _ _ _ h).1, trOf_append]
  rfl

theorem dhas_eq_tget (d : List ((String × Option String) × Option String)) (e : String) (k : Option String) :
    dhas d (e, k) = (tget (trOf d) e k).isSome := by
  induction d with
  | nil => rfl
  | cons x rest ih =>
    obtain ⟨⟨e', k'⟩, t⟩ := x
    unfold dhas tget trOf at *
    simp only [List.lookup, List.map_cons, List.find?_cons]
    by_cases h : (e, k) = (e', k')
    · cases h; simp
    · have h1 : ((e, k) == (e', k')) = false := by simpa using h
      have h2 : (e' == e && k' == k) = false := by
        rw [Bool.and_eq_false_iff]
        by_cases he : e' = e
        · right; subst he; simpa using fun hk => h (by rw [hk])
        · left; simpa using he
      simp only [h1, h2]
      exact ih

theorem addTransition_spec (p : Prims δ Du κ α ε χ η) (e : String) (fr to : Option String)
    (o : Obj δ Du κ α ε χ) :
    Gen.TrFT.addTransition p e fr to o =
      match Fsm.addTransition o.ctStates (trOf o.ctTransition) e fr to with
      | .ok _ => ({ o with ctTransition := o.ctTransition ++ [((e, fr), to)] }, .next ())
      | .error _ => (o, .raise "ValueError") := by
  unfold Gen.TrFT.addTransition Fsm.addTransition
  have hd := dhas_eq_tget o.ctTransition e fr
  cases fr with
  | none =>
    cases hk : (tget (trOf o.ctTransition) e none).isSome <;>
      simp [trft, hd, hk, dset]
  | some s =>
    by_cases hs : s ∈ o.ctStates
    · cases hk : (tget (trOf o.ctTransition) e (some s)).isSome <;>
        simp [trft, hd, hk, dset, checkState_spec, hs]
    · simp [trft, checkState_spec, hs]

/-- A translated statement runs as a step of the model does: both fail (the program with the exception `exc`), or
    both succeed and the program leaves the object that `f` makes of the model's result.
    Success is an equation on the WHOLE object, and `f` is a definition applied to the object: a statement that
    only says which fields a step leaves alone, about an object that is a variable, needs such a fact again for
    every field read later; and a structure literal put for `s` in `{ s with … }` is copied into each of the 33
    fields, once more with every step. -/
def Runs {σ X E : Type} (exc : PyExc) (r : σ × Out Unit Unit) (m : Except E X) (f : X → σ) : Prop :=
  match m with
  | .ok x => r = (f x, .next ())
  | .error _ => r.2 = .raise exc

namespace Runs
variable {σ β X E : Type} {exc : PyExc} {m : Except E X} {f : X → σ}

theorem ok {r : σ × Out Unit Unit} {x : X} (h : Runs exc r (.ok x : Except E X) f) : r = (f x, .next ()) := h

theorem error {r : σ × Out Unit Unit} {e : E} (h : Runs exc r (.error e : Except E X) f) :
    r.2 = .raise exc := h

theorem seq {a b : M σ Unit Unit} {o o' : σ} (h : a o = (o', .next ())) (hr : Runs exc (b o') m f) :
    Runs exc (Gen.TrFT.seq a b o) m f := by
  rw [seq_next h]
  exact hr

theorem seq_raise {a b : M σ Unit Unit} {o : σ} {e : E} (h : (a o).2 = .raise exc) :
    Runs exc (Gen.TrFT.seq a b o) (.error e : Except E X) f :=
  seq_raise_snd h

theorem loop {g : σ → List β} {body : β → M σ Unit Unit} {b : M σ Unit Unit} {o o' : σ}
    (h : forEach (g o) body o = (o', .next ())) (hr : Runs exc (b o') m f) :
    Runs exc (Gen.TrFT.seq (Gen.TrFT.bind (gets g) fun v => forEach v body) b o) m f := by
  rw [seq_loop_next h]
  exact hr

theorem loop_raise {g : σ → List β} {body : β → M σ Unit Unit} {b : M σ Unit Unit} {o : σ} {e : E}
    (h : (forEach (g o) body o).2 = .raise exc) :
    Runs exc (Gen.TrFT.seq (Gen.TrFT.bind (gets g) fun v => forEach v body) b o) (.error e : Except E X) f :=
  seq_loop_raise_snd h

theorem last_loop {g : σ → List β} {body : β → M σ Unit Unit} {o : σ}
    (h : Runs exc (forEach (g o) body o) m f) :
    Runs exc (Gen.TrFT.seq (Gen.TrFT.bind (gets g) fun v => forEach v body) Gen.TrFT.skip o) m f := by
  cases m with
  | ok a => exact (seq_loop_next (b := Gen.TrFT.skip) h.ok).trans rfl
  | error e => exact seq_loop_raise_snd h.error

end Runs

/-- the loops `for fstate in from_states: add_transition(event, fstate.strip(), next_state)`, for any body that
    does what `add_transition` does with the stripped name -/
theorem addFroms_spec (p : Prims δ Du κ α ε χ η) (e : String) (to : Option String)
    (body : String → M (Obj δ Du κ α ε χ) Unit Unit)
    (hbody : ∀ x o, Runs "ValueError" (body x o)
      (Fsm.addTransition o.ctStates (trOf o.ctTransition) e (some (p.strip x)) to)
      (fun tr => { o with ctTransition := dictOf tr }))
    (l : List String) (o : Obj δ Du κ α ε χ) :
    Runs "ValueError" (forEach l body o) (addFroms o.ctStates e to (trOf o.ctTransition) (l.map p.strip))
      (fun tr => { o with ctTransition := dictOf tr }) := by
  induction l generalizing o with
  | nil =>
    show (o, _) = (({ o with ctTransition := dictOf (trOf o.ctTransition) } : Obj δ Du κ α ε χ), _)
    rw [dictOf_trOf]
  | cons x rest ih =>
    have hbx := hbody x o
    simp only [List.map_cons, addFroms]
    cases hm : Fsm.addTransition o.ctStates (trOf o.ctTransition) e (some (p.strip x)) to with
    | error err =>
      rw [hm] at hbx
      exact forEach_cons_raise hbx.error
    | ok tr1 =>
      rw [hm] at hbx
      rw [forEach_cons_next hbx.ok]
      have ih' : Runs "ValueError" (forEach rest body { o with ctTransition := dictOf tr1 })
          (addFroms o.ctStates e to (trOf (dictOf tr1)) (rest.map p.strip))
          (fun tr => { o with ctTransition := dictOf tr }) := ih _
      rw [trOf_dictOf] at ih'
      exact ih'

/-- the from-states of a rule as the model wants them: `'a | b'` split and stripped, a sequence stripped -/
def normFroms (p : Prims δ Du κ α ε χ η) : FromSpec → Option (List String)
  | .none => none
  | .str s => some ((p.split s "|").map p.strip)
  | .seq l => some (l.map p.strip)

/-- an entry of EVENTS as the model's rule -/
def ruleOf (p : Prims δ Du κ α ε χ η) (r : String × FromSpec × Option String) : RawRule :=
  ⟨r.1, normFroms p r.2.1, r.2.2⟩

/-- the class with the events and transitions that the model has accepted -/
def withRules (o : Obj δ Du κ α ε χ) (acc : List EvName × TransTable) : Obj δ Du κ α ε χ :=
  { o with ctEvents := acc.1, ctTransition := dictOf acc.2 }

/-- what a pass of the EVENTS loop has to do -/
def RuleStepOk (p : Prims δ Du κ α ε χ η) (body : String × FromSpec × Option String → M (Obj δ Du κ α ε χ) Unit Unit)
    (rules : List (String × FromSpec × Option String)) : Prop :=
  ∀ r ∈ rules, ∀ o : Obj δ Du κ α ε χ, dhas o.ctHandlers r.1 = false →
    Runs "ValueError" (body r o) (addRule o.ctStates (o.ctEvents, trOf o.ctTransition) (ruleOf p r)) (withRules o)

theorem addRules_spec (p : Prims δ Du κ α ε χ η)
    (body : String × FromSpec × Option String → M (Obj δ Du κ α ε χ) Unit Unit)
    (rules : List (String × FromSpec × Option String)) (hb : RuleStepOk p body rules)
    (o : Obj δ Du κ α ε χ) (hh : ∀ r ∈ rules, dhas o.ctHandlers r.1 = false) :
    Runs "ValueError" (forEach rules body o) (addRules o.ctStates (o.ctEvents, trOf o.ctTransition) (rules.map (ruleOf p)))
      (withRules o) := by
  induction rules generalizing o with
  | nil =>
    show (o, _) = (withRules o (o.ctEvents, trOf o.ctTransition), _)
    rw [withRules, dictOf_trOf]
  | cons r rest ih =>
    have h1 := hb r (List.mem_cons_self ..) o (hh r (List.mem_cons_self ..))
    simp only [List.map_cons, addRules]
    cases hm : addRule o.ctStates (o.ctEvents, trOf o.ctTransition) (ruleOf p r) with
    | error err =>
      rw [hm] at h1
      exact forEach_cons_raise h1.error
    | ok acc1 =>
      rw [hm] at h1
      rw [forEach_cons_next h1.ok]
      have ih' : Runs "ValueError" (forEach rest body (withRules o acc1))
          (addRules o.ctStates (acc1.1, trOf (dictOf acc1.2)) (rest.map (ruleOf p))) (withRules o) :=
        ih (fun r' hr' => hb r' (List.mem_cons_of_mem _ hr')) (withRules o acc1)
          (fun r' hr' => hh r' (List.mem_cons_of_mem _ hr'))
      rw [trOf_dictOf] at ih'
      exact ih'

theorem insertNew_eq_sadd (l : List String) (x : String) : insertNew l x = sadd l x := rfl

/-- the body of the translated EVENTS loop does what the model's `addRule` does -/
theorem buildTablesLoop1_ok (p : Prims δ Du κ α ε χ η) (hcn : ∀ n w, p.checkName n w = .ok ())
    (rules : List (String × FromSpec × Option String)) : RuleStepOk p (buildTablesLoop1 p) rules := by
  intro r _ o hh
  obtain ⟨e, fs, to⟩ := r
  simp only at hh
  unfold buildTablesLoop1 addRule ruleOf
  simp only []
  refine .seq (o' := o) (by simp [trft, hcn]) (.seq (o' := o) (by simp [trft, hh])
    (.seq (o' := { o with ctEvents := sadd o.ctEvents e }) rfl ?_))
  cases hto : targetOk o.ctStates to with
  | false =>
    -- the target state is checked first
    cases to with
    | none => cases hto
    | some t =>
      have hn : ¬ t ∈ o.ctStates := fun h => Bool.false_ne_true (hto.symm.trans (List.contains_iff_mem.mpr h))
      exact .seq_raise (by simp [trft, checkState_spec, hn])
  | true =>
    simp only [if_true]
    refine .seq (o' := { o with ctEvents := sadd o.ctEvents e }) (by
      cases to with
      | none => rfl
      | some t => simp [trft, checkState_spec, List.contains_iff_mem.mp hto]) ?_
    -- the loops over the from-states, in terms of the model
    have loopcase : ∀ (body : String → M (Obj δ Du κ α ε χ) Unit Unit),
        (∀ x o, Runs "ValueError" (body x o) (Fsm.addTransition o.ctStates (trOf o.ctTransition) e (some (p.strip x)) to)
          (fun tr => { o with ctTransition := dictOf tr })) →
        ∀ L : List String,
        Runs "ValueError" (Gen.TrFT.seq (Gen.TrFT.seq (forEach L body) Gen.TrFT.skip) Gen.TrFT.skip
            { o with ctEvents := sadd o.ctEvents e })
          (match addFroms o.ctStates e to (trOf o.ctTransition) (L.map p.strip) with
            | Except.error x => Except.error x
            | Except.ok tr => Except.ok (insertNew o.ctEvents e, tr))
          (withRules o) := by
      intro body hbody L
      have h : Runs "ValueError" (forEach L body { o with ctEvents := sadd o.ctEvents e })
          (addFroms o.ctStates e to (trOf o.ctTransition) (L.map p.strip))
          (fun tr => withRules o (insertNew o.ctEvents e, tr)) := addFroms_spec p e to body hbody L _
      cases hr : addFroms o.ctStates e to (trOf o.ctTransition) (L.map p.strip) with
      | error err =>
        rw [hr] at h
        exact .seq_raise (seq_raise_snd h.error)
      | ok tr2 =>
        rw [hr] at h
        exact .seq (seq_next h.ok) rfl
    cases fs with
    | none =>
      simp only [FromSpec.isNone, normFroms, if_true]
      cases hm : Fsm.addTransition o.ctStates (trOf o.ctTransition) e none to with
      | error err => simp [trft, addTransition_spec, hm, Runs]
      | ok tr1 =>
        have := addTransition_trOf _ _ _ _ _ _ hm
        subst this
        simp [trft, addTransition_spec, hm, Runs, withRules, insertNew_eq_sadd, dictOf_trOf]
    | str _ | seq _ =>
      simp only [FromSpec.isNone, FromSpec.isStr, normFroms, Bool.false_eq_true, if_false, if_true,
        FromSpec.split, FromSpec.items]
      refine loopcase _ (fun x o => ?_) _
      have ha := addTransition_spec p e (some (p.strip x)) to o
      cases hm : Fsm.addTransition o.ctStates (trOf o.ctTransition) e (some (p.strip x)) to with
      | error err => rw [hm] at ha; simp [trft, ha, Runs]
      | ok tr1 =>
        have := addTransition_trOf _ _ _ _ _ _ hm
        subst this
        rw [hm] at ha
        simp [trft, ha, Runs, dictOf_trOf]

def timEType : TimEv → EType
  | .ev n => .ev n
  | .goto s => .goto s

/-- the model's `timerOk` on the event of a TIMERS entry -/
def timEvOk (states events : List String) (ev : TimEv) : Bool :=
  match ev with
  | .goto g => states.contains g
  | .ev n => events.contains n

/-- `time_period` of a TIMERS duration, where it accepts it -/
def perOf (p : Prims δ Du κ α ε χ η) (d : δ) : Option Du :=
  match p.timePeriod d with
  | .ok du => du
  | .error _ => none

/-- the class with the default durations and timed events of the TIMERS entries `tl` -/
def withTimers (p : Prims δ Du κ α ε χ η) (tl : List (String × (δ × TimEv))) (o : Obj δ Du κ α ε χ) :
    Obj δ Du κ α ε χ :=
  { o with
    ctDefaultDuration := tl.foldl (fun d t => dset d t.1 (perOf p t.2.1)) o.ctDefaultDuration
    ctTimedEvent := tl.foldl (fun d t => dset d t.1 t.2.2) o.ctTimedEvent }

theorem timerStep_spec (p : Prims δ Du κ α ε χ η) (s : String) (dur : δ) (ev : TimEv) (du : Option Du)
    (o : Obj δ Du κ α ε χ) (hper : p.timePeriod dur = .ok du) :
    buildTablesLoop2 p (s, (dur, ev)) o =
      if timEvOk o.ctStates o.ctEvents ev then
        ({ o with ctDefaultDuration := dset o.ctDefaultDuration s du, ctTimedEvent := dset o.ctTimedEvent s ev },
          .next ())
      else ({ o with ctDefaultDuration := dset o.ctDefaultDuration s du }, .raise "ValueError") := by
  unfold buildTablesLoop2
  cases ev with
  | goto g =>
    by_cases hg : g ∈ o.ctStates <;>
      simp [trft, hper, excIsA, TimEv.isGoto, TimEv.state, checkState_spec, timEvOk, hg]
  | ev n =>
    by_cases hn : n ∈ o.ctEvents <;>
      simp [trft, hper, excIsA, TimEv.isGoto, TimEv.inSet, timEvOk, hn]

theorem timersLoop_spec (p : Prims δ Du κ α ε χ η) (tl : List (String × (δ × TimEv)))
    (o : Obj δ Du κ α ε χ) (hper : ∀ t ∈ tl, ∃ du, p.timePeriod t.2.1 = .ok du) :
    if tl.all (fun t => timEvOk o.ctStates o.ctEvents t.2.2) then
      forEach tl (buildTablesLoop2 p) o = (withTimers p tl o, .next ())
    else (forEach tl (buildTablesLoop2 p) o).2 = .raise "ValueError" := by
  induction tl generalizing o with
  | nil => rfl
  | cons t rest ih =>
    obtain ⟨s, dur, ev⟩ := t
    obtain ⟨du, hdu⟩ := hper (s, dur, ev) (List.mem_cons_self ..)
    have hpo : perOf p dur = du := by unfold perOf; rw [hdu]
    have ih' := ih { o with ctDefaultDuration := dset o.ctDefaultDuration s du,
                            ctTimedEvent := dset o.ctTimedEvent s ev }
      (fun t ht => hper t (List.mem_cons_of_mem _ ht))
    simp only [forEach, List.all_cons, timerStep_spec p s dur ev du o hdu]
    cases hok : timEvOk o.ctStates o.ctEvents ev with
    | false => simp only [Bool.false_and, Bool.false_eq_true, if_false]
    | true =>
      simp only [Bool.true_and, if_true]
      subst hpo
      exact ih'

/-- one class attribute: its name must split at the FIRST `_` into a known callback kind (`cond`, `enter`,
    `exit`) and the name of an event (for `cond`) or of a state (otherwise), and it must be callable -/
def collectStep (p : Prims δ Du κ α ε χ η) (events states : List String)
    (ms : List (String × List (String × α))) (x : String × α) : List (String × List (String × α)) :=
  match unpack2 (p.splitOnce x.1 "_") with
  | .error _ => ms
  | .ok (ty, nm) =>
    match ms.lookup ty with
    | none => ms
    | some _ =>
      if (if ty == "cond" then events else states).contains nm && p.callable x.2 then dset2 ms ty nm x.2 else ms

theorem varsStep_spec (p : Prims δ Du κ α ε χ η) (x : String × α) (o : Obj δ Du κ α ε χ) :
    (buildTablesLoop3 p x o).1 = { o with ctMethods := collectStep p o.ctEvents o.ctStates o.ctMethods x } ∧
    ((buildTablesLoop3 p x o).2 = .next () ∨ (buildTablesLoop3 p x o).2 = .cont) := by
  obtain ⟨name, attr⟩ := x
  unfold buildTablesLoop3 collectStep
  cases hu : unpack2 (p.splitOnce name "_") with
  | error err =>
    have : err = "ValueError" := by
      unfold unpack2 at hu
      split at hu
      · cases hu
      · cases hu; rfl
    subst this
    simp [trft, hu, excIsA]
  | ok tn =>
    obtain ⟨ty, nm⟩ := tn
    cases hl : o.ctMethods.lookup ty with
    | none => simp [trft, hu, hl, dget, excIsA]
    | some inner =>
      -- the two atoms of the test are decided, not the test as the source happens to write it
      by_cases hm : nm ∈ (if ty = "cond" then o.ctEvents else o.ctStates) <;>
        cases hcb : p.callable attr <;>
        simp [trft, hu, hl, dget, excIsA, hm, hcb]

/-- the class with the callable attributes among `l` entered into `_ct_methods` -/
def withMethods (p : Prims δ Du κ α ε χ η) (l : List (String × α)) (o : Obj δ Du κ α ε χ) : Obj δ Du κ α ε χ :=
  { o with ctMethods := l.foldl (collectStep p o.ctEvents o.ctStates) o.ctMethods }

theorem varsLoop_spec (p : Prims δ Du κ α ε χ η) (l : List (String × α)) (o : Obj δ Du κ α ε χ) :
    forEach l (buildTablesLoop3 p) o = (withMethods p l o, .next ()) := by
  induction l generalizing o with
  | nil => rfl
  | cons x rest ih =>
    obtain ⟨h1, h2⟩ := varsStep_spec p x o
    rcases hb : buildTablesLoop3 p x o with ⟨o1, fl⟩
    rw [hb] at h1 h2
    simp only at h1 h2
    subst h1
    simp only [forEach, hb]
    rcases h2 with h | h <;> subst h <;> exact ih _

/-- the loop `for state in cls._ct_states: block.check_name(state, …)` when no name is refused -/
theorem namesLoop_spec (p : Prims δ Du κ α ε χ η) (hcn : ∀ n w, p.checkName n w = .ok ()) (l : List String)
    (o : Obj δ Du κ α ε χ) : forEach l (buildTablesLoop0 p) o = (o, .next ()) := by
  induction l generalizing o with
  | nil => simp [forEach, Gen.TrFT.pure]
  | cons x rest ih =>
    have : buildTablesLoop0 p x o = (o, .next ()) := by unfold buildTablesLoop0; simp [trft, hcn]
    simp only [forEach, this, ih]

/-- the class attributes as the model's `Spec`: from-states normalised (`'a | b'` split, names stripped), a
    TIMERS entry as (state, timed event, is the duration zero) -/
def specOf (p : Prims δ Du κ α ε χ η) (zero : δ → Bool) (o : Obj δ Du κ α ε χ) (sts : List String) : Spec :=
  { states := sts, rules := o.EVENTS.map (ruleOf p),
    timers := o.TIMERS.map fun t => (t.1, timEType t.2.2, zero t.2.1) }

theorem ctStates_specOf (p : Prims δ Du κ α ε χ η) (zero : δ → Bool) (o : Obj δ Du κ α ε χ) (sts : List String) :
    Fsm.ctStates (specOf p zero o sts) = sunion (sofList sts) (o.TIMERS.map (·.1)) := by
  unfold Fsm.ctStates specOf sunion sofList
  simp only [List.map_map, List.foldl_append]
  rfl

/-- the block after the seven assignments that create the empty tables -/
def resetObj (o : Obj δ Du κ α ε χ) : Obj δ Du κ α ε χ :=
  { o with
    ctStates := sunion (sofList o.STATES.items) (o.TIMERS.map (·.1))
    ctEvents := []
    ctTransition := []
    ctDefaultDuration := []
    ctTimedEvent := []
    ctMethods := [("enter", []), ("exit", []), ("cond", [])]
    ctPrefixes := [("t_", 2, TableRef.defaultDuration), ("cond_", 5, TableRef.events),
      ("enter_", 6, TableRef.states), ("exit_", 5, TableRef.states), ("on_enter_", 9, TableRef.states),
      ("on_exit_", 8, TableRef.states)] }

/-- `_ct_default_state`: the first of STATES, else the first key of TIMERS -/
def defaultState {β : Type} (sts : List String) (timers : List (String × β)) : String :=
  match sts, timers with
  | x :: _, _ => x
  | [], t :: _ => t.1
  | [], [] => ""

theorem timers_find_iff (zero : δ → Bool) (states evs : List String) (tl : List (String × (δ × TimEv))) :
    ((tl.map fun t => (t.1, timEType t.2.2, zero t.2.1)).find? (fun t => !timerOk states evs t)).isNone =
      tl.all (fun t => timEvOk states evs t.2.2) := by
  induction tl with
  | nil => rfl
  | cons t rest ih =>
    obtain ⟨s, dur, ev⟩ := t
    have : timerOk states evs (s, timEType ev, zero dur) = timEvOk states evs ev := by
      cases ev <;> rfl
    simp only [List.map_cons, List.find?_cons, List.all_cons, this]
    cases timEvOk states evs ev
    · simp
    · simp only [Bool.not_true, Bool.true_and]
      exact ih

theorem sadd_ne_nil (l : List String) (x : String) : sadd l x ≠ [] := by
  unfold sadd; split
  · next h => intro hn; rw [hn] at h; simp at h
  · simp

theorem foldl_sadd_ne_nil (l acc : List String) (h : acc ≠ [] ∨ l ≠ []) : l.foldl sadd acc ≠ [] := by
  induction l generalizing acc with
  | nil => rcases h with h | h; exact h; exact absurd rfl h
  | cons x rest ih => exact ih _ (.inl (sadd_ne_nil acc x))

/-- the class after `_build_tables` accepted its attributes: the seven fresh tables (`resetObj`) with the
    model's states, the default state and the chain limit, then what the three loops enter -/
def builtObj (p : Prims δ Du κ α ε χ η) (o : Obj δ Du κ α ε χ) (sts : List String) (t : Tables) :
    Obj δ Du κ α ε χ :=
  withMethods p o.classVars (withTimers p o.TIMERS (withRules
    { resetObj o with
      ctStates := t.states
      ctDefaultState := defaultState sts o.TIMERS
      ctChainlimit := t.chainLimit } (t.events, t.trans)))

/-- `_build_tables` runs as the model's `buildTables` on the class attributes: it raises ValueError when the model
    refuses them, and otherwise leaves the object with the model's tables in it.  In the proof the object after the
    seven assignments is taken with the model's `ctStates` in place of the program's expression for them (`hSt`), so
    that every later read of `ctStates` is the model's by computation. -/
theorem buildTables_eq (p : Prims δ Du κ α ε χ η) (zero : δ → Bool) (o : Obj δ Du κ α ε χ)
    (sts : List String) (hS : o.STATES = .seq sts) (hcn : ∀ n w, p.checkName n w = .ok ())
    (hh : ∀ r ∈ o.EVENTS, dhas o.ctHandlers r.1 = false)
    (hper : ∀ t ∈ o.TIMERS, ∃ du, p.timePeriod t.2.1 = .ok du) :
    Runs "ValueError" (Gen.TrFT.buildTables p o) (Fsm.buildTables (specOf p zero o sts)) (builtObj p o sts) := by
  have hstates := ctStates_specOf p zero o sts
  generalize hSdef : Fsm.ctStates (specOf p zero o sts) = S at hstates
  have hSt : (resetObj o).ctStates = S := by
    rw [hstates]; simp [resetObj, hS, StatesAttr.items]
  unfold Gen.TrFT.buildTables Fsm.buildTables
  simp only [hSdef]
  refine .seq rfl (.seq rfl (.seq rfl (.seq rfl (.seq rfl (.seq rfl
    (.seq (o' := { resetObj o with ctStates := S }) (by rw [← hSt]; rfl) ?_))))))
  refine .seq (o' := { resetObj o with ctStates := S }) (by
    simp [resetObj, hS, StatesAttr.isStr, Gen.TrFT.skip, Gen.TrFT.pure]) ?_
  by_cases hemp : sts = [] ∧ o.TIMERS = []
  · have h0 : S = [] := by
      rw [hstates]; simp [hemp, sofList, sunion]
    simp only [h0, List.isEmpty_nil, if_true]
    exact .seq_raise (by
      simp [resetObj, hS, hemp, StatesAttr.truthy, Gen.TrFT.seq, Gen.TrFT.bind, Gen.TrFT.raise])
  · have hne : S.isEmpty = false := by
      have : S ≠ [] := by
        rw [hstates]
        unfold sunion sofList
        rw [← List.foldl_append]
        exact foldl_sadd_ne_nil _ _ (.inr fun h => hemp (by simpa using h))
      cases S with
      | nil => exact absurd rfl this
      | cons _ _ => rfl
    simp only [hne, Bool.false_eq_true, if_false]
    refine .seq (o' := { resetObj o with ctStates := S, ctDefaultState := defaultState sts o.TIMERS }) (by
      cases hs : sts with
      | cons x xs =>
        simp [resetObj, hS, hs, defaultState, StatesAttr.truthy, StatesAttr.first, StatesAttr.items, Gen.TrFT.seq,
          Gen.TrFT.bind, Gen.TrFT.liftE, Gen.TrFT.modify, Gen.TrFT.skip, Gen.TrFT.pure]
      | nil =>
        cases ht : o.TIMERS with
        | nil => exact absurd ⟨hs, ht⟩ hemp
        | cons t ts =>
          simp [resetObj, hS, hs, ht, defaultState, StatesAttr.truthy, dfirstKey, Gen.TrFT.seq,
            Gen.TrFT.bind, Gen.TrFT.liftE, Gen.TrFT.modify, Gen.TrFT.skip, Gen.TrFT.pure]) ?_
    refine .loop (namesLoop_spec p hcn _ _) (.seq (o' := { resetObj o with
        ctStates := S
        ctDefaultState := defaultState sts o.TIMERS
        ctChainlimit := 3 * S.length }) rfl ?_)
    have hev : Runs "ValueError" _ (addRules S ([], []) ((specOf p zero o sts).rules)) _ :=
      addRules_spec p (buildTablesLoop1 p) o.EVENTS (buildTablesLoop1_ok p hcn _)
        { resetObj o with
          ctStates := S
          ctDefaultState := defaultState sts o.TIMERS
          ctChainlimit := 3 * S.length } hh
    cases hr : addRules S ([], []) (specOf p zero o sts).rules with
    | error err =>
      rw [hr] at hev
      exact .loop_raise hev.error
    | ok acc =>
      obtain ⟨evs, tr⟩ := acc
      rw [hr] at hev
      refine .loop hev.ok ?_
      simp only []
      have htm : if o.TIMERS.all (fun t => timEvOk S evs t.2.2) = true then _ else _ :=
        timersLoop_spec p o.TIMERS (withRules { resetObj o with
          ctStates := S
          ctDefaultState := defaultState sts o.TIMERS
          ctChainlimit := 3 * S.length } (evs, tr)) hper
      rw [← timers_find_iff zero] at htm
      change (if (List.find? (fun t => !timerOk S evs t) (specOf p zero o sts).timers).isNone = true then _
        else _) at htm
      cases hf : List.find? (fun t => !timerOk S evs t) (specOf p zero o sts).timers with
      | some t =>
        rw [hf] at htm
        obtain ⟨ta, tb, tc⟩ := t
        cases tb <;> exact .loop_raise htm
      | none =>
        rw [hf] at htm
        exact .loop htm (.loop (varsLoop_spec p _ _) rfl)

theorem buildTables_spec (p : Prims δ Du κ α ε χ η) (zero : δ → Bool) (o : Obj δ Du κ α ε χ)
    (sts : List String) (hS : o.STATES = .seq sts) (hcn : ∀ n w, p.checkName n w = .ok ())
    (hh : ∀ r ∈ o.EVENTS, dhas o.ctHandlers r.1 = false)
    (hper : ∀ t ∈ o.TIMERS, ∃ du, p.timePeriod t.2.1 = .ok du) :
    match Fsm.buildTables (specOf p zero o sts) with
    | .error _ => (Gen.TrFT.buildTables p o).2 = .raise "ValueError"
    | .ok t =>
      (Gen.TrFT.buildTables p o).2 = .next () ∧
      (Gen.TrFT.buildTables p o).1.ctStates = t.states ∧
      (Gen.TrFT.buildTables p o).1.ctEvents = t.events ∧
      trOf (Gen.TrFT.buildTables p o).1.ctTransition = t.trans ∧
      (Gen.TrFT.buildTables p o).1.ctChainlimit = t.chainLimit ∧
      (Gen.TrFT.buildTables p o).1.ctTimedEvent = o.TIMERS.foldl (fun d t => dset d t.1 t.2.2) [] ∧
      (Gen.TrFT.buildTables p o).1.ctMethods =
        o.classVars.foldl (collectStep p t.events t.states) [("enter", []), ("exit", []), ("cond", [])] ∧
      (Gen.TrFT.buildTables p o).1.ctPrefixes = (resetObj o).ctPrefixes := by
  have h := buildTables_eq p zero o sts hS hcn hh hper
  cases hb : Fsm.buildTables (specOf p zero o sts) with
  | error x => rw [hb] at h; exact h
  | ok t =>
    rw [hb] at h
    rw [h.ok]
    exact ⟨rfl, rfl, rfl, trOf_dictOf _, rfl, rfl, rfl, rfl⟩

theorem runCb_calls (p : Prims δ Du κ α ε χ η) (kind name : String) (o : Obj δ Du κ α ε χ)
    (F : List (String × κ)) (Mt : List (String × α))
    (hF : o.fsmFunctions.lookup kind = some F) (hM : o.ctMethods.lookup kind = some Mt) :
    (runCb p kind name o).1.calls =
      o.calls ++ ((F.lookup name).map Call.func).toList ++ ((Mt.lookup name).map Call.meth).toList := by
  rw [runCb_spec p kind name o F Mt hF hM]
  cases F.lookup name <;> cases Mt.lookup name <;> simp

theorem runCb_cond_model (d : Def) (p : Prims δ Du CondS CondS ε χ η) (e : String)
    (o : Obj δ Du CondS CondS ε χ)
    (hF : o.fsmFunctions.lookup "cond" = some d.condF) (hM : o.ctMethods.lookup "cond" = some d.condM)
    (hfr : ∀ c (o' : Obj δ Du CondS CondS ε χ), p.funcResult c o' = c.eval o'.ctxVar)
    (hmr : ∀ c (o' : Obj δ Du CondS CondS ε χ), p.methResult c o' = c.eval o'.ctxVar) :
    (runCb p "cond" e o).2 = .ret ((condsOf d e).map fun c => c.2.eval o.ctxVar) ∧
    (runCb p "cond" e o).1.calls = o.calls ++ (condsOf d e).map (fun c =>
      match c.1 with
      | .func => Call.func c.2
      | .meth => Call.meth c.2) := by
  rw [runCb_spec p "cond" e o d.condF d.condM hF hM]
  unfold condsOf
  cases hf : d.condF.lookup e <;> cases hm : d.condM.lookup e <;> simp [hfr, hmr]

open F03 in
/-- the block of the `_ctx_event` tie (EdzedProofs/FsmTie03.lean) inside the object of this file -/
def tsOf (o : Obj δ Du κ α ε (Option Req × List Action × Bool)) : TS :=
  { f := { state := o.state, output := o.output, active := o.fsmEventActive, next := o.ext.1 },
    ctx := o.ctxVar, log := o.ext.2.1, enabled := o.ext.2.2 }

open F03 in
/-- `base` with the fields that `tsOf` reads taken from `t` -/
def objOf (t : TS) (base : Obj δ Du κ α ε (Option Req × List Action × Bool)) :
    Obj δ Du κ α ε (Option Req × List Action × Bool) :=
  { base with ext := (t.f.next, t.log, t.enabled), state := t.f.state, output := t.f.output,
              fsmEventActive := t.f.active, ctxVar := t.ctx }

open F03 in
theorem tsOf_objOf (t : TS) (base : Obj δ Du κ α ε (Option Req × List Action × Bool)) :
    tsOf (objOf t base) = t := rfl

open F03 in
/-- the Python name of an exception class -/
def excName : Exc → String
  | .unknownEvent => "EdzedUnknownEvent"
  | .circuitError => "EdzedCircuitError"
  | .valueError => "ValueError"
  | .assertion => "AssertionError"
  | .other => "Exception"

open F03 in
/-- `self._ctx_event` = the method translated by tools/py2lean_fsm.py, on the primitives of the C03 model -/
def ctxEventObj (d : Def) (e : EType) (data : Data) (o : Obj δ Du κ α ε (Option Req × List Action × Bool)) :
    Obj δ Du κ α ε (Option Req × List Action × Bool) × Except PyExc Bool :=
  (objOf (Gen.TrM.ctxEvent (F03.prims d) e data (tsOf o)).1 o,
   match (Gen.TrM.ctxEvent (F03.prims d) e data (tsOf o)).2 with
   | .ret b => .ok b
   | .raise x => .error (excName x)
   | _ => .error "?")

/-- one keyword argument against the rows of `_ct_prefixes`, in order; EVERY row whose prefix matches counts
    (there is no `break`); the rest of the name must be in the container the row refers to -/
def sortArg (p : Prims δ Du κ α ε χ η) (valid : TableRef → String → Bool) (arg : String) :
    List (String × List (String × String)) → List (String × Nat × TableRef) →
      Except PyExc (List (String × List (String × String)))
  | dd, [] => .ok dd
  | dd, (pre, len, ref) :: rest =>
    if p.startsWith arg pre then
      if valid ref (p.dropPrefix arg len) then
        sortArg p valid arg (ddappend dd pre (p.dropPrefix arg len, arg)) rest
      else .error "TypeError"
    else sortArg p valid arg dd rest

/-- all keyword arguments, in the order of `kwargs` -/
def sortArgs (p : Prims δ Du κ α ε χ η) (valid : TableRef → String → Bool)
    (rows : List (String × Nat × TableRef)) :
    List (String × List (String × String)) → List String → Except PyExc (List (String × List (String × String)))
  | dd, [] => .ok dd
  | dd, arg :: rest =>
    match sortArg p valid arg dd rows with
    | .ok dd' => sortArgs p valid rows dd' rest
    | .error x => .error x

theorem refContains_tmpDD (o : Obj δ Du κ α ε χ) (dd : List (String × List (String × String)))
    (r : TableRef) (n : String) : refContains { o with tmpDD := dd } r n = refContains o r n := by
  cases r <;> rfl

theorem sortArg_spec (p : Prims δ Du κ α ε χ η) (arg : String) (o : Obj δ Du κ α ε χ)
    (body : String × Nat × TableRef → M (Obj δ Du κ α ε χ) Unit Unit)
    (hbody : ∀ pre len ref dd, body (pre, len, ref) { o with tmpDD := dd } =
      if p.startsWith arg pre then
        if refContains o ref (p.dropPrefix arg len) then
          ({ o with tmpDD := ddappend dd pre (p.dropPrefix arg len, arg) }, .next ())
        else ({ o with tmpDD := dd }, .raise "TypeError")
      else ({ o with tmpDD := dd }, .next ()))
    (rows : List (String × Nat × TableRef)) (dd : List (String × List (String × String))) :
    Runs "TypeError" (forEach rows body { o with tmpDD := dd }) (sortArg p (refContains o) arg dd rows)
      (fun dd' => { o with tmpDD := dd' }) := by
  induction rows generalizing dd with
  | nil => exact rfl
  | cons row rest ih =>
    obtain ⟨pre, len, ref⟩ := row
    simp only [sortArg, forEach, hbody]
    cases hs : p.startsWith arg pre with
    | false =>
      simp only [Bool.false_eq_true, if_false]
      exact ih _
    | true =>
      cases hv : refContains o ref (p.dropPrefix arg len) with
      | false =>
        simp only [if_true, Bool.false_eq_true, if_false]
        exact rfl
      | true =>
        simp only [if_true]
        exact ih _

/-- the body of the first loop of `__init__` for one keyword argument -/
theorem initLoop0_spec (p : Prims δ Du κ α ε χ η) (n : Option κ) (arg : String) (o : Obj δ Du κ α ε χ)
    (dd : List (String × List (String × String))) :
    Runs "TypeError" (initLoop0 p n arg { o with tmpDD := dd }) (sortArg p (refContains o) arg dd o.ctPrefixes)
      (fun dd' => { o with tmpDD := dd' }) := by
  unfold initLoop0
  -- one row of `_ct_prefixes`, as the translated body treats it: its three paths
  refine .last_loop (sortArg_spec p arg o _ (fun pre len ref dd => ?_) o.ctPrefixes dd)
  cases hs : p.startsWith arg pre with
  | false => simp [trft, hs]
  | true => cases hv : refContains o ref (p.dropPrefix arg len) <;> simp [trft, hs, hv, refContains_tmpDD]

theorem sortArgs_spec (p : Prims δ Du κ α ε χ η) (n : Option κ) (o : Obj δ Du κ α ε χ)
    (args : List String) (dd : List (String × List (String × String))) :
    match sortArgs p (refContains o) o.ctPrefixes dd args with
    | .ok dd' => forEach args (initLoop0 p n) { o with tmpDD := dd } = ({ o with tmpDD := dd' }, .next ())
    | .error _ => (forEach args (initLoop0 p n) { o with tmpDD := dd }).2 = .raise "TypeError" := by
  induction args generalizing dd with
  | nil => simp [sortArgs, forEach, Gen.TrFT.pure]
  | cons arg rest ih =>
    have h1 := initLoop0_spec p n arg o dd
    simp only [sortArgs]
    cases hsa : sortArg p (refContains o) arg dd o.ctPrefixes with
    | error x =>
      rw [hsa] at h1
      exact forEach_cons_raise h1.error
    | ok dd' =>
      rw [hsa] at h1
      rw [forEach_cons_next h1.ok]
      exact ih dd'

theorem kwSetdefaultInitdef_eq {ρ : Type} (v : String) (o : Obj δ Du κ α ε χ) :
    (kwSetdefaultInitdef v : M _ ρ Unit) o =
      ({ o with initdefDefault := if dhas o.kwargs "initdef" then o.initdefDefault else some v }, .next ()) := by
  show ((if dhas o.kwargs "initdef" then o else _), _) = _
  cases dhas o.kwargs "initdef" <;> rfl

theorem init_plain_spec (p : Prims δ Du κ α ε χ η) (n : Option κ) (o : Obj δ Du κ α ε χ)
    (dd : List (String × List (String × String))) (evs : List ε)
    (hT : o.typeIsFSM = false)
    (hdd : sortArgs p (refContains o) o.ctPrefixes [] (o.kwargs.map (·.1)) = .ok dd)
    (hnone : ∀ k, ddget dd k = []) (hev : p.eventTuple n = .ok evs) :
    Gen.TrFT.init p n o =
      ({ o with
          tmpDD := dd
          duration := DurRef.shared
          fsmFunctions := [("cond", []), ("enter", []), ("exit", [])]
          stateEvents := [("on_enter", []), ("on_exit", [])]
          onNotrans := evs
          state := none
          activeTimerNone := true
          timersEnabled := false
          fsmEventActive := false
          nextEventNone := true
          sdata := []
          initdefDefault := (if dhas o.kwargs "initdef" then o.initdefDefault else some o.ctDefaultState)
          calls := (o.calls ++ [Call.superInit o.kwargs
            (if dhas o.kwargs "initdef" then o.initdefDefault else some o.ctDefaultState)]) },
        .next ()) := by
  unfold Gen.TrFT.init
  rw [seq_next (o' := o) (by simp [hT, Gen.TrFT.skip, Gen.TrFT.pure])]
  rw [seq_next (o' := { o with tmpDD := [] }) (by rfl)]
  have hl := sortArgs_spec p n o (o.kwargs.map (·.1)) []
  rw [hdd] at hl
  simp only at hl
  rw [seq_loop_next (o' := { o with tmpDD := dd }) hl]
  simp [trft, hnone, forMapM, dofPairs, hev, superInit, kwSetdefaultInitdef_eq]

theorem init_one_duration_spec (p : Prims δ Du κ α ε χ η) (n : Option κ) (o : Obj δ Du κ α ε χ)
    (dd : List (String × List (String × String))) (evs : List ε) (ts arg : String) (v : κ) (du : Du)
    (rest : List (String × κ))
    (hT : o.typeIsFSM = false)
    (hdd : sortArgs p (refContains o) o.ctPrefixes [] (o.kwargs.map (·.1)) = .ok dd)
    (ht : ddget dd "t_" = [(ts, arg)])
    (hnone : ∀ k, k ≠ "t_" → ddget dd k = [])
    (hts : dhas o.ctDefaultDuration ts = true)
    (hpop : dpop o.kwargs arg = .ok (v, rest))
    (hper : p.timePeriodKw v = .ok (some du))
    (hev : p.eventTuple n = .ok evs) :
    (Gen.TrFT.init p n o).2 = .next () ∧
    (Gen.TrFT.init p n o).1.duration = DurRef.own (dset o.ctDefaultDuration ts (some du)) ∧
    (Gen.TrFT.init p n o).1.ctDefaultDuration = o.ctDefaultDuration ∧
    (Gen.TrFT.init p n o).1.kwargs = rest ∧
    (Gen.TrFT.init p n o).1.calls = o.calls ++ [Call.superInit rest
      (if dhas rest "initdef" then o.initdefDefault else some o.ctDefaultState)] := by
  unfold Gen.TrFT.init
  rw [seq_next (o' := o) (by simp [hT, Gen.TrFT.skip, Gen.TrFT.pure])]
  rw [seq_next (o' := { o with tmpDD := [] }) (by rfl)]
  have hl := sortArgs_spec p n o (o.kwargs.map (·.1)) []
  rw [hdd] at hl
  simp only at hl
  rw [seq_loop_next (o' := { o with tmpDD := dd }) hl]
  have h1 := hnone "cond_" (by decide)
  have h2 := hnone "enter_" (by decide)
  have h3 := hnone "exit_" (by decide)
  have h4 := hnone "on_enter_" (by decide)
  have h5 := hnone "on_exit_" (by decide)
  simp [trft, ht, h1, h2, h3, h4, h5, forMapM, dofPairs, hev, superInit, kwSetdefaultInitdef_eq, forEach, kwPop,
    hpop, hper, durDict, durSet, hts]

end Edzed.TrTie.FT
