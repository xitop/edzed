/-
Tie by translation for C17: the programs generated from the CURRENT source of `_Validation`, `Input`, `InputExp`
(EdzedModel/Gen/TranslatedValidate.lean) are instantiated with the meaning of their primitives (`prims`) and proved equal
to the hand-written model (EdzedModel/Validate.lean); the theorems `TrTie.translated_validate_…` of EdzedProps/C17.lean
are these statements.  `_validate` is tied in two steps: to `validateX`, the reference with user callables that may raise
anything (`validate_eq`, for any primitives that agree on `contains` and `callUser`), and from there to the model
(`validateX_model`).  A method that calls `_validate` or `__init__` is run statement by statement with the laws of `M`,
the call being one step for any rest of the method (`call_validate_bind`, `call_validationInit_bind`).
-/
import EdzedModel.Validate
import EdzedModel.Gen.TranslatedValidate
import EdzedProofs.Validate

namespace Edzed.ValidateTie
open Edzed.Validate
open Edzed.Gen
open Edzed.Gen.TrV hiding validate calcOutput

/-- the Python class of the model's exception classes (`custom`: any other subclass of Exception) -/
def excName : Exc → PyExc
  | .valueError => "ValueError"
  | .typeError => "TypeError"
  | .keyError => "KeyError"
  | .zeroDivisionError => "ZeroDivisionError"
  | .attributeError => "AttributeError"
  | .custom => "SchemaRefusal"

/-- everything but the four classes that derive from `BaseException` directly is an `Exception` -/
theorem excIsA_exception (e : PyExc)
    (h : ["KeyboardInterrupt", "SystemExit", "GeneratorExit", "CancelledError"].contains e = false) :
    excIsA e "Exception" = true := by
  simp at h
  simp [excIsA, h]

theorem excName_isException (k : Exc) : excIsA (excName k) "Exception" = true := by
  apply excIsA_exception
  cases k <;> simp [excName]

/-- the entry of the model's call log for a logged pair of attribute name and argument: the inverse of `tagOf` -/
def callOf (p : String × Val) : Call :=
  if p.1 == "_check" then .check p.2 else .schema p.2

def stName : St → Val
  | .valid => Val.str "valid"
  | .expired => Val.str "expired"

/-- the state a name stands for (`_check_state` refuses any other) -/
def stOf (v : Val) : Option St :=
  if v = Val.str "valid" then some .valid else if v = Val.str "expired" then some .expired else none

def savedOf (sv : SavedExp) : Saved := ⟨stName sv.st, sv.remaining, sv.input⟩

def restoredObj (o : Obj) : RestoreRes → Obj
  | .restored s => { o with state := stName s.st, sdataInput := s.input, output := s.out }
  | _ => o

/-- the meaning of the primitives (everything but `event`) -/
def prims0 : VPrims where
  contains S v :=
    match S with
    | none => M.raise "TypeError"                 -- argument of type 'NoneType' is not iterable
    | some l => if v.hashable then M.pure (l.any fun a => v.pyEq a) else M.raise "TypeError"
  frozenset c :=
    match c with
    | none => M.raise "TypeError"
    | some c => if c.items.all Val.hashable then M.pure c.items else M.raise "TypeError"
  callUser tag f v :=
    match f with
    | none => M.raise "TypeError"                 -- 'NoneType' object is not callable
    | some g =>
      M.bind (M.modify fun o => { o with calls := o.calls ++ [(tag, v)] }) fun _ =>
      match g v with
      | .ok r => M.pure r
      | .error k => M.raise k
  setOutput w :=                                  -- SBlock.set_output: the model's `store` (C02 ties the method to its own copy of the rule)
    if w.isUndef then M.raise "ValueError"
    else M.modify fun o => { o with output := store o.output w }
  event _ _ := M.pure ()
  eventData := M.gets (·.eventValue)
  baseInit kw := M.modify fun o => { o with initdef := kw }
  fsmRestore sv := fun o =>                       -- FSM._restore_state: the model's `fsmRestore`
    match stOf sv.state with
    | none => (o, .raise "EdzedCircuitError")
    | some st =>
      match Validate.fsmRestore ⟨⟨none, none, none⟩, none, o.expired⟩ ⟨st, sv.ts, sv.sdataInput⟩ with
      | .failed => (o, .raise "EdzedCircuitError")
      | r => (restoredObj o r, .next ())

/-- `self.event('put', value=v)` reaches the handler `_event_put` (SBlock.event is tied in C11) -/
def prims : VPrims :=
  { prims0 with
    event := fun name v =>
      if name == "put" then M.bind (M.call (eventPut prims0 v)) fun _ => M.pure ()
      else M.raise "EdzedUnknownEvent" }

/-- a total check function / a schema of the model as user callables -/
def liftCheck (f : Val → Val) : Fn := fun v => .ok (f v)
def liftSchema (s : Val → Except Exc Val) : Fn := fun v => (s v).mapError excName

/-- the exception-level reference: `_validate` with user callables that may raise anything -/
def validateX (allowed : Option (List Val)) (check schema : Option Fn) (v : Val) :
    Except PyExc Val × List (String × Val) :=
  let schemaStage : Except PyExc Val × List (String × Val) :=
    match schema with
    | none => (.ok v, [])
    | some s =>
      match s v with
      | .ok w => (.ok w, [("_schema", v)])
      | .error k => (if excIsA k "Exception" then .error "ValueError" else .error k, [("_schema", v)])
  let checkStage : Except PyExc Val × List (String × Val) :=
    match check with
    | none => schemaStage
    | some f =>
      match f v with
      | .error k => (.error k, [("_check", v)])           -- an exception of the check function propagates
      | .ok r => if r.truthy then (schemaStage.1, ("_check", v) :: schemaStage.2)
                 else (.error "ValueError", [("_check", v)])
  match allowed with
  | none => checkStage
  | some l => if inAllowed l v then checkStage else (.error "ValueError", [])

def outcome : Except PyExc Val → Out Unit
  | .ok w => .ret w
  | .error k => .raise k

-- the programs are regenerated from the source on every check: simp arguments that the present text does not use stay
set_option linter.unusedSimpArgs false

-- for the proofs that evaluate a whole method with the case splits inside it (`validate_eq`, `validationInit_eq`,
-- `expRestoreState_eq`, `calcOutput_eq`): every combinator is unfolded
attribute [local simp] M.bind M.gets M.pure M.tryExcept M.andThen M.orElse M.raise M.ret M.modify M.call
  M.subscript

theorem M.bind_eq {α β : Type} {m : M α} {k : α → M β} {o o' : Obj} {r : Out α} (h : m o = (o', r)) :
    M.bind m k o = match (generalizing := false) r with
      | .next a => k a o'
      | .ret x => (o', .ret x)
      | .raise e => (o', .raise e) := by
  simp only [M.bind, h]
  cases r <;> rfl

section laws
variable {α β γ : Type}

theorem M.bind_assoc (m : M α) (f : α → M β) (k : β → M γ) :
    M.bind (M.bind m f) k = M.bind m fun a => M.bind (f a) k := by
  funext o
  unfold M.bind
  rcases m o with ⟨o', r⟩
  cases r <;> rfl

theorem M.bind_pure (m : M α) : M.bind m M.pure = m := by
  funext o
  unfold M.bind
  rcases m o with ⟨o', r⟩
  cases r <;> rfl

theorem M.pure_bind (a : α) (k : α → M β) : M.bind (M.pure a) k = k a := rfl
theorem M.raise_bind (e : PyExc) (k : α → M β) : M.bind (M.raise e) k = M.raise e := rfl
theorem M.ret_bind (r : Val) (k : α → M β) : M.bind (M.ret r) k = M.ret r := rfl
theorem M.gets_bind (f : Obj → α) (k : α → M β) (o : Obj) : M.bind (M.gets f) k o = k (f o) o := rfl
theorem M.modify_bind (f : Obj → Obj) (k : Unit → M β) (o : Obj) : M.bind (M.modify f) k o = k () (f o) := rfl

theorem M.call_bind_eq {m : M Unit} {o o' : Obj} {r : Out Unit} (h : m o = (o', r)) (k : Val → M β) :
    M.bind (M.call m) k o = match (generalizing := false) r with
      | .next _ => k Val.none o'
      | .ret x => k x o'
      | .raise e => (o', .raise e) := by
  unfold M.bind M.call
  rw [h]
  cases r <;> rfl

theorem M.try_call_bind_eq {m : M Unit} {o o' : Obj} {r : Out Unit} (h : m o = (o', r)) (hd : PyExc → M Val)
    (k : Val → M β) :
    M.bind (M.tryExcept (M.call m) hd) k o = match (generalizing := false) r with
      | .next _ => k Val.none o'
      | .ret x => k x o'
      | .raise e => M.bind (hd e) k o' := by
  unfold M.bind M.tryExcept M.call
  rw [h]
  cases r <;> rfl

end laws

theorem contains_some (l : List Val) (v : Val) :
    prims0.contains (some l) v =
      if v.hashable then M.pure (l.any fun a => v.pyEq a) else M.raise "TypeError" := rfl

theorem callUser_some (tag : String) (g : Fn) (v : Val) (o : Obj) :
    prims0.callUser tag (some g) v o =
      ({ o with calls := o.calls ++ [(tag, v)] },
       match g v with
       | .ok r => .next r
       | .error k => .raise k) := by
  simp only [prims0, M.bind, M.modify]
  cases g v <;> rfl

theorem setOutput_bind {β : Type} (w : Val) (k : Unit → M β) (o : Obj) :
    M.bind (prims0.setOutput w) k o =
      if w.isUndef then (o, .raise "ValueError") else k () { o with output := store o.output w } := by
  simp only [M.bind, prims0]
  cases w.isUndef <;> rfl

theorem frozenset_some (c : Coll) :
    prims0.frozenset (some c) = if c.items.all Val.hashable then M.pure c.items else M.raise "TypeError" := rfl

theorem baseInit_eq (kw : Val) (o : Obj) : prims0.baseInit kw o = ({ o with initdef := kw }, .next ()) := rfl

theorem validateX_allowed (allowed : Option (List Val)) (check schema : Option Fn) (v : Val) :
    validateX allowed check schema v =
      if (allowed.all fun l => inAllowed l v) then validateX none check schema v
      else (.error "ValueError", []) := by
  cases allowed <;> rfl

theorem validate_eq (P : VPrims) (hc : P.contains = prims0.contains) (hu : P.callUser = prims0.callUser)
    (v : Val) (o : Obj) :
    TrV.validate P v o =
      ({ o with calls := o.calls ++ (validateX o.allowed o.check o.schema v).2 },
       outcome (validateX o.allowed o.check o.schema v).1) := by
  rcases o with ⟨sc, ch, al, i, out, ex, st, sd, ev, cl⟩
  unfold TrV.validate
  rw [hc, hu]
  have hT : excIsA "TypeError" "TypeError" = true := by decide
  -- the first statement lets exactly the members of the set go on, and changes nothing
  refine (M.bind_eq (o' := ⟨sc, ch, al, i, out, ex, st, sd, ev, cl⟩)
    (r := if (al.all fun l => inAllowed l v) then .next () else .raise "ValueError")
    ?_).trans ?_
  · cases al with
    | none => simp
    | some l =>
      cases hh : v.hashable
      · simp [contains_some, inAllowed, hh, hT]
      · cases ha : l.any (fun a => v.pyEq a) <;> simp [contains_some, inAllowed, hh, ha]
  simp only [validateX_allowed al]
  cases (al.all fun l => inAllowed l v)
  · simp [outcome]
  -- the rest does not look at `_allowed`
  unfold validateX
  cases ch with
  | none =>
    cases sc with
    | none => simp [outcome]
    | some s =>
      cases hs : s v with
      | ok w => simp [callUser_some, outcome, hs]
      | error k => cases hE : excIsA k "Exception" <;> simp [callUser_some, outcome, hs, hE]
  | some f =>
    cases hf : f v with
    | error k => simp [callUser_some, outcome, hf]
    | ok r =>
      cases hr : r.truthy
      · simp [callUser_some, outcome, hf, hr]
      · cases sc with
        | none => simp [callUser_some, outcome, hf, hr]
        | some s =>
          cases hs : s v with
          | ok w => simp [callUser_some, outcome, hf, hr, hs]
          | error k => cases hE : excIsA k "Exception" <;> simp [callUser_some, outcome, hf, hr, hs, hE]

/-- the tag under which a call of the model's log is recorded -/
def tagOf : Call → String × Val
  | .check v => ("_check", v)
  | .schema v => ("_schema", v)

/-- the result of the model's `validateT` as an outcome of the method -/
def resultX : Option Val → Except PyExc Val
  | some w => .ok w
  | none => .error "ValueError"

theorem validateX_model (c : Cfg) (v : Val) :
    validateX c.allowed (c.check.map liftCheck) (c.schema.map liftSchema) v =
      (resultX (validateT c v).1, (validateT c v).2.map tagOf) := by
  rw [validateX_allowed, validateT_eq, allowedOk]
  cases (c.allowed.all fun l => inAllowed l v)
  · rfl
  rcases c with ⟨al, ch, sc⟩
  unfold validateX checkStage schemaStage
  cases ch with
  | none => cases sc with
    | none => simp [resultX]
    | some s => cases hs : s v <;>
        simp [liftSchema, hs, Except.mapError, Except.toOption, resultX, tagOf, excName_isException]
  | some f =>
    cases hr : (f v).truthy
    · simp [liftCheck, hr, resultX, tagOf]
    · cases sc with
      | none => simp [liftCheck, hr, resultX, tagOf]
      | some s => cases hs : s v <;>
          simp [liftCheck, liftSchema, hr, hs, Except.mapError, Except.toOption, resultX, tagOf,
            excName_isException]

/-- the object carries the validators of the model configuration `c` -/
structure Agrees (c : Cfg) (o : Obj) : Prop where
  allowed : o.allowed = c.allowed
  check : o.check = c.check.map liftCheck
  schema : o.schema = c.schema.map liftSchema

theorem prims_contains : prims.contains = prims0.contains := rfl
theorem prims_callUser : prims.callUser = prims0.callUser := rfl

theorem validate_is_model (c : Cfg) (o : Obj) (h : Agrees c o) (v : Val) :
    TrV.validate prims v o =
      ({ o with calls := o.calls ++ (validateT c v).2.map tagOf }, outcome (resultX (validateT c v).1)) := by
  rw [validate_eq prims prims_contains prims_callUser, h.allowed, h.check, h.schema, validateX_model]

theorem prims_setOutput : prims.setOutput = prims0.setOutput := rfl

/-- `Agrees` as a conjunction of equations: in this form `simp` proves the side condition of `call_validate_bind`
    for an object that earlier statements have updated, by reducing the projections -/
theorem agrees_iff (c : Cfg) (o : Obj) :
    Agrees c o ↔ o.allowed = c.allowed ∧ o.check = c.check.map liftCheck ∧ o.schema = c.schema.map liftSchema :=
  ⟨fun h => ⟨h.1, h.2, h.3⟩, fun h => ⟨h.1, h.2.1, h.2.2⟩⟩

/-- `w = self._validate(v)` followed by ANY rest `k` of a method -/
theorem call_validate_bind {β : Type} (c : Cfg) (o : Obj) (h : Agrees c o) (v : Val) (k : Val → M β) :
    M.bind (M.call (TrV.validate prims v)) k o =
      match Validate.validate c v with
      | some w => k w { o with calls := o.calls ++ (calls c v).map tagOf }
      | none => ({ o with calls := o.calls ++ (calls c v).map tagOf }, .raise "ValueError") := by
  rw [M.call_bind_eq (validate_is_model c o h v)]
  unfold Validate.validate
  cases (validateT c v).1 <;> rfl

def putOutcome : Res → Out Unit
  | .ret b => .ret (Val.bool b)
  | .abort => .raise "ValueError"

theorem eventPut_congr (P : VPrims) (hc : P.contains = prims0.contains) (hu : P.callUser = prims0.callUser)
    (hs : P.setOutput = prims0.setOutput) (v : Val) : TrV.eventPut P v = TrV.eventPut prims v := by
  unfold TrV.eventPut TrV.validate
  rw [hc, hu, hs]
  rfl

/-- the put handler with user callables that may raise anything: an exception of `check` that is not a
    ValueError leaves the handler (and `SBlock.event` aborts the simulation), a ValueError is a refusal.
    (`set_output` is outside the `try`: its ValueError for UNDEF is not taken for a refusal) -/
theorem eventPut_eqX (o : Obj) (v : Val) :
    TrV.eventPut prims v o =
      match validateX o.allowed o.check o.schema v with
      | (.ok w, cl) =>
        if w.isUndef then ({ o with calls := o.calls ++ cl }, .raise "ValueError")
        else ({ o with calls := o.calls ++ cl, output := store o.output w }, .ret (Val.bool true))
      | (.error k, cl) =>
        ({ o with calls := o.calls ++ cl }, if excIsA k "ValueError" then .ret (Val.bool false) else .raise k) := by
  unfold TrV.eventPut
  simp only [M.bind_pure, M.try_call_bind_eq (validate_eq prims prims_contains prims_callUser v o), prims_setOutput,
    setOutput_bind]
  rcases validateX o.allowed o.check o.schema v with ⟨r, cl⟩
  cases r with
  | error k =>
    cases hk : excIsA k "ValueError" <;>
      simp only [outcome, hk, if_true, Bool.false_eq_true, if_false, M.ret_bind, M.raise_bind] <;> rfl
  | ok w => cases hw : w.isUndef <;> simp only [outcome, hw, if_true, Bool.false_eq_true, if_false] <;> rfl

theorem eventPut_eq (P : VPrims) (hc : P.contains = prims0.contains) (hu : P.callUser = prims0.callUser)
    (hs : P.setOutput = prims0.setOutput) (c : Cfg) (o : Obj) (h : Agrees c o) (v : Val) :
    TrV.eventPut P v o =
      ({ o with calls := o.calls ++ (put c o.output v).calls.map tagOf, output := (put c o.output v).out },
       putOutcome (put c o.output v).res) := by
  have hV : excIsA "ValueError" "ValueError" = true := by decide
  rw [eventPut_congr P hc hu hs, eventPut_eqX, h.allowed, h.check, h.schema, validateX_model]
  unfold put Validate.validate Validate.calls
  cases (validateT c v).1 with
  | none => simp [resultX, hV, putOutcome]
  | some w => cases hw : w.isUndef <;> simp [resultX, hw, putOutcome]

/-- the caller's collection the model's `allowed` was built from, as the constructor receives it: these items,
    and the truth value Python gives a list / set / dict (false when empty) -/
def collOf (c : Cfg) : Option Coll := c.allowed.map fun l => ⟨l, !l.isEmpty⟩

theorem validationInit_eq (P : VPrims) (hf : P.frozenset = prims0.frozenset) (hb : P.baseInit = prims0.baseInit)
    (sc ch : Option Fn) (al : Option Coll) (kw : Val) (o : Obj) :
    TrV.validationInit P sc ch al kw o =
      match al with
      | none => ({ o with schema := sc, check := ch, allowed := none, initdef := kw }, .next ())
      | some coll =>
        if coll.items.all Val.hashable then
          ({ o with schema := sc, check := ch, allowed := some coll.items, initdef := kw }, .next ())
        else ({ o with schema := sc, check := ch }, .raise "TypeError") := by
  unfold TrV.validationInit
  rw [hf, hb]
  cases al with
  | none => simp [baseInit_eq]
  | some coll => cases hh : coll.items.all Val.hashable <;> simp [frozenset_some, baseInit_eq, hh, -List.all_eq_true]

/-- the object right after `_Validation.__init__` -/
def objInit (c : Cfg) (kw : Val) (o : Obj) : Obj :=
  { o with schema := c.schema.map liftSchema, check := c.check.map liftCheck, allowed := c.allowed, initdef := kw }

theorem objInit_agrees (c : Cfg) (kw : Val) (o : Obj) : Agrees c (objInit c kw o) := ⟨rfl, rfl, rfl⟩

theorem call_validationInit_bind {β : Type} (c : Cfg) (kw : Val) (k : Val → M β) (o : Obj) :
    M.bind (M.call (TrV.validationInit prims (c.schema.map liftSchema) (c.check.map liftCheck) (collOf c) kw)) k o =
      if c.allowedHashable then k Val.none (objInit c kw o)
      else ({ o with schema := c.schema.map liftSchema, check := c.check.map liftCheck }, .raise "TypeError") := by
  rw [M.call_bind_eq (validationInit_eq prims rfl rfl _ _ _ kw o)]
  unfold collOf Cfg.allowedHashable objInit
  cases c.allowed with
  | none => rfl
  | some l => cases hh : l.all Val.hashable <;> simp [hh, -List.all_eq_true]

def ctorOutcome : Except CtorErr Unit → Out Unit
  | .ok () => .next ()
  | .error .typeError => .raise "TypeError"
  | .error .valueError => .raise "ValueError"

theorem inputInit_eq (c : Cfg) (initdef : Val) (o : Obj) :
    TrV.inputInit prims (c.schema.map liftSchema) (c.check.map liftCheck) (collOf c) initdef o =
      if c.allowedHashable then
        ({ objInit c initdef o with calls := o.calls ++ (construct c initdef).2.map tagOf },
         ctorOutcome (construct c initdef).1)
      else
        ({ o with schema := c.schema.map liftSchema, check := c.check.map liftCheck },
         ctorOutcome (construct c initdef).1) := by
  unfold TrV.inputInit construct
  rw [call_validationInit_bind]
  cases hh : c.allowedHashable
  · rfl
  · cases hu : initdef.isUndef <;>
      simp only [hu, if_true, Bool.not_false, Bool.not_true, Bool.false_eq_true, if_false, M.bind_assoc, M.gets_bind,
        M.pure_bind, objInit, call_validate_bind c, agrees_iff, and_self]
    · cases hv : Validate.validate c initdef <;> rfl
    · simp only [M.pure, List.map_nil, List.append_nil, ctorOutcome]

theorem prims_event (v : Val) :
    prims.event "put" v = M.bind (M.call (TrV.eventPut prims0 v)) fun _ => M.pure () := by
  simp only [prims, BEq.rfl, if_true]

/-- what `init_from_value` / `_restore_state` leave behind: the put went through the handler -/
def initOutcome : Res → Out Unit
  | .ret _ => .next ()
  | .abort => .raise "ValueError"

theorem inputInitFromValue_eq (c : Cfg) (o : Obj) (h : Agrees c o) (v : Val) :
    TrV.inputInitFromValue prims v o =
      ({ o with calls := o.calls ++ (put c o.output v).calls.map tagOf, output := (put c o.output v).out },
       initOutcome (put c o.output v).res) := by
  unfold TrV.inputInitFromValue
  rw [prims_event, M.bind_assoc, M.call_bind_eq (eventPut_eq prims0 rfl rfl rfl c o h v)]
  cases (put c o.output v).res <;> rfl

/-- `_restore_state = init_from_value` -/
theorem inputRestoreState_alias : TrV.inputRestoreState = TrV.inputInitFromValue := rfl

def expCtorOutcome : Except CtorErr (Option Val × Val) → Out Unit
  | .ok _ => .next ()
  | .error .typeError => .raise "TypeError"
  | .error .valueError => .raise "ValueError"

/-- the FSM state the block is initialised to (keyword `initdef=` of the base `__init__`) -/
def initState (initdef : Val) : Val := if initdef.isUndef then Val.str "expired" else Val.str "valid"

-- `r` stands for the run of the translated constructor: the three conjuncts mention it, the proof simplifies it once,
-- in `hr`
theorem expInit_eq (c : Cfg) (initdef expired : Val) (o : Obj) (r : Obj × Out Unit)
    (hr : r = TrV.expInit prims (c.schema.map liftSchema) (c.check.map liftCheck) (collOf c) initdef expired o) :
    r.2 = expCtorOutcome (constructExp c initdef expired).1 ∧
    (c.allowedHashable = true → r.1.calls = o.calls ++ (constructExp c initdef expired).2.map tagOf) ∧
    (∀ inp e, (constructExp c initdef expired).1 = .ok (inp, e) →
      r.1 = { objInit c (initState initdef) o with
              calls := o.calls ++ (constructExp c initdef expired).2.map tagOf,
              sdataInput := if initdef.isUndef then o.sdataInput else inp,
              expired := e }) := by
  unfold TrV.expInit at hr
  rw [call_validationInit_bind] at hr
  cases hh : c.allowedHashable
  · rw [hh] at hr
    simp only [Bool.false_eq_true, if_false] at hr
    rw [hr]
    simp [constructExp, hh, expCtorOutcome]
  -- whichever of the two validations refuses, both sides stop at the same point
  · rw [hh, if_pos rfl] at hr
    cases hu : initdef.isUndef <;>
      simp only [hu, Bool.false_eq_true, if_false, if_true, Bool.not_false, Bool.not_true, M.bind_assoc,
        M.pure_bind, M.modify_bind, call_validate_bind c, agrees_iff, objInit, and_self] at hr
    · cases hi : Validate.validate c initdef <;> cases hx : Validate.validate c expired <;>
        simp only [hi, hx] at hr <;> rw [hr] <;>
        simp [constructExp, hh, hu, hi, hx, expCtorOutcome, objInit, initState, M.pure]
    · cases hx : Validate.validate c expired <;> simp only [hx] at hr <;> rw [hr] <;>
        simp [constructExp, hh, hu, hx, expCtorOutcome, objInit, initState, M.pure]

theorem fsmRestore_congr (e e' : ExpCfg) (h : e.expired = e'.expired) (sv : SavedExp) :
    Validate.fsmRestore e sv = Validate.fsmRestore e' sv := by
  unfold Validate.fsmRestore Validate.calcOutput
  simp only [h]

/-- how a method ends, the class of the exception put aside -/
inductive OutKind where
  | falls | returns | raises
  deriving DecidableEq, Repr

def outKind : Out Unit → OutKind
  | .next _ => .falls
  | .ret _ => .returns
  | .raise _ => .raises

theorem prims_fsmRestore : prims.fsmRestore = prims0.fsmRestore := rfl

theorem expRestoreState_eq (e : ExpCfg) (o : Obj) (h : Agrees e.v o) (he : o.expired = e.expired)
    (sv : SavedExp) :
    (TrV.expRestoreState prims (savedOf sv) o).1 =
        restoredObj { o with calls := o.calls ++ (restoreExp e sv).2.map tagOf } (restoreExp e sv).1 ∧
    outKind (TrV.expRestoreState prims (savedOf sv) o).2 =
        (match (restoreExp e sv).1 with | .failed => OutKind.raises | _ => OutKind.falls) := by
  have h1 : Val.pyEq (Val.str "valid") (Val.str "valid") = true := by decide
  have h2 : Val.pyEq (Val.str "expired") (Val.str "valid") = false := by decide
  have s1 : stOf (Val.str "valid") = some .valid := by decide
  have s2 : stOf (Val.str "expired") = some .expired := by decide
  have hfs : ∀ (o' : Obj) (sv' : SavedExp), o'.expired = e.expired →
      prims0.fsmRestore (savedOf sv') o' =
        (match Validate.fsmRestore e sv' with
         | .failed => (o', Out.raise "EdzedCircuitError")
         | r => (restoredObj o' r, Out.next ())) := by
    intro o' sv' ho'
    have hc := fsmRestore_congr ⟨⟨none, none, none⟩, none, o'.expired⟩ e ho' sv'
    rcases sv' with ⟨st', rem', inp'⟩
    cases st' <;> simp only [prims0, savedOf, stName, s1, s2, hc]
  rcases sv with ⟨st, rem, input⟩
  unfold TrV.expRestoreState
  rw [prims_fsmRestore]
  cases st with
  | expired =>
    have := hfs o ⟨.expired, rem, input⟩ he
    simp only [savedOf, stName] at this
    cases hr : Validate.fsmRestore e ⟨.expired, rem, input⟩ <;>
      simp [savedOf, stName, h2, restoreExp, this, hr, restoredObj, outKind]
  | valid =>
    cases input with
    | none => simp [savedOf, stName, h1, restoreExp, restoredObj, outKind]
    | some v =>
      have hval := validate_is_model e.v o h v
      cases hv : (validateT e.v v).1 with
      | none =>
        simp [savedOf, stName, h1, hval, hv, outcome, resultX, restoreExp, Validate.validate, Validate.calls,
          restoredObj, outKind]
      | some w =>
        have := hfs { o with calls := o.calls ++ (validateT e.v v).2.map tagOf } ⟨.valid, rem, some w⟩ he
        simp only [savedOf, stName] at this
        cases hr : Validate.fsmRestore e ⟨.valid, rem, some w⟩ <;>
          simp [savedOf, stName, h1, hval, hv, outcome, resultX, restoreExp, Validate.validate, Validate.calls,
            this, hr, restoredObj, outKind]

theorem condPut_eq (e : ExpCfg) (s : ExpState) (o : Obj) (h : Agrees e.v o) (v : Val)
    (hv : o.eventValue = some v) (hi : o.sdataInput = s.input) :
    TrV.condPut prims o =
      ({ o with calls := o.calls ++ (putExp e s v).2.2.map tagOf, sdataInput := (putExp e s v).1.input },
       .ret (Val.bool (putExp e s v).2.1)) := by
  have hV : excIsA "ValueError" "ValueError" = true := by decide
  have hd : prims.eventData = M.gets (·.eventValue) := rfl
  unfold TrV.condPut putExp
  simp only [hd, M.gets_bind, hv, M.subscript, M.pure_bind, M.bind_pure,
    M.try_call_bind_eq (validate_is_model e.v o h v), Validate.validate, Validate.calls]
  cases hr : (validateT e.v v).1 with
  | none => simp only [outcome, resultX, hV, if_true, M.ret_bind, M.ret, hi, hv]
  | some w => simp only [outcome, resultX, M.modify_bind, M.ret, hv]

/-- an event without the item 'value': `data['value']` raises KeyError -/
theorem condPut_no_value (o : Obj) (hv : o.eventValue = none) :
    TrV.condPut prims o = (o, .raise "KeyError") := by
  have hd : prims.eventData = M.gets (·.eventValue) := rfl
  unfold TrV.condPut
  simp only [hd, M.gets_bind, hv, M.subscript, M.raise_bind, M.raise]

theorem calcOutput_eq (e : ExpCfg) (st : St) (input : Option Val) (o : Obj) (hs : o.state = stName st)
    (hi : o.sdataInput = input) (he : o.expired = e.expired) (hv : st = .valid → input.isSome = true) :
    TrV.calcOutput prims o = (o, .ret (Validate.calcOutput e st input)) := by
  have h1 : Val.pyEq (Val.str "valid") (Val.str "valid") = true := by decide
  have h2 : Val.pyEq (Val.str "expired") (Val.str "valid") = false := by decide
  unfold TrV.calcOutput Validate.calcOutput
  cases st with
  | valid =>
    cases input with
    | none => simp at hv
    | some w => simp [hs, hi, stName, h1]
  | expired => simp [hs, he, stName, h2]

end Edzed.ValidateTie
