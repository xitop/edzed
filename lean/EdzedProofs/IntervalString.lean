/-
String-level lemmas for C13: `str.split` as the leftmost scan for the separator (`Skip` of IntervalSearch); the
canonical rendering of every valid endpoint parses back, also with blanks around it; range strings with each
separator; `as_string()` and back.
Core Lean only.
-/
import EdzedModel.Interval
import EdzedProofs.Interval
import EdzedProofs.IntervalText
import EdzedProofs.IntervalTables
import EdzedProofs.IntervalTimeText

namespace Edzed.Interval

/-- an occurrence of the separator begins here: `str.split` is the leftmost scan for it -/
def occ (sep s : List Char) : Option Unit := if sep.isPrefixOf s then some () else none

theorem occ_none {sep s : List Char} (h : sep.isPrefixOf s = false) : occ sep s = none := by
  simp [occ, h]

theorem splitGo_pass (sep : List Char) {a R : List Char} (h : Skip (occ sep) a R) (cur : List Char) :
    splitGo sep (a ++ R) 0 cur = splitGo sep R 0 (a.reverse ++ cur) := by
  induction a generalizing cur with
  | nil => rfl
  | cons x a' ih =>
    have h0 : sep.isPrefixOf (x :: (a' ++ R)) = false := by
      have := h [] x a' rfl
      unfold occ at this
      split at this
      · cases this
      · next hn => simpa only [List.cons_append, Bool.not_eq_true] using hn
    simp only [List.cons_append, splitGo, h0, Bool.false_eq_true, ↓reduceIte]
    rw [ih (fun A1 c A2 e => h (x :: A1) c A2 (by simp [e]))]
    simp

theorem splitGo_drop (sep x b cur : List Char) : splitGo sep (x ++ b) x.length cur = splitGo sep b 0 cur := by
  induction x with
  | nil => rfl
  | cons c x' ih => simpa [splitGo] using ih

theorem splitOn_first (sep a b : List Char) (hs : sep ≠ []) (h : Skip (occ sep) a (sep ++ b)) :
    splitOn sep (a ++ (sep ++ b)) = a :: splitOn sep b := by
  unfold splitOn
  rw [splitGo_pass sep h []]
  cases sep with
  | nil => exact absurd rfl hs
  | cons c sep' =>
    have hp : (c :: sep').isPrefixOf (c :: (sep' ++ b)) = true :=
      List.isPrefixOf_iff_prefix.2 (List.prefix_append (c :: sep') b)
    simp only [List.cons_append, splitGo, hp, ↓reduceIte, List.length_cons, Nat.add_sub_cancel, List.append_nil,
      List.reverse_reverse]
    rw [splitGo_drop]

theorem splitOn_pass (sep s : List Char) (h : Skip (occ sep) s []) : splitOn sep s = [s] := by
  have := splitGo_pass sep h []
  simp only [List.append_nil] at this
  simp [splitOn, this, splitGo]

theorem skip_char {c : Char} {sep a : List Char} (h : c ∉ a) (R : List Char) : Skip (occ (c :: sep)) a R :=
  skip_first (P := (c == ·)) (fun x r hx => occ_none (by simp [List.isPrefixOf, hx]))
    (fun x hx => by simp only [beq_eq_false_iff_ne, ne_eq]; rintro rfl; exact h hx) R

theorem splitOn_single (c : Char) (a b : List Char) (h : c ∉ a) :
    splitOn [c] (a ++ c :: b) = a :: splitOn [c] b :=
  splitOn_first [c] a b (by simp) (skip_char h _)

theorem skip_nohyphen {X R : List Char} (h : '-' ∉ X) (hR : ∀ r, R = '-' :: r → X.getLast? ≠ some ' ') :
    Skip (occ [' ', '-', ' ']) X R := by
  intro A1 a A2 e
  apply occ_none
  cases A2 with
  | nil =>
    have hl : X.getLast? = some a := by rw [e]; simp
    rcases R with _ | ⟨c, r⟩
    · simp [List.isPrefixOf]
    · by_cases hc : c = '-'
      · have ha : ¬ ' ' = a := fun ea => hR r (by rw [hc]) (by rw [hl, ea])
        simp [List.isPrefixOf, ha]
      · have hc' : ¬ '-' = c := fun ec => hc ec.symm
        simp [List.isPrefixOf, hc']
  | cons b A3 =>
    have hb : ¬ '-' = b := fun hb => h (by rw [e, ← hb]; simp)
    simp [List.isPrefixOf, hb]

theorem isInfix_single (c : Char) (a b : List Char) : isInfix [c] (a ++ c :: b) = true := by
  induction a with
  | nil => simp [isInfix, List.isPrefixOf]
  | cons x a' ih => simp [isInfix, ih]

def CleanChar (k : Kind) (c : Char) : Prop := asciiC c = true ∧ c ≠ '/' ∧ c ≠ ';' ∧ (k = .datetime ∨ c ≠ '-')

/-- a text that may stand for an endpoint in a range string -/
structure CleanText (k : Kind) (s : List Char) : Prop where
  first : FirstOk s
  last : LastOk s
  chars : ∀ c ∈ s, CleanChar k c

theorem TimeChar.clean {c : Char} (h : TimeChar c) (k : Kind) : CleanChar k c := by
  rcases h with h | rfl | rfl | rfl
  · exact ⟨(isDigit_props h).2, isDigit_ne h rfl, isDigit_ne h rfl, Or.inr (isDigit_ne h rfl)⟩
  all_goals exact ⟨by decide, by decide, by decide, Or.inr (by decide)⟩

theorem DateChar.clean {c : Char} (h : DateChar c) (k : Kind) : CleanChar k c :=
  ⟨h.ascii, (dateChar_clean h).1, (dateChar_clean h).2.1, Or.inr (dateChar_clean h).2.2.1⟩

/-- `str(time)` is an ISO time: digits, colons and a point, a digit first and last -/
theorem cleanText_time {e : Ep} (h : validTime e = true) : CleanText .time (renderTime e) := by
  have i := (isoTime_renderTime h).text
  obtain ⟨a, r, e, ha⟩ := isoHMSF_first i.iso
  exact ⟨e ▸ firstOk_cons (isDigit_props ha).1, i.last, fun c hc => (i.chars c hc).clean _⟩

theorem cleanText_datetime {e : Ep} (h : validDateTime e = true) :
    CleanText .datetime (renderDateTime e) := by
  obtain ⟨y, mo, d, hh, mi, s, us, rfl, -, -, -, -, -, -, ht⟩ := validDateTime_shape h
  have i := (isoTime_renderTime ht).text
  have dg : ∀ k n, ∀ c ∈ pad k n, CleanChar .datetime c := fun k n c hc => TimeChar.clean (Or.inl (pad_digits k n c hc)) _
  have hy : CleanChar .datetime '-' := ⟨rfl, by decide, by decide, Or.inl rfl⟩
  refine ⟨by simp [renderDateTime, pad4, FirstOk], LastOk.append_left _ (LastOk.append_left [' '] i.last), ?_⟩
  simp only [renderDateTime, List.forall_mem_append, List.forall_mem_cons]
  exact ⟨⟨⟨dg 4 y, hy, dg 2 mo⟩, hy, dg 2 d⟩, DateChar.clean (Or.inl rfl) _, fun c hc => (i.chars c hc).clean _⟩

theorem cleanText_date {e : Ep} (h : validDate e = true) : CleanText .date (renderDate e) := by
  obtain ⟨mo, d, rfl, h1, h12, -, h4⟩ := validDate_shape h
  have hd : d < 100 := by
    have := daysInMonth_le Gen.dummyYear mo
    omega
  obtain ⟨a, -, -⟩ := monthName_of_take h1 h12 3 (Nat.le_refl 3) (month_name_long h1 h12)
  have hD := dig12_natStr hd
  refine ⟨firstOk_append _ (alpha_firstLast a.alpha a.long).1,
    LastOk.append_left _ (LastOk.append_left [' '] hD.firstLast.2), ?_⟩
  simp only [renderDate, List.forall_mem_append, List.forall_mem_cons]
  exact ⟨fun c h => DateChar.clean (Or.inr (Or.inl (a.alpha c h))) _, DateChar.clean (Or.inl rfl) _,
    fun c h => DateChar.clean (Or.inr (Or.inr (Or.inl (hD.digits c h)))) _⟩

theorem cleanText_render {k : Kind} {e : Ep} (h : validEp k e = true) :
    CleanText k (render k e) := by
  cases k with
  | time => exact cleanText_time h
  | date => exact cleanText_date h
  | datetime => exact cleanText_datetime h

theorem CleanText.facts {k : Kind} {s : List Char} (h : CleanText k s) :
    trimmedB s = true ∧ asciiOk s = true ∧ '/' ∉ s ∧ ';' ∉ s ∧ (k ≠ .datetime → '-' ∉ s) :=
  ⟨(trimmedB_iff s).2 ⟨h.first, h.last⟩, List.all_eq_true.2 fun c hc => (h.chars c hc).1,
    fun hm => (h.chars _ hm).2.1 rfl, fun hm => (h.chars _ hm).2.2.1 rfl,
    fun hk hm => (h.chars _ hm).2.2.2.elim hk fun e => e rfl⟩

theorem CleanText.padded {k : Kind} {s pre post : List Char} (hc : CleanText k s) (hpre : blanks pre)
    (hpost : blanks post) : convertStr k (pre ++ s ++ post) = convertStr k s :=
  convertStr_padded hc.facts.2.1 hc.facts.1 (white_of_blanks hpre) (white_of_blanks hpost)

theorem convertStr_render {k : Kind} {e : Ep} (h : validEp k e = true) : convertStr k (render k e) = .ok e := by
  cases k with
  | time => exact convertStr_renderTime h
  | date =>
    obtain ⟨mo, d, rfl, -⟩ := validDate_shape h
    exact date_notations h _ (List.mem_cons_self ..)
  | datetime =>
    obtain ⟨y, mo, d, hh, mi, s, us, rfl, -, -, -, -, -, -, ht⟩ := validDateTime_shape h
    have ct := ColonTime.canonical ht
    have := datetime_dashed_num ct.timeText ct.convert h [ymdNum y mo d, renderTime [hh, mi, s, us]]
      (by simp [insertAll])
    simpa [render, renderDateTime, ymdNum, joinSp] using this

theorem not_mem_padded {x : Char} {pre s post : List Char} (hx : x ≠ ' ') (hpre : blanks pre)
    (hpost : blanks post) (hs : x ∉ s) : x ∉ pre ++ s ++ post := by
  simp only [List.mem_append, not_or]
  exact ⟨⟨fun hm => hx (hpre x hm), hs⟩, fun hm => hx (hpost x hm)⟩

theorem seps_eq : Gen.rangeSeparatorsC = [['/'], [' ', '-', ' '], ['-']] := rfl

/-- what the range-string theorems need of a text `L` for the endpoint `a` -/
structure EpText (k : Kind) (L : List Char) (a : Ep) : Prop where
  noslash : '/' ∉ L
  nodash : k ≠ .datetime → '-' ∉ L
  nosep : ∀ R, (∀ r, R ≠ '-' :: r) → Skip (occ [' ', '-', ' ']) L R
  conv : convertStr k L = .ok a

/-- ` - ` begins nowhere in a rendered date-time: its hyphens stand in the date, which holds no blank, and no hyphen
    stands before or after it -/
theorem epText_padded {k : Kind} {e : Ep} (h : validEp k e = true) (pre post : List Char)
    (hpre : blanks pre) (hpost : blanks post) : EpText k (pre ++ render k e ++ post) e := by
  obtain ⟨-, -, hs, -, hd⟩ := CleanText.facts (cleanText_render h)
  have nd : ∀ {p : List Char}, blanks p → '-' ∉ p := fun hp hm => absurd (hp _ hm) (by decide)
  refine ⟨not_mem_padded (by decide) hpre hpost hs, fun hk => not_mem_padded (by decide) hpre hpost (hd hk),
    fun R hR => ?_, ((cleanText_render h).padded hpre hpost).trans (convertStr_render h)⟩
  by_cases hk : k = .datetime
  · subst hk
    obtain ⟨y, mo, d, hh, mi, s, us, rfl, -, -, -, -, -, -, ht⟩ := validDateTime_shape h
    obtain ⟨-, -, -, -, hdt⟩ := CleanText.facts (cleanText_time ht)
    have e : pre ++ render .datetime [y, mo, d, hh, mi, s, us] ++ post =
        pre ++ ((pad 4 y ++ '-' :: pad 2 mo ++ '-' :: pad 2 d) ++ (' ' :: renderTime [hh, mi, s, us] ++ post)) := by
      simp [render, renderDateTime]
    rw [e]
    refine Skip.append (skip_nohyphen (nd hpre) fun r er => by simp [pad4] at er)
      (Skip.append (skip_char (by simp [pad4, pad2, fun n => (digitChar_ne_blank n).symm]) _) (skip_nohyphen ?_ fun r er => absurd er (hR r)))
    simp only [List.mem_cons, List.mem_append, not_or]
    exact ⟨⟨by decide, hdt (by decide)⟩, nd hpost⟩
  · exact skip_nohyphen (not_mem_padded (by decide) hpre hpost (hd hk)) fun r er => absurd er (hR r)

theorem parseRangeStr_slash {k : Kind} {L R : List Char} {a b : Ep} (hL : EpText k L a) (hR : EpText k R b) :
    parseRangeStr k (L ++ '/' :: R) = .ok (a, b) := by
  have hsplit : splitOn ['/'] (L ++ '/' :: R) = [L, R] := by
    rw [splitOn_single _ _ _ hL.noslash, splitOn_pass _ _ (skip_char hR.noslash [])]
  simp only [parseRangeStr, seps_eq, firstSplit2, hsplit, hL.conv, hR.conv, Res.bind_ok]

theorem splitOn_slash_none {L R : List Char} (sep : List Char) (hL : '/' ∉ L) (hR : '/' ∉ R) (hs : '/' ∉ sep) :
    splitOn ['/'] (L ++ sep ++ R) = [L ++ sep ++ R] := by
  refine splitOn_pass _ _ (skip_char ?_ [])
  simp only [List.mem_append, not_or]
  exact ⟨⟨hL, hs⟩, hR⟩

theorem parseRangeStr_spaced {k : Kind} {L R : List Char} {a b : Ep} (hL : EpText k L a) (hR : EpText k R b) :
    parseRangeStr k (L ++ ' ' :: '-' :: ' ' :: R) = .ok (a, b) := by
  have hno := splitOn_slash_none [' ', '-', ' '] hL.noslash hR.noslash (by decide)
  have hsplit : splitOn [' ', '-', ' '] (L ++ ' ' :: '-' :: ' ' :: R) = [L, R] := by
    rw [show L ++ ' ' :: '-' :: ' ' :: R = L ++ ([' ', '-', ' '] ++ R) from rfl,
      splitOn_first _ L R (by simp) (hL.nosep _ (by simp)), splitOn_pass _ R (hR.nosep [] (by simp))]
  simp only [List.append_assoc, List.cons_append, List.nil_append] at hno
  simp only [parseRangeStr, seps_eq, firstSplit2, hno, hsplit, hL.conv, hR.conv, Res.bind_ok]

theorem parseRangeStr_hyphen {k : Kind} (hk : k ≠ .datetime) {L R : List Char} {a b : Ep} (hL : EpText k L a)
    (hR : EpText k R b) (hlast : L.getLast? ≠ some ' ') : parseRangeStr k (L ++ '-' :: R) = .ok (a, b) := by
  have hno := splitOn_slash_none ['-'] hL.noslash hR.noslash (by decide)
  have hno2 : splitOn [' ', '-', ' '] (L ++ '-' :: R) = [L ++ '-' :: R] := by
    refine splitOn_pass _ _ ?_
    have := Skip.append (R := []) (skip_nohyphen (R := ['-'] ++ R ++ []) (hL.nodash hk) fun _ _ => hlast)
      (Skip.append (skip_char (a := ['-']) (by simp) _) (hR.nosep [] (by simp)))
    simpa only [List.singleton_append] using this
  have hsplit : splitOn ['-'] (L ++ '-' :: R) = [L, R] := by
    rw [splitOn_single _ _ _ (hL.nodash hk), splitOn_pass _ _ (skip_char (hR.nodash hk) [])]
  simp only [List.append_assoc, List.singleton_append] at hno
  simp only [parseRangeStr, seps_eq, firstSplit2, hno, hno2, hsplit, hL.conv, hR.conv, Res.bind_ok]

theorem parseRangeStr_single_date {L : List Char} {a : Ep} (hL : EpText .date L a) :
    parseRangeStr .date L = .ok (a, a) := by
  have s1 := splitOn_pass ['/'] _ (skip_char hL.noslash [])
  have s2 := splitOn_pass _ _ (hL.nosep [] (by simp))
  have s3 := splitOn_pass ['-'] _ (skip_char (hL.nodash (by decide)) [])
  simp only [parseRangeStr, seps_eq, firstSplit2, s1, s2, s3, rclosed, ↓reduceIte, hL.conv, Res.bind_ok]

theorem render_last_ne_blank {k : Kind} {e : Ep} (h : validEp k e = true) (pre : List Char) :
    (pre ++ render k e).getLast? ≠ some ' ' := by
  have hl := LastOk.append_left pre ((trimmedB_iff _).1 (CleanText.facts (cleanText_render h)).1).2
  intro e
  rw [LastOk, e] at hl
  cases hl

/-- a range as `as_string()` prints it, without the terminating delimiter -/
def rangeBody (k : Kind) (r : Range) : List Char :=
  if rclosed k && r.1 == r.2 then render k r.1 else render k r.1 ++ ' ' :: '/' :: ' ' :: render k r.2

theorem rangeString_eq (k : Kind) (r : Range) : rangeString k r = rangeBody k r ++ [';'] := by
  unfold rangeString rangeBody
  have e1 : Gen.delimiterC = [';'] := rfl
  have e2 : Gen.rangeSeparatorsC.headD [] = ['/'] := rfl
  rw [e1, e2]
  split <;> simp

theorem rangeBody_parse {k : Kind} {r : Range} (ha : validEp k r.1 = true) (hb : validEp k r.2 = true)
    (p : List Char) (hp : blanks p) : parseRangeStr k (p ++ rangeBody k r) = .ok r := by
  unfold rangeBody
  split
  · next hc =>
    simp only [Bool.and_eq_true, beq_iff_eq] at hc
    have hk : k = .date := by cases k <;> simp [rclosed] at hc ⊢
    subst hk
    have := parseRangeStr_single_date (epText_padded ha p [] hp blanks_nil)
    rw [List.append_nil] at this
    rw [this]
    exact congrArg Res.ok (Prod.ext rfl hc.2)
  · have b1 : blanks [' '] := by simp [blanks]
    have := parseRangeStr_slash (epText_padded ha p [' '] hp b1) (epText_padded hb [' '] [] b1 blanks_nil)
    simpa using this

theorem rangeBody_clean {k : Kind} {r : Range} (ha : validEp k r.1 = true) (hb : validEp k r.2 = true) :
    ';' ∉ rangeBody k r ∧ asciiOk (rangeBody k r) = true := by
  obtain ⟨-, aa, -, sa, -⟩ := CleanText.facts (cleanText_render ha)
  obtain ⟨-, ab, -, sb, -⟩ := CleanText.facts (cleanText_render hb)
  unfold rangeBody
  split
  · exact ⟨sa, aa⟩
  · refine ⟨?_, ?_⟩
    · simp only [List.mem_append, List.mem_cons, not_or]
      exact ⟨sa, by decide, by decide, by decide, sb⟩
    · have : asciiOk (' ' :: '/' :: ' ' :: render k r.2) = true := by
        simp only [asciiOk, List.all_cons] at ab ⊢
        simp [ab, show asciiC ' ' = true by decide, show asciiC '/' = true by decide]
      simp [asciiOk_append, aa, this]

/-- ranges as `as_string()` prints them, each after a text `p` (blanks) and closed by the delimiter -/
def rangeSegs (k : Kind) : List (List Char × Range) → List Char
  | [] => []
  | x :: l => x.1 ++ rangeBody k x.2 ++ ';' :: rangeSegs k l

/-- `as_string()`: nothing before the first range, one blank before each of the others -/
theorem joinSp_rangeSegs (k : Kind) (p : List Char) (r : Range) (rest : List Range) :
    p ++ joinSp ((r :: rest).map (rangeString k)) = rangeSegs k ((p, r) :: rest.map fun r => ([' '], r)) := by
  induction rest generalizing p r with
  | nil => simp [joinSp, rangeSegs, rangeString_eq]
  | cons r' rest ih =>
    have := ih [' '] r'
    simp only [List.map_cons, List.singleton_append] at this
    simp only [List.map_cons, joinSp, rangeSegs, rangeString_eq, ← this, List.append_assoc, List.cons_append,
      List.nil_append]

/-- the empty piece that `split` leaves after the final delimiter is the one `__init__` deletes -/
theorem dropLastBlank_snoc (l : List (List Char)) : dropLastBlank (l ++ [[]]) = l := by
  unfold dropLastBlank
  rw [List.getLast?_append]
  simp only [List.getLast?_singleton, Option.some_or, strip, List.dropWhile_nil, List.reverse_nil,
    List.isEmpty_nil, ↓reduceIte, List.dropLast_concat]

theorem rangeSegs_spec (k : Kind) (l : List (List Char × Range))
    (h : ∀ x ∈ l, blanks x.1 ∧ validEp k x.2.1 = true ∧ validEp k x.2.2 = true) :
    asciiOk (rangeSegs k l) = true ∧
    splitOn [';'] (rangeSegs k l) = (l.map fun x => x.1 ++ rangeBody k x.2) ++ [[]] ∧
    parseRanges k ((l.map fun x => x.1 ++ rangeBody k x.2).map .str) = .ok (l.map (·.2)) := by
  induction l with
  | nil => exact ⟨rfl, rfl, rfl⟩
  | cons x l ih =>
    obtain ⟨hp, ha, hb⟩ := h x (List.mem_cons_self ..)
    obtain ⟨i1, i2, i3⟩ := ih fun y hy => h y (List.mem_cons_of_mem _ hy)
    obtain ⟨hn, hc⟩ := rangeBody_clean ha hb
    have hn' : ';' ∉ x.1 ++ rangeBody k x.2 := by
      simp only [List.mem_append, not_or]
      exact ⟨fun hm => absurd (hp _ hm) (by decide), hn⟩
    refine ⟨?_, ?_, ?_⟩
    · rw [rangeSegs, show x.1 ++ rangeBody k x.2 ++ ';' :: rangeSegs k l = x.1 ++ (rangeBody k x.2 ++ ([';'] ++ rangeSegs k l)) by simp]
      simp only [asciiOk_append, asciiOk_blanks hp, hc, i1, Bool.and_true, Bool.true_and]
      decide
    · rw [rangeSegs, splitOn_single _ _ _ hn', i2]
      rfl
    · simp only [List.map_cons, parseRanges, parseRange, rangeBody_parse ha hb x.1 hp, Res.bind_ok, i3]

/-- `as_string()` of a list of valid ranges parses to the same ranges, in the same order -/
theorem parseRanges_asString (k : Kind) (iv : List Range)
    (hv : ∀ r ∈ iv, validEp k r.1 = true ∧ validEp k r.2 = true) :
    asciiOk (asString k iv) = true ∧
    parseRanges k ((splitInterval (asString k iv)).map .str) = .ok iv := by
  cases iv with
  | nil => cases k <;> exact ⟨rfl, by decide⟩
  | cons r rest =>
    have e := joinSp_rangeSegs k [] r rest
    rw [List.nil_append] at e
    obtain ⟨h1, h2, h3⟩ := rangeSegs_spec k (([], r) :: rest.map fun r => ([' '], r)) (by
      intro x hx
      rcases List.mem_cons.1 hx with rfl | hx
      · exact ⟨nofun, hv r (List.mem_cons_self ..)⟩
      · obtain ⟨r', hr', rfl⟩ := List.mem_map.1 hx
        exact ⟨by simp [blanks], hv r' (List.mem_cons_of_mem _ hr')⟩)
    unfold asString
    rw [e]
    refine ⟨h1, ?_⟩
    have hi : isInfix Gen.delimiterC (rangeSegs k (([], r) :: rest.map fun r => ([' '], r))) = true :=
      isInfix_single ';' _ _
    rw [splitInterval, hi, if_pos rfl, show Gen.delimiterC = [';'] from rfl, h2, dropLastBlank_snoc, h3]
    simp [List.map_map, Function.comp_def]

end Edzed.Interval
