/- What the model of the constructors (EdzedModel/RepeatCtor.lean) computes on some forms of input: `repeatNew` read
   backwards from an accepted call, `eventNew` without `repeat=`, `toTuple` on items that all pass the check. -/
import EdzedModel.RepeatCtor

namespace Edzed.TrTie

open Edzed.Gen.TrC Edzed.RepeatCtor

theorem repeatNew_eq_ok {dest : Dest} {etype : ETy} {interval : Val} {count : Option Int} {rc : RepeatCfg}
    (h : repeatNew dest etype interval count = .ok rc) :
    ∃ iv, RepeatCtor.timePeriod interval = .ok (some iv) ∧ 0 < iv ∧ rc = ⟨dest, etype, iv, count⟩ ∧
      typecheck etype = .ok () ∧ etype.isEventCond = false := by
  unfold repeatNew at h
  split at h
  · cases h
  · next hc =>
    split at h
    · cases h
    · next ht =>
      split at h
      · cases h
      · cases h
      · next iv hp =>
        split at h
        · cases h
        · next hiv =>
          refine ⟨iv, hp, Rat.not_le.mp hiv, ?_, ht, by simpa using hc⟩
          split at h
          · cases h; rfl
          · split at h
            · cases h
            · cases h; rfl

theorem eventNew_plain (dest : Dest) (etype : ETy) :
    eventNew dest etype none none true = (typecheck etype).map fun _ => ⟨dest, etype⟩ := by
  unfold eventNew
  cases typecheck etype <;> rfl

theorem toTuple_all_valid {ι : Type} (args : ArgsT ι) (v : ι → Except Exc Unit)
    (h : ∀ x ∈ args.items, v x = .ok ()) : RepeatCtor.toTuple args v = .ok args.items := by
  have hall : ∀ l : List ι, (∀ x ∈ l, v x = .ok ()) → RepeatCtor.validateAll v l = .ok () := by
    intro l
    induction l with
    | nil => intro _; rfl
    | cons x xs ih =>
      intro hl
      simp only [RepeatCtor.validateAll, hl x (by simp)]
      exact ih fun y hy => hl y (by simp [hy])
  cases args with
  | none => rfl
  | tuple l | multiple l | single x => simp [RepeatCtor.toTuple, hall _ h]

end Edzed.TrTie
