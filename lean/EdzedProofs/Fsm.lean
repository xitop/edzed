/-
Lemmas about the C03 model (EdzedModel/Fsm.lean) and the predicates the statements of EdzedProps/C03.lean are written
with: the documented acceptance condition `Passes`, well-formed tables (`Tables.WF`, the invariant `TInv` of
`_build_tables`), the properties that compose along the pieces of a run (`RunProp`, with the instances `Plain` and
`Reads`), what the chain loop does (`LoopPlain`), the log checker `attrRun`.
-/
import EdzedModel.Fsm
import EdzedModel.Gen.Constants

namespace Edzed.Fsm

/-- everything but `_next_event` is the same -/
def Same (f g : Fsm) : Prop := g.state = f.state ∧ g.output = f.output ∧ g.active = f.active

theorem Same.refl (f : Fsm) : Same f f := ⟨rfl, rfl, rfl⟩

theorem Same.trans {f g h : Fsm} (a : Same f g) (b : Same g h) : Same f h :=
  ⟨b.1.trans a.1, b.2.1.trans a.2.1, b.2.2.trans a.2.2⟩

theorem nested_cases (d : Def) (f : Fsm) (e : EType) (data : Data) :
    (∃ l r, check d f e data = (l, .error r) ∧ nested d f e data = (f, r, l)) ∨
    (∃ l tgt, check d f e data = (l, .ok tgt) ∧
      ((∃ x, f.next = some x ∧ nested d f e data = (f, .errMultiple, l)) ∨
       (f.next = none ∧ nested d f e data = ({ f with next := some ⟨e, data, tgt⟩ }, .accepted, l)))) := by
  unfold nested
  rcases hc : check d f e data with ⟨l, r | tgt⟩
  · left; exact ⟨l, r, rfl, rfl⟩
  · right
    refine ⟨l, tgt, rfl, ?_⟩
    cases hn : f.next with
    | none => right; simp
    | some x => left; exact ⟨x, rfl, by simp⟩

theorem nested_same (d : Def) (f : Fsm) (e : EType) (data : Data) :
    Same f (nested d f e data).1 := by
  rcases nested_cases d f e data with ⟨l, r, _, h⟩ | ⟨l, tgt, _, ⟨x, _, h⟩ | ⟨_, h⟩⟩ <;>
    rw [h] <;> exact ⟨rfl, rfl, rfl⟩

/-- an event arriving while `_fsm_event_active` is set (from an entry action or a zero timer) is only scheduled -/
theorem ctxEvent_active (d : Def) (f : Fsm) (e : EType) (data : Data) (h : f.active = true) :
    ctxEvent d f e data = nested d f e data := by
  simp [ctxEvent, h]

theorem ctxEvent_check_error {d : Def} {f : Fsm} {e : EType} {data : Data} {l : List Action} {r : Res}
    (h : check d f e data = (l, .error r)) : ctxEvent d f e data = (f, r, l) := by
  unfold ctxEvent nested
  simp [h]

theorem ctxEvent_check_ok {d : Def} {f : Fsm} {e : EType} {data : Data} {l : List Action} {tgt : State}
    (h : check d f e data = (l, .ok tgt)) (ha : f.active = false) (hn : f.next = none) :
    ctxEvent d f e data =
      ((transition d f e data tgt).1, (transition d f e data tgt).2.1,
        l ++ leaveLog d f data ++ (transition d f e data tgt).2.2) := by
  unfold ctxEvent
  simp only [ha, h, hn, Bool.false_eq_true, if_false]

theorem ctxEvent_stale_next {d : Def} {f : Fsm} {e : EType} {data : Data} {l : List Action} {tgt : State}
    {x : Req} (h : check d f e data = (l, .ok tgt)) (ha : f.active = false) (hn : f.next = some x) :
    ctxEvent d f e data = (f, .errAssert, l ++ leaveLog d f data) := by
  unfold ctxEvent
  simp [ha, h, hn]

/-- the documented acceptance condition of a table event: a target exists (specific rule, else
    any-state rule) and, on an initialised FSM, every condition returns a true value -/
def Passes (d : Def) (f : Fsm) (name : EvName) (data : Data) : Prop :=
  ∃ s t, f.state = some s ∧ lookup d.toTables name s = some t ∧
    (f.output.isUndef = false → ∀ c ∈ condsOf d name, (c.2.eval data).truthy = true)

theorem check_ev_cases (d : Def) (f : Fsm) (name : EvName) (data : Data) (s : State)
    (hev : d.events.contains name = true) (hs : f.state = some s) :
    (Passes d f name data ∧ ∃ t l, lookup d.toTables name s = some t ∧ check d f (.ev name) data = (l, .ok t) ∧
      ((f.output.isUndef = true ∧ l = []) ∨ (f.output.isUndef = false ∧ l = condLog d name data))) ∨
    (¬ Passes d f name data ∧ ∃ l, check d f (.ev name) data = (l, .error .rejected) ∧
      ((lookup d.toTables name s = none ∧ l = [.notrans name s]) ∨
       ((lookup d.toTables name s).isSome = true ∧ f.output.isUndef = false ∧ l = condLog d name data))) := by
  unfold check
  simp only [hev, hs, Bool.not_true, Bool.false_eq_true, if_false]
  cases hl : lookup d.toTables name s with
  | none =>
    refine .inr ⟨?_, _, rfl, .inl ⟨rfl, rfl⟩⟩
    rintro ⟨s', t', hs', hl', _⟩
    rw [hs] at hs'; cases hs'; rw [hl] at hl'; cases hl'
  | some t =>
    cases hu : f.output.isUndef with
    | true => exact .inl ⟨⟨s, t, hs, hl, fun h => by rw [hu] at h; cases h⟩, t, _, rfl, rfl, .inl ⟨rfl, rfl⟩⟩
    | false =>
      by_cases hall : (condsOf d name).all (fun c => (c.2.eval data).truthy) = true
      · have hall' : ∀ c ∈ condsOf d name, (c.2.eval data).truthy = true := by
          simpa [List.all_eq_true] using hall
        exact .inl ⟨⟨s, t, hs, hl, fun _ => hall'⟩, t, _, rfl, by simp [hall], .inr ⟨rfl, rfl⟩⟩
      · refine .inr ⟨?_, _, by simp [hall], .inr ⟨rfl, rfl, rfl⟩⟩
        rintro ⟨s', t', hs', _, hc'⟩
        apply hall
        simpa [List.all_eq_true] using hc' hu

theorem check_unknown (d : Def) (f : Fsm) (name : EvName) (data : Data)
    (hev : d.events.contains name = false) :
    check d f (.ev name) data = ([], .error .unknownEvent) := by
  unfold check; simp only [hev, Bool.not_false, ↓reduceIte]

theorem check_goto (d : Def) (f : Fsm) (s : State) (data : Data) :
    check d f (.goto s) data =
      if d.states.contains s then ([], .ok s) else ([], .error .errBadState) := rfl

theorem check_no_state (d : Def) (f : Fsm) (name : EvName) (data : Data)
    (hev : d.events.contains name = true) (hs : f.state = none) :
    check d f (.ev name) data = ([], .error .errAssert) := by
  unfold check; simp only [hev, hs, Bool.not_true, Bool.false_eq_true, ↓reduceIte]

theorem check_log (d : Def) (f : Fsm) (e : EType) (data : Data) :
    (check d f e data).1 = [] ∨ (∃ n s, (check d f e data).1 = [.notrans n s]) ∨
    (∃ n, f.output.isUndef = false ∧ (check d f e data).1 = condLog d n data) := by
  cases e with
  | goto s => left; rw [check_goto]; split <;> rfl
  | ev name =>
    cases hev : d.events.contains name with
    | false => left; rw [check_unknown d f name data hev]
    | true =>
      cases hs : f.state with
      | none => left; rw [check_no_state d f name data hev hs]
      | some s =>
        rcases check_ev_cases d f name data s hev hs with ⟨_, t, l, _, hc, h⟩ | ⟨_, l, hc, h⟩ <;> rw [hc]
        · exact h.elim (fun h => .inl h.2) fun h => .inr (.inr ⟨name, h⟩)
        · exact .inr (h.imp (fun h => ⟨name, s, h.2⟩) fun h => ⟨name, h.2⟩)

theorem check_error_kinds (d : Def) (f : Fsm) (e : EType) (data : Data) (l : List Action) (r : Res)
    (hc : check d f e data = (l, .error r)) :
    r = .errBadState ∨ r = .unknownEvent ∨ r = .errAssert ∨ r = .rejected := by
  cases e with
  | goto s => rw [check_goto] at hc; split at hc <;> simp at hc; simp [← hc.2]
  | ev name =>
    cases hev : d.events.contains name with
    | false => rw [check_unknown d f name data hev] at hc; simp at hc; simp [← hc.2]
    | true =>
      cases hs : f.state with
      | none => rw [check_no_state d f name data hev hs] at hc; simp at hc; simp [← hc.2]
      | some s =>
        rcases check_ev_cases d f name data s hev hs with ⟨_, t, l', _, hc', _⟩ | ⟨_, l', hc', _⟩ <;>
          rw [hc'] at hc <;> cases hc
        exact .inr (.inr (.inr rfl))

theorem setOutput_cases (f : Fsm) (v : Val) :
    setOutput f v = (f, []) ∨ setOutput f v = ({ f with output := v }, [Action.output f.output v]) := by
  unfold setOutput
  split
  · exact .inl rfl
  · split
    · exact .inl rfl
    · exact .inr rfl

theorem setOutput_frame (f : Fsm) (v : Val) :
    (setOutput f v).1.state = f.state ∧ (setOutput f v).1.next = f.next ∧
    (setOutput f v).1.active = f.active := by
  rcases setOutput_cases f v with h | h <;> rw [h] <;> exact ⟨rfl, rfl, rfl⟩

theorem setOutput_log_congr (f g : Fsm) (v : Val) (h : g.output = f.output) :
    (setOutput g v).2 = (setOutput f v).2 ∧ (setOutput g v).1.output = (setOutput f v).1.output := by
  unfold setOutput
  rw [h]
  split
  · exact ⟨rfl, h⟩
  · split
    · exact ⟨rfl, h⟩
    · exact ⟨rfl, rfl⟩

/-- at most one entry per (event, from-state) key, like the dict `_ct_transition` -/
def KeysUnique (tr : TransTable) : Prop :=
  tr.Pairwise (fun a b => ¬ (a.1 = b.1 ∧ a.2.1 = b.2.1))

theorem tget_some_mem (tr : TransTable) (e : EvName) (k : Option State) (t : Option State)
    (h : tget tr e k = some t) : (e, k, t) ∈ tr := by
  unfold tget at h
  cases hf : tr.find? (fun r => r.1 == e && r.2.1 == k) with
  | none => rw [hf] at h; simp at h
  | some r =>
    rw [hf] at h
    have hm := List.mem_of_find?_eq_some hf
    have hp := List.find?_some hf
    simp at hp h
    obtain ⟨a, b, c⟩ := r
    simp at hp h
    rw [← hp.1, ← hp.2, ← h]; exact hm

theorem tget_none_of_not_mem (tr : TransTable) (e : EvName) (k : Option State)
    (h : ∀ t, (e, k, t) ∉ tr) : tget tr e k = none := by
  cases hg : tget tr e k with
  | none => rfl
  | some t => exact absurd (tget_some_mem tr e k t hg) (h t)

theorem tget_of_mem (tr : TransTable) (e : EvName) (k : Option State) (t : Option State)
    (hu : KeysUnique tr) (h : (e, k, t) ∈ tr) : tget tr e k = some t := by
  induction tr with
  | nil => simp at h
  | cons r rest ih =>
    unfold tget
    rw [List.find?_cons]
    unfold KeysUnique at hu
    rw [List.pairwise_cons] at hu
    cases hm : (r.1 == e && r.2.1 == k) with
    | true =>
      simp only [Option.map_some]
      simp at hm
      rcases List.mem_cons.mp h with h | h
      · rw [← h]
      · have := hu.1 (e, k, t) h
        simp only at this
        exact absurd ⟨hm.1, hm.2⟩ this
    | false =>
      simp only
      rcases List.mem_cons.mp h with h | h
      · rw [← h] at hm; simp at hm
      · exact ih hu.2 h

theorem lookup_of_keysUnique (t : Tables) (hu : KeysUnique t.trans) (e : EvName) (s : State) :
    (∀ tgt, (e, some s, tgt) ∈ t.trans → lookup t e s = tgt) ∧
    ((∀ x, (e, some s, x) ∉ t.trans) → ∀ tgt, (e, none, tgt) ∈ t.trans → lookup t e s = tgt) ∧
    ((∀ x, (e, some s, x) ∉ t.trans) → (∀ x, (e, none, x) ∉ t.trans) → lookup t e s = none) := by
  unfold lookup
  refine ⟨fun tgt h => by rw [tget_of_mem _ _ _ _ hu h], fun hno tgt h => ?_, fun hno hno' => ?_⟩
  · rw [tget_none_of_not_mem _ _ _ hno, tget_of_mem _ _ _ _ hu h]
  · rw [tget_none_of_not_mem _ _ _ hno, tget_none_of_not_mem _ _ _ hno']

/-- the lookup as the code does it: the specific key, else the any-state key with `None` as default -/
theorem lookup_eq (t : Tables) (e : EvName) (s : State) :
    lookup t e s = match tget t.trans e (some s) with
      | some tgt => tgt
      | none => (tget t.trans e none).getD none := by
  unfold lookup
  cases tget t.trans e (some s) with
  | some tgt => rfl
  | none => cases tget t.trans e none <;> rfl

theorem lookup_some_mem (t : Tables) (e : EvName) (s tgt : State) (h : lookup t e s = some tgt) :
    ∃ k, (e, k, some tgt) ∈ t.trans := by
  unfold lookup at h
  cases h1 : tget t.trans e (some s) with
  | some x => rw [h1] at h; simp at h; exact ⟨some s, by rw [← h]; exact tget_some_mem _ _ _ _ h1⟩
  | none =>
    rw [h1] at h
    cases h2 : tget t.trans e none with
    | some x => rw [h2] at h; simp at h; exact ⟨none, by rw [← h]; exact tget_some_mem _ _ _ _ h2⟩
    | none => rw [h2] at h; simp at h

/-- the tables are a function (event, state) -> target, every target is a state, there is at
    least one state and the chain limit is three times their number -/
def Tables.WF (t : Tables) : Prop :=
  KeysUnique t.trans ∧ (∀ a ∈ t.trans, ∀ x, a.2.2 = some x → x ∈ t.states) ∧
  t.states ≠ [] ∧ t.chainLimit = 3 * t.states.length

/-- invariant of the table under construction -/
def TInv (states : List State) (tr : TransTable) : Prop :=
  KeysUnique tr ∧ ∀ a ∈ tr, ∀ x, a.2.2 = some x → x ∈ states

theorem no_key_of_tget_none (tr : TransTable) (e : EvName) (k : Option State)
    (h : (tget tr e k).isSome = false) : ∀ a ∈ tr, ¬ (a.1 = e ∧ a.2.1 = k) := by
  intro a ha hk
  unfold tget at h
  cases hf : tr.find? (fun r => r.1 == e && r.2.1 == k) with
  | some r => rw [hf] at h; simp at h
  | none =>
    have := List.find?_eq_none.mp hf a ha
    simp [hk.1, hk.2] at this

theorem addTransition_ok (states : List State) (tr tr' : TransTable) (e : EvName) (fr to : Option State)
    (h : addTransition states tr e fr to = .ok tr') :
    tr' = tr ++ [(e, fr, to)] ∧ (tget tr e fr).isSome = false := by
  unfold addTransition at h
  cases fr with
  | none =>
    simp only at h
    split at h
    · cases h
    · next hg => simp at h hg; exact ⟨h.symm, by simp [hg]⟩
  | some s =>
    simp only at h
    split at h
    · cases h
    · split at h
      · cases h
      · next hg => simp at h hg; exact ⟨h.symm, by simp [hg]⟩

theorem TInv_add (states : List State) (tr tr' : TransTable) (e : EvName) (fr to : Option State)
    (hi : TInv states tr) (hto : ∀ x, to = some x → x ∈ states)
    (h : addTransition states tr e fr to = .ok tr') : TInv states tr' := by
  obtain ⟨h1, h2⟩ := addTransition_ok states tr tr' e fr to h
  subst h1
  refine ⟨?_, ?_⟩
  · unfold KeysUnique
    rw [List.pairwise_append]
    refine ⟨hi.1, List.pairwise_singleton _ _, ?_⟩
    intro a ha b hb
    simp at hb
    subst hb
    exact no_key_of_tget_none tr e fr h2 a ha
  · intro a ha x hx
    rcases List.mem_append.mp ha with ha | ha
    · exact hi.2 a ha x hx
    · simp at ha; subst ha; exact hto x hx

theorem TInv_addFroms (states : List State) (e : EvName) (to : Option State)
    (hto : ∀ x, to = some x → x ∈ states) (tr tr' : TransTable) (l : List State)
    (hi : TInv states tr) (h : addFroms states e to tr l = .ok tr') : TInv states tr' := by
  induction l generalizing tr with
  | nil => simp [addFroms] at h; subst h; exact hi
  | cons s rest ih =>
    unfold addFroms at h
    cases ha : addTransition states tr e (some s) to with
    | error x => rw [ha] at h; cases h
    | ok tr1 =>
      rw [ha] at h
      exact ih tr1 (TInv_add states tr tr1 e (some s) to hi hto ha) h

theorem TInv_addRule (states : List State) (acc acc' : List EvName × TransTable) (r : RawRule)
    (hi : TInv states acc.2) (h : addRule states acc r = .ok acc') : TInv states acc'.2 := by
  unfold addRule at h
  cases hok : targetOk states r.to with
  | false => simp [hok] at h
  | true =>
    simp only [hok, if_true] at h
    have hto : ∀ x, r.to = some x → x ∈ states := by
      intro x hx
      rw [hx] at hok
      simpa [targetOk] using hok
    cases hf : r.froms with
    | none =>
      simp only [hf] at h
      cases ha : addTransition states acc.2 r.ev none r.to with
      | error x => rw [ha] at h; cases h
      | ok tr1 =>
        rw [ha] at h; cases h
        exact TInv_add states acc.2 tr1 r.ev none r.to hi hto ha
    | some l =>
      simp only [hf] at h
      cases ha : addFroms states r.ev r.to acc.2 l with
      | error x => rw [ha] at h; cases h
      | ok tr1 =>
        rw [ha] at h; cases h
        exact TInv_addFroms states r.ev r.to hto acc.2 tr1 l hi ha

theorem TInv_addRules (states : List State) (acc acc' : List EvName × TransTable) (rs : List RawRule)
    (hi : TInv states acc.2) (h : addRules states acc rs = .ok acc') : TInv states acc'.2 := by
  induction rs generalizing acc with
  | nil => simp [addRules] at h; subst h; exact hi
  | cons r rest ih =>
    unfold addRules at h
    cases ha : addRule states acc r with
    | error x => rw [ha] at h; cases h
    | ok acc1 =>
      rw [ha] at h
      exact ih acc1 (TInv_addRule states acc acc1 r hi ha) h

/-- `_state` is a declared state -/
def StateOk (d : Def) (f : Fsm) : Prop := ∀ s, f.state = some s → s ∈ d.states
/-- the target of a pending `_next_event` is a declared state -/
def NextOk (d : Def) (f : Fsm) : Prop := ∀ r, f.next = some r → r.target ∈ d.states

theorem check_ok_target (d : Def) (hwf : d.toTables.WF) (f : Fsm) (e : EType) (data : Data)
    (l : List Action) (t : State) (h : check d f e data = (l, .ok t)) : t ∈ d.states := by
  cases e with
  | goto s =>
    rw [check_goto] at h
    split at h
    · next hc => simp at h; rw [← h.2]; simpa using hc
    · simp at h
  | ev name =>
    cases hev : d.events.contains name with
    | false => rw [check_unknown d f name data hev] at h; simp at h
    | true =>
      cases hs : f.state with
      | none => rw [check_no_state d f name data hev hs] at h; simp at h
      | some s =>
        rcases check_ev_cases d f name data s hev hs with ⟨_, t', l', hl, hc, _⟩ | ⟨_, l', hc, _⟩ <;>
          rw [hc] at h <;> cases h
        obtain ⟨k, hm⟩ := lookup_some_mem _ _ _ _ hl
        exact hwf.2.1 _ hm t rfl

theorem nested_nextOk (d : Def) (hwf : d.toTables.WF) (f : Fsm) (e : EType) (data : Data)
    (hn : NextOk d f) : NextOk d (nested d f e data).1 := by
  rcases nested_cases d f e data with ⟨l, r, _, h⟩ | ⟨l, tgt, hc, ⟨x, _, h⟩ | ⟨_, h⟩⟩
  · rw [h]; exact hn
  · rw [h]; exact hn
  · rw [h]; intro r hr; simp at hr; rw [← hr]; exact check_ok_target d hwf f e data l tgt hc

theorem unpack_target (d : Def) (f : Fsm) (cur : Req) (hn : NextOk d f) (hc : cur.target ∈ d.states) :
    (unpack f cur).target ∈ d.states := by
  unfold unpack
  cases h : f.next with
  | none => exact hc
  | some nx => exact hn nx h

/-- callbacks, self-sent events and timer starts: nothing another block can see -/
def Action.quiet : Action → Bool
  | .cond .. | .notrans .. | .exit .. | .enter .. | .send .. | .sendRet .. | .startTimer .. => true
  | _ => false

/-- the assignment `self._state = newstate` -/
def Action.isSet : Action → Bool
  | .setState _ => true
  | _ => false

/-- an entry that is neither an on_enter/on_exit/on_output event nor a timer stop -/
def Action.internal (a : Action) : Bool := a.quiet || a.isSet

def AllQuiet (l : List Action) : Prop := ∀ a ∈ l, a.quiet = true

theorem AllQuiet.append {a b : List Action} (ha : AllQuiet a) (hb : AllQuiet b) : AllQuiet (a ++ b) := by
  intro x hx
  rcases List.mem_append.mp hx with h | h
  · exact ha x h
  · exact hb x h

theorem AllQuiet.cons {a : Action} {b : List Action} (ha : a.quiet = true) (hb : AllQuiet b) :
    AllQuiet (a :: b) := by
  intro x hx
  rcases List.mem_cons.mp hx with h | h
  · rw [h]; exact ha
  · exact hb x h

theorem AllQuiet.nil : AllQuiet [] := by intro x hx; cases hx

/-- the events tied to a state: on_exit_STATE, on_enter_STATE, on_output -/
def Action.stateEvent : Action → Bool
  | .onExit .. | .onEnter .. | .output .. => true
  | _ => false

theorem internal_not_stateEvent (a : Action) (h : a.internal = true) : a.stateEvent = false := by
  cases a <;> first | rfl | cases h

theorem filter_stateEvent_internal (l : List Action) (h : ∀ a ∈ l, a.internal = true) :
    l.filter Action.stateEvent = [] := by
  rw [List.filter_eq_nil_iff]
  intro a ha
  rw [internal_not_stateEvent a (h a ha)]
  exact Bool.false_ne_true

theorem filter_stateEvent_quiet (l : List Action) (h : AllQuiet l) :
    l.filter Action.stateEvent = [] :=
  filter_stateEvent_internal l (fun a ha => by simp [Action.internal, h a ha])

theorem exitLog_quiet (d : Def) (s : State) (seen : Data) : AllQuiet (exitLog d s seen) := by
  intro a ha
  unfold exitLog at ha
  simp at ha
  obtain ⟨w, _, rfl⟩ := ha
  rfl

theorem condLog_quiet (d : Def) (e : EvName) (seen : Data) : AllQuiet (condLog d e seen) := by
  intro a ha
  unfold condLog at ha
  simp at ha
  obtain ⟨w, c, _, rfl⟩ := ha
  rfl

theorem check_quiet (d : Def) (f : Fsm) (e : EType) (data : Data) : AllQuiet (check d f e data).1 := by
  rcases check_log d f e data with h | ⟨n, s, h⟩ | ⟨n, _, h⟩ <;> rw [h]
  · exact AllQuiet.nil
  · exact AllQuiet.cons rfl AllQuiet.nil
  · exact condLog_quiet d n data

theorem nested_log (d : Def) (f : Fsm) (e : EType) (data : Data) :
    (nested d f e data).2.2 = (check d f e data).1 := by
  rcases nested_cases d f e data with ⟨l, r, hc, h⟩ | ⟨l, tgt, hc, ⟨x, _, h⟩ | ⟨_, h⟩⟩ <;> rw [h, hc]

theorem nested_quiet (d : Def) (f : Fsm) (e : EType) (data : Data) : AllQuiet (nested d f e data).2.2 := by
  rw [nested_log]; exact check_quiet d f e data

theorem nested_ne_errChain (d : Def) (f : Fsm) (e : EType) (data : Data) :
    (nested d f e data).2.1 ≠ .errChain := by
  rcases nested_cases d f e data with ⟨l, r, hc, h⟩ | ⟨l, tgt, hc, ⟨x, _, h⟩ | ⟨_, h⟩⟩ <;> rw [h]
  · rcases check_error_kinds d f e data l r hc with h | h | h | h <;> rw [h] <;> nofun
  · nofun
  · nofun

theorem countP_quiet (l : List Action) (h : AllQuiet l) : l.countP Action.isSet = 0 := by
  rw [List.countP_eq_zero]
  intro a ha
  have := h a ha
  cases a <;> first | exact Bool.false_ne_true | cases this

theorem unpackLog_quiet (d : Def) (f : Fsm) : AllQuiet (unpackLog d f) := by
  unfold unpackLog
  split
  · exact exitLog_quiet _ _ _
  · exact AllQuiet.nil

/-! ### pieces of a run

An entry action, the timer of the state entered and a whole pass of the chain loop are pieces of a run: each
takes the block to a block, may end with an exception, and logs.  Pieces follow one another until one fails, so
a property that holds of the empty piece and of two pieces in a row (`RunProp`) holds of `runCbs` and of a pass as
soon as it holds of the single calls they are made of (`runCbs_rule`, `enterState_rule`). -/

structure RunProp (Q : Fsm → Fsm × Option Res × List Action → Prop) : Prop where
  nil : ∀ f, Q f (f, none, [])
  seq : ∀ {f f1 f2 l1 e2 l2}, Q f (f1, none, l1) → Q f1 (f2, e2, l2) → Q f (f2, e2, l1 ++ l2)

/-- one `self.event(…)` of an entry action as a piece: an error ends the action, any other result is logged -/
def sendRun (d : Def) (f : Fsm) (x : Send) : Fsm × Option Res × List Action :=
  ((nested d f x.etype x.data).1,
    if (nested d f x.etype x.data).2.1.isError then some (nested d f x.etype x.data).2.1 else none,
    Action.send x.etype x.data :: (nested d f x.etype x.data).2.2 ++
      if (nested d f x.etype x.data).2.1.isError then []
      else [Action.sendRet ((nested d f x.etype x.data).2.1 == .accepted)])

theorem runSends_cons (d : Def) (f : Fsm) (x : Send) (rest : List Send) :
    runSends d f (x :: rest) =
      match sendRun d f x with
      | (f1, some r, l) => (f1, some r, l)
      | (f1, none, l) => ((runSends d f1 rest).1, (runSends d f1 rest).2.1, l ++ (runSends d f1 rest).2.2) := by
  rw [runSends, sendRun]
  rcases nested d f x.etype x.data with ⟨f1, r, l⟩
  cases hr : r.isError <;> simp [hr]

theorem runCbs_cons (d : Def) (s : State) (seen : Data) (f : Fsm) (w : Who) (sends : List Send)
    (rest : List (Who × List Send)) :
    runCbs d s seen f ((w, sends) :: rest) =
      match runSends d f sends with
      | (f1, some r, l) => (f1, some r, Action.enter w s seen :: l)
      | (f1, none, l) => ((runCbs d s seen f1 rest).1, (runCbs d s seen f1 rest).2.1,
          Action.enter w s seen :: l ++ (runCbs d s seen f1 rest).2.2) := by
  rw [runCbs]
  rcases runSends d f sends with ⟨f1, _ | r, l⟩ <;> rfl

theorem runSends_rule {Q : Fsm → Fsm × Option Res × List Action → Prop} (hQ : RunProp Q) (d : Def)
    (hsend : ∀ f x, Q f (sendRun d f x))
    (f : Fsm) (sends : List Send) :
    Q f (runSends d f sends) := by
  induction sends generalizing f with
  | nil => exact hQ.nil f
  | cons x rest ih =>
    rw [runSends_cons]
    have h1 := hsend f x
    generalize sendRun d f x = y at h1 ⊢
    obtain ⟨f1, _ | r, l⟩ := y
    · exact hQ.seq h1 (ih f1)
    · exact h1

theorem runCbs_rule {Q : Fsm → Fsm × Option Res × List Action → Prop} (hQ : RunProp Q) (d : Def)
    (s : State) (seen : Data)
    (hsend : ∀ f x, Q f (sendRun d f x))
    (henter : ∀ f w, Q f (f, none, [Action.enter w s seen]))
    (f : Fsm) (cbs : List (Who × List Send)) :
    Q f (runCbs d s seen f cbs) := by
  induction cbs generalizing f with
  | nil => exact hQ.nil f
  | cons c rest ih =>
    obtain ⟨w, sends⟩ := c
    rw [runCbs_cons]
    have h1 := hQ.seq (henter f w) (runSends_rule hQ d hsend f sends)
    generalize runSends d f sends = y at h1 ⊢
    obtain ⟨f1, _ | r, l⟩ := y
    · exact hQ.seq h1 (ih f1)
    · exact h1

/-- the timer of the state just entered as a piece; with zero duration the timed event is delivered at once -/
def timerRun (d : Def) (s : State) (f : Fsm) : Fsm × Option Res × List Action :=
  match timedOf d s with
  | none => (f, none, [])
  | some (tev, zero) =>
    if zero then
      ((nested d f tev []).1, if (nested d f tev []).2.1.isError then some (nested d f tev []).2.1 else none,
        Action.startTimer s :: (nested d f tev []).2.2)
    else (f, none, [Action.startTimer s])

/-- how a pass ends, given how its last piece ended and whether a request is pending -/
def stepOf (r : Option Res) (nx : Option Req) : Step :=
  match r with
  | some r => .fail r
  | none => if nx.isSome then .again else .done

theorem enterState_eq (d : Def) (f : Fsm) (cur : Req) (l0 : List Action) :
    enterState d f cur l0 =
      match runCbs d cur.target cur.data { f with next := none, state := some cur.target }
          (entersOf d cur.target) with
      | (f1, some r, l1) => (f1, .fail r, l0 ++ l1)
      | (f1, none, l1) =>
        if f1.next.isSome then (f1, .again, l0 ++ l1)
        else ((timerRun d cur.target f1).1,
          stepOf (timerRun d cur.target f1).2.1 (timerRun d cur.target f1).1.next,
          l0 ++ l1 ++ (timerRun d cur.target f1).2.2) := by
  unfold enterState timerRun
  rcases runCbs d cur.target cur.data { f with next := none, state := some cur.target }
      (entersOf d cur.target) with ⟨f1, _ | r, l1⟩
  · cases hn : f1.next with
    | some x => simp [hn]
    | none =>
      cases ht : timedOf d cur.target with
      | none => simp [stepOf, hn]
      | some tz =>
        obtain ⟨tev, zero⟩ := tz
        cases zero with
        | false => simp [stepOf, hn]
        | true =>
          simp only [hn, if_true, Option.isSome_none, Bool.false_eq_true, if_false]
          generalize nested d f1 tev [] = y
          obtain ⟨f2, r, l3⟩ := y
          cases hr : r.isError <;> cases hn2 : f2.next <;> simp [stepOf]
  · rfl

/-- `Q` holds of a pass of the chain loop: of what the pass adds to the log `l0` it starts with, from the block with
    the state assigned to the block the pass leaves; `r` is how its last piece ended -/
def PassIs (Q : Fsm → Fsm × Option Res × List Action → Prop) (d : Def) (f : Fsm) (cur : Req) (l0 : List Action) :
    Prop :=
  ∃ r rest, (enterState d f cur l0).2.2 = l0 ++ rest ∧
    (enterState d f cur l0).2.1 = stepOf r (enterState d f cur l0).1.next ∧
    Q { f with next := none, state := some cur.target } ((enterState d f cur l0).1, r, rest)

theorem enterState_rule {Q : Fsm → Fsm × Option Res × List Action → Prop} (hQ : RunProp Q) (d : Def)
    (f : Fsm) (cur : Req) (l0 : List Action)
    (hsend : ∀ f x, Q f (sendRun d f x))
    (henter : ∀ f w, Q f (f, none, [Action.enter w cur.target cur.data]))
    (htimer : ∀ f, f.next = none →
      Q f (timerRun d cur.target f)) :
    PassIs Q d f cur l0 := by
  unfold PassIs
  rw [enterState_eq]
  have h1 := runCbs_rule hQ d cur.target cur.data hsend henter
    { f with next := none, state := some cur.target } (entersOf d cur.target)
  generalize runCbs d cur.target cur.data { f with next := none, state := some cur.target }
      (entersOf d cur.target) = y at h1 ⊢
  obtain ⟨f1, _ | r, l1⟩ := y
  · simp only at h1 ⊢
    cases hn : f1.next with
    | some x =>
      simp only [Option.isSome_some, if_true]
      exact ⟨none, l1, rfl, by simp [stepOf, hn], h1⟩
    | none =>
      simp only [Option.isSome_none, Bool.false_eq_true, if_false]
      exact ⟨_, _, List.append_assoc .., rfl, hQ.seq h1 (htimer f1 hn)⟩
  · exact ⟨some r, l1, rfl, rfl, h1⟩

/-- what every piece does: it keeps state, output and flag, a pending request keeps a declared target, the log
    is quiet, and it fails only with an error other than the chain limit -/
def Plain (d : Def) (f : Fsm) (o : Fsm × Option Res × List Action) : Prop :=
  Same f o.1 ∧ (d.toTables.WF → NextOk d f → NextOk d o.1) ∧ AllQuiet o.2.2 ∧
    ∀ x, o.2.1 = some x → x.isError = true ∧ x ≠ .errChain

theorem plain_runProp (d : Def) : RunProp (Plain d) where
  nil f := ⟨Same.refl f, fun _ h => h, AllQuiet.nil, nofun⟩
  seq a b := ⟨a.1.trans b.1, fun w h => b.2.1 w (a.2.1 w h), a.2.2.1.append b.2.2.1, b.2.2.2⟩

theorem plain_nested (d : Def) (f : Fsm) (e : EType) (data : Data) (pre : Action) (post : List Action)
    (hpre : pre.quiet = true) (hpost : AllQuiet post) :
    Plain d f ((nested d f e data).1,
      if (nested d f e data).2.1.isError then some (nested d f e data).2.1 else none,
      pre :: (nested d f e data).2.2 ++ post) := by
  refine ⟨nested_same d f e data, fun hwf => nested_nextOk d hwf f e data,
    AllQuiet.cons hpre ((nested_quiet d f e data).append hpost), ?_⟩
  intro x hx
  split at hx
  · next h => cases hx; exact ⟨h, nested_ne_errChain d f e data⟩
  · cases hx

theorem plain_sendRun (d : Def) (f : Fsm) (x : Send) :
    Plain d f (sendRun d f x) := by
  refine plain_nested d f x.etype x.data _ _ rfl ?_
  split
  · exact AllQuiet.nil
  · exact AllQuiet.cons rfl AllQuiet.nil

theorem plain_timerRun (d : Def) (s : State) (f : Fsm) :
    Plain d f (timerRun d s f) := by
  unfold timerRun
  split
  · exact (plain_runProp d).nil f
  · split
    · next tev _ _ _ =>
      have := plain_nested d f tev [] (.startTimer s) [] rfl AllQuiet.nil
      rwa [List.append_nil] at this
    · exact ⟨Same.refl f, fun _ h => h, AllQuiet.cons rfl AllQuiet.nil, nofun⟩

theorem plain_quiet (d : Def) (f : Fsm) (a : Action) (h : a.quiet = true) : Plain d f (f, none, [a]) :=
  ⟨Same.refl f, fun _ h => h, AllQuiet.cons h AllQuiet.nil, nofun⟩

theorem runCbs_plain (d : Def) (s : State) (seen : Data) (f : Fsm) (cbs : List (Who × List Send)) :
    Plain d f (runCbs d s seen f cbs) :=
  runCbs_rule (plain_runProp d) d s seen (plain_sendRun d) (fun f _ => plain_quiet d f _ rfl) f cbs

theorem runCbs_same (d : Def) (s : State) (seen : Data) (f : Fsm) (cbs : List (Who × List Send)) :
    Same f (runCbs d s seen f cbs).1 :=
  (runCbs_plain d s seen f cbs).1

theorem enterState_plain (d : Def) (f : Fsm) (cur : Req) (l0 : List Action) :
    PassIs (Plain d) d f cur l0 :=
  enterState_rule (plain_runProp d) d f cur l0 (plain_sendRun d) (fun f _ => plain_quiet d f _ rfl)
    (fun f _ => plain_timerRun d cur.target f)

theorem iter_eq (d : Def) (f : Fsm) (cur : Req) :
    iter d f cur =
      ((enterState d f (unpack f cur) (unpackLog d f ++ [Action.setState (unpack f cur).target])).1,
        unpack f cur,
       (enterState d f (unpack f cur) (unpackLog d f ++ [Action.setState (unpack f cur).target])).2.1,
       (enterState d f (unpack f cur) (unpackLog d f ++ [Action.setState (unpack f cur).target])).2.2) := by
  unfold iter
  rfl

theorem loop_succ (d : Def) (n : Nat) (f : Fsm) (cur : Req) :
    loop d (n + 1) f cur =
      match enterState d f (unpack f cur) (unpackLog d f ++ [Action.setState (unpack f cur).target]) with
      | (f1, .fail r, l) => (f1, some r, l)
      | (f1, .done, l) => (f1, none, l)
      | (f1, .again, l) => ((loop d n f1 (unpack f cur)).1, (loop d n f1 (unpack f cur)).2.1,
          l ++ (loop d n f1 (unpack f cur)).2.2) := by
  rw [loop, iter_eq]
  rcases enterState d f (unpack f cur) (unpackLog d f ++ [Action.setState (unpack f cur).target]) with ⟨f1, st, l⟩
  cases st <;> rfl

/-- what the chain loop `loop d n f cur` does, said of its result `o`.  Every entry is internal and each pass assigns
    the state exactly once, so the `isSet` entries of the log count the passes: at most `n`, and all `n` when the
    chain limit error arises. -/
structure LoopPlain (d : Def) (n : Nat) (f : Fsm) (cur : Req) (o : Fsm × Option Res × List Action) : Prop where
  output : o.1.output = f.output
  active : o.1.active = f.active
  state : o.1.state = f.state ∨ o.1.state.isSome = true
  ended : o.2.1 = none → o.1.next = none ∧ o.1.state.isSome = true
  error : ∀ r, o.2.1 = some r → r.isError = true
  internal : ∀ a ∈ o.2.2, a.internal = true
  count_le : o.2.2.countP Action.isSet ≤ n
  count_eq : o.2.1 = some .errChain → o.2.2.countP Action.isSet = n
  declared : d.toTables.WF → StateOk d f → NextOk d f → cur.target ∈ d.states → StateOk d o.1 ∧ NextOk d o.1

theorem loop_plain (d : Def) (n : Nat) (f : Fsm) (cur : Req) : LoopPlain d n f cur (loop d n f cur) := by
  induction n generalizing f cur with
  | zero =>
    -- `nofun` would do for the empty log as well, but is very slow to check on `a ∈ []`
    exact ⟨rfl, rfl, .inl rfl, nofun, fun r h => by cases h; rfl, fun _ h => absurd h List.not_mem_nil,
      Nat.le_refl _, fun _ => rfl, fun _ hs hn _ => ⟨hs, hn⟩⟩
  | succ n ih =>
    rw [loop_succ]
    obtain ⟨r, rest, hl, hst, ⟨hs, ho, ha⟩, hnx, hq, he⟩ :=
      enterState_plain d f (unpack f cur) (unpackLog d f ++ [Action.setState (unpack f cur).target])
    have ih := ih (enterState d f (unpack f cur) (unpackLog d f ++ [Action.setState (unpack f cur).target])).1
      (unpack f cur)
    generalize enterState d f (unpack f cur) (unpackLog d f ++ [Action.setState (unpack f cur).target]) = y
      at hl hst hs ho ha hnx he ih
    obtain ⟨f1, st, l⟩ := y
    simp only at hl hst hs ho ha hnx ih
    subst hl hst
    have hint : ∀ a ∈ unpackLog d f ++ [Action.setState (unpack f cur).target] ++ rest, a.internal = true := by
      intro a ha'
      simp only [List.mem_append, List.mem_singleton] at ha'
      rcases ha' with (h | h) | h
      · simp [Action.internal, unpackLog_quiet d f a h]
      · rw [h]; rfl
      · simp [Action.internal, hq a h]
    have hcnt : (unpackLog d f ++ [Action.setState (unpack f cur).target] ++ rest).countP Action.isSet = 1 := by
      rw [List.countP_append, List.countP_append, countP_quiet _ (unpackLog_quiet d f), countP_quiet _ hq]
      rfl
    have hdecl : d.toTables.WF → NextOk d f → cur.target ∈ d.states → StateOk d f1 ∧ NextOk d f1 :=
      fun w hn hc => ⟨fun s h => by rw [hs] at h; cases h; exact unpack_target d f cur hn hc, hnx w nofun⟩
    cases r with
    | some x =>
      simp only [stepOf]
      exact ⟨ho, ha, .inr (by rw [hs]; rfl), nofun, fun r h => by cases h; exact (he x rfl).1, hint,
        by rw [hcnt]; omega, fun h => by cases h; exact absurd rfl (he _ rfl).2,
        fun w _ hn hc => hdecl w hn hc⟩
    | none =>
      cases hn1 : f1.next with
      | none =>
        simp only [stepOf, Option.isSome_none, Bool.false_eq_true, if_false]
        exact ⟨ho, ha, .inr (by rw [hs]; rfl), fun _ => ⟨hn1, by rw [hs]; rfl⟩, nofun, hint,
          by rw [hcnt]; omega, nofun, fun w _ hn hc => hdecl w hn hc⟩
      | some x =>
        simp only [stepOf, Option.isSome_some, if_true]
        refine ⟨ih.output.trans ho, ih.active.trans ha, .inr ?_, ih.ended, ih.error, ?_, ?_, ?_, ?_⟩
        · rcases ih.state with h | h
          · rw [h, hs]; rfl
          · exact h
        · intro a ha'
          rcases List.mem_append.mp ha' with h | h
          · exact hint a h
          · exact ih.internal a h
        · rw [List.countP_append, hcnt]; have := ih.count_le; omega
        · intro h; rw [List.countP_append, hcnt, ih.count_eq h]; omega
        · intro w _ hn hc
          have h := hdecl w hn hc
          exact ih.declared w h.1 h.2 (unpack_target d f cur hn hc)

theorem transition_cases (d : Def) (f : Fsm) (e : EType) (data : Data) (tgt : State) :
    (∃ f1 r l1, loop d d.chainLimit { f with active := true } ⟨e, data, tgt⟩ = (f1, some r, l1) ∧
      r.isError = true ∧ f1.output = f.output ∧
      transition d f e data tgt = ({ f1 with active := false }, r, l1)) ∨
    (∃ f1 s l1, loop d d.chainLimit { f with active := true } ⟨e, data, tgt⟩ = (f1, none, l1) ∧
      f1.state = some s ∧ f1.next = none ∧ f1.output = f.output ∧
      transition d f e data tgt =
        ({ (setOutput f1 (calcOutput d s)).1 with active := false }, .accepted,
          l1 ++ (setOutput f1 (calcOutput d s)).2
            ++ [Action.onEnter s (setOutput f1 (calcOutput d s)).1.output])) := by
  unfold transition
  have hp := loop_plain d d.chainLimit { f with active := true } ⟨e, data, tgt⟩
  rcases hl : loop d d.chainLimit { f with active := true } ⟨e, data, tgt⟩ with ⟨f1, _ | r, l1⟩
  · right
    rw [hl] at hp
    obtain ⟨hn, hs⟩ := hp.ended rfl
    simp only at hn hs
    cases hst : f1.state with
    | none => rw [hst] at hs; cases hs
    | some s => exact ⟨f1, s, l1, rfl, hst, hn, hp.output, by simp only [hst]⟩
  · left
    rw [hl] at hp
    exact ⟨f1, r, l1, rfl, hp.error r rfl, hp.output, rfl⟩

theorem ctxEvent_res_of_check_ok (d : Def) (f : Fsm) (e : EType) (data : Data) (l : List Action) (tgt : State)
    (h : check d f e data = (l, .ok tgt)) :
    (ctxEvent d f e data).2.1 = .accepted ∨ (ctxEvent d f e data).2.1.isError = true := by
  cases ha : f.active with
  | true =>
    rw [ctxEvent_active d f e data ha]
    rcases nested_cases d f e data with ⟨l', r, h', _⟩ | ⟨l', tgt', _, ⟨x, _, hh⟩ | ⟨_, hh⟩⟩
    · rw [h] at h'; simp at h'
    · right; rw [hh]; rfl
    · left; rw [hh]
  | false =>
    cases hn : f.next with
    | some x => rw [ctxEvent_stale_next h ha hn]; right; rfl
    | none =>
      rw [ctxEvent_check_ok h ha hn]
      rcases transition_cases d f e data tgt with ⟨f1, r, l1, _, hr, _, ht⟩ | ⟨f1, s, l1, _, _, _, _, ht⟩ <;> rw [ht]
      · right; exact hr
      · left; rfl

theorem run_cons (d : Def) (f : Fsm) (e : EType) (data : Data) (rest : List (EType × Data)) :
    run d f ((e, data) :: rest) =
      ((run d (ctxEvent d f e data).1 rest).1,
        ((ctxEvent d f e data).2.1, (ctxEvent d f e data).2.2) :: (run d (ctxEvent d f e data).1 rest).2) := by
  rw [run]

theorem run_inv (d : Def) (P : Fsm → Prop) (hP : ∀ f e data, P f → P (ctxEvent d f e data).1)
    (f : Fsm) (evs : List (EType × Data)) (h : P f) : P (run d f evs).1 := by
  induction evs generalizing f with
  | nil => exact h
  | cons ev rest ih =>
    obtain ⟨e, data⟩ := ev
    rw [run_cons]
    exact ih _ (hP f e data h)

theorem leaveLog_count (d : Def) (f : Fsm) (data : Data) : (leaveLog d f data).countP Action.isSet = 0 := by
  unfold leaveLog
  split
  · split
    · rfl
    · rw [List.countP_append, countP_quiet _ (exitLog_quiet _ _ _)]; rfl
  · rfl

theorem setOutput_log_count (f : Fsm) (v : Val) : (setOutput f v).2.countP Action.isSet = 0 := by
  rcases setOutput_cases f v with h | h <;> rw [h] <;> rfl

theorem ctxEvent_top (d : Def) (f : Fsm) (e : EType) (data : Data)
    (ha : f.active = false) (hn : f.next = none) :
    (∃ l r, check d f e data = (l, .error r) ∧ AllQuiet l ∧ ctxEvent d f e data = (f, r, l) ∧
      r ≠ .accepted ∧ r ≠ .errChain) ∨
    (∃ l tgt f1 r l1, check d f e data = (l, .ok tgt) ∧ AllQuiet l ∧
      loop d d.chainLimit { f with active := true } ⟨e, data, tgt⟩ = (f1, some r, l1) ∧
      LoopPlain d d.chainLimit { f with active := true } ⟨e, data, tgt⟩ (f1, some r, l1) ∧
      ctxEvent d f e data = ({ f1 with active := false }, r, l ++ leaveLog d f data ++ l1)) ∨
    (∃ l tgt f1 s l1, check d f e data = (l, .ok tgt) ∧ AllQuiet l ∧
      loop d d.chainLimit { f with active := true } ⟨e, data, tgt⟩ = (f1, none, l1) ∧
      LoopPlain d d.chainLimit { f with active := true } ⟨e, data, tgt⟩ (f1, none, l1) ∧
      ctxEvent d f e data =
        ({ (setOutput f (calcOutput d s)).1 with state := some s, next := none, active := false }, .accepted,
          l ++ leaveLog d f data ++ l1 ++ (setOutput f (calcOutput d s)).2
            ++ [Action.onEnter s (setOutput f (calcOutput d s)).1.output])) := by
  have hq := check_quiet d f e data
  rcases hc : check d f e data with ⟨l, r | tgt⟩ <;> rw [hc] at hq
  · left
    refine ⟨l, r, rfl, hq, ctxEvent_check_error hc, ?_, ?_⟩ <;>
      rcases check_error_kinds d f e data l r hc with h | h | h | h <;> rw [h] <;> simp
  · right
    rw [ctxEvent_check_ok hc ha hn]
    have hp := loop_plain d d.chainLimit { f with active := true } ⟨e, data, tgt⟩
    rcases transition_cases d f e data tgt with ⟨f1, r, l1, hlo, _, _, htr⟩ | ⟨f1, s, l1, hlo, hs, hn1, ho, htr⟩ <;>
      rw [hlo] at hp
    · left; exact ⟨l, tgt, f1, r, l1, rfl, hq, hlo, hp, by rw [htr]⟩
    · right
      refine ⟨l, tgt, f1, s, l1, rfl, hq, hlo, hp, ?_⟩
      rw [htr]
      have hcg := setOutput_log_congr f f1 (calcOutput d s) ho
      have hsm := setOutput_frame f1 (calcOutput d s)
      simp only [hcg.1, hcg.2, List.append_assoc]
      congr 1
      · rw [Fsm.mk.injEq]
        exact ⟨hsm.1.trans hs, rfl, rfl, hsm.2.1.trans hn1⟩

/-! ### which event data an action reads

`attrRun` is a checker of logs that knows nothing about the FSM definition.  It walks the log
of ONE top-level event and tracks
* `cur`  – the data of the event that caused the state entered last (initially: the data of the
           top-level event),
* `pend` – the data of an accepted chained request that has not been executed yet
           (set when `self.event()` of an entry action returned True, or by a timer of zero duration,
           whose timed event carries no data),
* `chk`  – the data of the event whose acceptance is being decided inside an entry action.
A condition must read the data of the event being decided, an exit action the data of the event
that makes the FSM leave the state (the pending request for an intermediate state), an entry action
the data of the event that caused the entry. -/

structure ASt where
  cur : Data
  pend : Option Data
  chk : Option Data
  deriving DecidableEq, Repr

def attrStep (st : ASt) : Action → Option ASt
  | .cond _ _ seen => if seen = st.chk.getD st.cur then some st else none
  | .exit _ _ seen => if seen = st.pend.getD st.cur then some st else none
  | .enter _ _ seen => if seen = st.cur then some st else none
  | .setState _ => some ⟨st.pend.getD st.cur, none, none⟩
  | .send _ data => some { st with chk := some data }
  | .sendRet r => some { st with pend := if r then st.chk else st.pend, chk := none }
  | .startTimer _ => some { st with pend := some [], chk := some [] }
  | _ => some st

def attrRun : ASt → List Action → Option ASt
  | st, [] => some st
  | st, a :: l => (attrStep st a).bind (fun s => attrRun s l)

theorem attrRun_append (st : ASt) (a b : List Action) :
    attrRun st (a ++ b) = (attrRun st a).bind (fun s => attrRun s b) := by
  induction a generalizing st with
  | nil => rfl
  | cons x xs ih =>
    simp only [List.cons_append, attrRun]
    cases attrStep st x with
    | none => rfl
    | some s => simp [ih]

theorem attrRun_append_some (st st1 : ASt) (a b : List Action) (h : attrRun st a = some st1) :
    attrRun st (a ++ b) = attrRun st1 b := by
  rw [attrRun_append, h]; rfl

theorem attrRun_cons (st : ASt) (a : Action) (l : List Action) :
    attrRun st (a :: l) = (attrStep st a).bind (fun s => attrRun s l) := rfl

theorem attrRun_fixed (st : ASt) (l : List Action) (h : ∀ a ∈ l, attrStep st a = some st) :
    attrRun st l = some st := by
  induction l with
  | nil => rfl
  | cons x xs ih =>
    rw [attrRun_cons, h x List.mem_cons_self]
    exact ih fun a ha => h a (List.mem_cons_of_mem _ ha)

theorem attrRun_append_fixed (st : ASt) (a b : List Action) (h : ∀ s, ∀ x ∈ b, attrStep s x = some s) :
    (attrRun st (a ++ b)).isSome = (attrRun st a).isSome := by
  rw [attrRun_append]
  cases attrRun st a with
  | none => rfl
  | some s => exact congrArg Option.isSome (attrRun_fixed s b (h s))

theorem attrRun_condLog (st : ASt) (d : Def) (e : EvName) (seen : Data) (h : st.chk.getD st.cur = seen) :
    attrRun st (condLog d e seen) = some st :=
  attrRun_fixed st _ fun a ha => by
    obtain ⟨c, _, rfl⟩ := List.mem_map.mp ha
    simp only [attrStep, h, if_true]

theorem attrRun_exitLog (st : ASt) (d : Def) (s : State) (seen : Data) (h : st.pend.getD st.cur = seen) :
    attrRun st (exitLog d s seen) = some st :=
  attrRun_fixed st _ fun a ha => by
    obtain ⟨c, _, rfl⟩ := List.mem_map.mp ha
    simp only [attrStep, h, if_true]

theorem attrRun_check (st : ASt) (d : Def) (f : Fsm) (e : EType) (data : Data)
    (h : st.chk.getD st.cur = data) : attrRun st (check d f e data).1 = some st := by
  rcases check_log d f e data with hl | ⟨n, s, hl⟩ | ⟨n, _, hl⟩ <;> rw [hl]
  · rfl
  · rfl
  · exact attrRun_condLog st d n data h

/-- if a request is pending the checker holds its data -/
def Knows (pend : Option Data) (f : Fsm) : Prop := ∀ r, f.next = some r → pend = some r.data

/-- the checker accepts the piece from any state that knows the pending request and takes `seen` for the data
    of the event that caused the current state, and ends in such a state.  After the start of a timer the
    checker expects a request without data whether or not one is posted, which is why `Knows` says nothing of a
    block without a pending request. -/
def Reads (seen : Data) (f : Fsm) (o : Fsm × Option Res × List Action) : Prop :=
  ∀ st, Knows st.pend f → st.cur = seen →
    ∃ st', attrRun st o.2.2 = some st' ∧ st'.cur = seen ∧ (o.2.1 = none → Knows st'.pend o.1)

theorem reads_runProp (seen : Data) : RunProp (Reads seen) where
  nil _ st hk hc := ⟨st, rfl, hc, fun _ => hk⟩
  seq a b st hk hc := by
    obtain ⟨st1, h1, c1, k1⟩ := a st hk hc
    obtain ⟨st2, h2, c2, k2⟩ := b st1 (k1 rfl) c1
    exact ⟨st2, by rw [attrRun_append_some _ _ _ _ h1]; exact h2, c2, k2⟩

theorem reads_nested (d : Def) (f : Fsm) (e : EType) (data : Data) (st : ASt) (hk : Knows st.pend f)
    (hc : st.chk = some data) :
    attrRun st (nested d f e data).2.2 = some st ∧
    ((nested d f e data).2.1.isError = false →
      Knows (if (nested d f e data).2.1 == .accepted then some data else st.pend) (nested d f e data).1) := by
  refine ⟨by rw [nested_log]; exact attrRun_check st d f e data (by rw [hc]; rfl), ?_⟩
  rcases nested_cases d f e data with ⟨l, r, hck, h⟩ | ⟨l, tgt, _, ⟨x, _, h⟩ | ⟨_, h⟩⟩ <;> rw [h]
  · intro _
    have : (r == Res.accepted) = false := by
      rcases check_error_kinds d f e data l r hck with h | h | h | h <;> rw [h] <;> rfl
    simp only [this]
    exact hk
  · intro h; cases h
  · intro _ r hr
    cases hr
    rfl

theorem reads_sendRun (d : Def) (seen : Data) (f : Fsm) (x : Send) :
    Reads seen f (sendRun d f x) := by
  intro st hk hc
  obtain ⟨h1, h2⟩ := reads_nested d f x.etype x.data { st with chk := some x.data } hk rfl
  unfold sendRun
  simp only [List.cons_append, attrRun_cons, attrStep, Option.bind_some]
  rw [attrRun_append_some _ _ _ _ h1]
  cases hr : (nested d f x.etype x.data).2.1.isError with
  | true => exact ⟨_, rfl, hc, by simp⟩
  | false => exact ⟨_, rfl, hc, fun _ => h2 hr⟩

theorem reads_timerRun (d : Def) (seen : Data) (s : State) (f : Fsm) (hn : f.next = none) :
    Reads seen f (timerRun d s f) := by
  intro st hk hc
  unfold timerRun
  split
  · exact ⟨st, rfl, hc, fun _ => hk⟩
  · split
    · next tev _ _ _ =>
      obtain ⟨h1, h2⟩ := reads_nested d f tev [] { st with pend := some [], chk := some [] }
        (by intro r hr; rw [hn] at hr; cases hr) rfl
      refine ⟨{ st with pend := some [], chk := some [] },
        by simp only [attrRun_cons, attrStep, Option.bind_some]; exact h1, hc, fun hr => ?_⟩
      have := h2 (by revert hr; cases (nested d f tev []).2.1.isError <;> simp)
      rwa [ite_self] at this
    · exact ⟨_, rfl, hc, fun _ r hr => by rw [hn] at hr; cases hr⟩

theorem enterState_reads (d : Def) (f : Fsm) (cur : Req) (l0 : List Action) :
    PassIs (Reads cur.data) d f cur l0 :=
  enterState_rule (reads_runProp cur.data) d f cur l0 (reads_sendRun d cur.data)
    (fun f w st hk hc => ⟨st, by simp [attrRun, attrStep, hc], hc, fun _ => hk⟩)
    (reads_timerRun d cur.data cur.target)

theorem attr_loop (d : Def) (n : Nat) (f : Fsm) (cur : Req) (st : ASt)
    (hi : st.pend = f.next.map (·.data)) (hc : f.next = none → st.cur = cur.data) :
    (attrRun st (loop d n f cur).2.2).isSome = true := by
  induction n generalizing f cur st with
  | zero => rfl
  | succ n ih =>
    rw [loop_succ]
    let st1 : ASt := ⟨st.pend.getD st.cur, none, none⟩
    have hcur : st1.cur = (unpack f cur).data := by
      unfold unpack
      cases hn : f.next with
      | none => simp only [st1]; rw [hi, hn]; exact hc hn
      | some nx => simp only [st1]; rw [hi, hn]; rfl
    have hl0 : attrRun st (unpackLog d f ++ [Action.setState (unpack f cur).target]) = some st1 := by
      have hx : attrRun st (unpackLog d f) = some st := by
        unfold unpackLog
        split
        · next nx s hn _ => exact attrRun_exitLog st d s nx.data (by rw [hi, hn]; rfl)
        · rfl
      rw [attrRun_append_some st st _ _ hx]; rfl
    obtain ⟨r, rest, hl, hst, hr⟩ :=
      enterState_reads d f (unpack f cur) (unpackLog d f ++ [Action.setState (unpack f cur).target])
    obtain ⟨st', h1, _, hk⟩ := hr st1 nofun hcur
    have hfull := (attrRun_append_some st st1 _ rest hl0).trans h1
    generalize enterState d f (unpack f cur) (unpackLog d f ++ [Action.setState (unpack f cur).target]) = y
      at hl hst hk
    obtain ⟨f1, sp, l⟩ := y
    simp only at hl hst hk
    subst hl hst
    cases r with
    | some x => simp only [stepOf]; rw [hfull]; rfl
    | none =>
      cases hn1 : f1.next with
      | none => simp only [stepOf, Option.isSome_none, Bool.false_eq_true, if_false]; rw [hfull]; rfl
      | some x =>
        simp only [stepOf, Option.isSome_some, if_true]
        rw [attrRun_append_some st st' _ _ hfull]
        exact ih f1 (unpack f cur) st' (by rw [hn1]; exact hk rfl x hn1) (fun h => by rw [hn1] at h; cases h)

theorem leaveLog_attr (d : Def) (f : Fsm) (data : Data) (st : ASt) (h : st.pend.getD st.cur = data) :
    attrRun st (leaveLog d f data) = some st := by
  unfold leaveLog
  split
  · split
    · rfl
    · rw [attrRun_append_some st st _ _ (attrRun_exitLog st d _ data h)]; rfl
  · rfl

theorem setOutput_log_attr (st : ASt) (f : Fsm) (v : Val) : ∀ a ∈ (setOutput f v).2, attrStep st a = some st := by
  intro a ha
  rcases setOutput_cases f v with h | h <;> rw [h] at ha
  · cases ha
  · cases List.mem_singleton.mp ha
    rfl

theorem leaveLog_stateEvents (d : Def) (f : Fsm) (data : Data) :
    (leaveLog d f data).filter Action.stateEvent =
      match f.state with
      | some s => if f.output.isUndef then [] else [Action.onExit s f.output]
      | none => [] := by
  unfold leaveLog
  cases hs : f.state with
  | none => rfl
  | some s =>
    simp only
    cases hu : f.output.isUndef with
    | true => rfl
    | false =>
      simp only [Bool.false_eq_true, if_false]
      rw [List.filter_append, filter_stateEvent_quiet _ (exitLog_quiet _ _ _)]; rfl

theorem setOutput_stateEvents (f : Fsm) (v : Val) :
    (setOutput f v).2.filter Action.stateEvent = (setOutput f v).2 := by
  rcases setOutput_cases f v with h | h <;> rw [h] <;> rfl

def genEType : Gen.TEvent → EType
  | .ev n => .ev n
  | .goto s => .goto s

/-- the extracted `_ct_transition` / `_ct_timed_event` read back as class attributes: one rule with a single
    from-state (or the any-state rule) per table entry -/
def genSpec (states : List String) (trans : List (String × Option String × Option String))
    (timed : List (String × Gen.TEvent × Gen.Dur)) : Spec :=
  { states := states,
    rules := trans.map fun r => ⟨r.1, r.2.1.map fun s => [s], r.2.2⟩,
    timers := timed.map fun t => (t.1, genEType t.2.1, t.2.2 == Gen.Dur.us 0) }

end Edzed.Fsm
