/-
Lemmas about the model of the constructors (EdzedModel/BlkCtor.lean).  The heap as a frame: reading any attribute of
any object after a store (`World.get?_setAttr`), the stores into a new object (`alloc_setAttrs`), what the registration
of a block and the `x_…` loop leave alone (`addSelf_get?`, `storeX_keeps`).  On it: the name `Block.__init__` has
stored when it succeeds, the mark of an external source with the automatic names and the reserved-name rule
(`accepted_name_marked_iff`), and what `ExtEvent.__init__` has stored.
-/
import EdzedModel.BlkCtor
import EdzedProofs.Cond

namespace Edzed.BlkCtor
open BlkCtorPy

theorem setAt_eq_modify (h : List Obj) (i : Nat) (k : String) (v : Attr) :
    setAt h i k v = h.modify i (·.set k v) := by
  induction h generalizing i with
  | nil => cases i <;> rfl
  | cons o r ih => cases i <;> simp [setAt, ih]

theorem setAt_length (h : List Obj) (i : Nat) (k : String) (v : Attr) : (setAt h i k v).length = h.length := by
  rw [setAt_eq_modify, List.length_modify]

theorem getD_setAt (h : List Obj) (i j : Nat) (k : String) (v : Attr) :
    (setAt h i k v).getD j {} = if i = j ∧ j < h.length then (h.getD j {}).set k v else h.getD j {} := by
  rw [setAt_eq_modify, List.getD_eq_getElem?_getD, List.getElem?_modify, List.getD_eq_getElem?_getD]
  by_cases hj : j < h.length
  · rw [List.getElem?_eq_getElem hj]
    by_cases hij : i = j <;> simp [hij, hj]
  · rw [List.getElem?_eq_none (by omega)]
    simp [hj]

theorem setAt_last (h : List Obj) (o : Obj) (k : String) (v : Attr) :
    setAt (h ++ [o]) h.length k v = h ++ [o.set k v] := by
  induction h with
  | nil => rfl
  | cons a r ih => simp [setAt, ih]

theorem getKey_setKey_same (l : List (String × Attr)) (k : String) (v : Attr) : getKey (setKey l k v) k = some v := by
  induction l with
  | nil => simp [setKey, getKey]
  | cons p r ih =>
    by_cases hp : (p.1 == k) = true
    · simp [setKey, getKey, hp]
    · simp [setKey, getKey, hp, ih]

theorem getKey_setKey_other (l : List (String × Attr)) (k k' : String) (v : Attr) (hk : k ≠ k') :
    getKey (setKey l k' v) k = getKey l k := by
  have hkk : (k' == k) = false := by simp [Ne.symm hk]
  induction l with
  | nil => simp [setKey, getKey, hkk]
  | cons p r ih =>
    by_cases hp : (p.1 == k') = true
    · have hpk : (p.1 == k) = false := by
        have : p.1 = k' := by simpa using hp
        simp [this, Ne.symm hk]
      simp [setKey, getKey, hp, hkk, hpk]
    · by_cases hq : (p.1 == k) = true <;> simp [setKey, getKey, hp, hq, ih]

theorem setKey_fresh (l : List (String × Attr)) (k : String) (v : Attr) (h : ∀ p ∈ l, p.1 ≠ k) :
    setKey l k v = l ++ [(k, v)] := by
  induction l with
  | nil => rfl
  | cons p r ih =>
    have hp : (p.1 == k) = false := by simpa using h p (List.mem_cons_self ..)
    simp only [setKey, hp, Bool.false_eq_true, if_false, List.cons_append]
    rw [ih fun q hq => h q (List.mem_cons_of_mem _ hq)]

theorem Obj.get?_set_same (o : Obj) (k : String) (v : Attr) : (o.set k v).get? k = some v :=
  getKey_setKey_same _ _ _

theorem Obj.get?_set_other (o : Obj) (k k' : String) (v : Attr) (hk : k ≠ k') : (o.set k' v).get? k = o.get? k :=
  getKey_setKey_other _ _ _ _ hk

namespace World

theorem setAttr_heap_length (w : World) (i : Nat) (k : String) (v : Attr) :
    (w.setAttr i k v).heap.length = w.heap.length := setAt_length _ _ _ _

theorem get?_setAttr (w : World) (i j : Nat) (k k' : String) (v : Attr) :
    (w.setAttr i k' v).get? j k = if i = j ∧ j < w.heap.length ∧ k = k' then some v else w.get? j k := by
  unfold get? obj setAttr
  rw [getD_setAt]
  by_cases h : i = j ∧ j < w.heap.length
  · rw [if_pos h]
    by_cases hk : k = k'
    · rw [if_pos ⟨h.1, h.2, hk⟩, hk]; exact Obj.get?_set_same _ _ _
    · rw [if_neg fun c => hk c.2.2]; exact Obj.get?_set_other _ _ _ _ hk
  · rw [if_neg h, if_neg fun c => h ⟨c.1, c.2.1⟩]

theorem get?_setAttr_same (w : World) (i : Nat) (k : String) (v : Attr) (hi : i < w.heap.length) :
    (w.setAttr i k v).get? i k = some v := by
  rw [get?_setAttr, if_pos ⟨rfl, hi, rfl⟩]

theorem get?_setAttr_other_key (w : World) (i j : Nat) (k k' : String) (v : Attr) (hk : k ≠ k') :
    (w.setAttr i k' v).get? j k = w.get? j k := by
  rw [get?_setAttr, if_neg fun c => hk c.2.2]

theorem get?_setAttr_other_obj (w : World) (i j : Nat) (k k' : String) (v : Attr) (hij : j ≠ i) :
    (w.setAttr i k' v).get? j k = w.get? j k := by
  rw [get?_setAttr, if_neg fun c => hij c.1.symm]

end World

def goodKey (k : String) : Bool := strStartsWith k "x_" || strStartsWith k "X_"

theorem storeX_cons (w : World) (self : Nat) (k : String) (v : Arg Nat) (r : Kw (Arg Nat)) :
    storeX w self ((k, v) :: r) =
      if goodKey k then storeX (w.setAttr self k (.arg v)) self r else (w, .error "TypeError") := rfl

theorem storeX_bad (w : World) (self : Nat) (kw : Kw (Arg Nat)) (h : kw.any (fun p => !goodKey p.1) = true) :
    ∃ w', storeX w self kw = (w', .error "TypeError") := by
  induction kw generalizing w with
  | nil => simp at h
  | cons p r ih =>
    obtain ⟨k, v⟩ := p
    rw [storeX_cons]
    cases hg : goodKey k with
    | true => exact ih _ (by simpa [hg] using h)
    | false => exact ⟨w, rfl⟩

theorem storeX_keeps (w : World) (self : Nat) (kw : Kw (Arg Nat)) (j : Nat) (k : String) (hk : goodKey k = false) :
    (storeX w self kw).1.get? j k = w.get? j k ∧ (storeX w self kw).1.heap.length = w.heap.length := by
  induction kw generalizing w with
  | nil => exact ⟨rfl, rfl⟩
  | cons p r ih =>
    obtain ⟨k', v⟩ := p
    rw [storeX_cons]
    cases hg : goodKey k' with
    | true =>
      have hne : k ≠ k' := fun e => by rw [e, hg] at hk; cases hk
      have := ih (w.setAttr self k' (.arg v))
      exact ⟨this.1.trans (World.get?_setAttr_other_key _ _ _ _ _ _ hne),
        this.2.trans (World.setAttr_heap_length _ _ _ _)⟩
    | false => exact ⟨rfl, rfl⟩

theorem obj_alloc (w : World) (o : Obj) : (w.alloc o).1.obj w.heap.length = o := by
  simp [World.alloc, World.obj]

/-- the stores of a constructor, one attribute after the other -/
def setAttrs (w : World) (o : Nat) (kvs : List (String × Attr)) : World :=
  kvs.foldl (fun w p => w.setAttr o p.1 p.2) w

theorem alloc_setAttrs (w : World) (o : Obj) (kvs : List (String × Attr))
    (h : ((o.attrs ++ kvs).map (·.1)).Nodup) :
    setAttrs (w.alloc o).1 w.heap.length kvs = (w.alloc { o with attrs := o.attrs ++ kvs }).1 := by
  induction kvs generalizing o with
  | nil => simp [setAttrs]
  | cons p r ih =>
    have hf : setKey o.attrs p.1 p.2 = o.attrs ++ [p] := by
      apply setKey_fresh
      intro q hq hqp
      simp only [List.map_append, List.map_cons, List.nodup_append, List.nodup_cons] at h
      exact h.2.2 q.1 (List.mem_map_of_mem hq) p.1 (List.mem_cons_self ..) hqp
    have := ih { o with attrs := o.attrs ++ [p] } (by simpa using h)
    simp only [setAttrs, List.foldl_cons, World.alloc, World.setAttr, setAt_last, Obj.set, hf] at this ⊢
    rw [this, List.append_assoc]
    rfl

theorem freshCircuitAttrs_keys (c : Nat) : ((freshCircuitAttrs c).map (·.1)).Nodup := by
  simp only [freshCircuitAttrs, List.map]
  decide

theorem newCircuit_get? (w : World) (k : String) :
    (newCircuit w).1.get? (newCircuit w).2 k = getKey (freshCircuitAttrs w.heap.length) k := by
  unfold newCircuit World.get?
  rw [show (w.alloc _).2 = w.heap.length from rfl, obj_alloc]
  rfl

theorem newCircuit_heap (w : World) : (newCircuit w).1.heap.length = w.heap.length + 1 := by
  simp [newCircuit, World.alloc]

theorem getCircuit_heap_le (w : World) : w.heap.length ≤ (getCircuit w).1.heap.length := by
  unfold getCircuit
  cases w.current with
  | some c => exact Nat.le_refl _
  | none => simp only [newCircuit_heap]; omega

/-- the state of a circuit right after `Circuit.__init__` -/
theorem newCircuit_state (w : World) :
    isReady (newCircuit w).1 (newCircuit w).2 = false
    ∧ (newCircuit w).1.attrIsNone (newCircuit w).2 "_simtask" = true
    ∧ (newCircuit w).1.attrIsNone (newCircuit w).2 "_error" = true
    ∧ (newCircuit w).1.attrTruthy (newCircuit w).2 "_finalized" = false
    ∧ (newCircuit w).1.blocks (newCircuit w).2 = []
    ∧ simtask (newCircuit w).1 (newCircuit w).2 = none := by
  simp only [isReady, World.attrIsNone, World.attrTruthy, World.blocks, simtask, newCircuit_get?]
  refine ⟨?_, ?_, ?_, ?_, ?_, ?_⟩ <;> rfl

theorem goodKey_name : goodKey "name" = false := by decide

theorem addblock_get? (w : World) (c b j : Nat) (k : String) (hk : k ≠ "_blocks") :
    (addblock w c b).1.get? j k = w.get? j k := by
  unfold addblock
  iterate 4 refine ite_elim (P := fun x : World × Except PyExc Unit => x.1.get? j k = w.get? j k) rfl ?_
  exact World.get?_setAttr_other_key _ _ _ _ _ _ hk

theorem addSelf_get? (w : World) (self j : Nat) (k : String) (hk : k ≠ "_blocks") :
    (addSelf w self).1.get? j k = w.get? j k := by
  unfold addSelf
  split
  · rfl
  · exact addblock_get? _ _ _ _ _ hk

/-- whatever way `Block.__init__` ends after `self.name = name`, the name is stored: every later store goes to
    another attribute -/
theorem blockTail_name (w : World) (self : Nat) (nm comment onOutput debug : Arg Nat) (xkw : Kw (Arg Nat))
    (hs : self < w.heap.length) :
    (blockTail w self nm comment onOutput debug xkw).1.get? self "name" = some (.arg nm) := by
  have h1 : (w.setAttr self "name" (.arg nm)).get? self "name" = some (.arg nm) :=
    World.get?_setAttr_same _ _ _ _ hs
  have hk := (storeX_keeps (w.setAttr self "name" (.arg nm)) self xkw self "name" goodKey_name).1
  unfold blockTail
  simp only
  iterate 2 refine ite_elim (P := fun x : World × Except PyExc Unit => x.1.get? self "name" = some (.arg nm)) h1 ?_
  generalize storeX (w.setAttr self "name" (.arg nm)) self xkw = r at hk
  obtain ⟨w2, r2⟩ := r
  cases r2 with
  | error e => exact hk.trans h1
  | ok u =>
    simp only at hk ⊢
    split
    · rw [World.get?_setAttr_other_key _ _ _ _ _ _ (by decide), World.get?_setAttr_other_key _ _ _ _ _ _ (by decide)]
      exact hk.trans h1
    · rw [addSelf_get? _ _ _ _ (by decide)]
      repeat rw [World.get?_setAttr_other_key _ _ _ _ _ _ (by decide)]
      exact hk.trans h1

/-- a successful `Block.__init__` has stored, as `self.name`, what the name rules give -/
theorem blockInit_name_stored (w w' : World) (self : Nat) (name comment onOutput reserved debug : Arg Nat)
    (xkw : Kw (Arg Nat)) (hs : self < w.heap.length)
    (h : blockInit w self name comment onOutput reserved debug xkw = (w', .ok ())) :
    ∃ nm cls names, blockName name reserved cls names = .ok nm ∧ w'.get? self "name" = some (.arg nm) := by
  unfold blockInit at h
  simp only at h
  generalize hw1 : (getCircuit w).1.setAttr self "circuit" (AV.optobj (some (getCircuit w).2)) = w1 at h
  have hs1 : self < w1.heap.length := by
    rw [← hw1, World.setAttr_heap_length]
    exact Nat.lt_of_lt_of_le hs (getCircuit_heap_le w)
  cases hb : blockName name reserved (w1.className self) ((selfTypeBlocks w1 self).map w1.nameOf) with
  | error e => rw [hb] at h; cases h
  | ok nm =>
    rw [hb] at h
    have hn := blockTail_name w1 self nm comment onOutput debug xkw hs1
    simp only at h
    rw [h] at hn
    exact ⟨nm, _, _, hb, hn⟩

/-- a keyword that begins neither with `x_` nor with `X_` makes `Block.__init__` fail -/
theorem blockInit_refuses_keyword (w : World) (self : Nat) (name comment onOutput reserved debug : Arg Nat)
    (xkw : Kw (Arg Nat)) (hbad : xkw.any (fun p => !goodKey p.1) = true) :
    ∃ w' e, blockInit w self name comment onOutput reserved debug xkw = (w', .error e) := by
  unfold blockInit
  simp only
  generalize (getCircuit w).1.setAttr self "circuit" (AV.optobj (some (getCircuit w).2)) = w1
  cases blockName name reserved (w1.className self) ((selfTypeBlocks w1 self).map w1.nameOf) with
  | error e => exact ⟨_, _, rfl⟩
  | ok nm =>
    simp only [blockTail]
    iterate 2 refine ite_elim (P := fun x : World × Except PyExc Unit => ∃ w' e, x = (w', .error e)) ⟨_, _, rfl⟩ ?_
    obtain ⟨w2, h2⟩ := storeX_bad (w1.setAttr self "name" (.arg nm)) self xkw hbad
    rw [h2]
    exact ⟨_, _, rfl⟩

/-- the stored default source of an ExtEvent is marked, for EVERY source string (the empty one included) -/
theorem extSource_marked (s : String) : strStartsWith (extSource s) "_ext_" = true := by
  unfold extSource
  split
  · assumption
  · simp [strStartsWith]

theorem extSource_empty : extSource "" = "_ext_" := by decide

theorem ext_prefix_iff (c suffix : List Char) :
    (['e', 'x', 't', '_'] : List Char).isPrefixOf (c ++ '_' :: suffix)
      = (decide (c = ['e', 'x', 't']) || (['e', 'x', 't', '_'] : List Char).isPrefixOf c) := by
  rcases c with _ | ⟨a, _ | ⟨b, _ | ⟨c, _ | ⟨d, rest⟩⟩⟩⟩ <;> simp [List.isPrefixOf]
  have hc : ∀ (x y : Char), (x == y) = decide (y = x) := by
    intro x y
    by_cases h : y = x
    · subst h; simp
    · have h2 : ¬ x = y := fun e => h e.symm
      simp [h, h2]
  simp [hc]

/-- `_<cls>_<digits>` begins with `_ext_` exactly for the class names `ext` and `ext_…` -/
theorem autoName_marked_iff (cls : String) (names : List String) :
    strStartsWith (autoName cls names) "_ext_"
      = (decide (cls.toList = ['e', 'x', 't']) || strStartsWith cls "ext_") := by
  unfold autoName strStartsWith
  simp only [String.toList_append]
  have h1 : "_ext_".toList = ['_', 'e', 'x', 't', '_'] := by decide
  have h2 : "_".toList = ['_'] := by decide
  have h3 : "ext_".toList = ['e', 'x', 't', '_'] := by decide
  rw [h1, h2, h3]
  simp only [List.singleton_append, List.cons_append, List.isPrefixOf, BEq.rfl, Bool.true_and, List.append_assoc]
  exact ext_prefix_iff _ _

theorem strStartsWith_trans {s q p : String} (hq : strStartsWith q p = true) (h : strStartsWith s q = true) :
    strStartsWith s p = true := by
  unfold strStartsWith at *
  rw [List.isPrefixOf_iff_prefix] at *
  exact hq.trans h

theorem marked_starts_underscore (s : String) (h : strStartsWith s "_ext_" = true) : strStartsWith s "_" = true :=
  strStartsWith_trans (by decide) h

/-- does a name (as stored) begin with the mark of external sources? -/
def argMarked (a : Arg Nat) : Bool :=
  match a.str? with
  | some s => strStartsWith s "_ext_"
  | none => false

/-- THE RESERVED-NAME RULE over all names and all `_reserved` values: an accepted name begins with `_ext_`
    exactly when it is an automatic name of a class called `ext` / `ext_…`, or a given name with the mark that was
    let through by a true `_reserved` -/
theorem accepted_name_marked_iff (name reserved : Arg Nat) (cls : String) (names : List String) (nm : Arg Nat)
    (h : blockName name reserved cls names = .ok nm) :
    argMarked nm = true ↔
      (name.isNone = true ∧ (cls.toList = ['e', 'x', 't'] ∨ strStartsWith cls "ext_" = true))
      ∨ (name.isNone = false ∧ reserved.truthy = true ∧ argMarked name = true) := by
  unfold blockName at h
  by_cases hn : name.isNone = true
  · simp only [hn, ↓reduceIte, Except.ok.injEq] at h
    subst h
    have : argMarked (Arg.val (Val.str (autoName cls names)) : Arg Nat) = strStartsWith (autoName cls names) "_ext_" := rfl
    rw [this, autoName_marked_iff]
    simp [hn]
  · simp only [hn, Bool.false_eq_true, ↓reduceIte] at h
    unfold checkName at h
    cases hs : name.str? with
    | none => rw [hs] at h; cases h
    | some s =>
      rw [hs] at h
      by_cases he : (s == "") = true
      · simp only [he, ↓reduceIte] at h; cases h
      · simp only [he, Bool.false_eq_true, ↓reduceIte] at h
        by_cases hcond : (strStartsWith s "_" && !reserved.truthy) = true
        · simp only [hcond, ↓reduceIte] at h; cases h
        · simp only [hcond, Bool.false_eq_true, ↓reduceIte, Except.ok.injEq] at h
          subst h
          have hm : argMarked name = strStartsWith s "_ext_" := by unfold argMarked; rw [hs]
          rw [hm]
          constructor
          · intro hmk
            right
            refine ⟨by simpa using hn, ?_, hmk⟩
            have := marked_starts_underscore s hmk
            simpa [this] using hcond
          · intro hh
            rcases hh with hh | hh
            · exact absurd hh.1 hn
            · exact hh.2.2

theorem extDest_heap_le (w : World) (dest : Arg Nat) : w.heap.length ≤ (extDest w dest).1.heap.length := by
  unfold extDest
  cases dest.str? with
  | some n =>
    simp only
    cases findblock (getCircuit w).1 (getCircuit w).2 n <;> exact getCircuit_heap_le w
  | none =>
    cases dest with
    | val v => exact Nat.le_refl _
    | obj o => simp only; split <;> exact Nat.le_refl _

/-- a successful `ExtEvent.__init__` was given a str as `source` and has stored the MARKED source -/
theorem extInit_source_stored (w w' : World) (self : Nat) (dest etype source : Arg Nat)
    (h : extInit w self dest etype source = (w', .ok ())) :
    ∃ s, source.str? = some s ∧
      (self < w.heap.length → w'.get? self "_source" = some (.str (extSource s))) := by
  unfold extInit at h
  have hle := extDest_heap_le w dest
  generalize extDest w dest = r at h hle
  obtain ⟨w1, r1⟩ := r
  cases r1 with
  | error e => cases h
  | ok d =>
    simp only at h hle
    split at h
    · cases h
    · cases he : etype.str? with
      | none => rw [he] at h; cases h
      | some e =>
        rw [he] at h
        simp only at h
        split at h
        · cases h
        · cases hs : source.str? with
          | none => rw [hs] at h; cases h
          | some s =>
            rw [hs] at h
            simp only [Prod.mk.injEq, and_true] at h
            subst h
            refine ⟨s, rfl, fun hlt => ?_⟩
            apply World.get?_setAttr_same
            rw [World.setAttr_heap_length, World.setAttr_heap_length]
            exact Nat.lt_of_lt_of_le hlt hle

/-- a `source` that is not a str (None included) is refused, whatever the other arguments are -/
theorem extInit_non_string_source (w : World) (self : Nat) (dest etype source : Arg Nat) (hs : source.str? = none) :
    ∃ w' e, extInit w self dest etype source = (w', .error e) := by
  cases hr : extInit w self dest etype source with
  | mk w' r =>
    cases r with
    | error e => exact ⟨w', e, rfl⟩
    | ok u =>
      obtain ⟨s, h1, _⟩ := extInit_source_stored w w' self dest etype source hr
      rw [hs] at h1; cases h1

end Edzed.BlkCtor
