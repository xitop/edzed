/-
The theory behind C04 (timed FSM states).  `Frame` / `FrameO` / `Kept` say what the parts of `_ctx_event` that do not touch
timers leave alone; `ES` and `EL` what one round and the whole chain loop guarantee when they start without a pending
timer (`enterLoop_rule` is the one induction along that loop).  `Inv` is the invariant ("the pending timer is the current
one, every delivery on time and in its own visit"), `InvW` its part that also holds inside `deliver` and
`_restore_state`.  `deliver_cases` lists the outcomes of an event, `Step` the eight things a block can do between two
looks of the simulator, `run_steps` reaches every state of a simulation by them: a property of `run` is proved by cases
on `Step` (`inv_run`, `run_stopped`, `quiet_run`, and `tout_run` in TimerBlkTie.lean).  At the end `restoreOld`, the
counterexample to the order of statements in `_restore_state`.
-/
import EdzedModel.FsmTimer

namespace Edzed.FsmTimer

/-- the `fire` entries of a log: (time, handle, epoch at delivery) -/
def fires : List (Nat × Entry) → List (Nat × Handle × Nat)
  | [] => []
  | (t, .fire h ep _) :: l => (t, h, ep) :: fires l
  | _ :: l => fires l

theorem fires_append (a b : List (Nat × Entry)) : fires (a ++ b) = fires a ++ fires b := by
  induction a with
  | nil => rfl
  | cons x l ih =>
    obtain ⟨t, e⟩ := x
    cases e <;> simp [fires, ih]

def Entry.isFire : Entry → Bool
  | .fire .. => true
  | _ => false

theorem isSome_false_none {α : Type} {o : Option α} (h : ¬ o.isSome = true) : o = none := by
  cases o with
  | none => rfl
  | some _ => simp at h

/-- `s'` differs from `s` only in fields the timers do not depend on, and no timed event was
    delivered in between -/
structure Frame (s s' : St) : Prop where
  timers : s'.timers = s.timers
  active : s'.active = s.active
  epoch : s'.epoch = s.epoch
  now : s'.now = s.now
  stopped : s'.stopped = s.stopped
  nextId : s'.nextId = s.nextId
  state : s'.state = s.state
  fires : fires s'.log = fires s.log

theorem Frame.refl (s : St) : Frame s s := ⟨rfl, rfl, rfl, rfl, rfl, rfl, rfl, rfl⟩

theorem Frame.trans {a b c : St} (h1 : Frame a b) (h2 : Frame b c) : Frame a c :=
  ⟨h2.timers.trans h1.timers, h2.active.trans h1.active, h2.epoch.trans h1.epoch,
   h2.now.trans h1.now, h2.stopped.trans h1.stopped, h2.nextId.trans h1.nextId,
   h2.state.trans h1.state, h2.fires.trans h1.fires⟩

theorem frame_emit (s : St) (e : Entry) (h : e.isFire = false) : Frame s (s.emit e) := by
  refine ⟨rfl, rfl, rfl, rfl, rfl, rfl, rfl, ?_⟩
  simp only [St.emit, fires_append]
  cases e <;> simp_all [fires, Entry.isFire]

theorem frame_fail (s : St) (k : ErrKind) : Frame s (s.fail k) := by
  unfold St.fail; split <;> exact ⟨rfl, rfl, rfl, rfl, rfl, rfl, rfl, rfl⟩

theorem fail_out (s : St) (k : ErrKind) : (s.fail k).out = s.out := by
  unfold St.fail; split <;> rfl

theorem fail_failed (s : St) (k : ErrKind) : (s.fail k).failed ≠ none := by
  unfold St.fail; split
  · next h => simp [h]
  · simp

theorem fail_eq_self (s : St) (k : ErrKind) (h : s.failed = some k) : s.fail k = s := by
  simp [St.fail, h]

/-- `Frame`, and the output is the same: what the parts of a round before `finish` keep (nothing but `set_output`
    touches the output) -/
structure FrameO (s s' : St) : Prop extends Frame s s' where
  out : s'.out = s.out

theorem FrameO.refl (s : St) : FrameO s s := ⟨Frame.refl s, rfl⟩

theorem FrameO.trans {a b c : St} (h1 : FrameO a b) (h2 : FrameO b c) : FrameO a c :=
  ⟨h1.toFrame.trans h2.toFrame, h2.out.trans h1.out⟩

theorem frameO_emit (s : St) (e : Entry) (h : e.isFire = false) : FrameO s (s.emit e) := ⟨frame_emit s e h, rfl⟩

theorem frameO_fail (s : St) (k : ErrKind) : FrameO s (s.fail k) := ⟨frame_fail s k, fail_out s k⟩

/-- `FrameO`, and the failure mark and the chained event are the same; what may differ is what the checks and the
    conditions of `_ctx_event`, and the environment, change: the stored input, the environment flag, `fsm_event_data`,
    log entries other than `fire` -/
structure Kept (s s' : St) : Prop extends FrameO s s' where
  failed : s'.failed = s.failed
  next : s'.next = s.next

theorem Kept.refl (s : St) : Kept s s := ⟨FrameO.refl s, rfl, rfl⟩

theorem Kept.trans {a b c : St} (h1 : Kept a b) (h2 : Kept b c) : Kept a c :=
  ⟨h1.toFrameO.trans h2.toFrameO, h2.failed.trans h1.failed, h2.next.trans h1.next⟩

theorem evalCond_kept (s : St) (d : EvData) (c : Cond) (s' : St) (b : Bool)
    (h : evalCond s d c = some (s', b)) : Kept s s' := by
  cases c <;> simp only [evalCond] at h
  · cases h; exact Kept.refl _
  · cases h; exact Kept.refl _
  · cases h; exact Kept.refl _
  · split at h
    · cases h; exact ⟨⟨⟨rfl, rfl, rfl, rfl, rfl, rfl, rfl, rfl⟩, rfl⟩, rfl, rfl⟩
    · cases h

theorem evalConds_kept (d : EvData) (cs : List Cond) : ∀ (s s' : St) (b : Bool),
    evalConds s d cs = some (s', b) → Kept s s' := by
  induction cs with
  | nil => intro s s' b h; simp only [evalConds] at h; cases h; exact Kept.refl _
  | cons c cs ih =>
    intro s s' b h
    simp only [evalConds] at h
    split at h
    · cases h
    · next s1 b1 h1 =>
      split at h
      · cases h
      · next s2 b2 h2 =>
        cases h
        exact (evalCond_kept s d c s1 b1 h1).trans (ih s1 _ b2 h2)

theorem resolve_kept (c : Cfg) (s : St) (e : TEvent) (d : EvData) :
    Kept s (resolve c s e d).1 ∧ (resolve c s e d).2 ≠ .error .unknownEvent := by
  unfold resolve
  split
  · split <;> exact ⟨Kept.refl _, nofun⟩
  · split
    · exact ⟨Kept.refl _, nofun⟩
    · split
      · exact ⟨Kept.refl _, nofun⟩
      · split
        · exact ⟨⟨frameO_emit _ _ rfl, rfl, rfl⟩, nofun⟩
        · split
          · exact ⟨Kept.refl _, nofun⟩
          · split
            · exact ⟨Kept.refl _, nofun⟩
            · next s' ok h => split <;> exact ⟨evalConds_kept _ _ _ _ _ h, nofun⟩

theorem resolve_hit (c : Cfg) (s : St) (name cur q : String) (d : EvData)
    (he : name ∈ c.tbl.events) (hs : s.state = some cur) (hl : c.tbl.lookup name cur = some q)
    (ho : s.out.isUndef = false) :
    resolve c s (.ev name) d = match evalConds s d (c.condsOf name) with
      | none => (s, .error .keyError)
      | some (s', ok) => (s', if ok then .target q else .reject) := by
  cases h : evalConds s d (c.condsOf name) with
  | none => simp [resolve, he, hs, hl, ho, h]
  | some r => obtain ⟨s', ok⟩ := r; cases ok <;> simp [resolve, he, hs, hl, ho, h]

theorem evalConds_keeps (d : EvData) (cs : List Cond) : ∀ (s s' : St) (b : Bool),
    evalConds s d cs = some (s', b) → s'.out = s.out ∧ s'.failed = s.failed :=
  fun s s' b h => ⟨(evalConds_kept d cs s s' b h).out, (evalConds_kept d cs s s' b h).failed⟩

theorem evalConds_fields (d : EvData) (cs : List Cond) : ∀ (s s' : St) (b : Bool),
    evalConds s d cs = some (s', b) → s'.next = s.next ∧ s'.state = s.state :=
  fun s s' b h => ⟨(evalConds_kept d cs s s' b h).next, (evalConds_kept d cs s s' b h).state⟩

theorem frame_resolve (c : Cfg) (s : St) (e : TEvent) (d : EvData) :
    Frame s (resolve c s e d).1 :=
  (resolve_kept c s e d).1.toFrame

theorem resolve_keeps (c : Cfg) (s : St) (e : TEvent) (d : EvData) :
    (resolve c s e d).1.out = s.out ∧ (resolve c s e d).1.failed = s.failed :=
  ⟨(resolve_kept c s e d).1.out, (resolve_kept c s e d).1.failed⟩

theorem frame_setCtx (s : St) (d : EvData) : Frame s (setCtx s d) :=
  ⟨rfl, rfl, rfl, rfl, rfl, rfl, rfl, rfl⟩

theorem frameO_post (c : Cfg) (s : St) (e : TEvent) (d : EvData) : FrameO s (post c s e d).1 := by
  have h := FrameO.trans ⟨frame_setCtx s d, rfl⟩ (resolve_kept c (setCtx s d) e d).1.toFrameO
  unfold post
  split
  · next s1 q heq =>
    rw [heq] at h
    split
    · exact h.trans (frameO_fail _ _)
    · exact h.trans ⟨⟨rfl, rfl, rfl, rfl, rfl, rfl, rfl, rfl⟩, rfl⟩
  · next s1 heq => rw [heq] at h; exact h
  · next s1 heq => rw [heq] at h; exact h.trans (frameO_fail _ _)
  · next s1 k heq => rw [heq] at h; exact h.trans (frameO_fail _ _)

theorem frameO_eventRec (c : Cfg) (s : St) (e : TEvent) (d : EvData) : FrameO s (eventRec c s e d).1 :=
  (frameO_post c s e d).trans ⟨frame_setCtx _ s.ctx, rfl⟩

theorem frameO_runEnter (c : Cfg) (s : St) (q : String) : FrameO s (runEnter c s q) := by
  unfold runEnter
  have h := frameO_emit s (.enter q s.ctx) rfl
  split
  · exact h
  · exact h.trans (frameO_eventRec _ _ _ _)

theorem frame_runEnter (c : Cfg) (s : St) (q : String) : Frame s (runEnter c s q) :=
  (frameO_runEnter c s q).toFrame

theorem frame_setOut (s : St) (v : Val) : Frame s (setOut s v) := by
  unfold setOut
  split
  · exact Frame.refl _
  · exact Frame.trans (b := { s with out := v }) ⟨rfl, rfl, rfl, rfl, rfl, rfl, rfl, rfl⟩
      (frame_emit _ _ rfl)

theorem setOut_defined (s : St) (v : Val) (hu : s.out.isUndef = true) (hv : v.isUndef = false) :
    (setOut s v).out = v ∧ (setOut s v).failed = s.failed ∧ (setOut s v).next = s.next := by
  have hp : s.out.pyEq v = false := by
    cases ho : s.out <;> simp [ho, Val.isUndef] at hu
    cases v <;> simp [Val.isUndef] at hv <;> rfl
  simp [setOut, hv, hp, St.emit]

theorem setOut_fields (s : St) (v : Val) : (setOut s v).failed = s.failed ∧ (setOut s v).next = s.next ∧
    (setOut s v).state = s.state := by
  unfold setOut; split <;> exact ⟨rfl, rfl, rfl⟩

theorem frame_sendOnEnter (s : St) : Frame s (sendOnEnter s) := by
  unfold sendOnEnter
  split
  · exact frame_emit _ _ rfl
  · exact Frame.refl _

theorem frame_finish (c : Cfg) (s : St) : Frame s (finish c s) := by
  unfold finish
  split
  · exact frame_fail _ _
  · exact (frame_setOut _ _).trans (frame_sendOnEnter _)

def Idle (s : St) : Prop := live s = [] ∧ s.active = none

theorem idle_of_frame {s s' : St} (f : Frame s s') (h : Idle s) : Idle s' := by
  unfold Idle live at *
  rw [f.timers, f.active]; exact h

theorem live_setTimer (s : St) (d : Nat) (ev : TEvent) (hs : s.stopped = false) (hi : live s = []) :
    live (setTimer s d ev) = [{ id := s.nextId, when := s.now + d, ev := ev, epoch := s.epoch }] := by
  unfold live at *
  simp [setTimer, hs, St.emit, List.filter_append, hi]

theorem setTimer_stopped (s : St) (d : Nat) (ev : TEvent) (hs : s.stopped = true) :
    setTimer s d ev = s := by simp [setTimer, hs]

theorem setTimer_fields (s : St) (d : Nat) (ev : TEvent) :
    (setTimer s d ev).now = s.now ∧ (setTimer s d ev).stopped = s.stopped ∧
    (setTimer s d ev).epoch = s.epoch ∧ (setTimer s d ev).state = s.state ∧
    (setTimer s d ev).next = s.next ∧ (setTimer s d ev).failed = s.failed ∧
    (setTimer s d ev).out = s.out ∧
    fires (setTimer s d ev).log = fires s.log := by
  unfold setTimer
  split
  · simp
  · simp [St.emit, fires_append, fires]

theorem setTimer_failed (s : St) (d : Nat) (ev : TEvent) : (setTimer s d ev).failed = s.failed :=
  (setTimer_fields s d ev).2.2.2.2.2.1

theorem setTimer_active (s : St) (d : Nat) (ev : TEvent) (hs : s.stopped = false) :
    (setTimer s d ev).active = some s.nextId := by simp [setTimer, hs, St.emit]

/-- the timer started for the state just entered -/
def Armed (c : Cfg) (s' : St) : Prop :=
  ∃ h, live s' = [h] ∧ s'.active = some h.id ∧ h.epoch = s'.epoch ∧ s'.now < h.when ∧
    s'.stopped = false ∧ ∃ q dflt, s'.state = some q ∧ c.tbl.timedOf q = some (h.ev, dflt)

theorem armed_of_frame {c : Cfg} {s s' : St} (f : Frame s s') (h : Armed c s) : Armed c s' := by
  unfold Armed live at *
  rw [f.timers, f.active, f.epoch, f.now, f.stopped, f.state]; exact h

/-- what one round guarantees when it starts without a pending timer -/
structure ES (c : Cfg) (s s' : St) : Prop where
  fires : fires s'.log = fires s.log
  now : s'.now = s.now
  stopped : s'.stopped = s.stopped
  epoch : s'.epoch = s.epoch + 1
  timer : Idle s' ∨ (Armed c s' ∧ s'.next = none)

/-- what `enterLoop` guarantees when it starts without a pending timer -/
structure EL (c : Cfg) (s s' : St) : Prop where
  fires : fires s'.log = fires s.log
  now : s'.now = s.now
  stopped : s'.stopped = s.stopped
  epoch : s.epoch ≤ s'.epoch
  timer : Idle s' ∨ ∃ h, live s' = [h] ∧ s'.active = some h.id ∧ h.epoch = s'.epoch ∧
    s.epoch < s'.epoch ∧ s'.now < h.when ∧ s'.stopped = false ∧
    ∃ q dflt, s'.state = some q ∧ c.tbl.timedOf q = some (h.ev, dflt)
  entered : s'.failed = none → s.epoch < s'.epoch

theorem startTimer_spec (c : Cfg) (s : St) (q : String) (tev : TEvent) (item : Dur) :
    FrameO s (startTimer c s q tev item) ∨
    (s.stopped = false ∧ ∃ n, 0 < n ∧ startTimer c s q tev item = setTimer s n tev) := by
  unfold startTimer
  split
  · exact .inl (frameO_fail _ _)
  · exact .inl (frameO_fail _ _)
  · exact .inl (FrameO.refl _)
  · next d _ =>
    split
    · exact .inl (frameO_eventRec _ _ _ _)
    · next hd =>
      cases hs : s.stopped
      · exact .inr ⟨rfl, d.toNat, by omega, rfl⟩
      · rw [setTimer_stopped _ _ _ hs]; exact .inl (FrameO.refl _)

theorem enterState_ES (c : Cfg) (s : St) (d : EvData) (q : String) (hi : Idle s) :
    ES c s (enterState c s d q) := by
  unfold enterState
  have f1 := frame_runEnter c (s.enter q) q
  generalize runEnter c (s.enter q) q = s1 at f1
  have hi1 : Idle s1 := idle_of_frame f1 hi
  have base : ES c s s1 := ⟨f1.fires, f1.now, f1.stopped, f1.epoch, .inl hi1⟩
  dsimp only
  split
  · exact base
  · next hn =>
    simp only [Bool.or_eq_true, not_or, Bool.not_eq_true, Option.isSome_eq_false_iff,
      Option.isNone_iff_eq_none] at hn
    split
    · exact base
    · next tev dflt ht =>
      rcases startTimer_spec c s1 q tev d.dur with f2 | ⟨hs, n, hn0, heq⟩
      · exact ⟨f2.fires.trans f1.fires, f2.now.trans f1.now, f2.stopped.trans f1.stopped,
          f2.epoch.trans f1.epoch, .inl (idle_of_frame f2.toFrame hi1)⟩
      · rw [heq]
        obtain ⟨hnow, hstopped, hepoch, hstate, hnext, -, -, hfires⟩ := setTimer_fields s1 n tev
        refine ⟨hfires.trans f1.fires, hnow.trans f1.now, hstopped.trans f1.stopped,
          hepoch.trans f1.epoch, .inr ⟨⟨_, live_setTimer s1 n tev hs hi1.1, ?_, ?_, ?_, ?_, q, dflt, ?_, ht⟩, ?_⟩⟩
        · exact setTimer_active s1 n tev hs
        · exact hepoch.symm
        · rw [hnow]; show s1.now < s1.now + n; omega
        · rw [hstopped]; exact hs
        · rw [hstate, f1.state]; rfl
        · rw [hnext]; exact hn.2

theorem frameO_exitCur (s : St) : FrameO s (exitCur s) := by
  unfold exitCur; split
  · exact frameO_emit _ _ rfl
  · exact FrameO.refl _

theorem frameO_popNext (s : St) (d : EvData) (q : String) : FrameO s (popNext s d q).1 := by
  unfold popNext; split
  · exact FrameO.trans (b := setCtx (s.setNextEv none) _) ⟨⟨rfl, rfl, rfl, rfl, rfl, rfl, rfl, rfl⟩, rfl⟩
      (frameO_exitCur _)
  · exact FrameO.refl _

/-- the chain loop of `_ctx_event`: what holds when a round starts (`J`) and what is claimed of the result (`Q`) -/
theorem enterLoop_rule (c : Cfg) {J Q : St → Prop}
    (hfuel : ∀ s, J s → Q (s.fail .circuitError))
    (hround : ∀ s d q, J s → ∀ s2, s2 = enterState c (popNext s d q).1 (popNext s d q).2.1 (popNext s d q).2.2 →
      (s2.failed ≠ none → Q s2) ∧ (s2.failed = none → s2.next ≠ none → J s2) ∧
      (s2.failed = none → s2.next = none → Q (finish c s2))) :
    ∀ (fuel : Nat) (s : St) (d : EvData) (q : String), J s → Q (enterLoop c fuel s d q) := by
  intro fuel
  induction fuel with
  | zero => intro s d q h; exact hfuel s h
  | succ n ih =>
    intro s d q h
    unfold enterLoop
    dsimp only
    obtain ⟨h1, h2, h3⟩ := hround s d q h _ rfl
    generalize enterState c _ _ _ = s2 at *
    split
    · next hf => exact h1 (fun h => by rw [h] at hf; cases hf)
    · next hf =>
      have hf' := isSome_false_none hf
      split
      · next hn => exact ih _ _ _ (h2 hf' (fun h => by rw [h] at hn; cases hn))
      · next hn => exact h3 hf' (isSome_false_none hn)

theorem enterLoop_EL (c : Cfg) : ∀ (fuel : Nat) (s : St) (d : EvData)
    (q : String), Idle s → EL c s (enterLoop c fuel s d q) := by
  intro fuel s0 d q hi
  refine enterLoop_rule c
    (J := fun s => Idle s ∧ fires s.log = fires s0.log ∧ s.now = s0.now ∧ s.stopped = s0.stopped ∧ s0.epoch ≤ s.epoch)
    (Q := EL c s0) ?_ ?_ fuel s0 d q ⟨hi, rfl, rfl, rfl, Nat.le_refl _⟩
  · intro s ⟨hi, h1, h2, h3, h4⟩
    have f := frame_fail s .circuitError
    exact ⟨f.fires.trans h1, f.now.trans h2, f.stopped.trans h3, by rw [f.epoch]; exact h4, .inl (idle_of_frame f hi),
      fun h => absurd h (fail_failed _ _)⟩
  · intro s d q ⟨hi, h1, h2, h3, h4⟩ s2 hs2
    have f0 := (frameO_popNext s d q).toFrame
    have es := enterState_ES c _ (popNext s d q).2.1 (popNext s d q).2.2 (idle_of_frame f0 hi)
    rw [← hs2] at es
    have hfires := es.fires.trans (f0.fires.trans h1)
    have hnow := es.now.trans (f0.now.trans h2)
    have hstop := es.stopped.trans (f0.stopped.trans h3)
    have hep : s0.epoch < s2.epoch := by rw [es.epoch, f0.epoch]; omega
    -- what the round has reached also holds of whatever differs from it by a `Frame`: of itself, and after `finish`
    have out : ∀ s', Frame s2 s' → EL c s0 s' := fun s' ff =>
      ⟨ff.fires.trans hfires, ff.now.trans hnow, ff.stopped.trans hstop, by rw [ff.epoch]; exact Nat.le_of_lt hep,
        es.timer.elim (fun h => .inl (idle_of_frame ff h)) (fun ⟨ha, _⟩ =>
          have ⟨h, hl, hact, he, hw, hs, hq⟩ := armed_of_frame ff ha
          .inr ⟨h, hl, hact, he, by rw [ff.epoch]; exact hep, hw, hs, hq⟩),
        fun _ => by rw [ff.epoch]; exact hep⟩
    exact ⟨fun _ => out s2 (Frame.refl _),
      fun _ hn => ⟨es.timer.resolve_right fun ⟨_, hnn⟩ => hn hnn, hfires, hnow, hstop, Nat.le_of_lt hep⟩,
      fun _ _ => out _ (frame_finish c s2)⟩

/-- the pending timer belongs to the current visit of the current (timed) state -/
def Pending (c : Cfg) (s : St) : Prop :=
  ∃ h, live s = [h] ∧ s.active = some h.id ∧ h.epoch = s.epoch ∧ (s.failed = none → s.now ≤ h.when) ∧
    s.stopped = false ∧ ∃ q dflt, s.state = some q ∧ c.tbl.timedOf q = some (h.ev, dflt)

/-- the invariant: the pending timer is the current one, a block that is not initialised (and not aborted) owns
    none, every delivery was on time and in its own visit, no visit saw two.  `below` and the bound in `logOk` are what
    makes `nodup` inductive: the visit of a pending handle has seen no delivery yet, so its delivery is new.  `Pending`
    bounds the clock only while the simulation runs (`Armed`, right after `_set_timer`, needs no proviso): after an abort
    the clock goes on and nothing fires any more. -/
structure Inv (c : Cfg) (s : St) : Prop where
  timer : Idle s ∨ Pending c s
  undef : s.out.isUndef = true → s.failed = none → Idle s
  logOk : ∀ x ∈ fires s.log, x.2.1.epoch = x.2.2 ∧ x.1 = x.2.1.when ∧ x.2.2 ≤ s.epoch
  below : live s ≠ [] → ∀ x ∈ fires s.log, x.2.2 < s.epoch
  nodup : ((fires s.log).map (·.2.2)).Nodup

/-- the invariant without its clause about an undefined output: what `_ctx_event` guarantees before `deliver` gives
    up on a block whose output is still UNDEF, and what holds between `_set_timer` and `set_output` in
    `_restore_state` -/
structure InvW (c : Cfg) (s : St) : Prop where
  timer : Idle s ∨ Pending c s
  logOk : ∀ x ∈ fires s.log, x.2.1.epoch = x.2.2 ∧ x.1 = x.2.1.when ∧ x.2.2 ≤ s.epoch
  below : live s ≠ [] → ∀ x ∈ fires s.log, x.2.2 < s.epoch
  nodup : ((fires s.log).map (·.2.2)).Nodup

theorem Inv.toW {c : Cfg} {s : St} (i : Inv c s) : InvW c s := ⟨i.timer, i.logOk, i.below, i.nodup⟩

theorem InvW.toInv {c : Cfg} {s : St} (w : InvW c s)
    (hu : s.out.isUndef = true → s.failed = none → Idle s) : Inv c s :=
  ⟨w.timer, hu, w.logOk, w.below, w.nodup⟩

theorem Inv.of_mem {c : Cfg} {s : St} (i : Inv c s) {h : Handle} (hm : h ∈ live s) :
    live s = [h] ∧ s.active = some h.id ∧ h.epoch = s.epoch ∧ (s.failed = none → s.now ≤ h.when) ∧
    s.stopped = false ∧ ∃ q dflt, s.state = some q ∧ c.tbl.timedOf q = some (h.ev, dflt) := by
  rcases i.timer with ⟨hl, _⟩ | ⟨h', hl, rest⟩
  · rw [hl] at hm; cases hm
  · rw [hl] at hm
    cases List.mem_singleton.mp hm
    exact ⟨hl, rest⟩

theorem inv_init (c : Cfg) : Inv c {} :=
  ⟨.inl ⟨rfl, rfl⟩, fun _ _ => ⟨rfl, rfl⟩, by simp [fires], by simp [fires], by simp [fires]⟩

theorem invW_of_frame {c : Cfg} {s s' : St} (f : Frame s s')
    (hf : s'.failed = none → s.failed = none) (w : InvW c s) : InvW c s' := by
  have hl : live s' = live s := by unfold live; rw [f.timers]
  refine ⟨?_, ?_, ?_, ?_⟩
  · rcases w.timer with h | h
    · exact .inl (idle_of_frame f h)
    · right
      obtain ⟨h, h1, h2, h3, h4, h5, h6⟩ := h
      refine ⟨h, by rw [hl]; exact h1, by rw [f.active]; exact h2, by rw [f.epoch]; exact h3,
        fun hn => by rw [f.now]; exact h4 (hf hn), by rw [f.stopped]; exact h5, by rw [f.state]; exact h6⟩
  · rw [f.fires, f.epoch]; exact w.logOk
  · rw [hl, f.fires, f.epoch]; exact w.below
  · rw [f.fires]; exact w.nodup

theorem invW_fail {c : Cfg} {s : St} (w : InvW c s) (k : ErrKind) : InvW c (s.fail k) :=
  invW_of_frame (frame_fail s k) (fun h => absurd h (fail_failed s k)) w

theorem inv_of_frame {c : Cfg} {s s' : St} (f : Frame s s') (ho : s'.out = s.out)
    (hf : s'.failed = none → s.failed = none) (i : Inv c s) : Inv c s' :=
  (invW_of_frame f hf i.toW).toInv fun h1 h2 => idle_of_frame f (i.undef (ho ▸ h1) (hf h2))

theorem stopTimer_fields (s : St) : (stopTimer s).failed = s.failed ∧ (stopTimer s).next = s.next ∧
    (stopTimer s).out = s.out ∧ (stopTimer s).state = s.state := by
  unfold stopTimer
  split
  · exact ⟨rfl, rfl, rfl, rfl⟩
  · dsimp only; split <;> exact ⟨rfl, rfl, rfl, rfl⟩

theorem stopTimer_spec {c : Cfg} {s : St} (ht : Idle s ∨ Pending c s) :
    Idle (stopTimer s) ∧ fires (stopTimer s).log = fires s.log ∧ (stopTimer s).now = s.now ∧
    (stopTimer s).epoch = s.epoch ∧ (stopTimer s).stopped = s.stopped ∧
    (stopTimer s).state = s.state ∧ (stopTimer s).out = s.out ∧ (stopTimer s).failed = s.failed := by
  have f := stopTimer_fields s
  suffices h : Idle (stopTimer s) ∧ fires (stopTimer s).log = fires s.log ∧ (stopTimer s).now = s.now ∧
      (stopTimer s).epoch = s.epoch ∧ (stopTimer s).stopped = s.stopped from
    ⟨h.1, h.2.1, h.2.2.1, h.2.2.2.1, h.2.2.2.2, f.2.2.2, f.2.2.1, f.1⟩
  unfold stopTimer
  rcases ht with ⟨hl, ha⟩ | ⟨h, hl, ha, _⟩
  · rw [ha]; exact ⟨⟨hl, ha⟩, rfl, rfl, rfl, rfl⟩
  · rw [ha]
    dsimp only
    have key : live { s with active := none, timers := (s.timers.map
        (fun x => if x.id == h.id then { x with cancelled := true } else x)) } = [] := by
      unfold live at *
      simp only [List.filter_eq_nil_iff, List.mem_map, forall_exists_index, and_imp]
      intro y x hx hy
      subst hy
      by_cases hxc : x.cancelled = true
      · split <;> simp [hxc]
      · have hm : x ∈ List.filter (fun h => !h.cancelled) s.timers := by
          simp [List.mem_filter, hx, hxc]
        rw [hl] at hm
        simp only [List.mem_singleton] at hm
        subst hm
        simp
    split
    · refine ⟨⟨?_, rfl⟩, ?_, rfl, rfl, rfl⟩
      · exact key
      · simp [St.emit, fires_append, fires]
    · exact ⟨⟨key, rfl⟩, rfl, rfl, rfl, rfl⟩

theorem leave_spec {c : Cfg} {s : St} (i : Inv c s) (hf : s.failed = none) :
    Idle (leave s) ∧ fires (leave s).log = fires s.log ∧ (leave s).now = s.now ∧
    (leave s).epoch = s.epoch ∧ (leave s).stopped = s.stopped := by
  unfold leave
  split
  · next hu => exact ⟨i.undef hu hf, rfl, rfl, rfl, rfl⟩
  · split
    · next cur hc =>
      have f : Frame s ((s.emit (.exit cur s.ctx)).emit (.onExit cur)) :=
        (frame_emit _ _ rfl).trans (frame_emit _ _ rfl)
      have i2 : Inv c ((s.emit (.exit cur s.ctx)).emit (.onExit cur)) := inv_of_frame f rfl (fun h => h) i
      obtain ⟨hidle, hfires, hnow, hepoch, hstopped, -, -, -⟩ := stopTimer_spec i2.timer
      exact ⟨hidle, hfires.trans f.fires, hnow.trans f.now, hepoch.trans f.epoch, hstopped.trans f.stopped⟩
    · next hn =>
      refine ⟨?_, rfl, rfl, rfl, rfl⟩
      rcases i.timer with h | ⟨_, _, _, _, _, _, q, _, hq, _⟩
      · exact h
      · rw [hq] at hn; cases hn

theorem pending_of_armed {c : Cfg} {s : St} (h : Armed c s) : Pending c s := by
  obtain ⟨h, hl, ha, he, hw, hs, hq⟩ := h
  exact ⟨h, hl, ha, he, fun _ => Nat.le_of_lt hw, hs, hq⟩

theorem invW_of_EL {c : Cfg} {s s' : St} (i : Inv c s) (el : EL c s s') : InvW c s' := by
  refine ⟨?_, ?_, ?_, ?_⟩
  · rcases el.timer with h | ⟨h, hl, ha, he, _, hw, hs, hq⟩
    · exact .inl h
    · exact .inr ⟨h, hl, ha, he, fun _ => Nat.le_of_lt hw, hs, hq⟩
  · rw [el.fires]
    intro x hx
    have := i.logOk x hx
    have := el.epoch
    exact ⟨by omega, by omega, by omega⟩
  · intro hne
    rw [el.fires]
    intro x hx
    have h1 := (i.logOk x hx).2.2
    rcases el.timer with ⟨hl, _⟩ | ⟨h, _, _, _, hlt, _⟩
    · exact absurd hl hne
    · omega
  · rw [el.fires]; exact i.nodup

theorem trans_EL {c : Cfg} {s : St} (i : Inv c s) (hf : s.failed = none) (d : EvData) (q : String) :
    EL c s (enterLoop c c.tbl.chainLimit (leave s) d q) := by
  obtain ⟨hidle, hfires, hnow, hep, hstopped⟩ := leave_spec i hf
  have el := enterLoop_EL c c.tbl.chainLimit (leave s) d q hidle
  refine ⟨el.fires.trans hfires, el.now.trans hnow, el.stopped.trans hstopped, ?_, ?_, ?_⟩ <;> rw [← hep]
  · exact el.epoch
  · exact el.timer
  · exact el.entered

theorem deliver_cases (c : Cfg) (s : St) (e : TEvent) (d : EvData) :
    ∃ s1, Kept s s1 ∧
      ((∃ r, (r = .unknown ∨ r = .ret false) ∧ deliver c s e d = (s1, r)) ∨
       (∃ k, deliver c s e d = (s1.fail k, .err k)) ∨
       ∃ q, (∃ k, deliver c s e d = ((enterLoop c c.tbl.chainLimit (leave s1) d q).fail k, .err k)) ∨
         ((enterLoop c c.tbl.chainLimit (leave s1) d q).failed = none ∧
           (enterLoop c c.tbl.chainLimit (leave s1) d q).out.isUndef = false ∧
           deliver c s e d = (enterLoop c c.tbl.chainLimit (leave s1) d q, .ret true))) := by
  have kr : Kept s (resolve c (setCtx s d) e d).1 :=
    Kept.trans ⟨⟨frame_setCtx s d, rfl⟩, rfl, rfl⟩ (resolve_kept c (setCtx s d) e d).1
  unfold deliver ctxEvent
  generalize resolve c (setCtx s d) e d = r at kr
  obtain ⟨s1, r⟩ := r
  refine ⟨s1, kr, ?_⟩
  cases r with
  | unknown => exact .inl ⟨_, .inl rfl, rfl⟩
  | reject => exact .inl ⟨_, .inr rfl, rfl⟩
  | error k => exact .inr (.inl ⟨k, rfl⟩)
  | target q =>
    refine .inr (.inr ⟨q, ?_⟩)
    dsimp only
    generalize enterLoop c c.tbl.chainLimit (leave s1) d q = s2
    cases hf : s2.failed with
    -- a loop result that carries a failure is its own `.fail k`: the two ways a transition ends in an error are one case
    | some k => exact .inl ⟨k, by rw [fail_eq_self s2 k hf]⟩
    | none =>
      cases hu : s2.out.isUndef with
      | true => exact .inl ⟨.circuitError, by simp [hu]⟩
      | false => exact .inr ⟨rfl, rfl, by simp [hu]⟩

theorem startTimer_out (c : Cfg) (s : St) (q : String) (tev : TEvent) (item : Dur) :
    (startTimer c s q tev item).out = s.out := by
  rcases startTimer_spec c s q tev item with f | ⟨_, n, _, heq⟩
  · exact f.out
  · obtain ⟨-, -, -, -, -, -, hout, -⟩ := setTimer_fields s n tev
    rw [heq]; exact hout

theorem enterState_out (c : Cfg) (s : St) (d : EvData) (q : String) : (enterState c s d q).out = s.out := by
  unfold enterState
  have h1 : (runEnter c (s.enter q) q).out = s.out := (frameO_runEnter c (s.enter q) q).out
  dsimp only
  split
  · exact h1
  · split
    · exact h1
    · rw [startTimer_out]; exact h1

theorem deliver_eq (c : Cfg) (s : St) (e : TEvent) (d : EvData) :
    (deliver c s e d = ctxEvent c s e d ∧
      ((ctxEvent c s e d).2 = .ret true → (ctxEvent c s e d).1.out.isUndef = false)) ∨
    ((ctxEvent c s e d).2 = .ret true ∧ (ctxEvent c s e d).1.out.isUndef = true ∧
      deliver c s e d = ((ctxEvent c s e d).1.fail .circuitError, .err .circuitError)) := by
  unfold deliver
  generalize ctxEvent c s e d = r
  obtain ⟨s2, res⟩ := r
  cases res with
  | ret b =>
    cases b with
    | true =>
      by_cases hu : s2.out.isUndef = true
      · exact .inr ⟨rfl, hu, by simp [hu]⟩
      · left; simp only [hu]; exact ⟨by simp, fun _ => by simp⟩
    | false => exact .inl ⟨rfl, by simp⟩
  | unknown => exact .inl ⟨rfl, by simp⟩
  | err k => exact .inl ⟨rfl, by simp⟩
  | aborted => exact .inl ⟨rfl, by simp⟩

theorem live_popTimer (s : St) (h : Handle) : live (popTimer s h) = (live s).filter fun a => a.id != h.id := by
  unfold live popTimer
  simp only [List.filter_filter]
  congr 1; funext a; exact Bool.and_comm _ _

theorem fires_popTimer (s : St) (h : Handle) :
    fires (popTimer s h).log = fires s.log ++ [(if s.now < h.when then h.when else s.now, h, s.epoch)] := by
  simp only [popTimer, fires_append, fires]

theorem Inv.due {c : Cfg} {s : St} (i : Inv c s) (hf : s.failed = none) {h : Handle} (hm : h ∈ live s) :
    (if s.now < h.when then h.when else s.now) = h.when := by
  obtain ⟨-, -, -, hwhen, -⟩ := i.of_mem hm
  have := hwhen hf
  split <;> omega

theorem inv_popTimer {c : Cfg} {s : St} (i : Inv c s) (hf : s.failed = none) (h : Handle)
    (hm : h ∈ live s) : Inv c (popTimer s h) ∧ Idle (popTimer s h) := by
  obtain ⟨hl, _, he, _⟩ := i.of_mem hm
  have hidle : live (popTimer s h) = [] := by rw [live_popTimer, hl]; simp
  have hbelow := i.below (by rw [hl]; simp)
  refine ⟨⟨.inl ⟨hidle, rfl⟩, fun _ _ => ⟨hidle, rfl⟩, ?_, ?_, ?_⟩, ⟨hidle, rfl⟩⟩
  · rw [fires_popTimer, i.due hf hm]
    intro x hx
    rcases List.mem_append.1 hx with hx | hx
    · exact i.logOk x hx
    · cases List.mem_singleton.1 hx; exact ⟨he, rfl, Nat.le_refl _⟩
  · intro hne; exact absurd hidle hne
  · rw [fires_popTimer, List.map_append, List.nodup_append]
    refine ⟨i.nodup, by simp, ?_⟩
    intro a ha b hb
    simp only [List.map_cons, List.map_nil, List.mem_singleton] at hb
    subst hb
    simp only [List.mem_map] at ha
    obtain ⟨x, hx, rfl⟩ := ha
    have := hbelow x hx
    omega

theorem earliest_mem : ∀ (l : List Handle) (h : Handle), earliest l = some h → h ∈ l := by
  intro l
  induction l with
  | nil => intro h hh; simp [earliest] at hh
  | cons x xs ih =>
    intro h hh
    simp only [earliest] at hh
    split at hh
    · cases hh; simp
    · next b hb =>
      split at hh
      · cases hh; exact List.mem_cons_of_mem _ (ih _ hb)
      · cases hh; simp

theorem earliest_none : ∀ (l : List Handle), earliest l = none → l = [] := by
  intro l
  cases l with
  | nil => intro _; rfl
  | cons x xs =>
    intro h
    simp only [earliest] at h
    split at h
    · cases h
    · split at h <;> cases h

theorem nextDue_mem (s : St) (t : Nat) (strict : Bool) (h : Handle) (hd : nextDue s t strict = some h) :
    h ∈ live s ∧ isDue t strict h = true := by
  unfold nextDue at hd
  have := earliest_mem _ _ hd
  simpa [List.mem_filter] using this

theorem nextDue_none (s : St) (t : Nat) (strict : Bool) (hd : nextDue s t strict = none) :
    ∀ h ∈ live s, isDue t strict h = false := by
  unfold nextDue at hd
  have := earliest_none _ hd
  intro h hm
  rw [List.filter_eq_nil_iff] at this
  simpa using this h hm

theorem inv_setNow {c : Cfg} {s : St} (i : Inv c s) (t : Nat)
    (hd : s.failed = none → ∀ h ∈ live s, t ≤ h.when) :
    Inv c { s with now := if s.now < t then t else s.now } := by
  refine ⟨?_, i.undef, i.logOk, i.below, i.nodup⟩
  rcases i.timer with h | ⟨h, hl, ha, he, hw, hs, hq⟩
  · exact .inl h
  · refine .inr ⟨h, hl, ha, he, ?_, hs, hq⟩
    intro hf
    have := hd hf h (by rw [hl]; simp)
    have := hw hf
    show (if s.now < t then t else s.now) ≤ h.when
    split <;> omega

theorem inv_stop {c : Cfg} {s : St} (i : Inv c s) : Inv c (stop s) ∧ Idle (stop s) := by
  obtain ⟨hi, hfires, -, hepoch, -, -, -, -⟩ := stopTimer_spec i.timer
  have hidle : Idle (stop s) := hi
  have hlive : live (stop s) = [] := hidle.1
  refine ⟨⟨.inl hidle, fun _ _ => hidle, ?_, ?_, ?_⟩, hidle⟩
  · show ∀ x ∈ fires (stopTimer s).log, _ ∧ _ ∧ x.2.2 ≤ (stopTimer s).epoch
    rw [hfires, hepoch]; exact i.logOk
  · intro hne; exact absurd hlive hne
  · show ((fires (stopTimer s).log).map (·.2.2)).Nodup
    rw [hfires]; exact i.nodup

/-- what the block can do between two moments at which the simulator looks at it -/
inductive Step (c : Cfg) : St → St → Prop
  /-- the checks of `_ctx_event` (event unknown or rejected), the environment flag, `sdata` -/
  | kept {s s' : St} : Kept s s' → Step c s s'
  | fail (s : St) (k : ErrKind) : Step c s (s.fail k)
  /-- the clock moves on to `t`; while the simulation runs nothing pending was due before `t` -/
  | clock (s : St) (t : Nat) : (s.failed = none → ∀ h ∈ live s, t ≤ h.when) →
      Step c s { s with now := if s.now < t then t else s.now }
  | expire (s : St) (h : Handle) : s.failed = none → h ∈ live s → Step c s (popTimer s h)
  | stop (s : St) : Step c s (stop s)
  | restore (s : St) (q : String) (exp : Option Nat) (sd : Option Val) (m : CalcMode) :
      s.failed = none → s.out.isUndef = true → Step c s (restore c s q exp sd m).1
  /-- an executed transition after which the block is initialised -/
  | transit (s : St) (d : EvData) (q : String) : s.failed = none →
      (enterLoop c c.tbl.chainLimit (leave s) d q).failed = none →
      (enterLoop c c.tbl.chainLimit (leave s) d q).out.isUndef = false →
      Step c s (enterLoop c c.tbl.chainLimit (leave s) d q)
  /-- a transition that failed or left the output UNDEF: the simulation is aborted -/
  | abort (s : St) (d : EvData) (q : String) (k : ErrKind) : s.failed = none →
      Step c s ((enterLoop c c.tbl.chainLimit (leave s) d q).fail k)

inductive Steps (c : Cfg) : St → St → Prop
  | refl (s : St) : Steps c s s
  | tail {s s1 s2 : St} : Steps c s s1 → Step c s1 s2 → Steps c s s2

theorem Steps.preserves {c : Cfg} {P : St → Prop} (hP : ∀ s s', Step c s s' → P s → P s') {s s' : St}
    (h : Steps c s s') (h0 : P s) : P s' := by
  induction h with
  | refl => exact h0
  | tail _ st ih => exact hP _ _ st ih

theorem Step.running {c : Cfg} {s s' : St} (st : Step c s s') (h : s'.failed = none) : s.failed = none := by
  cases st with
  | kept kr => exact kr.failed ▸ h
  | fail k => exact absurd h (fail_failed _ _)
  | clock => exact h
  | expire _ hf _ => exact hf
  | stop => exact (stopTimer_fields s).1 ▸ h
  | restore _ _ _ _ hf _ => exact hf
  | transit _ _ hf _ _ => exact hf
  | abort _ _ _ hf => exact hf

theorem Steps.running {c : Cfg} {Q : St → Prop}
    (hQ : ∀ s s', Step c s s' → s.failed = none → s'.failed = none → Q s → Q s') {s s' : St}
    (h : Steps c s s') (h0 : s.failed = none → Q s) : s'.failed = none → Q s' :=
  h.preserves (P := fun s => s.failed = none → Q s)
    (fun s s' st ih hf' => hQ s s' st (st.running hf') hf' (ih (st.running hf'))) h0

theorem deliver_steps {c : Cfg} {s0 s : St} (h : Steps c s0 s) (hf : s.failed = none) (e : TEvent) (d : EvData) :
    Steps c s0 (deliver c s e d).1 := by
  obtain ⟨s1, kr, hc⟩ := deliver_cases c s e d
  have h1 : Steps c s0 s1 := .tail h (.kept kr)
  have hf1 : s1.failed = none := kr.failed.trans hf
  rcases hc with ⟨r, _, hc⟩ | ⟨k, hc⟩ | ⟨q, ⟨k, hc⟩ | ⟨hnf, hu, hc⟩⟩ <;> rw [hc]
  · exact h1
  · exact .tail h1 (.fail s1 k)
  · exact .tail h1 (.abort s1 d q k hf1)
  · exact .tail h1 (.transit s1 d q hf1 hnf hu)

theorem advanceAux_steps {c : Cfg} {s0 : St} (t : Nat) (strict : Bool) :
    ∀ (fuel : Nat) (s : St), Steps c s0 s → Steps c s0 (advanceAux c fuel s t strict) := by
  intro fuel
  induction fuel with
  | zero => intro s h; exact .tail h (.fail s .fuel)
  | succ n ih =>
    intro s h
    unfold advanceAux
    split
    · exact h
    · next hf =>
      have hf' := isSome_false_none hf
      split
      · next hd =>
        refine .tail h (.clock s t fun _ x hx => ?_)
        have := nextDue_none s t strict hd x hx
        unfold isDue at this
        split at this <;> have := of_decide_eq_false this <;> omega
      · next x hd =>
        exact ih _ (deliver_steps (.tail h (.expire s x hf' (nextDue_mem s t strict x hd).1)) hf' _ _)

theorem step_steps {c : Cfg} {s0 s : St} (h : Steps c s0 s) (op : Op) : Steps c s0 (step c s op).1 := by
  cases op with
  | stop => exact .tail h (.stop s)
  | restore q exp sd m =>
    simp only [step]
    split
    · exact h
    · next hc =>
      simp only [Bool.or_eq_true, Bool.not_eq_true', not_or, Bool.not_eq_false] at hc
      exact .tail h (.restore s q exp sd m (isSome_false_none hc.1) hc.2)
  | advance t =>
    simp only [step]
    split
    · next hfl => exact .tail h (.clock s t fun hn => by rw [hn] at hfl; cases hfl)
    · exact advanceAux_steps t false _ s h
  | gate b => exact .tail h (.kept (s' := { s with gate := b }) ⟨⟨⟨rfl, rfl, rfl, rfl, rfl, rfl, rfl, rfl⟩, rfl⟩, rfl, rfl⟩)
  | init =>
    simp only [step]
    split
    · exact h
    · next hf =>
      exact deliver_steps (.tail h (.kept (s' := { s with input := c.initInput })
        ⟨⟨⟨rfl, rfl, rfl, rfl, rfl, rfl, rfl, rfl⟩, rfl⟩, rfl, rfl⟩)) (isSome_false_none hf) _ _
  | ev t pl e d =>
    simp only [step]
    split
    · exact h
    · have h1 := advanceAux_steps t (pl == .before) ((t - s.now) + s.timers.length + 2) s h
      split
      · exact h1
      · next hf => exact deliver_steps h1 (isSome_false_none hf) e d

theorem run_steps (c : Cfg) (ops : List Op) (s : St) : Steps c s (run c s ops) := by
  suffices h : ∀ (ops : List Op) (s' : St), Steps c s s' → Steps c s (run c s' ops) from h ops s (.refl s)
  intro ops
  induction ops with
  | nil => intro s' h; exact h
  | cons op ops ih => intro s' h; exact ih _ (step_steps h op)

theorem restoreTail_cases (c : Cfg) (s1 : St) (arm : Option (Nat × TEvent)) (m : CalcMode) :
    ((restoreTail c s1 arm m).1 = s1 ∧ ∀ v, calcFor c s1 m = some v → v.isUndef = true) ∨
    ∃ v, calcFor c s1 m = some v ∧ v.isUndef = false ∧
      (restoreTail c s1 arm m).1 = setOut (match arm with | some (d, ev) => setTimer s1 d ev | none => s1) v := by
  unfold restoreTail
  split
  · next hc => exact .inl ⟨rfl, fun v h => by rw [hc] at h; cases h⟩
  · next v hc =>
    split
    · next hv => exact .inl ⟨rfl, fun v' h => by rw [hc] at h; cases h; exact hv⟩
    · next hv => exact .inr ⟨v, hc, by simpa using hv, rfl⟩

theorem restore_cases (c : Cfg) (s : St) (q : String) (exp : Option Nat) (sd : Option Val) (m : CalcMode) :
    (restore c s q exp sd m).1 = s ∨
    ((restore c s q exp sd m).1 = (s.enter q).setInput sd ∧
      ∀ v, calcFor c ((s.enter q).setInput sd) m = some v → v.isUndef = true) ∨
    ∃ v s2, calcFor c ((s.enter q).setInput sd) m = some v ∧ v.isUndef = false ∧
      (s2 = (s.enter q).setInput sd ∨ (s.stopped = false ∧ ∃ d ev dflt, c.tbl.timedOf q = some (ev, dflt) ∧
        s2 = setTimer ((s.enter q).setInput sd) d ev)) ∧
      (restore c s q exp sd m).1 = setOut s2 v := by
  unfold restore
  split
  · exact .inl rfl
  · split
    · exact .inr ((restoreTail_cases c _ none m).imp id fun ⟨v, hc, hv, h⟩ => ⟨v, _, hc, hv, .inl rfl, h⟩)
    · next t =>
      split
      · exact .inl rfl
      · split
        · exact .inl rfl
        · next ev dflt ht =>
          -- after `stop()` `_set_timer` does nothing
          have hs2 : setTimer ((s.enter q).setInput sd) (t - s.now) ev = (s.enter q).setInput sd ∨
              (s.stopped = false ∧ ∃ d ev' dflt, c.tbl.timedOf q = some (ev', dflt) ∧
                setTimer ((s.enter q).setInput sd) (t - s.now) ev = setTimer ((s.enter q).setInput sd) d ev') := by
            cases hs : s.stopped with
            | true => exact .inl (setTimer_stopped _ _ _ hs)
            | false => exact .inr ⟨rfl, _, ev, dflt, ht, rfl⟩
          exact .inr ((restoreTail_cases c _ (some (t - s.now, ev)) m).imp id
            fun ⟨v, hc, hv, h⟩ => ⟨v, _, hc, hv, hs2, h⟩)

theorem restore_fields (c : Cfg) (s : St) (q : String) (exp : Option Nat) (sd : Option Val) (m : CalcMode) :
    (restore c s q exp sd m).1.next = s.next ∧ (restore c s q exp sd m).1.failed = s.failed ∧
    (restore c s q exp sd m).1.stopped = s.stopped ∧ fires (restore c s q exp sd m).1.log = fires s.log ∧
    (restore c s q exp sd m).1.now = s.now ∧
    ((restore c s q exp sd m).1 = s ∨ (restore c s q exp sd m).1.state = some q) := by
  rcases restore_cases c s q exp sd m with h | ⟨h, _⟩ | ⟨v, s2, _, _, hs2, h⟩ <;> rw [h]
  · exact ⟨rfl, rfl, rfl, rfl, rfl, .inl rfl⟩
  · exact ⟨rfl, rfl, rfl, rfl, rfl, .inr rfl⟩
  · obtain ⟨ofailed, onext, ostate⟩ := setOut_fields s2 v
    have fr := frame_setOut s2 v
    rcases hs2 with rfl | ⟨_, d, ev, _, _, rfl⟩
    · exact ⟨onext, ofailed, fr.stopped, fr.fires, fr.now, .inr ostate⟩
    · obtain ⟨hnow, hstopped, -, hstate, hnext, hfailed, -, hfires⟩ := setTimer_fields ((s.enter q).setInput sd) d ev
      exact ⟨onext.trans hnext, ofailed.trans hfailed, fr.stopped.trans hstopped, fr.fires.trans hfires,
        fr.now.trans hnow, .inr (ostate.trans hstate)⟩

theorem restore_out (c : Cfg) (s : St) (q : String) (exp : Option Nat) (sd : Option Val) (m : CalcMode)
    (hu : s.out.isUndef = true) :
    (restore c s q exp sd m).1.out.isUndef = true ∨
    ((restore c s q exp sd m).1.state = some q ∧
      calcFor c ((s.enter q).setInput sd) m = some (restore c s q exp sd m).1.out) := by
  rcases restore_cases c s q exp sd m with h | ⟨h, _⟩ | ⟨v, s2, hc, hv, hs2, h⟩ <;> rw [h]
  · exact .inl hu
  · exact .inl hu
  · have h2 : s2.out.isUndef = true ∧ s2.state = some q := by
      rcases hs2 with rfl | ⟨_, d, ev, _, _, rfl⟩
      · exact ⟨hu, rfl⟩
      · obtain ⟨-, -, -, hstate, -, -, hout, -⟩ := setTimer_fields ((s.enter q).setInput sd) d ev
        exact ⟨by rw [hout]; exact hu, hstate⟩
    obtain ⟨hu2, hst⟩ := h2
    exact .inr ⟨(setOut_fields s2 v).2.2.trans hst, by rw [(setOut_defined s2 v hu2 hv).1]; exact hc⟩

/-- a timer exists afterwards only together with an output, and it belongs to the visit that the restore began -/
theorem restore_inv {c : Cfg} {s : St} (i : Inv c s) (hf : s.failed = none) (hu : s.out.isUndef = true)
    (q : String) (exp : Option Nat) (sd : Option Val) (m : CalcMode) : Inv c (restore c s q exp sd m).1 := by
  have hi : Idle s := i.undef hu hf
  -- the block with `_state` and `sdata` assigned: all past visits are older than the one just begun
  have hlog1 : ∀ x ∈ fires s.log, x.2.2 < s.epoch + 1 := fun x hx => Nat.lt_succ_of_le (i.logOk x hx).2.2
  have w1 : InvW c ((s.enter q).setInput sd) :=
    ⟨.inl hi, fun x hx => ⟨(i.logOk x hx).1, (i.logOk x hx).2.1, Nat.le_of_lt (hlog1 x hx)⟩,
      fun hl => absurd hi.1 hl, i.nodup⟩
  rcases restore_cases c s q exp sd m with h | ⟨h, _⟩ | ⟨v, s2, _, hv, hs2, h⟩ <;> rw [h]
  · exact i
  · exact w1.toInv fun _ _ => hi
  · have w2 : InvW c s2 ∧ s2.out.isUndef = true := by
      rcases hs2 with rfl | ⟨hs, d, ev, dflt, ht, rfl⟩
      · exact ⟨w1, hu⟩
      · obtain ⟨hnow, hstopped, hepoch, hstate, -, -, hout, hfires⟩ :=
          setTimer_fields ((s.enter q).setInput sd) d ev
        refine ⟨⟨.inr ⟨_, live_setTimer _ d ev hs hi.1, setTimer_active _ d ev hs, hepoch.symm, fun _ => ?_,
          hstopped.trans hs, q, dflt, hstate, ht⟩, ?_, ?_, ?_⟩, by rw [hout]; exact hu⟩
        · rw [hnow]; exact Nat.le_add_right _ _
        · rw [hfires, hepoch]; exact w1.logOk
        · intro _; rw [hfires, hepoch]; exact hlog1
        · rw [hfires]; exact i.nodup
    have so := setOut_defined s2 v w2.2 hv
    exact (invW_of_frame (frame_setOut s2 v) (fun h => by rw [← so.2.1]; exact h) w2.1).toInv
      fun h => by rw [so.1, hv] at h; cases h

theorem restore_spec {c : Cfg} {s : St} (i : Inv c s) (hf : s.failed = none) (hu : s.out.isUndef = true)
    (q : String) (exp : Option Nat) (sd : Option Val) (m : CalcMode) :
    Inv c (restore c s q exp sd m).1 ∧ (restore c s q exp sd m).1.stopped = s.stopped ∧
    fires (restore c s q exp sd m).1.log = fires s.log ∧ (restore c s q exp sd m).1.failed = none ∧
    (restore c s q exp sd m).1.next = s.next ∧ (restore c s q exp sd m).1.now = s.now ∧
    ((restore c s q exp sd m).1.out.isUndef = false → (restore c s q exp sd m).1.state = some q) ∧
    ((restore c s q exp sd m).1.out.isUndef = true → Idle (restore c s q exp sd m).1) := by
  obtain ⟨hnext, hfailed, hstopped, hfires, hnow, -⟩ := restore_fields c s q exp sd m
  have ri := restore_inv i hf hu q exp sd m
  refine ⟨ri, hstopped, hfires, hfailed.trans hf, hnext, hnow, fun h => ?_, fun h => ri.undef h (hfailed.trans hf)⟩
  rcases restore_out c s q exp sd m hu with h' | ⟨h', _⟩
  · rw [h'] at h; cases h
  · exact h'

theorem inv_step {c : Cfg} {s s' : St} (st : Step c s s') (i : Inv c s) : Inv c s' := by
  cases st with
  | kept kr => exact inv_of_frame kr.toFrame kr.out (fun h => kr.failed ▸ h) i
  | fail k => exact inv_of_frame (frame_fail _ _) (fail_out _ _) (fun h => absurd h (fail_failed _ _)) i
  | clock t hd => exact inv_setNow i t hd
  | expire h hf hm => exact (inv_popTimer i hf h hm).1
  | stop => exact (inv_stop i).1
  | restore q exp sd m hf hu => exact restore_inv i hf hu q exp sd m
  | transit d q hf _ hu => exact (invW_of_EL i (trans_EL i hf d q)).toInv fun h => by rw [hu] at h; cases h
  | abort d q k hf =>
    exact (invW_fail (invW_of_EL i (trans_EL i hf d q)) k).toInv fun _ h => absurd h (fail_failed _ _)

theorem inv_run (c : Cfg) : ∀ (ops : List Op) (s : St), Inv c s → Inv c (run c s ops) :=
  fun ops s i => (run_steps c ops s).preserves (fun _ _ => inv_step) i

theorem inv_reach (c : Cfg) (ops : List Op) : Inv c (run c {} ops) := inv_run c ops {} (inv_init c)

theorem inv_deliver {c : Cfg} {s : St} (i : Inv c s) (hf : s.failed = none) (e : TEvent) (d : EvData) :
    Inv c (deliver c s e d).1 :=
  (deliver_steps (.refl s) hf e d).preserves (fun _ _ => inv_step) i

theorem inv_fire {c : Cfg} {s : St} (i : Inv c s) (hf : s.failed = none) (h : Handle)
    (hm : h ∈ live s) : Inv c (fire c s h) :=
  inv_deliver (inv_popTimer i hf h hm).1 hf _ _

theorem deliver_spec {c : Cfg} {s : St} (i : Inv c s) (hf : s.failed = none) (e : TEvent) (d : EvData) :
    fires (deliver c s e d).1.log = fires s.log ∧
    ((deliver c s e d).2 = .ret true → s.epoch < (deliver c s e d).1.epoch) ∧
    ((deliver c s e d).2 = .ret false → Frame s (deliver c s e d).1) := by
  obtain ⟨s1, kr, hc⟩ := deliver_cases c s e d
  have fr := kr.toFrame
  have el := fun q => trans_EL (inv_step (.kept kr) i) (kr.failed.trans hf) d q
  rcases hc with ⟨r, hr, hc⟩ | ⟨k, hc⟩ | ⟨q, ⟨k, hc⟩ | ⟨hnf, _, hc⟩⟩ <;> rw [hc]
  · exact ⟨fr.fires, by rcases hr with rfl | rfl <;> nofun, fun _ => fr⟩
  · exact ⟨(frame_fail s1 k).fires.trans fr.fires, nofun, nofun⟩
  · exact ⟨(frame_fail _ k).fires.trans ((el q).fires.trans fr.fires), nofun, nofun⟩
  · exact ⟨(el q).fires.trans fr.fires, fun _ => by rw [← fr.epoch]; exact (el q).entered hnf, nofun⟩

theorem idle_of_stopped {c : Cfg} {s : St} (i : Inv c s) (hs : s.stopped = true) : Idle s := by
  rcases i.timer with h | ⟨_, _, _, _, _, hst, _⟩
  · exact h
  · rw [hs] at hst; cases hst

theorem Step.fires_stopped {c : Cfg} {s s' : St} (st : Step c s s') (i : Inv c s) :
    (fires s'.log = fires s.log ∨ ∃ h ∈ live s, s' = popTimer s h) ∧ (s.stopped = true → s'.stopped = true) := by
  cases st with
  | kept kr => exact ⟨.inl kr.fires, fun h => kr.stopped.trans h⟩
  | fail k => exact ⟨.inl (frame_fail _ _).fires, fun h => (frame_fail _ _).stopped.trans h⟩
  | clock => exact ⟨.inl rfl, fun h => h⟩
  | expire h _ hm => exact ⟨.inr ⟨h, hm, rfl⟩, fun h => h⟩
  | stop => exact ⟨.inl (stopTimer_spec i.timer).2.1, fun _ => rfl⟩
  | restore q exp sd m hf hu =>
    obtain ⟨-, -, hstopped, hfires, -, -⟩ := restore_fields c s q exp sd m
    exact ⟨.inl hfires, fun h => hstopped.trans h⟩
  | transit d q hf _ _ => exact ⟨.inl (trans_EL i hf d q).fires, fun h => (trans_EL i hf d q).stopped.trans h⟩
  | abort d q k hf =>
    have ff := frame_fail (enterLoop c c.tbl.chainLimit (leave s) d q) k
    exact ⟨.inl (ff.fires.trans (trans_EL i hf d q).fires), fun h => ff.stopped.trans ((trans_EL i hf d q).stopped.trans h)⟩

theorem run_stopped (c : Cfg) (ops : List Op) (s : St) (i : Inv c s) (hs : s.stopped = true) :
    (run c s ops).stopped = true ∧ fires (run c s ops).log = fires s.log := by
  refine ((run_steps c ops s).preserves
    (P := fun s' => Inv c s' ∧ s'.stopped = true ∧ fires s'.log = fires s.log) ?_ ⟨i, hs, rfl⟩).2
  intro s1 s2 st ⟨i1, h1, h2⟩
  refine ⟨inv_step st i1, (st.fires_stopped i1).2 h1, ?_⟩
  rcases (st.fires_stopped i1).1 with h | ⟨h, hm, _⟩
  · exact h.trans h2
  · rw [(idle_of_stopped i1 h1).1] at hm; cases hm

theorem Steps.fires_mono {c : Cfg} {s s' : St} (h : Steps c s s') (i : Inv c s) :
    ∀ x ∈ fires s.log, x ∈ fires s'.log := by
  intro x hx
  refine (h.preserves (P := fun s' => Inv c s' ∧ x ∈ fires s'.log) ?_ ⟨i, hx⟩).2
  intro s1 s2 st ⟨i1, h1⟩
  refine ⟨inv_step st i1, ?_⟩
  rcases (st.fires_stopped i1).1 with h | ⟨h, _, rfl⟩
  · rw [h]; exact h1
  · rw [fires_popTimer]; exact List.mem_append_left _ h1

theorem liveHandle_mem {s : St} {id : Nat} {x : Handle} (h : liveHandle s id = some x) : x ∈ live s ∧ x.id = id := by
  have hp := List.find?_some h
  simp only [Bool.and_eq_true, Bool.not_eq_true', beq_iff_eq] at hp
  exact ⟨List.mem_filter.2 ⟨List.mem_of_find?_eq_some h, by simp [hp.2]⟩, hp.1⟩

theorem getState_some {c : Cfg} {s : St} (i : Inv c s) (q : String) (w : Nat)
    (h : getState s = some (q, some w)) : ∃ hd, live s = [hd] ∧ hd.when = w ∧ s.active = some hd.id := by
  unfold getState at h
  cases hq : s.state with
  | none => simp [hq] at h
  | some q' =>
    cases ha : s.active with
    | none => simp [hq, ha] at h
    | some id =>
      cases hx : liveHandle s id with
      | none => simp [hq, ha, hx] at h
      | some x =>
        simp only [hq, ha, hx, Option.map_some, Option.some.injEq, Prod.mk.injEq] at h
        obtain ⟨hl, hact, -⟩ := i.of_mem (liveHandle_mem hx).1
        exact ⟨x, hl, h.2, ha ▸ hact⟩

theorem getState_idle {s : St} (hi : Idle s) (q : String) (hq : s.state = some q) :
    getState s = some (q, none) := by
  unfold getState
  rw [hq, hi.2]

theorem fire_rejected {c : Cfg} {s : St} (i : Inv c s) (hf : s.failed = none) (h : Handle)
    (hm : h ∈ live s) (hr : (deliver c (popTimer s h) h.ev {}).2 = .ret false) :
    Idle (fire c s h) ∧ (fire c s h).state = s.state ∧ (fire c s h).epoch = s.epoch := by
  have ip := inv_popTimer i hf h hm
  have sp := deliver_spec ip.1 hf h.ev {}
  have fr := sp.2.2 hr
  exact ⟨idle_of_frame fr ip.2, fr.state, fr.epoch⟩

theorem deliver_accepted {c : Cfg} {s : St} (i : Inv c s) (hf : s.failed = none) (e : TEvent)
    (d : EvData) (h : Handle) (hm : h ∈ live s) (hr : (deliver c s e d).2 = .ret true) :
    h ∉ live (deliver c s e d).1 ∧ ∀ h' ∈ live (deliver c s e d).1, h.epoch < h'.epoch := by
  have sp := deliver_spec i hf e d
  have i2 := inv_deliver i hf e d
  have hep : h.epoch = s.epoch := (i.of_mem hm).2.2.1
  have key : ∀ h' ∈ live (deliver c s e d).1, h.epoch < h'.epoch := by
    intro h' hm'
    have he := (i2.of_mem hm').2.2.1
    have := sp.2.1 hr
    omega
  exact ⟨fun hin => Nat.lt_irrefl _ (key h hin), key⟩

theorem fires_fire {c : Cfg} {s : St} (i : Inv c s) (hf : s.failed = none) (h : Handle)
    (hm : h ∈ live s) :
    fires (fire c s h).log = fires s.log ++ [(h.when, h, s.epoch)] := by
  have ip := inv_popTimer i hf h hm
  have sp := deliver_spec ip.1 hf h.ev {}
  unfold fire
  rw [sp.1, fires_popTimer, i.due hf hm]

theorem advance_fires {c : Cfg} {s : St} (i : Inv c s) (hf : s.failed = none) (h : Handle)
    (hl : live s = [h]) (t : Nat) (strict : Bool) (hd : isDue t strict h = true) :
    (h.when, h, s.epoch) ∈ fires (advance c s t strict).log := by
  unfold advance
  -- `advanceAux` recurses on its fuel: the `+ 2` of `advance` is shown as a successor so that one turn unfolds
  show _ ∈ fires (advanceAux c (((t - s.now) + s.timers.length + 1) + 1) s t strict).log
  unfold advanceAux
  have hnd : nextDue s t strict = some h := by
    unfold nextDue; rw [hl]; simp [hd, earliest]
  have hm : h ∈ live s := by rw [hl]; simp
  rw [hf, hnd]
  simp only [Option.isSome_none, Bool.false_eq_true, ↓reduceIte]
  apply (advanceAux_steps t strict _ _ (.refl (fire c s h))).fires_mono (inv_fire i hf h hm)
  rw [fires_fire i hf h hm]
  simp

/-- between events of a running simulation: no chained event is pending, and an initialised
    block has a state -/
def Quiet (s : St) : Prop :=
  s.failed = none → (s.next = none ∧ (s.out.isUndef = false → s.state ≠ none))

theorem quiet_init : Quiet {} := fun _ => ⟨rfl, nofun⟩

theorem leave_fields (s : St) : (leave s).failed = s.failed ∧ (leave s).next = s.next := by
  unfold leave
  split
  · exact ⟨rfl, rfl⟩
  · split
    · exact ⟨(stopTimer_fields _).1, (stopTimer_fields _).2.1⟩
    · exact ⟨rfl, rfl⟩

theorem leave_out (s : St) : (leave s).out = s.out := by
  unfold leave
  split
  · rfl
  · split
    · rw [(stopTimer_fields _).2.2.1]; rfl
    · rfl

theorem finish_next (c : Cfg) (s : St) : (finish c s).next = s.next := by
  unfold finish
  split
  · unfold St.fail; split <;> rfl
  · unfold sendOnEnter setOut
    split <;> split <;> rfl

theorem enterState_state (c : Cfg) (s : St) (d : EvData) (q : String) :
    (enterState c s d q).state = some q := by
  unfold enterState
  have f1 := frame_runEnter c (s.enter q) q
  dsimp only
  split
  · exact f1.state
  · split
    · exact f1.state
    · next tev dflt _ =>
      rcases startTimer_spec c (runEnter c (s.enter q) q) q tev d.dur with f2 | ⟨_, n, _, heq⟩
      · exact f2.state.trans f1.state
      · obtain ⟨-, -, -, hstate, -⟩ := setTimer_fields (runEnter c (s.enter q) q) n tev
        rw [heq, hstate]; exact f1.state

theorem enterLoop_quiet (c : Cfg) : ∀ (fuel : Nat) (s : St) (d : EvData) (q : String),
    (enterLoop c fuel s d q).failed = none →
    (enterLoop c fuel s d q).next = none ∧ (enterLoop c fuel s d q).state ≠ none := by
  intro fuel s d q
  refine enterLoop_rule c (J := fun _ => True) (Q := fun s' => s'.failed = none → s'.next = none ∧ s'.state ≠ none)
    (fun s _ h => absurd h (fail_failed _ _)) ?_ fuel s d q trivial
  intro s d q _ s2 hs2
  refine ⟨fun h1 h2 => absurd h2 h1, fun _ _ => trivial, fun _ hn _ => ⟨(finish_next c s2).trans hn, ?_⟩⟩
  rw [(frame_finish c s2).state, hs2, enterState_state]
  nofun

theorem quiet_run (c : Cfg) : ∀ (ops : List Op) (s : St), Quiet s → Quiet (run c s ops) := by
  intro ops s h
  refine (run_steps c ops s).running (Q := fun s => s.next = none ∧ (s.out.isUndef = false → s.state ≠ none)) ?_ h
  intro s s' st _ hf' hq
  cases st with
  | kept kr => exact ⟨kr.next.trans hq.1, by rw [kr.out, kr.state]; exact hq.2⟩
  | fail k => exact absurd hf' (fail_failed _ _)
  | clock => exact hq
  | expire => exact hq
  | stop =>
    obtain ⟨-, hnext, hout, hstate⟩ := stopTimer_fields s
    refine ⟨hnext.trans hq.1, ?_⟩
    show (stopTimer s).out.isUndef = false → (stopTimer s).state ≠ none
    rw [hout, hstate]; exact hq.2
  | restore q exp sd m _ _ =>
    obtain ⟨hnext, -, -, -, -, e | e⟩ := restore_fields c s q exp sd m <;> refine ⟨hnext.trans hq.1, ?_⟩
    · rw [e]; exact hq.2
    · intro _; rw [e]; nofun
  | transit d q _ hnf _ => exact ⟨(enterLoop_quiet c _ _ d q hnf).1, fun _ => (enterLoop_quiet c _ _ d q hnf).2⟩
  | abort => exact absurd hf' (fail_failed _ _)

/-! ### a counterexample: `_restore_state` with the timer started first (not part of the model)

`restoreOld` is `_restore_state` with its statements in another order -- the order edzed had before its commit
6d61851 ("start the timer only when the state was really restored", says the comment it put into the method) --,
hand-written: `_set_timer(remaining, timed_event)` is called as soon as the saved state is found valid and not
expired, BEFORE `self._state = state`, `self.sdata = sdata` and `calc_output()`.  When `calc_output()` then raises (the error is suppressed by
`init_from_persistent_data`) or returns UNDEF, the block stays uninitialised WITH `_active_timer` set.  The
initialisation that follows, `init_from_value(initdef)` = `Goto(initdef)`, runs `_ctx_event`, which skips
`_stop_timer()` for a block that is not initialised; a timed target state then overwrites `_active_timer` and the
first handle is orphaned: nobody can cancel it, it fires later into whatever state the FSM is in, and it survives
`stop()`.  EdzedProps/C04.lean shows on a concrete Timer that `restore_then_goto_has_one_live_timer` is false of
`restoreOld` (two live handles): the order of these statements is what the theorem rests on. -/

/-- `_restore_state` with the timer armed before the state is assigned and before `calc_output()` is called -/
def restoreOld (c : Cfg) (s : St) (q : String) (exp : Option Nat) (sd : Option Val) (m : CalcMode) : St × Res :=
  if !c.tbl.states.contains q then (s, .err .valueError)
  else
    let body (s0 : St) : St × Res :=
      let s1 := (s0.enter q).setInput sd
      match calcFor c s1 m with
      | none => (s1, .err .keyError)
      | some v => if v.isUndef then (s1, .ret true) else (setOut s1 v, .ret true)
    match exp with
    | none => body s
    | some t =>
      if t ≤ s.now then (s, .ret true)
      else match c.tbl.timedOf q with
        | none => (s, .err .circuitError)
        | some (ev, _) => body (setTimer s (t - s.now) ev)

end Edzed.FsmTimer
