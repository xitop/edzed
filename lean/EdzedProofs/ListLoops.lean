/- Folds over a list that core states only as iffs or not at all: a `foldlM` whose body keeps an invariant or runs in
   `Option`, a `filterMap` or `flatMap` whose function is constant or picks elements, and the left fold of `max`. -/

namespace Edzed

theorem forall_mem_pair {α : Type} {P : α → Prop} {a b : α} (ha : P a) (hb : P b) : ∀ x ∈ [a, b], P x :=
  List.forall_mem_cons.mpr ⟨ha, List.forall_mem_singleton.mpr hb⟩

theorem foldlM_ok_of_invariant {ε α β : Type} (f : β → α → Except ε β) (g : β → α → β)
    (I : β → List α → Prop)
    (step : ∀ b a rest, I b (a :: rest) → f b a = .ok (g b a) ∧ I (g b a) rest) :
    ∀ (l : List α) (b : β), I b l → l.foldlM f b = .ok (l.foldl g b) := by
  intro l
  induction l with
  | nil => intro b _; rfl
  | cons a l ih =>
    intro b hb
    obtain ⟨h1, h2⟩ := step b a l hb
    rw [List.foldlM_cons, h1]
    exact ih _ h2

theorem foldlM_isSome_iff {α β : Type} (g : β → α → Option β) (l : List α) (b : β) :
    (∃ b', l.foldlM g b = some b') ↔
      ∀ pre a post bk, l = pre ++ a :: post → pre.foldlM g b = some bk → (g bk a).isSome = true := by
  constructor
  · rintro ⟨b', hb⟩ pre a post bk rfl hpre
    rw [List.foldlM_append, hpre, Option.bind_eq_bind, Option.bind_some, List.foldlM_cons] at hb
    cases hg : g bk a with
    | some x => rfl
    | none => rw [hg] at hb; cases hb
  · intro h
    induction l generalizing b with
    | nil => exact ⟨b, rfl⟩
    | cons a l ih =>
      have h0 := h [] a l b rfl rfl
      cases h1 : g b a with
      | none => rw [h1] at h0; cases h0
      | some b1 =>
        rw [List.foldlM_cons, h1]
        refine ih b1 fun pre c post bk hs hf => h (a :: pre) c post bk (by rw [hs]; rfl) ?_
        rw [List.foldlM_cons, h1]
        exact hf
theorem filterMap_const_none {α β : Type} (l : List α) : l.filterMap (fun _ => (none : Option β)) = [] :=
  List.filterMap_eq_nil_iff.2 fun _ _ => rfl

theorem flatMap_const_nil {α β : Type} (l : List α) : l.flatMap (fun _ => ([] : List β)) = [] :=
  List.flatMap_eq_nil_iff.2 fun _ _ => rfl

theorem flatMap_ite_singleton {α : Type} (l : List α) (p : α → Bool) :
    l.flatMap (fun a => if p a then [a] else []) = l.filter p := by
  induction l with
  | nil => rfl
  | cons a l ih => by_cases h : p a <;> simp [List.flatMap_cons, h, ih]

theorem flatMap_ite_eq {α β : Type} [DecidableEq α] (l : List α) (k : α) (x : List β) (hnd : l.Nodup) (hk : k ∈ l) :
    l.flatMap (fun j => if j = k then x else []) = x := by
  induction l with
  | nil => simp at hk
  | cons a l ih =>
    rw [List.nodup_cons] at hnd
    by_cases ha : a = k
    · subst ha
      have : l.flatMap (fun j => if j = a then x else []) = [] :=
        List.flatMap_eq_nil_iff.2 fun j hj => if_neg fun (e : j = a) => hnd.1 (e ▸ hj)
      simp [List.flatMap_cons, this]
    · have hk' : k ∈ l := by simpa [Ne.symm ha] using hk
      simp [List.flatMap_cons, ha, ih hnd.2 hk']

theorem foldl_max_le_iff {α : Type} (f : α → Nat) (xs : List α) (a B : Nat) :
    xs.foldl (fun m x => max m (f x)) a ≤ B ↔ a ≤ B ∧ ∀ x ∈ xs, f x ≤ B := by
  induction xs generalizing a with
  | nil => simp
  | cons y ys ih => simp [ih, Nat.max_le, and_assoc]

theorem foldl_max_ge {α : Type} (f : α → Nat) (xs : List α) (a : Nat) : a ≤ xs.foldl (fun m x => max m (f x)) a :=
  ((foldl_max_le_iff f xs a _).1 (Nat.le_refl _)).1

theorem foldl_max_mem {α : Type} (f : α → Nat) (xs : List α) (a : Nat) :
    ∀ x ∈ xs, f x ≤ xs.foldl (fun m x => max m (f x)) a :=
  ((foldl_max_le_iff f xs a _).1 (Nat.le_refl _)).2

theorem foldl_max_absorb {α : Type} (f : α → Nat) (xs : List α) (a : Nat) (h : ∀ x ∈ xs, f x ≤ a) :
    xs.foldl (fun m x => max m (f x)) a = a :=
  Nat.le_antisymm ((foldl_max_le_iff f xs a a).2 ⟨Nat.le_refl _, h⟩) (foldl_max_ge f xs a)

theorem foldl_max_congr {α : Type} (f g : α → Nat) (xs : List α) (a : Nat) (h : ∀ x ∈ xs, f x = g x) :
    xs.foldl (fun m x => max m (f x)) a = xs.foldl (fun m x => max m (g x)) a := by
  induction xs generalizing a with
  | nil => rfl
  | cons y ys ih =>
    simp only [List.foldl_cons, h y (by simp)]
    exact ih _ (fun x hx => h x (by simp [hx]))

theorem drop_cons_getD {α : Type} (l : List α) (d : α) : ∀ (i : Nat) (b : α) (rest : List α),
    l.drop i = b :: rest → l.getD i d = b ∧ l.drop (i + 1) = rest := by
  induction l with
  | nil => intro i b rest h; simp at h
  | cons a as ih =>
    intro i b rest h
    cases i with
    | zero => simp at h; simp [h.1, h.2]
    | succ i => simpa using ih i b rest (by simpa using h)

theorem foldl_append_if {α : Type} (c : α → Bool) (l acc : List α) :
    l.foldl (fun del key => if c key then del ++ [key] else del) acc = acc ++ l.filter c := by
  induction l generalizing acc with
  | nil => simp
  | cons a r ih => cases hc : c a <;> simp [hc, ih]

end Edzed
