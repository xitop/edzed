/-
Helper definitions and lemmas for the translation tie of C11 (`SBlock.event`, `Event.send`):
the primitives of the generated programs (EdzedModel/Gen/TranslatedDispatch.lean) instantiated with the
operations of the model (EdzedModel/Dispatch.lean), the hand-written reference program of `Event.send` (that of
`SBlock.event` is in EdzedProofs/EventRef.lean), and the lemmas that relate the parts of the reference programs to
the parts of `deliver` / `sendEdges`.
-/
import EdzedModel.Dispatch
import EdzedProofs.Dispatch
import EdzedProofs.DataLemmas
import EdzedModel.Gen.TranslatedDispatch
import EdzedProofs.TrdRun
import EdzedProofs.EventRef

namespace Edzed.TrTie
open Edzed.Dispatch Edzed.Gen.TrD

/-- an exception object as the code sees it: class, "the traceback has more than one level" at the
    place where `event()` catches it, "its message says forbidden recursive call" -/
structure ExcV where
  kind : Exc
  deep : Bool
  -- `refusal`: the message carries the marker 'Forbidden recursive' (what the harness looks for, too)
  refusal : Bool
  deriving DecidableEq, Repr

/-- `Class(message)` -/
def mkExc (cls msg : String) : ExcV :=
  { kind := if cls == "ValueError" then .valueError else if cls == "TypeError" then .typeError
            else if cls == "EdzedCircuitError" then .circuitError
            else if cls == "EdzedUnknownEvent" then .unknownEvent
            else if cls == "EdzedInvalidState" then .invalidState else .other,
    deep := false,
    refusal := msg == "recursion" }

/-- which `except` clause catches what (the artefact `outOfFuel` is no exception of the code) -/
def excIs (e : ExcV) (cls : String) : Bool :=
  if cls == "EdzedUnknownEvent" then e.kind == .unknownEvent
  else if cls == "Exception" then e.kind != .outOfFuel
  else false

/-- Python's `None`-or-event-type -/
def optOf : EType → Option EType
  | .none => Option.none
  | e => some e

/-- the result of a model operation as the outcome of a call: an exception raised inside it has a
    traceback of more than one level -/
def liftCall (p : St × Res) : St × Out ExcV Val Val :=
  match p.2 with
  | .ret v => (p.1, .next v)
  | .exc x => (p.1, .raise ⟨x, true, false⟩)

def liftUnit {ρ : Type} (p : St × Res) : St × Out ExcV ρ Unit :=
  match p.2 with
  | .ret _ => (p.1, .next ())
  | .exc x => (p.1, .raise ⟨x, true, false⟩)

/-- the handler's frame without the `except` clauses of `event()` (ghost stack and trace) -/
def inFrame (d : Nat) (stk0 : List Frame) (s3 : St) (data : Data) (body : St → St × Res) : St × Res :=
  let s4 := { s3 with stack := ⟨d, .handler⟩ :: stk0,
                      trace := .enter d (handlerDepth stk0 d + 1) (data.get? "value") (windowDepth stk0 d) :: s3.trace }
  let p := body s4
  ({ p.1 with stack := stk0,
              trace := .exit d (match p.2 with | .ret _ => true | .exc _ => false) :: p.1.trace }, p.2)

/-- the primitives of `SBlock.event` as operations of the model: block `b` = number `d` of circuit `c`,
    nested deliveries with `fuel`, `stk0` = the (ghost) stack at the entry -/
def evPrims (c : Circ) (fuel : Nat) (b : Blk) (d : Nat) (stk0 : List Frame) :
    EventPrims St ExcV EType Data (Option Val) (String × List String × List String × Bool) Val Bool where
  isStr := fun et => match et with | .name _ => true | .empty => true | _ => false
  etypeTruthy := fun et => match et with | .empty => false | _ => true
  isEventType := fun et => match et with | .cond _ _ => true | .goto _ => true | _ => false
  isCond := fun et => match et with | .cond _ _ => true | _ => false
  etrue := fun et => match et with | .cond t _ => optOf t | _ => Option.none
  efalse := fun et => match et with | .cond _ f => optOf f | _ => Option.none
  dataValue := fun data => data.get? "value"
  valTruthy := fun o => match o with | some v => v.truthy | Option.none => false
  mkExc := mkExc
  excIs := excIs
  tbDeep := fun e => e.deep
  getActive := fun s => s.active d
  setActive := fun v => M.modify fun s => { s with active := upd s.active d v }
  -- only the refusal of a busy block is marked in its message: it alone leaves the ghost item `.refused`
  abort := fun e => M.modify fun s =>
    if e.refusal then { s.abort e.kind with trace := .refused d :: s.trace } else s.abort e.kind
  initSteps := fun s => match s.init d with | .pending => 1 | .running => -2 | .done => 2
  enableEnter := fun s => ({ s with active := upd s.active d false, stack := ⟨d, .init⟩ :: stk0 }, .next (s.active d))
  enableExit := fun saved => M.modify fun s => { s with active := upd s.active d saved, stack := stk0 }
  initSblockFull := fun s => liftUnit (initBlock (deliver c fuel) b d s)
  lookup := fun et => lookupHandler b.kind et
  callHandler := fun h data s =>
    if !paramsOk h data then (s, .raise ⟨.typeError, false, false⟩)
    else liftCall (inFrame d stk0 s data (fun s4 => handlerBody (deliver c fuel) b d s4 h.1 data))
  callDefault := fun et data s =>
    if b.kind = .fsm then liftCall (inFrame d stk0 s data (fun s4 => fsmEvent (deliver c fuel) b d stk0 s4 et data))
    else if b.kind = .repeat then
      liftCall (inFrame d stk0 s data (fun s4 => repeatEvent (deliver c fuel) b d s4 et data))
    else (s, .raise ⟨.unknownEvent, true, false⟩)
  noneVal := Val.none

/-- the outcome of the translated `event()` as a result of the model -/
def toRes (p : St × Out ExcV Val Unit) : St × Res :=
  match p.2 with
  | .next _ => (p.1, .ret .none)
  | .ret v => (p.1, .ret v)
  | .raise e => (p.1, .exc e.kind)
  | .diverged => (p.1, .exc .outOfFuel)

/-- `toRes` for the call of the handler, whose value is the value of `event()` -/
def toResV (p : St × Out ExcV Val Val) : St × Res :=
  match p.2 with
  | .next v => (p.1, .ret v)
  | .ret v => (p.1, .ret v)
  | .raise e => (p.1, .exc e.kind)
  | .diverged => (p.1, .exc .outOfFuel)

/-- nesting depth of `EventCond`s: any fuel above it lets the translated `while` loop finish -/
def EType.depth : EType → Nat
  | .cond t f => max (depth t) (depth f) + 1
  | _ => 0

section
variable (c : Circ) (fuel : Nat) (b : Blk) (d : Nat) (stk0 : List Frame)

theorem valTruthy_eq (data : Data) :
    (evPrims c fuel b d stk0).valTruthy ((evPrims c fuel b d stk0).dataValue data) = dataTruthy data := rfl
theorem isCond_cond (t f : EType) : (evPrims c fuel b d stk0).isCond (.cond t f) = true := rfl
theorem etrue_cond (t f : EType) : (evPrims c fuel b d stk0).etrue (.cond t f) = optOf t := rfl
theorem efalse_cond (t f : EType) : (evPrims c fuel b d stk0).efalse (.cond t f) = optOf f := rfl
theorem noneVal_eq : (evPrims c fuel b d stk0).noneVal = Val.none := rfl

theorem optOf_some {t : EType} (h : t ≠ .none) : optOf t = some t := by
  cases t <;> simp_all [optOf]

theorem optOf_none {e : EType} (h : optOf e = Option.none) : e = .none := by
  cases e <;> simp_all [optOf]

theorem resolve_ne_none_of (et : EType) (v : Bool) (e : EType) (h : optOf (et.resolve v) = some e) :
    et.resolve v = e ∧ e ≠ .none := by
  cases hr : et.resolve v <;> simp_all [optOf] <;> (subst h; simp)

theorem loop_is_resolve (data : Data)
    (n : Nat) (et : EType) (s : St) (hn : EType.depth et < n) (het : et ≠ .none) :
    event_loop1 (evPrims c fuel b d stk0) data n et s =
      (s, match optOf (et.resolve (dataTruthy data)) with
          | Option.none => .ret Val.none
          | some e => .next e) := by
  induction n generalizing et with
  | zero => omega
  | succ n ih =>
    cases et with
    | cond t f =>
      simp only [EType.depth] at hn
      -- one iteration goes on with the branch `e` that the value selects
      obtain ⟨e, he, hd⟩ : ∃ e, (if dataTruthy data then t else f) = e ∧ EType.depth e < n :=
        ⟨_, rfl, by split <;> omega⟩
      have hstep : event_loop1 (evPrims c fuel b d stk0) data (n + 1) (.cond t f) s =
          (match optOf e with
           | Option.none => (s, .ret Val.none)
           | some e' => event_loop1 (evPrims c fuel b d stk0) data n e' s) := by
        rw [event_loop1, ← he]
        simp only [valTruthy_eq, isCond_cond, etrue_cond, efalse_cond, noneVal_eq]
        by_cases hv : dataTruthy data = true <;> simp only [hv, if_true, Bool.false_eq_true, if_false]
        · cases optOf t <;> rfl
        · cases optOf f <;> rfl
      have hres : (EType.cond t f).resolve (dataTruthy data) = e.resolve (dataTruthy data) := by
        rw [EType.resolve, ← he]
        split <;> rfl
      rw [hstep, hres]
      by_cases hne : e = .none
      · subst hne; rfl
      · rw [optOf_some hne]; exact ih e hd hne
    | none => exact absurd rfl het
    | _ => rfl

theorem checkPart_model (et : EType) (s : St) :
    checkPart (evPrims c fuel b d stk0) et s =
      (s, match et.check with | Option.none => .next () | some x => .raise ⟨x, false, false⟩) := by
  cases et <;> rfl

/-- `with self._enable_event: run()` and falling off the end of the `if`: the guard is released for
    `run` and restored, and the frame popped, on every outcome -/
theorem enable_model (run : St → St × Res) (s1 : St) :
    (M.bind (M.withCtx (evPrims c fuel b d stk0).enableEnter (evPrims c fuel b d stk0).enableExit
        (M.bind (fun s => liftUnit (run s)) fun _ => M.pure ())) fun (_ : Unit) => M.pure ()) s1 =
      liftUnit (ρ := Val)
        ({ (run { s1 with active := upd s1.active d false, stack := ⟨d, .init⟩ :: stk0 }).1 with
            active := upd (run { s1 with active := upd s1.active d false, stack := ⟨d, .init⟩ :: stk0 }).1.active
              d (s1.active d),
            stack := stk0 },
         (run { s1 with active := upd s1.active d false, stack := ⟨d, .init⟩ :: stk0 }).2) := by
  dsimp only [M.withCtx, M.bind, M.tryFinally, evPrims]
  generalize run _ = p
  obtain ⟨s', r⟩ := p
  cases r <;> rfl

theorem initPart_model (s1 : St) :
    initPart (evPrims c fuel b d stk0) s1 = liftUnit (earlyInit (deliver c fuel) b d stk0 s1) := by
  have hsteps : (evPrims c fuel b d stk0).initSteps s1 =
      match s1.init d with | .pending => 1 | .running => -2 | .done => 2 := rfl
  unfold initPart earlyInit
  rw [show ∀ k : St → M St ExcV Val Unit, M.bind M.get k s1 = k s1 s1 from fun _ => rfl, hsteps]
  cases s1.init d
  · exact enable_model c fuel b d stk0 (initBlock (deliver c fuel) b d) s1
  · rfl
  · rfl

theorem lookupPart_model (et : EType) (s : St) :
    lookupPart (evPrims c fuel b d stk0) et s = (s, .next (lookupHandler b.kind et)) := by
  cases et <;> rfl

/-- FSM and Repeat have no `_event_NAME` methods -/
theorem lookup_none_of_kind (hk : b.kind = .fsm ∨ b.kind = .repeat) (et : EType) :
    lookupHandler b.kind et = Option.none := by
  rcases hk with hk | hk <;> rw [hk] <;> cases et <;> rfl

theorem excIs_unknown (e : ExcV) : excIs e "EdzedUnknownEvent" = (e.kind == .unknownEvent) := by
  simp [excIs]

theorem excIs_exception (e : ExcV) : excIs e "Exception" = (e.kind != .outOfFuel) := by
  simp [excIs]

/-- the `except` clauses applied to an exception raised inside the handler = `classify` -/
theorem except_deep_is_classify (s : St) (x : Exc) :
    (if excIs ⟨x, true, false⟩ "EdzedUnknownEvent" = true then (s, Exc.unknownEvent) else
      if excIs ⟨x, true, false⟩ "Exception" = true then (s.abort .circuitError, x) else (s, x)).1
      = classify s (.exc x) := by
  rw [excIs_unknown, excIs_exception]
  cases x <;> rfl

theorem mkExc_circuit : mkExc "EdzedCircuitError" "" = ⟨.circuitError, false, false⟩ := by
  simp [mkExc]

theorem mkExc_recursion : mkExc "EdzedCircuitError" "recursion" = ⟨.circuitError, false, true⟩ := by
  simp [mkExc]

theorem refusePart_model (s : St) :
    toRes (refusePart (evPrims c fuel b d stk0) s) =
      ({ s.abort .circuitError with trace := .refused d :: s.trace }, .exc .circuitError) := by
  unfold refusePart
  dsimp only [evPrims]
  rw [mkExc_recursion]
  rfl

/-- the `except` clauses of `event()` around a call that raises from inside the handler (or returns):
    the state is classified, the outcome passed on -/
theorem except_model (h : Option (String × List String × List String × Bool)) (et : EType) (data : Data)
    (s3 : St) (p : St × Res)
    (hcall : h.elim ((evPrims c fuel b d stk0).callDefault et data)
      ((evPrims c fuel b d stk0).callHandler · data) s3 = liftCall p) :
    toResV (callPart (evPrims c fuel b d stk0) h et data s3) = (classify p.1 p.2, p.2) := by
  obtain ⟨s', r⟩ := p
  cases r with
  | ret v => rw [callPart_next (evPrims c fuel b d stk0) h et data s3 s' v hcall]; rfl
  | exc x =>
    rw [callPart_raise (evPrims c fuel b d stk0) h et data s3 s' ⟨x, true, false⟩ hcall]
    show toResV (if excIs ⟨x, true, false⟩ "EdzedUnknownEvent" = true then _
      else if excIs ⟨x, true, false⟩ "Exception" = true ∧ true = true then
        M.bind (M.bind ((evPrims c fuel b d stk0).abort (mkExc "EdzedCircuitError" "")) _) _ s'
      else _) = _
    rw [excIs_unknown, excIs_exception, mkExc_circuit]
    cases x <;> rfl

theorem inHandler_eq (s : St) (data : Data) (body : St → St × Res) :
    inHandler d stk0 s data body =
      (classify (inFrame d stk0 s data body).1 (inFrame d stk0 s data body).2, (inFrame d stk0 s data body).2) := rfl

theorem callPart_model (et : EType) (data : Data) (s3 : St) :
    toResV (callPart (evPrims c fuel b d stk0) (lookupHandler b.kind et) et data s3) =
      callHandler (deliver c fuel) b d stk0 s3 et data := by
  unfold callHandler
  simp only [inHandler_eq]
  by_cases hk : b.kind = .fsm
  · rw [if_pos hk, lookup_none_of_kind b (.inl hk)]
    exact except_model c fuel b d stk0 Option.none et data s3 (inFrame d stk0 s3 data _) (if_pos hk)
  rw [if_neg hk]
  by_cases hr : b.kind = .repeat
  · rw [if_pos hr, lookup_none_of_kind b (.inr hr)]
    exact except_model c fuel b d stk0 Option.none et data s3 (inFrame d stk0 s3 data _)
      ((if_neg hk).trans (if_pos hr))
  rw [if_neg hr]
  cases lookupHandler b.kind et with
  | none =>
    exact except_model c fuel b d stk0 Option.none et data s3 (s3, .exc .unknownEvent)
      ((if_neg hk).trans (if_neg hr))
  | some h =>
    show _ = if (!paramsOk h data) = true then _ else _
    by_cases hp : (!paramsOk h data) = true
    · -- the call does not bind: TypeError from the call itself, one traceback level, no `abort`
      rw [if_pos hp, callPart_raise (evPrims c fuel b d stk0) (some h) et data s3 s3 ⟨.typeError, false, false⟩
        (if_pos hp)]
      rfl
    · rw [if_neg hp]
      exact except_model c fuel b d stk0 (some h) et data s3 (inFrame d stk0 s3 data _) (if_neg hp)

theorem ret_after_call (q : St × Out ExcV Val Val) :
    toRes (Gen.TrD.andThen (fun retval => M.ret retval) q) = toResV q := by
  obtain ⟨s', o⟩ := q
  cases o <;> rfl

theorem toRes_liftUnit (k : Unit → M St ExcV Val Unit) (p : St × Res) :
    toRes (Gen.TrD.andThen k (liftUnit p)) = Dispatch.andThen p (fun s => toRes (k () s)) := by
  obtain ⟨s, r⟩ := p
  cases r <;> rfl

theorem bodyPart_model (n : Nat) (et : EType) (data : Data) (s1 : St) (hn : EType.depth et < n)
    (hne : et ≠ .none) :
    toRes (bodyPart (evPrims c fuel b d stk0) n et data s1) =
      eventBody (deliver c fuel) b d stk0 s1 et data := by
  unfold bodyPart eventBody
  simp only [bind_run, loop_is_resolve c fuel b d stk0 data n et s1 hn hne]
  cases hr : optOf (et.resolve (dataTruthy data)) with
  | none => simp [optOf_none hr, toRes, andThen_ret]
  | some e =>
    obtain ⟨he, hen⟩ := resolve_ne_none_of et _ e hr
    -- the early initialisation, the lookup, the call with its `except` clauses, `return retval`
    simp only [he, hen, if_false, bind_run, andThen_next, initPart_model, toRes_liftUnit, lookupPart_model,
      ret_after_call, callPart_model]

/-- `try: body  finally: self._event_active = False`, then falling off the end of `event()` -/
theorem finally_model (body : M St ExcV Val Unit) (s1 : St) :
    toRes ((M.bind (M.tryFinally body (M.bind ((evPrims c fuel b d stk0).setActive false) fun _ => M.pure ()))
      fun (_ : Unit) => M.pure ()) s1) =
      ({ (toRes (body s1)).1 with active := upd (toRes (body s1)).1.active d false }, (toRes (body s1)).2) := by
  unfold M.bind M.tryFinally
  generalize body s1 = p
  obtain ⟨s', o⟩ := p
  cases o <;> rfl

end

section sendReference
variable {σ ε δ φ ψ : Type} (Q : SendPrims σ ε δ φ ψ)

/-- `Event.send` written by hand (the filter loop is the generated `send_for1`, tied below) -/
def sendRef (data : δ) (filters : List φ) : M σ ε Bool Unit :=
  if (!Q.sameCircuit) then
    M.raise (Q.mkExc "EdzedCircuitError" "")
  else
    let data := Q.setSource data
    M.bind (send_for1 Q filters data) fun data =>
    M.bind (Q.destEvent data) fun _ =>
    M.ret (true)

/-- one iteration of `for efilter in self._filters` written by hand -/
def filterStepRef (loop : δ → M σ ε Bool δ) (efilter : φ) (data : δ) : M σ ε Bool δ :=
  M.bind (Q.applyFilter efilter data) fun retval =>
  if Q.isMapping retval then
    if Q.anyKeyNotStr retval then
      M.raise (Q.mkExc "TypeError" "")
    else
      let data := Q.asData retval
      loop data
  else
    if (!Q.resTruthy (retval)) then
      M.ret (false)
    else
      loop data

theorem filter_loop_unfold (f : φ) (fs : List φ) (data : δ) :
    send_for1 Q (f :: fs) data = filterStepRef Q (send_for1 Q fs) f data ∧
    send_for1 Q [] data = M.pure data := ⟨rfl, rfl⟩

end sendReference

/-- what an event filter returns: a mapping, or some other object -/
inductive FRes where
  | mapping (d : Data)
  | value (v : Val)
  deriving Repr

/-- the filters of the model as Python callables -/
def filterView : Filter → Data → FRes
  | .accept, _ => .value (.bool true)
  | .reject, _ => .value (.bool false)
  | .ifValue, d => .value ((d.get? "value").getD Val.none)
  | .ifNotValue, d => .value (.bool (!dataTruthy d))
  | .delValue, d => .mapping (d.erase "value")
  | .setValue v, d => .mapping (d.set "value" v)
  | .notFromUndef, d => .value (.bool (!(d.get? "previous" == some .undef)))

def sendPrims (dlv : Dlv) (src : Nat) (e : Edge) : SendPrims St ExcV Data Filter FRes where
  sameCircuit := true
  mkExc := mkExc
  setSource := fun d => d.set "source" (.str (blockName src))
  applyFilter := fun f d => M.pure (filterView f d)     -- the filters of the model neither raise nor act
  isMapping := fun r => match r with | .mapping _ => true | .value _ => false
  anyKeyNotStr := fun _ => false            -- the keys of `Data` are strings
  asData := fun r => match r with | .mapping d => d | .value _ => []
  resTruthy := fun r => match r with | .mapping d => !d.isEmpty | .value v => v.truthy
  resIsNone := fun r => match r with | .mapping _ => false | .value v => v == Val.none
  destEvent := fun data s => liftUnit (dlv s e.dest e.etype data)

def toResS (p : St × Out ExcV Bool Unit) : St × Res :=
  match p.2 with
  | .next _ => (p.1, .ret .none)
  | .ret _ => (p.1, .ret .none)
  | .raise x => (p.1, .exc x.kind)
  | .diverged => (p.1, .exc .outOfFuel)

theorem getD_truthy (d : Data) : ((d.get? "value").getD Val.none).truthy = dataTruthy d := by
  unfold dataTruthy
  cases d.get? "value" <;> rfl

section
variable (dlv : Dlv) (src : Nat) (e : Edge)

theorem q_isMapping_value (v : Val) : (sendPrims dlv src e).isMapping (.value v) = false := rfl
theorem q_isMapping_mapping (m : Data) : (sendPrims dlv src e).isMapping (.mapping m) = true := rfl
theorem q_anyKey (r : FRes) : (sendPrims dlv src e).anyKeyNotStr r = false := rfl
theorem q_asData (m : Data) : (sendPrims dlv src e).asData (.mapping m) = m := rfl
theorem q_truthy_value (v : Val) : (sendPrims dlv src e).resTruthy (.value v) = v.truthy := rfl
theorem q_apply (f : Filter) (data : Data) :
    (sendPrims dlv src e).applyFilter f data = M.pure (filterView f data) := rfl

theorem pure_bind {σ ε ρ α β : Type} (a : α) (k : α → M σ ε ρ β) : M.bind (M.pure a) k = k a := rfl

theorem filter_step_is_model (f : Filter) (fs : List Filter) (data : Data) :
    send_for1 (sendPrims dlv src e) (f :: fs) data =
      (match f.apply data with
       | Option.none => M.ret false
       | some d' => send_for1 (sendPrims dlv src e) fs d') := by
  rw [(filter_loop_unfold (sendPrims dlv src e) f fs data).1]
  unfold filterStepRef
  simp only [q_apply, pure_bind]
  cases f with
  | accept => simp [filterView, Filter.apply, q_isMapping_value, q_truthy_value, Val.bool_truthy]
  | reject => simp [filterView, Filter.apply, q_isMapping_value, q_truthy_value, Val.bool_truthy]
  | ifValue =>
    simp only [filterView, Filter.apply, q_isMapping_value, q_truthy_value, getD_truthy,
      Bool.false_eq_true, if_false]
    by_cases h : dataTruthy data = true <;> simp [h]
  | ifNotValue =>
    simp only [filterView, Filter.apply, q_isMapping_value, q_truthy_value, Val.bool_truthy,
      Bool.false_eq_true, if_false]
    by_cases h : dataTruthy data = true <;> simp [h]
  | delValue => simp [filterView, Filter.apply, q_isMapping_mapping, q_anyKey, q_asData]
  | setValue v => simp [filterView, Filter.apply, q_isMapping_mapping, q_anyKey, q_asData]
  | notFromUndef =>
    simp only [filterView, Filter.apply, q_isMapping_value, q_truthy_value, Val.bool_truthy]
    by_cases h : (data.get? "previous" == some Val.undef) = true <;> simp [h]

theorem filter_loop_is_model (fs : List Filter) (data : Data) (s : St) :
    send_for1 (sendPrims dlv src e) fs data s =
      (s, match applyFilters fs data with
          | Option.none => .ret false
          | some d' => .next d') := by
  induction fs generalizing data with
  | nil => simp [send_for1, applyFilters, M.pure]
  | cons f fs ih =>
    rw [filter_step_is_model]
    unfold applyFilters
    cases f.apply data with
    | none => simp [M.ret]
    | some d' => simpa using ih d'

end

end Edzed.TrTie
