/-
Translation tie of C12: the programs generated from the source of `OutputAsync` and
`utils.shield_cancel` (EdzedModel/Gen/TranslatedOutputAsync.lean) run on primitives that are
instantiated with the operations of the model EdzedModel/OutputAsync.lean: `shieldP` (a script of what the
shielded awaits yield), `stopP` and `ctrlP` (the model's state; `W` stands for whatever happens while a method
awaits), `runP0`/`runP`/`runPwith` (one run with a given `Outcome` of the user's coroutine).  Here are the
records, the loops of the methods (`shield_loop_model`, `cancel_tail`, `start_loop`) and `output_coro_model`;
the theorems about whole methods are in EdzedProps/C12.lean.
-/
import EdzedModel.OutputAsync
import EdzedProofs.OutputAsync
import EdzedModel.Gen.TranslatedOutputAsync
import EdzedProofs.TrdRun

namespace Edzed.TrTie.OA
open Edzed.OutputAsync Edzed.Gen.TrD Edzed.Gen.TrOA

section shield
open Edzed.OutputAsync.Shield
variable {ε ν : Type}

/-- the awaiting side of `shield_cancel`: what the remaining awaits will yield, and whether the inner task
    was done when the last exception arrived -/
structure ShSt (ε ν : Type) where
  script : List (Step ε ν)
  innerDone : Bool

/-- the primitives of `shield_cancel` driven by a script; an exception carries "is a CancelledError" -/
def shieldP : ShieldPrims (ShSt ε ν) (ε × Bool) Unit Unit ν where
  ensureFuture _ := M.pure ()
  awaitShield _ := fun s =>
    match s.script with
    | [] => (s, .diverged)
    | .done v :: r => (⟨r, true⟩, .next v)
    | .cancelPending e :: r => (⟨r, false⟩, .raise (e, true))
    | .cancelDone e :: r => (⟨r, true⟩, .raise (e, true))
    | .fail e :: r => (⟨r, true⟩, .raise (e, false))
  taskDone _ s := s.innerDone
  excIs x cls := cls == "asyncio.CancelledError" && x.2

/-- how the outcome of the translated program reads as a result of the model -/
def shieldOut : Out (ε × Bool) (Option ν) Unit → Option (Except ε ν)
  | .ret (some v) => some (.ok v)
  | .raise x => some (.error x.1)
  | _ => none

/-- `k`: what follows the loop in `shield_cancel`.  `d`: whether the inner task was done when the last exception
    arrived; the loop sets it before it reads it, so the statement holds for either value -/
theorem shield_loop_model (k : Option ν × Option (ε × Bool) → M (ShSt ε ν) (ε × Bool) (Option ν) Unit)
    (hk : ∀ (v : ν) (ce : Option (ε × Bool)) (s : ShSt ε ν),
      shieldOut ((k (some v, ce) s).2) = some (match ce with | none => .ok v | some x => .error x.1))
    (script : List (Step ε ν)) (ce : Option (ε × Bool)) (rv : Option ν) (d : Bool)
    (fuel : Nat) (h : script.length < fuel) :
    shieldOut ((M.bind (shield_cancel_loop1 shieldP () fuel rv ce) k ⟨script, d⟩).2)
      = shieldCancel script (ce.map Prod.fst) := by
  induction script generalizing ce rv d fuel with
  | nil =>
    cases fuel with
    | zero => omega
    | succ n =>
      simp [shield_cancel_loop1, shield_cancel_iter1, tryExceptElse, shieldP, M.bind, shieldCancel, shieldOut]
  | cons st rest ih =>
    cases fuel with
    | zero => omega
    | succ n =>
      have hn : rest.length < n := by simp at h; omega
      cases st with
      | done v =>
        cases ce <;>
          simp [shield_cancel_loop1, shield_cancel_iter1, tryExceptElse, shieldP, M.bind, M.pure, hk, shieldCancel]
      | cancelPending e =>
        have := ih (some (e, true)) rv false n hn
        simp only [Option.map] at this
        simp only [shieldCancel]
        rw [← this]
        simp [shield_cancel_loop1, shield_cancel_iter1, tryExceptElse, shieldP, M.bind, M.pure, M.get]
      | cancelDone e =>
        simp [shield_cancel_loop1, shield_cancel_iter1, tryExceptElse, shieldP, M.bind, M.pure, M.get, M.raise,
          shieldCancel, shieldOut]
      | fail e =>
        simp [shield_cancel_loop1, shield_cancel_iter1, tryExceptElse, shieldP, M.bind, M.pure, M.get, M.raise,
          shieldCancel, shieldOut]

end shield

/-- the exceptions the methods distinguish -/
inductive Exc where
  | cancelled     -- asyncio.CancelledError (a BaseException)
  | error         -- an exception of the user's coroutine (an Exception)
  | other         -- anything else that the model does not have (e.g. `None` passed where data is expected)
  deriving DecidableEq, Repr

def excIs (e : Exc) (cls : String) : Bool :=
  if cls == "asyncio.CancelledError" then e == .cancelled
  else if cls == "Exception" then e != .cancelled
  else false

/-- the three event lists of the block; each has one destination here, and an event of the wrong kind sent
    to a list is an error of the tie (`Exc.other`) -/
inductive Dest where
  | onCancel | onError | onSuccess
  deriving DecidableEq, Repr

/-- `stop()` has queued the sentinel; the model also arms the stop_timeout clock here (the simulator
    starts it right after the `stop()` calls) -/
def markStopped (c : Cfg) (s : State) : State :=
  { s with stopped := true, deadline := some (s.now + c.stopTimeout), stopAt := some s.now }

/-- `_event_put` / `stop` / `stop_async`; `W` = whatever happens while `stop_async` awaits the control task -/
def stopP (c : Cfg) (W : State → State) : StopPrims State Exc Item where
  putNowait
    | some x => M.modify fun s => if s.stopped then acceptLate s x else accept s x
    | none => M.modify (markStopped c)
  hasStopData := c.stopData.isSome
  ctrlIsStart := c.mode == Mode.start
  -- `self._event_put(**self._stop_data)`: what `_event_put` does, written out (the translated `_event_put` is
  -- tied on its own, `translated_outputasync_event_put_is_accept`)
  eventPutStopData :=
    match c.stopData with
    | some d => M.modify fun s => if s.stopped then acceptLate s d else accept s d
    | none => M.pure ()
  superStop := M.pure ()
  awaitCtrlTask := M.modify W
  excIs := excIs
  -- the job is the one the model's `doStop` has registered in `sdPending`; no translated program sets it
  runWrapperStopData := M.modify fun s =>
    match s.sdPending with
    | some j => startRun { s with sdPending := none } j
    | none => s
  superStopAsync := M.pure ()

/-- `task.cancel()` on the output task of job `j` -/
def cancelJob (c : Cfg) (j : Job) (s : State) : State :=
  match s.runs with
  | r :: rest => if r.job = j ∧ r.coro = true then cancelCur c s r rest else s
  | [] => s

/-- the control tasks.  Tasks are named by their job; `W` = whatever happens while the controller awaits
    (`await task`, `await self._output_coro_wrapper(data)`): time passes, the run comes to its end, puts
    arrive, the block is stopped ... -- the theorems hold for EVERY such `W`.
    `queue.get()` on an empty queue of a block that is not stopped never returns (`diverge`). -/
def ctrlP (c : Cfg) (W : State → State) : CtrlPrims State Exc Job Job Dest where
  queueGet := fun s =>
    match s.queue with
    | j :: q => ({ s with queue := q }, .next (some j))
    | [] => if s.stopped then (s, .next none) else (s, .diverged)
  queueEmpty s := s.queue.isEmpty && !s.stopped
  queueGetNowait := fun s =>
    match s.queue with
    | j :: q => ({ s with queue := q }, .next (some j))
    | [] => if s.stopped then (s, .next none) else (s, .raise .other)
  taskDone j s := !(s.runs.any fun r => r.job == j)
  taskCancel j := M.modify (cancelJob c j)
  awaitTask _ := M.modify W
  createTask
    | some j => fun s => (startRun s j, .next j)
    | none => M.raise .other
  sendCancel d
    | some j => if d = .onCancel then M.modify fun s => emit s (.canc j) else M.raise .other
    | none => M.raise .other
  runWrapper
    | some j => M.modify fun s => W (startRun s j)
    | none => M.raise .other
  spawn
    | some j => M.modify fun s => startRun s j
    | none => M.raise .other
  tasksNonEmpty s := !s.runs.isEmpty
  dataTruthy j := !j.data.empty
  gatherTasks := M.modify W

/-- the item the controller holds is still "queued first" for the model -/
def requeue (j : Job) (s : State) : State := { s with queue := j :: s.queue }

@[simp] theorem ctrlP_queueEmpty (c : Cfg) (W : State → State) (s : State) :
    (ctrlP c W).queueEmpty s = (s.queue.isEmpty && !s.stopped) := rfl

theorem ctrlP_getNowait_cons (c : Cfg) (W : State → State) (s : State) (k : Job) (q : List Job)
    (h : s.queue = k :: q) : (ctrlP c W).queueGetNowait s = ({ s with queue := q }, .next (some k)) := by
  simp [ctrlP, h]

theorem ctrlP_getNowait_sentinel (c : Cfg) (W : State → State) (s : State)
    (h : s.queue = []) (hs : s.stopped = true) : (ctrlP c W).queueGetNowait s = (s, .next none) := by
  simp [ctrlP, h, hs]

theorem ctrlP_get_cons (c : Cfg) (W : State → State) (s : State) (k : Job) (q : List Job)
    (h : s.queue = k :: q) : (ctrlP c W).queueGet s = ({ s with queue := q }, .next (some k)) := by
  simp [ctrlP, h]

theorem ctrlP_get_sentinel (c : Cfg) (W : State → State) (s : State)
    (h : s.queue = []) (hs : s.stopped = true) : (ctrlP c W).queueGet s = (s, .next none) := by
  simp [ctrlP, h, hs]

theorem cancel_for_single (c : Cfg) (W : State → State) (s : State) (j : Job) :
    ctrl_cancel_for3 (ctrlP c W) [.onCancel] (some j) [.onCancel] s = (emit s (.canc j), .next ()) := by
  simp [ctrl_cancel_for3, ctrlP, M.bind, M.modify, M.pure]

/-- the drain loop of `_ctrl_cancel` in the form of the model's `drain` (the queue is emptied first); the sentinel
    ends the loop with `stop = True` -/
theorem cancel_drain_loop (c : Cfg) (W : State → State) (s : State) (j : Job) (q : List Job) (fuel : Nat)
    (hq : s.queue = q) (hf : q.length < fuel) :
    ctrl_cancel_loop2 (ctrlP c W) [.onCancel] () fuel false (some j) s
      = (discards { s with queue := [] } j q, .next (s.stopped, some (lastJob j q))) := by
  -- run by the equations of `TrdRun` (`bind_run`, `andThen_next`, …); the other proofs about these programs
  -- unfold `M.bind`; the two ways are not mixed within one proof
  induction q generalizing s j fuel with
  | nil =>
    cases fuel with
    | zero => omega
    | succ n =>
      rw [ctrl_cancel_loop2]
      -- before the cases on `s.stopped`, which would also rewrite inside the expanded `{ s with queue := [] }`
      simp only [discards, lastJob, queue_self hq]
      cases hst : s.stopped with
      | false =>
        simp only [ctrl_cancel_iter2, bind_run, get_run, andThen_next, ctrlP_queueEmpty, hq, List.isEmpty_nil, hst,
          Bool.not_false, Bool.and_self, Bool.not_true, Bool.false_eq_true, if_false, pure_run]
      | true =>
        simp only [ctrl_cancel_iter2, bind_run, get_run, andThen_next, ctrlP_queueEmpty, hq, List.isEmpty_nil, hst,
          Bool.not_true, Bool.and_false, Bool.not_false, if_true, ctrlP_getNowait_sentinel c W s hq hst,
          Option.isNone_none, pure_run]
  | cons k q ih =>
    cases fuel with
    | zero => simp at hf
    | succ n =>
      rw [ctrl_cancel_loop2]
      simp only [ctrl_cancel_iter2, bind_run, get_run, andThen_next, ctrlP_queueEmpty, hq, List.isEmpty_cons,
        Bool.false_and, Bool.not_false, if_true, ctrlP_getNowait_cons c W s k q hq, Option.isNone_some,
        Bool.false_eq_true, if_false, cancel_for_single, pure_run]
      -- with the queue emptied inside the statement the hypothesis applies as it stands: `emit` and the update
      -- of the queue commute by `rfl`
      exact ih (emit { s with queue := q } (.canc j)) k n rfl (by simp at hf; omega)

/-- the drain loop on the whole queue -/
theorem cancel_tail (c : Cfg) (W : State → State) (s2 : State) (j : Job) (fuel : Nat)
    (hf : s2.queue.length < fuel) :
    ctrl_cancel_loop2 (ctrlP c W) [.onCancel] () fuel false (some j) s2
      = (discards { s2 with queue := [] } j s2.queue, .next (s2.stopped, some (lastJob j s2.queue))) :=
  cancel_drain_loop c W s2 j s2.queue fuel rfl hf

theorem settle_requeue (c : Cfg) (hm : c.mode = Mode.cancel) (s2 : State) (j : Job) (hr : s2.runs = []) :
    settle c (requeue j s2) = startRun (discards { s2 with queue := [] } j s2.queue) (lastJob j s2.queue) := by
  unfold settle requeue
  simp only [hm, hr]
  rw [drain_eq]

theorem ctrlP_createTask (c : Cfg) (W : State → State) (j : Job) (s : State) :
    (ctrlP c W).createTask (some j) s = (startRun s j, .next j) := rfl

theorem cancelJob_is_settle (c : Cfg) (hm : c.mode = Mode.cancel) (s : State) (r : Run) (rest : List Run)
    (j : Job) (q : List Job) (hr : s.runs = r :: rest) (hq : s.queue = j :: q) :
    cancelJob c r.job { s with queue := q } = { settle c s with queue := q } := by
  unfold settle cancelJob
  simp only [hm, hq, hr]
  by_cases hc : r.coro = true
  · simp [hc, cancelCur, emit]
  · simp [hc, hr]

theorem start_loop (c : Cfg) (W : State → State) (s : State) (q : List Job) (data : Option Job) (fuel : Nat)
    (hq : s.queue = q) (hs : s.stopped = true) (hf : q.length < fuel) :
    ctrl_start_loop1 (ctrlP c W) [.onCancel] () fuel data s
      = (startAll { s with queue := [] } q, .next none) := by
  induction q generalizing s data fuel with
  | nil =>
    cases fuel with
    | zero => omega
    | succ n =>
      rw [ctrl_start_loop1]
      simp only [ctrl_start_iter1, M.bind, ctrlP_get_sentinel c W s hq hs, Option.isNone_none, if_true, M.pure,
        startAll]
      rw [queue_self hq]
  | cons k q ih =>
    cases fuel with
    | zero => simp at hf
    | succ n =>
      have h2 := ih (startRun { s with queue := q } k) (some k) n rfl hs (by simp at hf; omega)
      rw [ctrl_start_loop1]
      simp only [ctrl_start_iter1, M.bind, ctrlP_get_cons c W s k q hq, Option.isNone_some, Bool.false_eq_true,
        if_false, M.pure]
      have hsp : (ctrlP c W).spawn (some k) { s with queue := q } = (startRun { s with queue := q } k, .next ()) := rfl
      simp only [hsp]
      rw [h2]
      rfl

/-- what the awaited user coroutine does (the script of the model: it sleeps until `t`, then returns or
    raises according to the job's data -- or a cancellation is delivered inside it at `t`) -/
inductive Outcome where
  | ends (t : Nat)
  | cancelledAt (t : Nat)

/-- `self.set_output(self.output + d)` -/
def addOut (d : Int) (s : State) : State :=
  emit { s with output := (s.output + d).toNat } (.out (s.output + d).toNat)

theorem addOut_one (s : State) : addOut 1 s = emit { s with output := s.output + 1 } (.out (s.output + 1)) := by
  have : ((s.output : Int) + 1).toNat = s.output + 1 := by omega
  simp only [addOut, this]

theorem addOut_neg_one (s : State) : addOut (-1) s = countDown s := by
  have : ((s.output : Int) + -1).toNat = s.output - 1 := by omega
  simp only [addOut, countDown, this]

/-- the shielded guard sleep: time passes, cancellations do not shorten it (`shield_cancel` is tied above) -/
def sleepGuard (c : Cfg) (s : State) : State := { s with now := s.now + c.guard }

/-- the leaves of `_output_coro` (which does not await itself) -/
def runP0 (c : Cfg) (oc : Outcome) : RunPrims State Exc Job Unit Dest where
  awaitCoro j := fun s =>
    let s0 := emit s (.start j)
    match oc with
    | .ends t =>
      let s1 := emit { s0 with now := max s0.now t } (.done j)
      if j.data.fail then (s1, .raise .error) else (s1, .next ())
    | .cancelledAt t => (emit { s0 with now := max s0.now t } (.cancelled j), .raise .cancelled)
  excIs := excIs
  guardPositive := decide (0 < c.guard)
  shieldedGuardSleep := M.modify (sleepGuard c)
  sendCancel d j := if d = .onCancel then M.modify fun s => emit s (.canc j) else M.raise .other
  sendError d _ j := if d = .onError then M.modify fun s => emit s (.err j) else M.raise .other
  sendSuccess d _ j := if d = .onSuccess then M.modify fun s => emit s (.succ j) else M.raise .other
  addOutput d := M.modify (addOut d)
  runCoro _ := M.pure ()

/-- for the wrapper, `await self._output_coro(data)` is the translated `_output_coro` itself -/
def runP (c : Cfg) (oc : Outcome) : RunPrims State Exc Job Unit Dest :=
  { runP0 c oc with runCoro := fun j => output_coro (runP0 c oc) [.onCancel] [.onError] [.onSuccess] j }

def guardPart (c : Cfg) (s : State) : State := if 0 < c.guard then sleepGuard c s else s

/-- what `await self._coro(...)` with its `except`/`else` arms leaves in the log, by outcome -/
def coroPart (oc : Outcome) (j : Job) (s : State) : State :=
  match oc with
  | .ends t => afterCoro (emit s (.start j)) t ⟨j, true, t⟩
  | .cancelledAt t => emit (emit { emit s (.start j) with now := max s.now t } (.cancelled j)) (.canc j)

theorem output_coro_model (c : Cfg) (oc : Outcome) (s : State) (j : Job) :
    output_coro (runP0 c oc) [.onCancel] [.onError] [.onSuccess] j s
      = (guardPart c (coroPart oc j s), .next ()) := by
  unfold output_coro
  -- the statements after the `try`, whatever their text: the guard sleep iff guard_time > 0
  generalize hk : (fun (_ : Unit) => (ite ((_ : Bool) = true) _ _ : M State Exc Unit Unit)) = k
  have hk' : ∀ x, k () x = (guardPart c x, .next ()) := by
    intro x
    subst hk
    unfold guardPart
    by_cases hg : 0 < c.guard <;> simp [runP0, M.bind, M.pure, M.modify, M.tryExcept, hg]
  clear hk
  -- the loops over the three event lists are numbered in the order of the source text: every case gets all three
  cases oc with
  | ends t =>
    cases hf : j.data.fail <;>
      simp [tryExceptElse, runP0, excIs, M.bind, M.pure, M.modify, M.raise, hf, hk', coroPart, afterCoro,
        output_coro_for1, output_coro_for2, output_coro_for3]
  | cancelledAt t =>
    simp [tryExceptElse, runP0, excIs, M.bind, M.pure, M.modify, M.raise, hk', coroPart, output_coro_for1,
      output_coro_for2, output_coro_for3, emit]

/-- the wrapper with an arbitrary `_output_coro` (any program: it may raise, e.g. be cancelled) -/
def runPwith (c : Cfg) (oc : Outcome) (body : Job → M State Exc Unit Unit) : RunPrims State Exc Job Unit Dest :=
  { runP0 c oc with runCoro := body }

end Edzed.TrTie.OA
