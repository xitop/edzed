/-
C07 — the timing of `Cron._maintask`: `Gen.TrCron.mtStep` (one pass of `while True:`, regenerated from the source) run in
an environment model.  `TimedEnv`: a wall clock read through `dtnow()` (a read costs at most `L`), sleeps that return no
earlier than requested and at most `W` later, groups of recalculations that cost at most `C`, declared forward jumps of
the clock (at most `J` per primitive step).  `wp`: what holds at the end of a pass for EVERY behaviour of the environment.
`Clock`: what every state of a pass knows about the clock; `LoopSt`, `BrkSt`, `PassOutcome`, `KnownSt`: the states of the
sleep loop and of a pass; `TTok`: the timetable; `Ready`: the invariant between passes.  All times are rationals in seconds;
the float arithmetic of the code is treated as exact (the convention of `secondsUntil`).  Stated in EdzedProps/C07.lean.
-/
import EdzedModel.Cron
import EdzedModel.Gen.TranslatedCron
import EdzedProofs.CronTie
import Mathlib.Tactic.Linarith
import Mathlib.Tactic.Ring
import Mathlib.Tactic.NormNum

namespace Edzed.Cron
open Gen.TrCron

section timing
variable {σ T DT B : Type}

/-- a time of day in seconds since midnight, from the four attributes the code reads -/
def todS (P : MtPrims σ T DT B) (t : T) : Rat :=
  secPerHour * P.hour t + secPerMin * P.minute t + P.second t + P.microsecond t / 1000000

/-- the ±12 h normalisation of `_maintask` -/
def normDay (s : Rat) : Rat :=
  if s < -secPerDay / 2 then s + secPerDay else if s > secPerDay / 2 then s - secPerDay else s

theorem secondsUntil_norm (P : MtPrims σ T DT B) (a n : T) :
    secondsUntil P a n = normDay (todS P a - todS P n) := by
  have e : secPerHour * (P.hour a - P.hour n) + secPerMin * (P.minute a - P.minute n)
      + (P.second a - P.second n) + (P.microsecond a - P.microsecond n) / 1000000
      = todS P a - todS P n := by unfold todS; ring
  unfold secondsUntil normDay
  simp only [e]

structure TimedEnv (P : MtPrims σ T DT B) where
  /-- the wall clock (seconds) in a state of the world -/
  clk : σ → Rat
  /-- the sum of the forward jumps of the wall clock declared so far -/
  off : σ → Rat
  /-- a clock reading in seconds -/
  abs : DT → Rat
  /-- … and its day number -/
  day : DT → Int
  /-- wake-up latency of a sleep -/
  W : Rat
  /-- cost of a clock read -/
  L : Rat
  /-- cost of a group of recalculations -/
  C : Rat
  /-- largest forward jump of the clock during one primitive step -/
  J : Rat
  hW : 0 ≤ W
  hL : 0 ≤ L
  hC : 0 ≤ C
  hJ : 0 ≤ J
  tod_range : ∀ t, 0 ≤ todS P t ∧ todS P t < secPerDay
  abs_split : ∀ x, abs x = (day x : Rat) * secPerDay + todS P (P.timeOf x)
  /-- `dtnow()` (`read_*`): the reading is the clock at some instant of the call (`lo`, `hi`); the elapsed time, clock
      minus declared jumps, does not run backwards (`el`) and grows by at most `L` (`cost`); the jumps by at most `J` (`off`) -/
  read_lo : ∀ w, clk w ≤ abs (P.dtnow w).1
  read_hi : ∀ w, abs (P.dtnow w).1 ≤ clk (P.dtnow w).2
  read_cost : ∀ w, clk (P.dtnow w).2 - off (P.dtnow w).2 ≤ clk w - off w + L
  read_el : ∀ w, clk w - off w ≤ clk (P.dtnow w).2 - off (P.dtnow w).2
  read_off : ∀ w, off w ≤ off (P.dtnow w).2 ∧ off (P.dtnow w).2 ≤ off w + J
  /-- `time.sleep(d)` (`bsleep_*`): at least `d` and at most `d + W` of elapsed time -/
  bsleep_lo : ∀ d w, clk w - off w + d ≤ clk (P.blockingSleep d w) - off (P.blockingSleep d w)
  bsleep_hi : ∀ d w, clk (P.blockingSleep d w) - off (P.blockingSleep d w) ≤ clk w - off w + d + W
  bsleep_off : ∀ d w, off w ≤ off (P.blockingSleep d w) ∧ off (P.blockingSleep d w) ≤ off w + J
  /-- `for blk in …: blk.recalc(x)` (`recalc_*`): elapsed time does not run backwards and grows by at most `C` -/
  recalc_el : ∀ bs x w, clk w - off w ≤ clk (recalcAll P bs x w) - off (recalcAll P bs x w)
  recalc_cost : ∀ bs x w, clk (recalcAll P bs x w) - off (recalcAll P bs x w) ≤ clk w - off w + C
  recalc_off : ∀ bs x w, off w ≤ off (recalcAll P bs x w) ∧ off (recalcAll P bs x w) ≤ off w + J

variable {P : MtPrims σ T DT B}

/-- `w'` is reached from `w` by waiting at least `d` and at most `d + lat` seconds of elapsed time; the wall
    clock may have been moved forward meanwhile (by at most `J`) -/
def TimedEnv.Waited (E : TimedEnv P) (d lat : Rat) (w w' : σ) : Prop :=
  E.clk w - E.off w + d ≤ E.clk w' - E.off w' ∧ E.clk w' - E.off w' ≤ E.clk w - E.off w + d + lat ∧
  E.off w ≤ E.off w' ∧ E.off w' ≤ E.off w + E.J

/-- weakest precondition of a (suspended) pass: `Φ` holds at the end of the pass for every behaviour of the
    environment; every awaited sleep is positive and at most `M`; no exception -/
def wp (E : TimedEnv P) (M : Rat) (Φ : MtLocals T DT → σ → Prop) : Res (MtLocals T DT) σ → Prop
  | .next l w => Φ l w
  | .sleep d w k => 0 < d ∧ d ≤ M ∧ ∀ w', E.Waited d E.W w w' → wp E M Φ (k w')
  | .waitQueue t w k => 0 < t ∧ t ≤ M ∧ (∀ w', E.Waited t E.W w w' → wp E M Φ (k false w')) ∧
      (∀ w', E.Waited 0 (t + E.W) w w' → wp E M Φ (k true w'))
  | .raise _ _ _ => False

theorem wp_mono (E : TimedEnv P) (M : Rat) (Φ Ψ : MtLocals T DT → σ → Prop) (h : ∀ l w, Φ l w → Ψ l w)
    (r : Res (MtLocals T DT) σ) : wp E M Φ r → wp E M Ψ r := by
  induction r with
  | next l w => exact h l w
  | sleep d w k ih => exact fun ⟨a, b, c⟩ => ⟨a, b, fun w' hw => ih w' (c w' hw)⟩
  | waitQueue t w k ih =>
    exact fun ⟨a, b, c, d⟩ => ⟨a, b, fun w' hw => ih false w' (c w' hw), fun w' hw => ih true w' (d w' hw)⟩
  | raise e l w => exact id

theorem normDay_add_days (d : Rat) (m : Int) (hd1 : -secPerDay < d) (hd2 : d < secPerDay)
    (h1 : -(secPerDay / 2) < (m : Rat) * secPerDay + d) (h2 : (m : Rat) * secPerDay + d < secPerDay / 2) :
    normDay d = (m : Rat) * secPerDay + d := by
  have hD : secPerDay = (86400 : Rat) := rfl
  rw [hD] at hd1 hd2 h1 h2 ⊢
  have hm : m = -1 ∨ m = 0 ∨ m = 1 := by
    have m1 : ((-2 : Int) : Rat) < m := by push_cast; linarith only [h1, hd2]
    have m2 : (m : Rat) < ((2 : Int) : Rat) := by push_cast; linarith only [h2, hd1]
    have := Int.cast_lt.mp m1
    have := Int.cast_lt.mp m2
    omega
  unfold normDay
  rw [hD]
  rcases hm with rfl | rfl | rfl <;> push_cast at h1 h2 ⊢
  · rw [if_neg (by linarith only [h1]), if_pos (by linarith only [h1])]; ring
  · rw [if_neg (by linarith only [h1]), if_neg (by linarith only [h2])]; ring
  · rw [if_pos (by linarith only [h2])]; ring

theorem secondsUntil_eq (E : TimedEnv P) (a : T) (x : DT) (A : Rat) (k : Int)
    (hA : A = (k : Rat) * secPerDay + todS P a)
    (h1 : -(secPerDay / 2) < A - E.abs x) (h2 : A - E.abs x < secPerDay / 2) :
    secondsUntil P a (P.timeOf x) = A - E.abs x := by
  have e : A - E.abs x = ((k - E.day x : Int) : Rat) * secPerDay + (todS P a - todS P (P.timeOf x)) := by
    rw [hA, E.abs_split x]; push_cast; ring
  rw [e] at h1 h2 ⊢
  rw [secondsUntil_norm]
  have ha := E.tod_range a
  have hn := E.tod_range (P.timeOf x)
  exact normDay_add_days _ _ (by linarith only [ha.1, hn.2]) (by linarith only [ha.2, hn.1]) h1 h2

theorem ttOk_pos : (0 : Rat) < ttOk := by unfold ttOk; norm_num

theorem TimedEnv.Waited.refl (E : TimedEnv P) (w : σ) : E.Waited 0 E.W w w :=
  ⟨(add_zero _).le, by rw [add_zero]; exact le_add_of_nonneg_right E.hW, le_rfl, le_add_of_nonneg_right E.hJ⟩

theorem TimedEnv.Waited.clk_le {E : TimedEnv P} {d lat : Rat} {w w' : σ} (hw : E.Waited d lat w w') :
    E.clk w + d ≤ E.clk w' := by
  linarith only [hw.1, hw.2.2.1]

theorem TimedEnv.waited_bsleep (E : TimedEnv P) (d : Rat) (w : σ) : E.Waited d E.W w (P.blockingSleep d w) :=
  ⟨E.bsleep_lo d w, E.bsleep_hi d w, (E.bsleep_off d w).1, (E.bsleep_off d w).2⟩

theorem TimedEnv.waited_recalc (E : TimedEnv P) (bs : List B) (x : DT) (w : σ) :
    E.Waited 0 E.C w (recalcAll P bs x w) :=
  ⟨by rw [add_zero]; exact E.recalc_el bs x w, by rw [add_zero]; exact E.recalc_cost bs x w,
    (E.recalc_off bs x w).1, (E.recalc_off bs x w).2⟩

/-- what the states of a pass know about the clock: the latest reading `r` is not after it, it is at most `D` past
    `r` and at most at `up` – both up to the jumps declared since their sum was `off0`, at most `m` steps ago.
    `LoopSt` carries all five facts, `BrkSt`, `PassOutcome` and `KnownSt` some of them; the lemmas below move them along
    the steps of the environment, so that a proof about the loop names the step instead of redoing the arithmetic -/
structure Clock (E : TimedEnv P) (off0 r D up m : Rat) (w : σ) : Prop where
  hnow : r ≤ E.clk w
  hd : E.clk w ≤ r + D + (E.off w - off0)
  hup : E.clk w ≤ up + (E.off w - off0)
  hoff : off0 ≤ E.off w
  hoffm : E.off w ≤ off0 + m * E.J

section clock
variable {E : TimedEnv P} {off0 r D up m : Rat} {w w' : σ}

theorem Clock.start (hnow : r ≤ E.clk w) (hup : E.clk w ≤ up) : Clock E (E.off w) r (up - r) up 0 w :=
  ⟨hnow, by linarith only [hup], by linarith only [hup], le_rfl, by rw [zero_mul, add_zero]⟩

theorem Clock.waited (c : Clock E off0 r D up m w) {d lat : Rat} (hd0 : 0 ≤ d) (hw : E.Waited d lat w w') :
    Clock E off0 r (D + d + lat) (up + d + lat) (m + 1) w' :=
  ⟨by linarith only [c.hnow, hw.clk_le, hd0], by linarith only [c.hd, hw.2.1, hw.2.2.1],
    by linarith only [c.hup, hw.2.1, hw.2.2.1], le_trans c.hoff hw.2.2.1, by linarith only [c.hoffm, hw.2.2.2]⟩

theorem Clock.up_of_d (c : Clock E off0 r D up m w) {up' : Rat} (h : r + D ≤ up') : Clock E off0 r D up' m w :=
  ⟨c.hnow, c.hd, by linarith only [c.hd, h], c.hoff, c.hoffm⟩

theorem Clock.read (c : Clock E off0 r D up m w) :
    Clock E off0 (E.abs (P.dtnow w).1) E.L (up + E.L) (m + 1) (P.dtnow w).2 :=
  ⟨E.read_hi w, by linarith only [E.read_lo w, E.read_cost w, c.hoff],
    by linarith only [c.hup, E.read_cost w], le_trans c.hoff (E.read_off w).1,
    by linarith only [c.hoffm, (E.read_off w).2]⟩

theorem Clock.recalc (c : Clock E off0 r D up m w) (bs : List B) (x : DT) :
    Clock E off0 r (D + E.C) (up + E.C) (m + 1) (recalcAll P bs x w) := by
  have := c.waited le_rfl (E.waited_recalc bs x w)
  rwa [add_zero, add_zero] at this

end clock

/-- the state of the sleep loop at the beginning of `step = k` with a known index: `A` is the absolute
    instant (time of day `a = timetable[i]`) the pass is heading for, the latest reading `v7` is at most `G`
    before it, the clock is at most `D` past that reading and at most at `up` (both up to the jumps since the
    beginning of the pass, when their sum was `off0`).  `m` counts the primitive steps (clock reads, sleeps, groups of
    recalculations) since the beginning of the pass: each may move the clock by at most `J`, so `off ≤ off0 + m·J`.
    One step of the sleep loop is a sleep and a read (`m + 2`), the three steps `m + 6`; a pass starts with one read
    (`1 + 6`), with a read and a group of recalculations when it positions the index (`2 + 6`).
    `he1`, `he2` are what the three steps are for: step 0 sleeps up to the overhead estimate short of `A`, so at step 1 at
    most that estimate is left; step 1 sleeps all that is left, so at step 2 the reading is not before `A` -/
structure LoopSt (E : TimedEnv P) (tt : List T) (n i : Nat) (a : T) (A G off0 : Rat)
    (k : Nat) (D up m : Rat) (L : MtLocals T DT) (w : σ) : Prop where
  h1 : L.v1 = false
  h2 : L.v2 = false
  h4 : L.v4 = tt
  h5 : L.v5 = n
  h6 : L.v6 = some i
  h8 : L.v8 = P.timeOf L.v7
  h9 : L.v9 = a
  hov : ttOk ≤ L.v0
  hglo : A - G ≤ E.abs L.v7
  he1 : k = 1 → A - L.v0 ≤ E.abs L.v7
  he2 : k = 2 → A ≤ E.abs L.v7
  hnow : E.abs L.v7 ≤ E.clk w
  hd : E.clk w ≤ E.abs L.v7 + D + (E.off w - off0)
  hup : E.clk w ≤ up + (E.off w - off0)
  hoff : off0 ≤ E.off w
  hoffm : E.off w ≤ off0 + m * E.J

/-- the state in which the sleep loop is left (`break` or exhaustion): the alarm is SERVED with a reading in
    `[A, A + _TT_ERROR]` (clock at most at `up`), or a RELOAD request arrived, or a clock problem was flagged
    (RESET) – the latter only with a reading more than `_TT_ERROR` past `A` -/
structure BrkSt (E : TimedEnv P) (tt : List T) (n i : Nat) (a : T) (A G off0 : Rat)
    (up m : Rat) (L : MtLocals T DT) (w : σ) : Prop where
  h4 : L.v4 = tt
  h5 : L.v5 = n
  h6 : L.v6 = some i
  h9 : L.v9 = a
  hov : ttOk ≤ L.v0
  hglo : A - G ≤ E.abs L.v7
  hnow : E.abs L.v7 ≤ E.clk w
  hoff : off0 ≤ E.off w
  hoffm : E.off w ≤ off0 + m * E.J
  hcase : (L.v1 = false ∧ L.v2 = false ∧ A ≤ E.abs L.v7 ∧ E.abs L.v7 ≤ A + ttError ∧
            E.clk w ≤ up + (E.off w - off0))
        ∨ (L.v1 = false ∧ L.v2 = true)
        ∨ (L.v1 = true ∧ L.v2 = false ∧ A + ttError < E.abs L.v7 ∧ E.clk w ≤ up + (E.off w - off0))

theorem BrkSt.mono {E : TimedEnv P} {tt : List T} {n i : Nat} {a : T} {A G off0 up m up' m' : Rat}
    {L : MtLocals T DT} {w : σ} (h : BrkSt E tt n i a A G off0 up m L w) (hu : up ≤ up') (hm : m ≤ m') :
    BrkSt E tt n i a A G off0 up' m' L w := by
  have hmJ : m * E.J ≤ m' * E.J := mul_le_mul_of_nonneg_right hm E.hJ
  refine ⟨h.h4, h.h5, h.h6, h.h9, h.hov, h.hglo, h.hnow, h.hoff, le_trans h.hoffm (add_le_add le_rfl hmJ), ?_⟩
  rcases h.hcase with ⟨a1, a2, a3, a4, a5⟩ | h' | ⟨a1, a2, a3, a4⟩
  · exact Or.inl ⟨a1, a2, a3, a4, le_trans a5 (add_le_add hu le_rfl)⟩
  · exact Or.inr (Or.inl h')
  · exact Or.inr (Or.inr ⟨a1, a2, a3, le_trans a4 (add_le_add hu le_rfl)⟩)

section clock
variable {E : TimedEnv P} {off0 r D up m : Rat} {w w' : σ}

theorem LoopSt.clock {tt : List T} {n i : Nat} {a : T} {A G : Rat} {k : Nat} {L : MtLocals T DT}
    (St : LoopSt E tt n i a A G off0 k D up m L w) : Clock E off0 (E.abs L.v7) D up m w :=
  ⟨St.hnow, St.hd, St.hup, St.hoff, St.hoffm⟩

end clock

/-- the locals that the states of the sleep loop speak of, apart from the latest reading (`v7`, `v8`): overhead
    estimate, `reset`, `reload`, timetable, its length, index, `wakeup` -/
def kept (L : MtLocals T DT) := (L.v0, L.v1, L.v2, L.v4, L.v5, L.v6, L.v9)

/-- having waited `d` of the `L.v11 = A − reading` seconds in whatever way (`refSleep`) and read the clock again
    (`refAgain`): the state of the next step.  `hlow` (at most the overhead estimate is left) gives `he1` of the next
    step, `hk1` (step 1 waits for all that is left) its `he2` -/
theorem after_wait {E : TimedEnv P} {tt : List T} {n i : Nat} {a : T} {A G off0 : Rat} {k : Nat} {D up m : Rat}
    {L : MtLocals T DT} {w : σ}
    (St : LoopSt E tt n i a A G off0 k D up m L w) (hs : L.v11 = A - E.abs L.v7)
    (d : Rat) (hd0 : 0 ≤ d) (hds : d ≤ L.v11) (w' : σ) (hw : E.Waited d E.W w w')
    (hk1 : k = 1 → d = L.v11) (hlow : L.v11 - d ≤ L.v0)
    (L' : MtLocals T DT) (e : kept L' = kept L)
    (e7 : L'.v7 = (P.dtnow w').1) (e8 : L'.v8 = P.timeOf (P.dtnow w').1) :
    LoopSt E tt n i a A G off0 (k + 1) E.L (A + D + E.W + E.L) (m + 2) L' (P.dtnow w').2 := by
  simp only [kept, Prod.mk.injEq] at e
  obtain ⟨e0, e1, e2, e4, e5, e6, e9⟩ := e
  have hr : E.abs L.v7 + d ≤ E.abs (P.dtnow w').1 := by
    linarith only [St.hnow, hw.clk_le, E.read_lo w']
  have c := ((St.clock.waited hd0 hw).up_of_d (up' := A + D + E.W) (by linarith only [hs, hds])).read
  rw [add_assoc m, one_add_one_eq_two] at c
  refine ⟨e1.trans St.h1, e2.trans St.h2, e4.trans St.h4, e5.trans St.h5, e6.trans St.h6, by rw [e8, e7],
    e9.trans St.h9, e0 ▸ St.hov, ?_, ?_, ?_, e7 ▸ c.hnow, e7 ▸ c.hd, c.hup, c.hoff, c.hoffm⟩
  all_goals rw [e7]
  · linarith only [St.hglo, hr, hd0]
  · intro _; rw [e0]; linarith only [hr, hs, hlow]
  · intro hk; linarith only [hk1 (by omega), hr, hs]

/-- **the four ways of sleeping** (`refSleep`) at steps 0 and 1, when the wake-up time is `s ≥ 0` ahead -/
theorem sleep_wp (E : TimedEnv P) (M : Rat) (Φ : MtLocals T DT → σ → Prop)
    (next brk : MtLocals T DT → σ → Res (MtLocals T DT) σ)
    (tt : List T) (n i : Nat) (a : T) (A G off0 : Rat) (k : Nat) (D up m : Rat)
    (L : MtLocals T DT) (w : σ) (hk : k ≤ 1) (hGM : G ≤ M) (hD : 0 ≤ D)
    (St : LoopSt E tt n i a A G off0 k D up m L w)
    (hs : L.v11 = A - E.abs L.v7) (hs0 : 0 ≤ L.v11)
    (hbrk : ∀ L' w', BrkSt E tt n i a A G off0 up (m + 2) L' w' → wp E M Φ (brk L' w'))
    (hnext : ∀ L' w', LoopSt E tt n i a A G off0 (k + 1) E.L (A + D + E.W + E.L) (m + 2) L' w' →
      wp E M Φ (next L' w')) :
    wp E M Φ (refSleep P next brk L w) := by
  have hv0 : 0 ≤ L.v0 := le_trans ttOk_pos.le St.hov
  have hsM : L.v11 ≤ M := by linarith only [St.hglo, hs, hGM]
  -- having waited `d` seconds in whatever way, the clock is read again and the next step begins
  have again : ∀ d, 0 ≤ d → d ≤ L.v11 → (k = 1 → d = L.v11) → L.v11 - d ≤ L.v0 → ∀ w', E.Waited d E.W w w' →
      ∀ L' : MtLocals T DT, kept L' = kept L → wp E M Φ (refAgain P next L' w') :=
    fun d h0 h1 h2 h3 w' hw L' e => hnext _ _ (after_wait St hs d h0 h1 w' hw h2 h3 _ e rfl rfl)
  have whole := again L.v11 hs0 le_rfl (fun _ => rfl) (by rw [sub_self]; exact hv0)
  unfold refSleep
  by_cases c0 : L.v11 = 0
  · -- no sleep at all
    rw [if_pos c0]
    exact again 0 le_rfl hs0 (fun _ => c0.symm) (by rw [c0, sub_zero]; exact hv0) w (.refl E w) L rfl
  rw [if_neg c0]
  by_cases c1 : L.v11 ≤ ttOk / 2
  · -- blocking sleep
    rw [if_pos c1]
    exact whole _ (E.waited_bsleep L.v11 w) _ rfl
  rw [if_neg c1]
  by_cases c2 : L.v11 ≤ L.v0
  · -- asyncio.sleep
    rw [if_pos c2]
    exact ⟨lt_of_le_of_ne hs0 (Ne.symm c0), hsM, fun w' hw => whole w' hw _ rfl⟩
  · -- wait_for(queue.get(), s - overhead)
    rw [if_neg c2]
    have c2' : L.v0 < L.v11 := not_le.mp c2
    refine ⟨sub_pos.mpr c2', le_trans (sub_le_self _ hv0) hsM, fun w' hw => ?_, fun w' hw => ?_⟩
    · -- time-out: one more step (this cannot be step 1, where at most the overhead is left)
      simp only [Bool.false_eq_true, ↓reduceIte]
      exact again (L.v11 - L.v0) (sub_pos.mpr c2').le (sub_le_self _ hv0)
        (fun h => by linarith only [St.he1 h, hs, c2']) (sub_sub_cancel _ _).le w' hw _ rfl
    · -- an item arrived: the loop is left with `reload` set
      simp only [↓reduceIte]
      have c := St.clock.waited le_rfl hw
      exact hbrk _ _ ⟨St.h4, St.h5, St.h6, St.h9, St.hov, St.hglo, c.hnow, c.hoff,
        by linarith only [c.hoffm, E.hJ], Or.inr (Or.inl ⟨St.h1, rfl⟩)⟩

theorem ratAbs_of_nonpos {x : Rat} (h : x ≤ 0) : ratAbs x = -x := by
  unfold ratAbs
  by_cases h0 : x < 0
  · rw [if_pos h0]
  · rw [if_neg h0, le_antisymm h (not_lt.mp h0), neg_zero]

/-- **the time check and the sleep of one step** (`refCheck`; `L.v11` = `A − reading`) -/
theorem check_wp (E : TimedEnv P) (M : Rat) (Φ : MtLocals T DT → σ → Prop)
    (next brk : MtLocals T DT → σ → Res (MtLocals T DT) σ)
    (tt : List T) (n i : Nat) (a : T) (A G off0 : Rat) (k : Nat) (D up m : Rat)
    (L : MtLocals T DT) (w : σ) (hk : k ≤ 2) (hGM : G ≤ M) (hD : 0 ≤ D)
    (St : LoopSt E tt n i a A G off0 k D up m L w) (h10 : L.v10 = k)
    (hs : L.v11 = A - E.abs L.v7)
    (hbrk : ∀ L' w', BrkSt E tt n i a A G off0 up (m + 2) L' w' → wp E M Φ (brk L' w'))
    (hnext : k ≤ 1 → ∀ L' w', LoopSt E tt n i a A G off0 (k + 1) E.L (A + D + E.W + E.L) (m + 2) L' w' →
      wp E M Φ (next L' w')) :
    wp E M Φ (refCheck P next brk L w) := by
  have hoffm : E.off w ≤ off0 + (m + 2) * E.J := by linarith only [St.hoffm, E.hJ]
  by_cases hc : L.v10 > 1 ∨ L.v11 < 0
  · -- at step 2 the reading is not before `A`
    have late : L.v11 ≤ 0 := by
      rcases hc with hc | hc
      · linarith only [St.he2 (by omega), hs]
      · exact hc.le
    cases hp : (L.v10 == 2 && decide (L.v11 > 0) || decide (ratAbs L.v11 > ttError))
    · rw [refCheck_due P next brk L w hc St.h1 hp late]
      have hj : ¬ ratAbs L.v11 > ttError := by
        intro h
        rw [decide_eq_true h, Bool.or_true] at hp
        cases hp
      rw [ratAbs_of_nonpos late] at hj
      refine hbrk _ _ ⟨St.h4, St.h5, St.h6, St.h9, ?_, St.hglo, St.hnow, St.hoff, hoffm,
        Or.inl ⟨St.h1, St.h2, ?_, ?_, St.hup⟩⟩
      · -- the overhead estimate only grows: it is corrected when the sleep ended more than `_TT_OK` late
        show ttOk ≤ (if L.v10 = 1 ∧ L.v3 = false ∧ ¬ (-ttOk ≤ L.v11 ∧ L.v11 ≤ 0)
          then L.v0 - (L.v11 + ttOk / 2) * (1 / 2) else L.v0)
        by_cases c : L.v10 = 1 ∧ L.v3 = false ∧ ¬ (-ttOk ≤ L.v11 ∧ L.v11 ≤ 0)
        · have : L.v11 < -ttOk := not_le.mp fun h => c.2.2 ⟨h, late⟩
          rw [if_pos c]
          linarith only [St.hov, ttOk_pos, this]
        · rw [if_neg c]
          exact St.hov
      · show A ≤ E.abs L.v7
        linarith only [late, hs]
      · show E.abs L.v7 ≤ A + ttError
        linarith only [hj, hs]
    · rw [refCheck_problem P next brk L w hc hp]
      refine hbrk _ _ ⟨St.h4, St.h5, St.h6, St.h9, St.hov, St.hglo, St.hnow, St.hoff, hoffm,
        Or.inr (Or.inr ⟨rfl, St.h2, ?_, St.hup⟩)⟩
      show A + ttError < E.abs L.v7
      have hj : ratAbs L.v11 > ttError := by
        rcases Bool.or_eq_true_iff.mp hp with h | h
        · exact absurd (of_decide_eq_true (Bool.and_eq_true_iff.mp h).2) (not_lt.mpr late)
        · exact of_decide_eq_true h
      rw [ratAbs_of_nonpos late] at hj
      linarith only [hj, hs]
  · rw [refCheck_unchecked P next brk L w hc]
    have hk1 : k ≤ 1 := by
      rw [h10] at hc
      exact Nat.le_of_not_lt fun h => hc (Or.inl h)
    exact sleep_wp E M Φ next brk tt n i a A G off0 k D up m L w hk1 hGM hD St hs
      (not_lt.mp fun h => hc (Or.inr h)) hbrk (hnext hk1)

theorem LoopSt.of_eq {E : TimedEnv P} {tt : List T} {n i : Nat} {a : T} {A G off0 : Rat} {k : Nat} {D up m : Rat}
    {L : MtLocals T DT} {w : σ} (St : LoopSt E tt n i a A G off0 k D up m L w) (L' : MtLocals T DT)
    (e : kept L' = kept L) (e7 : L'.v7 = L.v7) (e8 : L'.v8 = L.v8) :
    LoopSt E tt n i a A G off0 k D up m L' w := by
  simp only [kept, Prod.mk.injEq] at e
  obtain ⟨e0, e1, e2, e4, e5, e6, e9⟩ := e
  obtain ⟨h1, h2, h4, h5, h6, h8, h9, hov, hglo, he1, he2, hnow, hd, hup, hoff, hoffm⟩ := St
  exact ⟨by rw [e1]; exact h1, by rw [e2]; exact h2, by rw [e4]; exact h4, by rw [e5]; exact h5,
    by rw [e6]; exact h6, by rw [e8, e7]; exact h8, by rw [e9]; exact h9, by rw [e0]; exact hov,
    by rw [e7]; exact hglo, by rw [e0, e7]; exact he1, by rw [e7]; exact he2, by rw [e7]; exact hnow,
    by rw [e7]; exact hd, hup, hoff, hoffm⟩

/-- **one step of `for step in range(3)`** (`refBody` at `step = k`): inside the ±12 h window the computed
    `sleeptime` is `A − reading`, then `check_wp`.  The window and the state in which the loop is left are those of the
    whole loop (`UP`, `m6`): the bounds of a step lie below them -/
theorem body_wp {E : TimedEnv P} {M : Rat} {Φ : MtLocals T DT → σ → Prop}
    {next brk : MtLocals T DT → σ → Res (MtLocals T DT) σ}
    {tt : List T} {n i : Nat} {a : T} {A G off0 : Rat} {k : Nat} {D up m UP m6 : Rat}
    {L : MtLocals T DT} {w : σ} (hk : k ≤ 2) (hGM : G ≤ M) (hD : 0 ≤ D)
    (St : LoopSt E tt n i a A G off0 k D up m L w)
    (kA : Int) (hA : A = (kA : Rat) * secPerDay + todS P a)
    (hG : G < secPerDay / 2) (hU : up ≤ UP) (hm : m + 2 ≤ m6) (hwin : UP + m6 * E.J < A + secPerDay / 2)
    (hbrk : ∀ L' w', BrkSt E tt n i a A G off0 UP m6 L' w' → wp E M Φ (brk L' w'))
    (hnext : k ≤ 1 → ∀ L' w', LoopSt E tt n i a A G off0 (k + 1) E.L (A + D + E.W + E.L) (m + 2) L' w' →
      wp E M Φ (next L' w')) :
    wp E M Φ (refBody P next brk { L with v10 := k } w) := by
  have hmJ : (m + 2) * E.J ≤ m6 * E.J := mul_le_mul_of_nonneg_right hm E.hJ
  refine check_wp E M Φ next brk tt n i a A G off0 k D up m
    { L with v10 := k, v11 := secondsUntil P L.v9 L.v8 } w hk hGM hD
    (St.of_eq _ rfl rfl rfl) rfl ?_ (fun L' w' hb => hbrk L' w' (hb.mono hU hm)) hnext
  show secondsUntil P L.v9 L.v8 = A - E.abs L.v7
  rw [St.h9, St.h8]
  apply secondsUntil_eq E a L.v7 A kA hA
  · linarith only [St.hnow, St.hup, St.hoffm, hwin, hU, hmJ, E.hJ]
  · linarith only [St.hglo, hG]

/-- **the sleep loop** `for step in range(3)` followed by what comes after it (`refTail`) -/
theorem loop_wp (E : TimedEnv P) (M : Rat) (Φ : MtLocals T DT → σ → Prop)
    (tt : List T) (n i : Nat) (a : T) (A G off0 : Rat) (D up UP m : Rat)
    (L : MtLocals T DT) (w : σ) (hGM : G ≤ M) (hD : 0 ≤ D)
    (St : LoopSt E tt n i a A G off0 0 D up m L w)
    (kA : Int) (hA : A = (kA : Rat) * secPerDay + todS P a)
    (hG : G < secPerDay / 2)
    (hU0 : up ≤ UP) (hU1 : A + D + E.W + E.L ≤ UP) (hU2 : A + 2 * E.L + E.W ≤ UP)
    (hwin : UP + (m + 6) * E.J < A + secPerDay / 2)
    (htail : ∀ L' w', BrkSt E tt n i a A G off0 UP (m + 6) L' w' → wp E M Φ (refTail P L' w')) :
    wp E M Φ (mtFor1 P (List.range 3) L w) := by
  rw [for_is_ref]
  have hL := E.hL
  refine body_wp (by omega) hGM hD St kA hA hG hU0 (by linarith only []) hwin htail fun _ L1 w1 St1 => ?_
  refine body_wp (by omega) hGM hL St1 kA hA hG hU1 (by linarith only []) hwin htail fun _ L2 w2 St2 => ?_
  exact body_wp (by omega) hGM hL St2 kA hA hG (by linarith only [hU2]) (by linarith only []) hwin htail
    fun h => by omega

/-- how a pass that was heading for the instant `A` (time of day `a = timetable[i]`) ends.  `wr` is the world in
    which the sleep loop was left (after the last clock reading `L'.v7`):
    * SERVED: the reading is in `[A, A + _TT_ERROR]`, the clock was at most at `UP` (plus the jumps declared
      during the pass), exactly the blocks registered for `a` in `wr` were recalculated with that reading, and the
      index advanced by one;
    * RELOAD: a request arrived during `wait_for`; nothing was recalculated, the index is kept;
    * RESET: the reading was more than `_TT_ERROR` past `A`; EVERY block registered in `wr` was recalculated
      with it and the index is forgotten. -/
def PassOutcome (E : TimedEnv P) (tt : List T) (n i : Nat) (a : T) (A G off0 UP m : Rat)
    (L' : MtLocals T DT) (w' : σ) : Prop :=
  L'.v4 = tt ∧ L'.v5 = n ∧ L'.v9 = a ∧ ttOk ≤ L'.v0 ∧ L'.v1 = false ∧ A - G ≤ E.abs L'.v7 ∧
  ∃ wr, E.abs L'.v7 ≤ E.clk wr ∧ off0 ≤ E.off wr ∧ E.off wr ≤ off0 + m * E.J ∧
   ((L'.v2 = false ∧ L'.v6 = some ((i + 1) % n) ∧ A ≤ E.abs L'.v7 ∧ E.abs L'.v7 ≤ A + ttError ∧
       E.clk wr ≤ UP + (E.off wr - off0) ∧
       w' = if P.hasAlarm wr a then recalcAll P (P.clientsAt wr a) L'.v7 wr else wr)
    ∨ (L'.v2 = true ∧ L'.v6 = some i ∧ w' = wr)
    ∨ (L'.v2 = false ∧ L'.v6 = none ∧ A + ttError < E.abs L'.v7 ∧ E.clk wr ≤ UP + (E.off wr - off0) ∧
       w' = recalcAll P (P.allClients wr) L'.v7 wr))

theorem tail_wp (E : TimedEnv P) (M : Rat) (tt : List T) (n i : Nat) (a : T) (A G off0 UP m : Rat)
    (L : MtLocals T DT) (w : σ) (hb : BrkSt E tt n i a A G off0 UP m L w) :
    wp E M (PassOutcome E tt n i a A G off0 UP m) (refTail P L w) := by
  obtain ⟨h4, h5, h6, h9, hov, hglo, hnow, hoff, hoffm, hcase⟩ := hb
  rcases hcase with ⟨c1, c2, c3, c4, c5⟩ | ⟨c1, c2⟩ | ⟨c1, c2, c3, c4⟩
  · rw [refTail_served P L w i c1 c2 h6]
    exact ⟨h4, h5, h9, hov, c1, hglo, w, hnow, hoff, hoffm, Or.inl ⟨c2, by rw [h5], c3, c4, c5, by rw [h9]⟩⟩
  · rw [refTail_reload P L w c1 c2]
    exact ⟨h4, h5, h9, hov, c1, hglo, w, hnow, hoff, hoffm, Or.inr (Or.inl ⟨c2, h6, rfl⟩)⟩
  · rw [refTail_reset P L w c1]
    exact ⟨h4, h5, h9, hov, rfl, hglo, w, hnow, hoff, hoffm, Or.inr (Or.inr ⟨c2, rfl, c3, c4, rfl⟩)⟩

/-- the loop at the beginning of a pass whose index is known: it is heading for the instant `A` (time of day
    `a = timetable[i]`), the latest reading is at most `G` before `A`, the clock at most `lat` after it -/
structure KnownSt (E : TimedEnv P) (tt : List T) (n i : Nat) (a : T) (A G lat : Rat)
    (L : MtLocals T DT) (w : σ) : Prop where
  h1 : L.v1 = false
  h2 : L.v2 = false
  h4 : L.v4 = tt
  h5 : L.v5 = n
  h6 : L.v6 = some i
  hget : tt[i]? = some a
  hov : ttOk ≤ L.v0
  hglo : A - G ≤ E.abs L.v7
  hnow : E.abs L.v7 ≤ E.clk w
  hlate : E.clk w ≤ A + lat

theorem KnownSt.mono {E : TimedEnv P} {tt : List T} {n i : Nat} {a : T} {A G lat lat' : Rat}
    {L : MtLocals T DT} {w : σ} (h : KnownSt E tt n i a A G lat L w) (hl : lat ≤ lat') :
    KnownSt E tt n i a A G lat' L w :=
  ⟨h.h1, h.h2, h.h4, h.h5, h.h6, h.hget, h.hov, h.hglo, h.hnow, by linarith only [h.hlate, hl]⟩

/-- `m` steps of the pass lie before the sleep loop, six in it -/
theorem wake_wp (E : TimedEnv P) (M : Rat) (tt : List T) (n i : Nat) (a : T) (A G off0 D up UP m m6 : Rat)
    (L : MtLocals T DT) (w : σ) (hGM : G ≤ M) (hD : 0 ≤ D) (h6 : L.v6 = some i) (h4 : L.v4 = tt)
    (hget : tt[i]? = some a) (h1 : L.v1 = false) (h2 : L.v2 = false) (h5 : L.v5 = n) (h8 : L.v8 = P.timeOf L.v7)
    (hov : ttOk ≤ L.v0) (hglo : A - G ≤ E.abs L.v7) (c : Clock E off0 (E.abs L.v7) D up m w)
    (kA : Int) (hA : A = (kA : Rat) * secPerDay + todS P a) (hG : G < secPerDay / 2)
    (hU0 : up ≤ UP) (hU1 : A + D + E.W + E.L ≤ UP) (hU2 : A + 2 * E.L + E.W ≤ UP) (hm : m + 6 = m6)
    (hwin : UP + m6 * E.J < A + secPerDay / 2) :
    wp E M (PassOutcome E tt n i a A G off0 UP m6) (refWake P L w) := by
  subst hm
  unfold refWake
  split
  · rename_i h
    rw [h6] at h
    cases h
  · rename_i i' h
    cases h6.symm.trans h
    split
    · rename_i h'
      rw [h4, hget] at h'
      cases h'
    · rename_i x h'
      rw [h4, hget] at h'
      cases h'
      refine loop_wp E M _ tt n i a A G off0 D up UP m _ _ hGM hD ?_ kA hA hG hU0 hU1 hU2 hwin
        fun L' w' hb => tail_wp E M tt n i a A G off0 UP (m + 6) L' w' hb
      exact ⟨h1, h2, h4, h5, h6, h8, rfl, hov, hglo, fun h => by omega, fun h => by omega, c.hnow, c.hd, c.hup, c.hoff,
        c.hoffm⟩

/-- **one pass with a known index**, for every behaviour of the environment -/
theorem pass_known (E : TimedEnv P) (M : Rat) (tt : List T) (n i : Nat) (a : T) (A G lat UP : Rat)
    (L : MtLocals T DT) (w : σ) (hGM : G ≤ M)
    (K : KnownSt E tt n i a A G lat L w)
    (kA : Int) (hA : A = (kA : Rat) * secPerDay + todS P a) (hG : G < secPerDay / 2)
    (hU0 : A + lat + E.L ≤ UP) (hU2 : A + 2 * E.L + E.W ≤ UP)
    (hwin : UP + 7 * E.J < A + secPerDay / 2) :
    wp E M (PassOutcome E tt n i a A G (E.off w) UP 7) (mtStep P L w) := by
  rw [head_is_ref]
  unfold refHead
  simp only [K.h2, Bool.false_eq_true, ↓reduceIte, K.h6]
  have c := (Clock.start K.hnow K.hlate).read
  rw [zero_add] at c
  exact wake_wp E M tt n i a A G (E.off w) E.L (A + lat + E.L) UP 1 7 _ _ hGM E.hL rfl K.h4 K.hget K.h1 rfl K.h5 rfl
    K.hov (le_trans K.hglo (le_trans K.hnow (E.read_lo w))) c kA hA hG
    hU0 (by linarith only [hU2, E.hL]) hU2 (by norm_num) hwin

/-- seconds from entry `i` of the timetable to the NEXT entry, cyclically (the last one is followed by the first
    one of the next day) -/
def nextGap (P : MtPrims σ T DT B) (tt : List T) (i : Nat) : Rat :=
  match tt[i]?, tt[(i + 1) % tt.length]? with
  | some x, some y => if i + 1 < tt.length then todS P y - todS P x else todS P y + secPerDay - todS P x
  | _, _ => 0

/-- `bisect.bisect_left(tt, q)` on the times of day: everything before the result is smaller, everything from it
    on is not -/
def BisectOk (P : MtPrims σ T DT B) (tt : List T) (q : T) : Prop :=
  P.bisectLeft tt q ≤ tt.length ∧
  (∀ i x, tt[i]? = some x → i < P.bisectLeft tt q → todS P x < todS P q) ∧
  (∀ i x, tt[i]? = some x → P.bisectLeft tt q ≤ i → todS P q ≤ todS P x)

theorem BisectOk.of_iff {tt : List T} {q : T} (hle : P.bisectLeft tt q ≤ tt.length)
    (h : ∀ i x, tt[i]? = some x → (i < P.bisectLeft tt q ↔ todS P x < todS P q)) : BisectOk P tt q :=
  ⟨hle, fun i x hx hi => (h i x hx).1 hi,
    fun i x hx hi => not_lt.mp fun hlt => absurd ((h i x hx).2 hlt) (Nat.not_lt.mpr hi)⟩
/-- consecutive entries of the timetable are at least `g` and at most `G` apart, and `bisect_left` works on it -/
structure TTok (P : MtPrims σ T DT B) (tt : List T) (g G : Rat) : Prop where
  pos : 0 < tt.length
  gap_lo : ∀ i, i < tt.length → g ≤ nextGap P tt i
  gap_hi : ∀ i, i < tt.length → nextGap P tt i ≤ G
  bis : ∀ q, BisectOk P tt q

theorem nextGap_step (tt : List T) (i : Nat) (x y : T) (hx : tt[i]? = some x) (hy : tt[i + 1]? = some y)
    (h : i + 1 < tt.length) : nextGap P tt i = todS P y - todS P x := by
  unfold nextGap
  rw [Nat.mod_eq_of_lt h, hx, hy]
  simp only [h, ↓reduceIte]

theorem nextGap_wrap (tt : List T) (i : Nat) (x y : T) (hx : tt[i]? = some x) (hy : tt[0]? = some y)
    (h : i + 1 = tt.length) : nextGap P tt i = todS P y + secPerDay - todS P x := by
  unfold nextGap
  rw [h, Nat.mod_self, hx, hy]
  simp only [Nat.lt_irrefl, ↓reduceIte]

/-- **no alarm is skipped**: after a SERVED pass the loop is positioned at the NEXT entry of the timetable and is
    heading for the instant `A + nextGap` – the first instant after `A` whose time of day is in the timetable -/
theorem served_next (E : TimedEnv P) (tt : List T) (n i : Nat) (a : T) (A G g off0 UP m : Rat)
    (L' : MtLocals T DT) (w' : σ) (hlen : tt.length = n) (hi : i < n) (hget : tt[i]? = some a)
    (ok : TTok P tt g G) (kA : Int) (hA : A = (kA : Rat) * secPerDay + todS P a)
    (h : PassOutcome E tt n i a A G off0 UP m L' w') (hs : L'.v2 = false) (hs6 : L'.v6 ≠ none) :
    ∃ a' kA', tt[(i + 1) % n]? = some a' ∧
      A + nextGap P tt i = ((kA' : Int) : Rat) * secPerDay + todS P a' ∧
      A ≤ E.abs L'.v7 ∧ E.abs L'.v7 ≤ A + ttError ∧ E.abs L'.v7 ≤ UP + m * E.J ∧
      KnownSt E tt n ((i + 1) % n) a' (A + nextGap P tt i) G
        (UP - A + E.C + (m + 1) * E.J - nextGap P tt i) L' w' := by
  obtain ⟨h4, h5, h9, hov, h1, hglo, wr, hnow, hoff, hoffm, hc⟩ := h
  rcases hc with ⟨c2, c6, c3, c4, c5, cw⟩ | ⟨c2, _⟩ | ⟨_, c6, _⟩
  · have hlt : (i + 1) % n < tt.length := hlen ▸ Nat.mod_lt _ (by omega)
    obtain ⟨a', hy⟩ : ∃ a', tt[(i + 1) % n]? = some a' := ⟨tt[(i + 1) % n], List.getElem?_eq_getElem hlt⟩
    -- the next entry is on the same day, or the first one of the next day
    obtain ⟨kA', hk'⟩ : ∃ kA' : Int, A + nextGap P tt i = (kA' : Rat) * secPerDay + todS P a' := by
      by_cases hw : i + 1 < tt.length
      · rw [Nat.mod_eq_of_lt (hlen ▸ hw)] at hy
        exact ⟨kA, by rw [nextGap_step tt i a a' hget hy hw, hA]; ring⟩
      · have e : i + 1 = n := by omega
        rw [e, Nat.mod_self] at hy
        exact ⟨kA + 1, by rw [nextGap_wrap tt i a a' hget hy (e.trans hlen.symm), hA]; push_cast; ring⟩
    -- the recalculations take at most `C` and let the clock jump at most once more
    have hclk : E.abs L'.v7 ≤ E.clk w' ∧ E.clk w' ≤ UP + E.C + (m + 1) * E.J := by
      rw [cw]
      split
      · have hw := E.waited_recalc (P.clientsAt wr a) L'.v7 wr
        exact ⟨by linarith only [hnow, hw.clk_le], by linarith only [hw.2.1, hw.2.2.2, c5, hoffm]⟩
      · exact ⟨hnow, by linarith only [c5, hoffm, E.hC, E.hJ]⟩
    exact ⟨a', kA', hy, hk', c3, c4, by linarith only [hnow, c5, hoffm],
      ⟨h1, c2, h4, h5, c6, hy, hov, by linarith only [c3, ok.gap_hi i (hlen ▸ hi)], hclk.1,
        by linarith only [hclk.2]⟩⟩
  · exact absurd (c2.symm.trans hs) (by decide)
  · exact absurd c6 hs6

/-- a pass with a reload pending is a pass with an unknown index on the rebuilt timetable -/
theorem head_reload (L : MtLocals T DT) (w : σ) (h : L.v2 = true) :
    mtStep P L w = mtStep P
      ({ L with v2 := false, v4 := P.sortedUnion P.set24 (P.alarmKeys w),
                v5 := (P.sortedUnion P.set24 (P.alarmKeys w)).length, v6 := none } : MtLocals T DT) w := by
  rw [head_is_ref, head_is_ref]; unfold refHead; simp [h]

theorem TTok.next_instant {tt : List T} {g G : Rat} (ok : TTok P tt g G) (E : TimedEnv P) (x : DT) :
    ∃ (a : T) (A : Rat) (kA : Int), tt[P.bisectLeft tt (P.timeOf x) % tt.length]? = some a ∧
      A = (kA : Rat) * secPerDay + todS P a ∧ E.abs x ≤ A ∧ A ≤ E.abs x + G := by
  -- in times of day: entry `a`, `δ` days later
  suffices h : ∃ (a : T) (δ : Int), tt[P.bisectLeft tt (P.timeOf x) % tt.length]? = some a ∧
      todS P (P.timeOf x) ≤ todS P a + (δ : Rat) * secPerDay ∧
      todS P a + (δ : Rat) * secPerDay ≤ todS P (P.timeOf x) + G by
    obtain ⟨a, δ, ha, lo, hi⟩ := h
    have hx := E.abs_split x
    exact ⟨a, _, E.day x + δ, ha, rfl, by push_cast; linarith only [hx, lo], by push_cast; linarith only [hx, hi]⟩
  have htod := E.tod_range
  generalize P.timeOf x = q
  obtain ⟨b1, b2, b3⟩ := ok.bis q
  have hn := ok.pos
  generalize P.bisectLeft tt q = j at b1 b2 b3
  obtain ⟨a, ha⟩ : ∃ a, tt[j % tt.length]? = some a :=
    ⟨tt[j % tt.length]'(Nat.mod_lt _ hn), List.getElem?_eq_getElem _⟩
  obtain ⟨z, hz⟩ : ∃ z, tt[tt.length - 1]? = some z :=
    ⟨tt[tt.length - 1]'(by omega), List.getElem?_eq_getElem _⟩
  have hlast := ok.gap_hi (tt.length - 1) (by omega)
  by_cases hjn : j < tt.length
  · rw [Nat.mod_eq_of_lt hjn] at ha
    refine ⟨a, 0, by rw [Nat.mod_eq_of_lt hjn]; exact ha, by push_cast; linarith only [b3 j a ha le_rfl], ?_⟩
    by_cases hj0 : j = 0
    · -- before the first entry: the gap from the last entry of yesterday
      subst hj0
      rw [nextGap_wrap tt _ z a hz ha (by omega)] at hlast
      push_cast; linarith only [hlast, (htod q).1, (htod z).2]
    · obtain ⟨y, hy⟩ : ∃ y, tt[j - 1]? = some y := ⟨tt[j - 1]'(by omega), List.getElem?_eq_getElem _⟩
      have hs := nextGap_step (P := P) tt (j - 1) y a hy (by rw [Nat.sub_add_cancel (by omega)]; exact ha) (by omega)
      push_cast; linarith only [hs, b2 (j - 1) y hy (by omega), ok.gap_hi (j - 1) (by omega)]
  · -- after the last entry: the first entry, tomorrow
    have ejn : j = tt.length := by omega
    subst ejn
    rw [Nat.mod_self] at ha
    rw [nextGap_wrap tt _ z a hz ha (by omega)] at hlast
    exact ⟨a, 1, by rw [Nat.mod_self]; exact ha, by push_cast; linarith only [(htod a).1, (htod q).2],
      by push_cast; linarith only [hlast, b2 _ z hz (by omega)]⟩

/-- **a pass with an unknown index** (no reload pending): ONE reading `r`; the index is positioned at the first
    entry of the timetable not before the time of day of `r`, i.e. the pass is heading for the first instant
    `A ≥ r` whose time of day is in the timetable (`A ≤ r + G`); all clients are recalculated with `r`; then the
    sleep loop as in `pass_known` (the recalculations add `C` to the bound) -/
theorem pass_resync (E : TimedEnv P) (M : Rat) (tt : List T) (n : Nat) (g G : Rat)
    (L : MtLocals T DT) (w : σ) (hGM : G ≤ M) (h1 : L.v1 = false) (h2 : L.v2 = false) (h6 : L.v6 = none)
    (h4 : L.v4 = tt) (h5 : L.v5 = n) (hlen : tt.length = n) (hov : ttOk ≤ L.v0)
    (ok : TTok P tt g G) (hb : BisectOk P tt (P.timeOf (P.dtnow w).1))
    (hG : G < secPerDay / 2)
    (hwin : 2 * E.L + E.W + E.C + 8 * E.J < secPerDay / 2) :
    ∃ idx a A, ∃ kA : Int, idx < n ∧ tt[idx]? = some a ∧ A = (kA : Rat) * secPerDay + todS P a ∧
      E.abs (P.dtnow w).1 ≤ A ∧ A ≤ E.abs (P.dtnow w).1 + G ∧
      wp E M (PassOutcome E tt n idx a A G (E.off w) (A + 2 * E.L + E.W + E.C) 8) (mtStep P L w) := by
  obtain ⟨a, A, kA, ha, hA, hrA, hAr⟩ := ok.next_instant E (P.dtnow w).1
  rw [hlen] at ha
  refine ⟨_, a, A, kA, Nat.mod_lt _ (hlen ▸ ok.pos), ha, hA, hrA, hAr, ?_⟩
  rw [head_is_ref]
  unfold refHead
  simp only [h2, Bool.false_eq_true, ↓reduceIte, h6, h4, h5]
  -- one reading, then the recalculation of all clients
  have c := (((Clock.start (le_refl (E.clk w)) le_rfl).read.up_of_d (up' := A + E.L)
    (by linarith only [hrA])).recalc (P.allClients (P.dtnow w).2) (P.dtnow w).1)
  rw [zero_add, one_add_one_eq_two] at c
  have hL := E.hL
  have hC := E.hC
  exact wake_wp E M tt n _ a A G (E.off w) (E.L + E.C) (A + E.L + E.C) (A + 2 * E.L + E.W + E.C) 2 8 _ _ hGM
    (add_nonneg hL hC) rfl rfl ha h1 rfl rfl rfl hov (by show A - G ≤ E.abs (P.dtnow w).1; linarith only [hAr]) c
    kA hA hG (by linarith only [hL, E.hW]) (by linarith only []) (by linarith only [hC]) (by norm_num)
    (by linarith only [hwin])

/-- the first `N` passes from `(L, w)`: each one ends – for every behaviour of the environment – in a state that
    `Good` relates to the state it started in -/
def allPasses (E : TimedEnv P) (M : Rat) (Good : MtLocals T DT → σ → MtLocals T DT → σ → Prop) :
    Nat → MtLocals T DT → σ → Prop
  | 0, _, _ => True
  | N + 1, L, w => wp E M (fun L' w' => Good L w L' w' ∧ allPasses E M Good N L' w') (mtStep P L w)

/-- the service bound without clock jumps: wake-up latency + two clock reads + one group of recalculations -/
def lamServe (E : TimedEnv P) : Rat := 2 * E.L + E.W + E.C

/-- the state of the loop between two passes (no clock problem flagged; overhead estimate at least `_TT_OK`):
    a reload is pending, or the index is unknown, or the loop is positioned at entry `i` and heading for the
    instant `A`, the clock being at most `L + W + C` past it -/
def Ready (E : TimedEnv P) (g G : Rat) (L : MtLocals T DT) (w : σ) : Prop :=
  L.v1 = false ∧ ttOk ≤ L.v0 ∧
  (L.v2 = true
   ∨ (L.v2 = false ∧ L.v6 = none ∧ TTok P L.v4 g G ∧ L.v4.length = L.v5)
   ∨ (TTok P L.v4 g G ∧ L.v4.length = L.v5 ∧ ∃ i a A, ∃ kA : Int, i < L.v5 ∧
        A = (kA : Rat) * secPerDay + todS P a ∧ KnownSt E L.v4 L.v5 i a A G (E.L + E.W + E.C) L w))

/-- what every pass does when the clock does not jump: for some instant `A` at most `G` after its last reading it
    either SERVED with a reading in `[A, A + lamServe]` – recalculating exactly the blocks registered for the time
    of day it was heading for – or was cut short by a reload request; it never ends in a reset.  (That `A` is the
    instant of entry `idx` of the timetable is known where this is proved, `Ready`, but not recorded here; `L` is
    not used.) -/
def GoodPass (E : TimedEnv P) (G : Rat) (L : MtLocals T DT) (w : σ) (L' : MtLocals T DT) (w' : σ) : Prop :=
  ∃ idx a A m, PassOutcome E L'.v4 L'.v5 idx a A G (E.off w) (A + lamServe E) m L' w' ∧ L'.v6 ≠ none

theorem ready_of_outcome {E : TimedEnv P} {g G : Rat} {tt : List T} {n idx : Nat} {a : T} {A m : Rat} {kA : Int}
    {L : MtLocals T DT} {w0 : σ} {L' : MtLocals T DT} {w' : σ} (hJ0 : E.J = 0) (hlam : lamServe E ≤ ttError)
    (hg : E.L + E.C ≤ g)
    (ok : TTok P tt g G) (hlen : tt.length = n) (hidx : idx < n) (hget : tt[idx]? = some a)
    (hA : A = (kA : Rat) * secPerDay + todS P a)
    (h : PassOutcome E tt n idx a A G (E.off w0) (A + lamServe E) m L' w') :
    GoodPass E G L w0 L' w' ∧ Ready E g G L' w' := by
  have h' := h
  obtain ⟨h4, h5, h9, hov, h1, hglo, wr, hnow, hoff, hoffm, hc⟩ := h
  have hnr : L'.v6 ≠ none := by
    rcases hc with ⟨_, c6, _⟩ | ⟨_, c6, _⟩ | ⟨_, _, c3, c4, _⟩
    · rw [c6]; simp
    · rw [c6]; simp
    · exfalso; rw [hJ0] at hoffm; linarith only [hlam, c3, c4, hnow, hoffm]
  refine ⟨⟨idx, a, A, m, by rw [h4, h5]; exact h', hnr⟩, h1, hov, ?_⟩
  by_cases h2 : L'.v2 = true
  · exact Or.inl h2
  · have h2' : L'.v2 = false := by simpa using h2
    obtain ⟨a', kA', hy, hk', _, _, _, K⟩ :=
      served_next E tt n idx a A G g (E.off w0) (A + lamServe E) m L' w' hlen hidx hget ok kA hA h' h2' hnr
    refine Or.inr (Or.inr ⟨by rw [h4]; exact ok, by rw [h4, h5]; exact hlen, (idx + 1) % n, a', _, kA',
      by rw [h5]; exact Nat.mod_lt _ (by omega), hk', ?_⟩)
    rw [h4, h5]
    apply K.mono
    have := ok.gap_lo idx (by omega)
    rw [hJ0]; unfold lamServe; linarith only [this, hg]

/-- **the service guarantee for every number of passes** (no clock jumps: `J = 0`): from any state between two
    passes, each of the next `N` passes is a `GoodPass`, and no awaited sleep is longer than `G` -/
theorem all_passes_good (E : TimedEnv P) (g G : Rat) (hJ0 : E.J = 0) (hlam : lamServe E ≤ ttError)
    (hg : E.L + E.C ≤ g) (hG : G < secPerDay / 2)
    (htt : ∀ w, TTok P (P.sortedUnion P.set24 (P.alarmKeys w)) g G)
    (N : Nat) :
    ∀ (L : MtLocals T DT) (w : σ), Ready E g G L w → allPasses E G (GoodPass E G) N L w := by
  have herr : ttError = 5 / 2 := rfl
  have hd : secPerDay = (86400 : Rat) := rfl
  unfold lamServe at hlam
  have hwin : 2 * E.L + E.W + E.C + 8 * E.J < secPerDay / 2 := by
    rw [hJ0, hd]; linarith only [hlam, herr]
  induction N with
  | zero => intro L w _; trivial
  | succ N ih =>
    intro L w ⟨h1, hov, hc⟩
    unfold allPasses
    -- a pass with an unknown index, from locals `L0` that agree with what `mtStep` starts from
    have resync : ∀ L0 : MtLocals T DT, mtStep P L w = mtStep P L0 w → L0.v1 = false → L0.v2 = false →
        L0.v6 = none → TTok P L0.v4 g G → L0.v4.length = L0.v5 → ttOk ≤ L0.v0 →
        wp E G (fun L' w' => GoodPass E G L w L' w' ∧ allPasses E G (GoodPass E G) N L' w') (mtStep P L w) := by
      intro L0 e g1 g2 g6 gok glen gov
      obtain ⟨idx, a, A, kA, hidx, hget, hA, _, _, hw⟩ :=
        pass_resync E G L0.v4 L0.v5 g G L0 w (le_refl _) g1 g2 g6 rfl rfl glen gov gok (gok.bis _) hG hwin
      rw [e]
      refine wp_mono E G _ _ ?_ _ hw
      intro L' w' ho
      have e2 : A + 2 * E.L + E.W + E.C = A + lamServe E := by unfold lamServe; ring
      rw [e2] at ho
      have ⟨gp, rd⟩ := ready_of_outcome (L := L) hJ0 hlam hg gok glen hidx hget hA ho
      exact ⟨gp, ih L' w' rd⟩
    rcases hc with h2 | ⟨h2, h6, ok, hlen⟩ | ⟨ok, hlen, i, a, A, kA, hi, hA, K⟩
    · exact resync _ (head_reload L w h2) h1 rfl rfl (htt w) rfl hov
    · exact resync L rfl h1 h2 h6 ok hlen hov
    · have hw := pass_known E G L.v4 L.v5 i a A G (E.L + E.W + E.C) (A + lamServe E) L w (le_refl _) K kA hA hG
        (by unfold lamServe; linarith only [E.hL]) (by unfold lamServe; linarith only [E.hC])
        (by unfold lamServe; rw [hJ0, hd]; linarith only [hlam, herr])
      refine wp_mono E G _ _ ?_ _ hw
      intro L' w' ho
      have ⟨gp, rd⟩ := ready_of_outcome (L := L) hJ0 hlam hg ok hlen hi K.hget hA ho
      exact ⟨gp, ih L' w' rd⟩

/-! ## why consecutive alarms are at most one hour apart: the hourly entries of `_SET24` -/

/-- strictly increasing times of day (`sorted(…)` of a set of distinct times) -/
def SortedTT (P : MtPrims σ T DT B) (tt : List T) : Prop :=
  ∀ (i j : Nat) (x y : T), tt[i]? = some x → tt[j]? = some y → i < j → todS P x < todS P y

/-- every full hour is in the timetable (`_SET24`) -/
def Hourly (P : MtPrims σ T DT B) (tt : List T) : Prop :=
  ∀ h : Nat, h < 24 → ∃ t ∈ tt, todS P t = 3600 * (h : Rat)

theorem hour_of (x : Rat) (h0 : 0 ≤ x) (n : Nat) (hn : x < 3600 * (n : Rat)) :
    ∃ h : Nat, h < n ∧ 3600 * (h : Rat) ≤ x ∧ x < 3600 * ((h : Rat) + 1) := by
  induction n with
  | zero => exfalso; simp at hn; linarith only [hn, h0]
  | succ n ih =>
    by_cases hx : x < 3600 * (n : Rat)
    · obtain ⟨h, a, b, c⟩ := ih hx
      exact ⟨h, by omega, b, c⟩
    · refine ⟨n, by omega, not_lt.mp hx, ?_⟩
      push_cast at hn; linarith only [hn]

theorem SortedTT.lt_of_tod_lt {tt : List T} (hs : SortedTT P tt) {i j : Nat} {x y : T} (hx : tt[i]? = some x)
    (hy : tt[j]? = some y) (h : todS P x < todS P y) : i < j := by
  rcases Nat.lt_or_ge i j with hij | hij
  · exact hij
  · rcases Nat.lt_or_eq_of_le hij with hji | e
    · exact absurd (hs j i y x hy hx hji) (lt_asymm h)
    · subst e
      rw [hx] at hy
      exact absurd h (Option.some.inj hy ▸ lt_irrefl _)

theorem SortedTT.nextGap_le {tt : List T} (hs : SortedTT P tt) (htod : ∀ t, 0 ≤ todS P t ∧ todS P t < secPerDay)
    {i : Nat} {x t : T} (hx : tt[i]? = some x) (ht : t ∈ tt) :
    (todS P x < todS P t → nextGap P tt i ≤ todS P t - todS P x) ∧
      nextGap P tt i ≤ todS P t + secPerDay - todS P x := by
  obtain ⟨j, hj⟩ := List.mem_iff_getElem?.mp ht
  have mono : ∀ {k : Nat} {y : T}, tt[k]? = some y → k ≤ j → todS P y ≤ todS P t := by
    intro k y hk hkj
    rcases Nat.lt_or_eq_of_le hkj with h | rfl
    · exact (hs k j y t hk hj h).le
    · rw [hk] at hj
      exact (congrArg (todS P) (Option.some.inj hj)).le
  by_cases hw : i + 1 < tt.length
  · have hy := List.getElem?_eq_getElem hw
    rw [nextGap_step tt i x _ hx hy hw]
    refine ⟨fun hxt => ?_, by linarith only [(htod tt[i + 1]).2, (htod t).1]⟩
    linarith only [mono hy (hs.lt_of_tod_lt hx hj hxt)]
  · have hi := (List.getElem?_eq_some_iff.mp hx).1
    have hy := List.getElem?_eq_getElem (show 0 < tt.length by omega)
    rw [nextGap_wrap tt i x _ hx hy (by omega)]
    refine ⟨fun hxt => ?_, by linarith only [mono hy (Nat.zero_le j)]⟩
    -- `x` is the last entry: none is later
    have := hs.lt_of_tod_lt hx hj hxt
    have := (List.getElem?_eq_some_iff.mp hj).1
    omega

/-- **the longest distance in a sorted timetable that contains the 24 full hours is one hour** -/
theorem gap_le_hour (htod : ∀ t, 0 ≤ todS P t ∧ todS P t < secPerDay) (tt : List T) (hs : SortedTT P tt)
    (hh : Hourly P tt) (i : Nat) (hi : i < tt.length) : nextGap P tt i ≤ 3600 := by
  obtain ⟨x, hx⟩ : ∃ x, tt[i]? = some x := ⟨tt[i], List.getElem?_eq_getElem hi⟩
  have xr := htod x
  have hd : secPerDay = (86400 : Rat) := rfl
  rw [hd] at xr
  obtain ⟨h, h24, hlo, hhi⟩ := hour_of (todS P x) xr.1 24 (by push_cast; linarith only [xr.2])
  by_cases hlt : h + 1 < 24
  · -- the next full hour is an entry above `x`, at most one hour away
    obtain ⟨t, ht, ht'⟩ := hh (h + 1) hlt
    push_cast at ht'
    have := (hs.nextGap_le htod hx ht).1 (by linarith only [ht', hhi])
    linarith only [this, ht', hlo]
  · -- `x` is in the last hour of the day, and midnight is an entry
    obtain ⟨t0, ht0, h0⟩ := hh 0 (by omega)
    have e : h = 23 := by omega
    have := (hs.nextGap_le htod hx ht0).2
    rw [e] at hlo
    rw [hd] at this
    push_cast at h0 hlo
    linarith only [this, h0, hlo]

end timing
end Edzed.Cron
