/-
C05: what the tie of the model's `Regular.quietNone` (= `InitAsync.init_regular`) to the translated source
(EdzedModel/Gen/TranslatedInit.lean, tools/py2lean_init.py) is stated with, and the equation of `regularBody` for
such a block.
-/
import EdzedModel.Init
import EdzedModel.Gen.TranslatedInit
import EdzedProofs.Init

namespace Edzed.Init

open Edzed.Gen.TrInit

/-- the translated action list run on the model state; after `self._output_events = ()` a `set_output` sends
    no events -/
def applyActs (rec : Call → St → St) (b : Nat) : List Act → Bool → St → St
  | [], _, s => s
  | .clearOutputEvents :: r, _, s => applyActs rec b r true s
  | .setOutput v :: r, cl, s => applyActs rec b r cl (if cl then s.setOut b v else rec (.setOutput b v) s)

/-- `self.initdef` as a value: UNDEF when the argument was not given -/
def initdefVal (k : Blk) : Val :=
  match k.initdef with
  | some (v, _) => v
  | Option.none => .undef

variable (c : Cfg) (rec : Call → St → St) (b : Nat)

theorem regularBody_quietNone (a : St)
    (hq : (c.blk b).regular = .quietNone) :
    regularBody c rec b a =
      if (a.out b).isUndef = true ∧ (c.blk b).initdef.isNone = true then a.setOut b Val.none else a := by
  unfold regularBody; rw [hq]

end Edzed.Init
