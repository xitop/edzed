/-
Tie of the TRANSLATED main loop of the simulator (`Gen.TrL.simInit`, `simStep`, `selectBlk`, generated by
tools/py2lean_sim.py from the current AST of `Circuit._simulate`) to the hand-written model
(`Sim.start`, `Sim.evalOp`, `Sim.idleOp` of EdzedModel/Simulate.lean, `Burst.selectOk` of
EdzedModel/Burst.lean).  The primitives of the translated loop are instantiated with the model's
operations (`simPrims`); the lemmas show that the translated code then computes the model's functions.
Used by C10 and C01.
-/
import EdzedModel.Gen.TranslatedSimulate
import EdzedModel.Burst
import EdzedProofs.Burst
import EdzedProofs.PyBool

namespace Edzed.SimTie
open Edzed.Sim Edzed.Burst Edzed.Gen.TrL

section Generic
variable {S Blk SBlk σ ε : Type} (P : Prims S Blk SBlk σ ε)

/-- `sum(1 for inp in blk.iconnections if inp in block_set)` -/
def idepP (s : S) (b : Blk) : Nat := ((P.iconnC b).filter (fun inp => P.mem inp s)).length

theorem selectBlkLoop_nil (s : S) (mi : Option Nat) (mb : Option Blk) :
    selectBlkLoop P s mi mb [] = mb := by
  cases mb <;> rfl

theorem selectBlkLoop_cons_zero (s : S) (mi : Option Nat) (mb : Option Blk) (b : Blk) (l : List Blk)
    (h0 : idepP P s b = 0) : selectBlkLoop P s mi mb (b :: l) = some b := by
  unfold idepP at h0
  simp [selectBlkLoop, h0]

theorem selectBlkLoop_cons_take (s : S) (mi : Option Nat) (mb : Option Blk) (b : Blk) (l : List Blk)
    (h0 : idepP P s b ≠ 0) (hlt : ∀ m, mi = some m → idepP P s b < m) :
    selectBlkLoop P s mi mb (b :: l) = selectBlkLoop P s (some (idepP P s b)) (some b) l := by
  unfold idepP at *
  cases mi with
  | none => simp [selectBlkLoop, h0]
  | some m => simp [selectBlkLoop, h0, hlt m rfl]

theorem selectBlkLoop_cons_keep (s : S) (m : Nat) (mb : Option Blk) (b : Blk) (l : List Blk)
    (h0 : idepP P s b ≠ 0) (hge : ¬ idepP P s b < m) :
    selectBlkLoop P s (some m) mb (b :: l) = selectBlkLoop P s (some m) mb l := by
  unfold idepP at *
  simp [selectBlkLoop, h0, hge]

def SelSpec (s : S) (all : List Blk) : Option Blk → Prop
  | none => all = []
  | some r => r ∈ all ∧ (idepP P s r = 0 ∨ ∀ x ∈ all, idepP P s x ≠ 0 ∧ idepP P s r ≤ idepP P s x)

theorem selectBlkLoop_spec (s : S) (l : List Blk) : ∀ (mi : Option Nat) (mb : Option Blk),
    mi = mb.map (idepP P s) →
    match selectBlkLoop P s mi mb l with
    | none => mb = none ∧ l = []
    | some r => (r ∈ l ∨ mb = some r) ∧ (idepP P s r = 0 ∨
        ((∀ x ∈ l, idepP P s x ≠ 0 ∧ idepP P s r ≤ idepP P s x) ∧
          ∀ m, mb = some m → idepP P s r ≤ idepP P s m)) := by
  induction l with
  | nil =>
    intro mi mb _
    rw [selectBlkLoop_nil]
    cases mb with
    | none => exact ⟨rfl, rfl⟩
    | some m => exact ⟨.inr rfl, .inr ⟨nofun, fun m' h => Option.some.inj h ▸ Nat.le_refl _⟩⟩
  | cons b l ih =>
    intro mi mb hmi
    by_cases h0 : idepP P s b = 0
    · rw [selectBlkLoop_cons_zero P s mi mb b l h0]
      exact ⟨.inl List.mem_cons_self, .inl h0⟩
    by_cases hbeat : ∀ m, mb = some m → idepP P s b < idepP P s m
    · -- `b` is remembered: nothing was, or a block with more pending inputs
      rw [selectBlkLoop_cons_take P s mi mb b l h0 fun m' hm' => by
        obtain ⟨m, hm, rfl⟩ := Option.map_eq_some_iff.mp (hmi ▸ hm')
        exact hbeat m hm]
      have := ih (some (idepP P s b)) (some b) rfl
      revert this
      cases selectBlkLoop P s (some (idepP P s b)) (some b) l with
      | none => exact fun h => nomatch h.1
      | some r =>
        rintro ⟨hmem, hmin⟩
        refine ⟨.inl ?_, hmin.imp_right fun ⟨hall, hb⟩ => ⟨fun x hx => ?_, fun m hm => ?_⟩⟩
        · rcases hmem with h | h
          · exact List.mem_cons_of_mem _ h
          · exact Option.some.inj h ▸ List.mem_cons_self
        · rcases List.mem_cons.mp hx with rfl | hx
          · exact ⟨h0, hb _ rfl⟩
          · exact hall x hx
        · exact Nat.le_of_lt (Nat.lt_of_le_of_lt (hb b rfl) (hbeat m hm))
    · -- the remembered block stays: it has at most as many pending inputs as `b`
      obtain ⟨m, hm⟩ := Classical.not_forall.mp hbeat
      obtain ⟨rfl, hge⟩ := Classical.not_imp.mp hm
      have hmi : mi = some (idepP P s m) := hmi
      subst hmi
      rw [selectBlkLoop_cons_keep P s _ _ b l h0 hge]
      have := ih (some (idepP P s m)) (some m) rfl
      revert this
      cases selectBlkLoop P s (some (idepP P s m)) (some m) l with
      | none => exact fun h => nomatch h.1
      | some r =>
        rintro ⟨hmem, hmin⟩
        refine ⟨hmem.imp_left (List.mem_cons_of_mem _),
          hmin.imp_right fun ⟨hall, hb⟩ => ⟨fun x hx => ?_, hb⟩⟩
        rcases List.mem_cons.mp hx with rfl | hx
        · exact ⟨h0, Nat.le_trans (hb m rfl) (Nat.le_of_not_lt hge)⟩
        · exact hall x hx

/-- `select_blk` returns a member of the set's enumeration (whatever the iteration order) which has no
    pending input, or – if no member is without – the minimum number of them; `none` (the failed
    `assert`) only for the empty set -/
theorem selectBlk_spec (s : S) : SelSpec P s (P.enum s) (selectBlk P s) := by
  have := selectBlkLoop_spec P s (P.enum s) none none rfl
  unfold selectBlk
  revert this
  cases selectBlkLoop P s none none (P.enum s) with
  | none => exact fun h => h.2
  | some r => exact fun ⟨hmem, hmin⟩ => ⟨hmem.resolve_right nofun, hmin.imp_right fun h => h.1⟩

theorem selectBlkLoop_first_zero (s : S) (l : List Blk) (z : Blk)
    (hz : l.find? (fun x => idepP P s x == 0) = some z) (mi : Option Nat) (mb : Option Blk) :
    selectBlkLoop P s mi mb l = some z := by
  induction l generalizing mi mb with
  | nil => cases hz
  | cons b rest ih =>
    rw [List.find?_cons] at hz
    by_cases h0 : idepP P s b = 0
    · rw [beq_iff_eq.mpr h0] at hz
      rw [selectBlkLoop_cons_zero P s mi mb b rest h0]
      exact hz
    · rw [Bool.eq_false_iff.mpr (mt beq_iff_eq.mp h0)] at hz
      cases mi with
      | none => exact (selectBlkLoop_cons_take P s none mb b rest h0 nofun).trans (ih hz _ _)
      | some m =>
        by_cases hlt : idepP P s b < m
        · exact (selectBlkLoop_cons_take P s _ mb b rest h0 fun m' hm => Option.some.inj hm ▸ hlt).trans
            (ih hz _ _)
        · exact (selectBlkLoop_cons_keep P s m mb b rest h0 hlt).trans (ih hz _ _)

theorem selectBlk_first_zero (s : S) (z : Blk)
    (hz : (P.enum s).find? (fun x => idepP P s x == 0) = some z) : selectBlk P s = some z :=
  selectBlkLoop_first_zero P s _ z hz _ _

end Generic

/-- the world outside the loop's locals: block outputs and the contents of `sblock_queue` -/
structure World where
  outC : Nat → Val
  outS : Nat → Val
  Q : List Nat

def worldOf (s : St Val) : World := ⟨s.outC, s.outS, s.Q⟩

def toSt (E : Nat → Bool) (cnt : Nat) (w : World) : St Val :=
  { outC := w.outC, outS := w.outS, E := E, Q := w.Q, cnt := cnt }

/-- `cblk.eval_block()` as the simulator model sees it: compute, compare with `==`, store and run the
    on_output events when changed (the events may change SBlock outputs and extend the queue) -/
def evalBlockPrim (c : Circuit) (w : World) (b : Nat) : Except Empty (Bool × World) :=
  if (w.outC b).pyEq (c.net.fcalc b w.outC w.outS) then .ok (false, w)
  else .ok (true, { outC := upd w.outC b (c.net.fcalc b w.outC w.outS),
                    outS := (effects c b (c.net.fcalc b w.outC w.outS) w.outS w.Q).1,
                    Q := (effects c b (c.net.fcalc b w.outC w.outS) w.outS w.Q).2 })

/-- sets of CBlocks are masks over the block numbers `0 … n-1` (the model's `eval_set`); `en` is the
    iteration order of a Python set – arbitrary -/
def simPrims (c : Circuit) (en : (Nat → Bool) → List Nat) : Prims (Nat → Bool) Nat Nat World Empty where
  maxEvals := Gen.maxEvalsPerBlock
  nBlocks := c.nblocks
  cblocks := List.range c.cblocks.length
  setOf l := fun b => l.contains b
  isEmpty E := !anyPending c.net E
  size E := ((List.range c.cblocks.length).filter E).length
  union A B := fun x => A x || B x
  mem b E := E b
  erase E b := fun x => E x && x != b
  enum := en
  iconnC b := (cIns (c.blk b)).eraseDups
  cOconn b := fun x => (c.net.succC b).contains x
  sOconn i := fun x => (c.net.succS i).contains x
  qEmpty w := w.Q.isEmpty
  qItems w := w.Q
  qClear w := { w with Q := [] }
  evalBlock := evalBlockPrim c

section Proj
variable (c : Circuit) (en : (Nat → Bool) → List Nat)
theorem p_isEmpty (E : Nat → Bool) : (simPrims c en).isEmpty E = !anyPending c.net E := rfl
theorem p_size (E : Nat → Bool) : (simPrims c en).size E = ((List.range c.cblocks.length).filter E).length := rfl
theorem p_union (A B : Nat → Bool) : (simPrims c en).union A B = fun x => A x || B x := rfl
theorem p_erase (E : Nat → Bool) (b : Nat) : (simPrims c en).erase E b = fun x => E x && x != b := rfl
theorem p_enum (E : Nat → Bool) : (simPrims c en).enum E = en E := rfl
theorem p_cOconn (b : Nat) : (simPrims c en).cOconn b = fun x => (c.net.succC b).contains x := rfl
theorem p_sOconn (i : Nat) : (simPrims c en).sOconn i = fun x => (c.net.succS i).contains x := rfl
theorem p_qEmpty (w : World) : (simPrims c en).qEmpty w = w.Q.isEmpty := rfl
theorem p_qItems (w : World) : (simPrims c en).qItems w = w.Q := rfl
theorem p_qClear (w : World) : (simPrims c en).qClear w = { w with Q := [] } := rfl
theorem p_evalBlock (w : World) (b : Nat) : (simPrims c en).evalBlock w b = evalBlockPrim c w b := rfl
end Proj

def Enumerates (c : Circuit) (en : (Nat → Bool) → List Nat) : Prop :=
  ∀ E b, b ∈ en E ↔ (b < c.cblocks.length ∧ E b = true)

def enumAsc (c : Circuit) : (Nat → Bool) → List Nat := fun E => (List.range c.cblocks.length).filter E

theorem enumAsc_enumerates (c : Circuit) : Enumerates c (enumAsc c) := by
  intro E b; simp [enumAsc]

def enumDesc (c : Circuit) : (Nat → Bool) → List Nat := fun E => ((List.range c.cblocks.length).filter E).reverse

theorem enumDesc_enumerates (c : Circuit) : Enumerates c (enumDesc c) := by
  intro E b; simp [enumDesc]

/-- how the result of the model's loop iteration reads as the end of one pass through the body:
    `illegalChoice` is the model's "nothing to evaluate" (`continue`) – and its answer to a choice outside
    the eval set, which the loop never makes –, `instability` the raised error (`eval_cnt` was already
    incremented) -/
def embed : St Val × EvalRes → Res ((Nat → Bool) × Nat) Nat World Empty
  | (s, .ok _ _) => .next (s.E, s.cnt) (worldOf s)
  | (s, .illegalChoice) => .next (s.E, s.cnt) (worldOf s)
  | (s, .instability) => .raise .circuitError (s.E, s.cnt + 1) (worldOf s)

theorem idepP_eq (c : Circuit) (en : (Nat → Bool) → List Nat) (E : Nat → Bool) (b : Nat) :
    idepP (simPrims c en) E b = idep c E b := rfl

theorem simInit_eq (c : Circuit) (en : (Nat → Bool) → List Nat) :
    simInit (simPrims c en) = (c.limit, (fun b => decide (b < c.cblocks.length)), 0) := by
  simp only [simInit, simPrims, Circuit.limit]
  congr 2
  funext b
  simp

theorem foldl_union_eq (net : Net Val) (Q : List Nat) (E : Nat → Bool) :
    List.foldl (fun (E : Nat → Bool) (i : Nat) => fun x => E x || (net.succS i).contains x) E Q
      = fun b => E b || Q.any (fun i => (net.succS i).contains b) := by
  induction Q generalizing E with
  | nil => funext b; simp
  | cons i Q ih =>
    rw [List.foldl_cons, ih]
    funext b
    simp [Bool.or_assoc]

attribute [simtie] p_isEmpty p_size p_union p_erase p_enum p_sOconn p_cOconn p_qEmpty p_qItems p_qClear
  p_evalBlock worldOf foldl_union_eq
  Bool.not_true Bool.not_false Bool.false_eq_true Bool.false_and Bool.and_false Bool.and_self gt_iff_lt
  decide_true decide_false beq_iff_eq bne_iff_ne ne_eq beq_self_eq_true bne_self_eq_false not_true_eq_false
  not_false_eq_true

theorem selectBlk_selectOk (c : Circuit) (en : (Nat → Bool) → List Nat) (hen : Enumerates c en)
    (E : Nat → Bool) (h : ∃ b, b < c.cblocks.length ∧ E b = true) :
    ∃ r, selectBlk (simPrims c en) E = some r ∧ selectOk c E r = true := by
  have hs := selectBlk_spec (simPrims c en) E
  cases hr : selectBlk (simPrims c en) E with
  | none =>
    obtain ⟨b, hb, hE⟩ := h
    rw [hr] at hs
    have hnil : en E = [] := hs
    exact absurd ((hen E b).mpr ⟨hb, hE⟩) (hnil ▸ List.not_mem_nil)
  | some r =>
    rw [hr] at hs
    obtain ⟨hmem, hmin⟩ := hs
    exact ⟨r, rfl, (selectOk_iff c E r).mpr ⟨((hen E r).mp hmem).symm,
      hmin.imp_right fun hall x hx hEx => hall x ((hen E x).mpr ⟨hx, hEx⟩)⟩⟩

/-- the block the loop body takes out of the eval set `E`: the `pop()` of a one-element set (the head of
    its enumeration), otherwise what `select_blk` returns -/
def Takes (c : Circuit) (en : (Nat → Bool) → List Nat) (E : Nat → Bool) (b : Nat) : Prop :=
  (((List.range c.cblocks.length).filter E).length = 1 ∧ ∃ t, en E = b :: t) ∨
  (((List.range c.cblocks.length).filter E).length ≠ 1 ∧ selectBlk (simPrims c en) E = some b)

/-- out of a non-empty set the body takes a block (no KeyError, no failed `assert`), one that the
    specification of `select_blk` allows: the only member of a set is such a choice as well -/
theorem takes_selectOk (c : Circuit) (en : (Nat → Bool) → List Nat) (hen : Enumerates c en) (E : Nat → Bool)
    (h : ∃ b, b < c.cblocks.length ∧ E b = true) : ∃ b, Takes c en E b ∧ selectOk c E b = true := by
  by_cases h1 : ((List.range c.cblocks.length).filter E).length = 1
  · obtain ⟨b, hb, hE⟩ := h
    obtain ⟨a, ha⟩ := List.length_eq_one_iff.mp h1
    have only : ∀ y, y < c.cblocks.length → E y = true → y = a := fun y hy hEy =>
      List.mem_singleton.mp (ha ▸ List.mem_filter.mpr ⟨List.mem_range.mpr hy, hEy⟩)
    cases hl : en E with
    | nil => exact absurd ((hen E b).mpr ⟨hb, hE⟩) (hl ▸ List.not_mem_nil)
    | cons x t =>
      obtain ⟨hx, hEx⟩ := (hen E x).mp (hl ▸ List.mem_cons_self)
      refine ⟨x, .inl ⟨h1, t, hl⟩, (selectOk_iff c E x).mpr ⟨⟨hEx, hx⟩, ?_⟩⟩
      by_cases h0 : idep c E x = 0
      · exact .inl h0
      · refine .inr fun y hy hEy => ?_
        cases (only y hy hEy).trans (only x hx hEx).symm
        exact ⟨h0, Nat.le_refl _⟩
  · obtain ⟨r, hr, hok⟩ := selectBlk_selectOk c en hen E h
    exact ⟨r, .inr ⟨h1, hr⟩, hok⟩

theorem simStep_j1_nothing (c : Circuit) (en : (Nat → Bool) → List Nat) (s : St Val)
    (hp : anyPending c.net (drain c.net s).E = false) :
    simStep_j1 (simPrims c en) c.limit s.E s.cnt (worldOf s)
      = .next ((drain c.net s).E, s.cnt) (worldOf (drain c.net s)) := by
  simp only [drain] at hp
  simp only [simStep_j1, simtie, pybool, ↓reduceIte, drain, hp]

theorem simStep_j1_limit (c : Circuit) (en : (Nat → Bool) → List Nat) (s : St Val)
    (hp : anyPending c.net (drain c.net s).E = true) (hl : c.limit < s.cnt + 1) :
    simStep_j1 (simPrims c en) c.limit s.E s.cnt (worldOf s)
      = .raise .circuitError ((drain c.net s).E, s.cnt + 1) (worldOf (drain c.net s)) := by
  simp only [drain] at hp
  simp only [simStep_j1, simtie, pybool, ↓reduceIte, drain, hp, hl]

/-- the code after the selection (`try: changed = cblk.eval_block() …; if changed: eval_set |= …`) leaves
    the locals and the world as the model's evaluation of `b` does -/
theorem simStep_j2_eq (c : Circuit) (en : (Nat → Bool) → List Nat) (lim : Nat) (s : St Val) (b : Nat) :
    simStep_j2 (simPrims c en) lim (fun x => (drain c.net s).E x && x != b) (s.cnt + 1) b (worldOf (drain c.net s))
      = .next ((evalNext c s b).E, (evalNext c s b).cnt) (worldOf (evalNext c s b)) := by
  -- the world's queue is empty after the drain, which is why `evalNext` starts `effects` from `[]`
  by_cases hv : (s.outC b).pyEq (c.net.fcalc b s.outC s.outS) = true <;>
    simp [simStep_j2, simPrims, evalBlockPrim, worldOf, evalNext, evalStep, drain, hv]

theorem simStep_j1_take (c : Circuit) (en : (Nat → Bool) → List Nat) (s : St Val)
    (hp : anyPending c.net (drain c.net s).E = true) (hl : ¬ c.limit < s.cnt + 1) (b : Nat)
    (hb : Takes c en (drain c.net s).E b) :
    simStep_j1 (simPrims c en) c.limit s.E s.cnt (worldOf s)
      = .next ((evalNext c s b).E, (evalNext c s b).cnt) (worldOf (evalNext c s b)) := by
  rw [← simStep_j2_eq c en c.limit s b]
  simp only [drain] at hp hb
  rcases hb with ⟨h1, t, hx⟩ | ⟨h1, hr⟩
  · simp only [simStep_j1, simtie, pybool, ↓reduceIte, drain, hp, hl, h1, hx]
  · simp only [simStep_j1, simtie, pybool, ↓reduceIte, drain, hp, hl, h1, hr]

/-- the body from the drain loop on (`simStep_j1`: everything after the pause branch) IS the model's
    `evalOp` for a block `b` that the specification of `select_blk` allows -/
theorem simStep_j1_eq (c : Circuit) (en : (Nat → Bool) → List Nat) (hen : Enumerates c en) (s : St Val) :
    ∃ b, (anyPending c.net (drain c.net s).E = true → s.cnt + 1 ≤ c.limit →
            selectOk c (drain c.net s).E b = true) ∧
      simStep_j1 (simPrims c en) c.limit s.E s.cnt (worldOf s) = embed (evalOp c s b) := by
  cases hp : anyPending c.net (drain c.net s).E
  · refine ⟨0, nofun, ?_⟩
    rw [evalOp_nothing_pending 0 hp, simStep_j1_nothing c en s hp]
    rfl
  · by_cases hl : c.limit < s.cnt + 1
    · refine ⟨0, fun _ h => absurd hl (Nat.not_lt.mpr h), ?_⟩
      rw [evalOp_over_limit 0 hp hl, simStep_j1_limit c en s hp hl]
      rfl
    · obtain ⟨b, hb, hok⟩ := takes_selectOk c en hen _ ((anyPending_iff _ _).mp hp)
      -- `hbn : b < c.cblocks.length` serves as `b < c.net.n`: the two are the same by definition of `Circuit.net`
      obtain ⟨⟨hE, hbn⟩, _⟩ := (selectOk_iff _ _ b).mp hok
      refine ⟨b, fun _ _ => hok, ?_⟩
      rw [simStep_j1_take c en s hp hl b hb, evalOp_eval (Nat.le_of_not_lt hl) hE hbn]
      rfl

/-- the loop's pause condition `not eval_set and queue.empty()` -/
def pauseCond (c : Circuit) (s : St Val) : Bool := !anyPending c.net s.E && s.Q.isEmpty

theorem simStep_nopause (c : Circuit) (en : (Nat → Bool) → List Nat) (s : St Val)
    (h : pauseCond c s = false) :
    simStep (simPrims c en) c.limit s.E s.cnt (worldOf s)
      = simStep_j1 (simPrims c en) c.limit s.E s.cnt (worldOf s) := by
  have h : anyPending c.net s.E = true ∨ s.Q.isEmpty = false := by
    simpa only [pauseCond, Bool.and_eq_false_iff, Bool.not_eq_false'] using h
  rcases h with h | h <;> simp only [simStep, simtie, pybool, ↓reduceIte, h]

/-- at the pause: the coroutine is suspended in `await queue.get()`; resumed with item `i` it sets
    `eval_cnt = 0`, adds `i.oconnections` and goes on with the code from the drain loop -/
theorem simStep_pause (c : Circuit) (en : (Nat → Bool) → List Nat) (s : St Val)
    (h : pauseCond c s = true) :
    simStep (simPrims c en) c.limit s.E s.cnt (worldOf s)
      = .await (fun i w' => simStep_j1 (simPrims c en) c.limit
                  (fun x => s.E x || (c.net.succS i).contains x) 0 w') := by
  have h : anyPending c.net s.E = false ∧ s.Q.isEmpty = true := by
    simpa only [pauseCond, Bool.and_eq_true, Bool.not_eq_true'] using h
  simp only [simStep, simtie, pybool, ↓reduceIte, h.1, h.2]

theorem evalOp_of_drain_eq (c : Circuit) (s s' : St Val) (b : Nat) (h : drain c.net s = drain c.net s') :
    evalOp c s b = evalOp c s' b := by
  simp only [evalOp, h]

theorem drain_head (c : Circuit) (outC outS : Nat → Val) (E : Nat → Bool) (i : Nat) (Q : List Nat) (cnt : Nat) :
    drain c.net { outC := outC, outS := outS, E := fun x => E x || (c.net.succS i).contains x, Q := Q, cnt := cnt }
      = drain c.net { outC := outC, outS := outS, E := E, Q := i :: Q, cnt := cnt } := by
  simp only [drain, List.any_cons, Bool.or_assoc]

theorem pause_idle (c : Circuit) (s : St Val) (h : pauseCond c s = true) :
    idleOp c s = some { drain c.net s with cnt := 0 } ∧ (drain c.net s).E = s.E ∧ (drain c.net s).Q = s.Q := by
  simp only [pauseCond, Bool.and_eq_true, Bool.not_eq_true', List.isEmpty_iff] at h
  have hE : (drain c.net s).E = s.E := by
    funext b; simp [drain, h.2]
  refine ⟨?_, hE, by rw [h.2]; rfl⟩
  rw [idleOp_eq, hE, h.1]
  rfl

/-- when `idleOp` succeeds, the loop is at its pause or gets there by one `continue` -/
theorem idle_pause (c : Circuit) (s s' : St Val) (h : idleOp c s = some s') :
    pauseCond c (drain c.net s) = true ∧ s' = { drain c.net s with cnt := 0 } := by
  obtain ⟨hp, hs⟩ := idleOp_some c s s' h
  refine ⟨?_, hs⟩
  simp only [pauseCond, hp, Bool.not_false, drain_Q, List.isEmpty_nil, Bool.and_self]

end Edzed.SimTie
