/- The error register after any operation or history is its old content, else the first error delivered (`firstOf`),
   and a task past its `try` block has an error recorded (`Stopped`): one relation between the state before and the
   state after (`Delivers`), shown for the two writers, for each transition, and chained along a history. -/
import EdzedModel.ErrorReg
import EdzedProofs.Cond

namespace Edzed.ErrorReg

def firstOf (cur : Option Err) (dels : List Err) : Option Err :=
  match cur with
  | some e => some e
  | none => dels.head?

theorem firstOf_some (e : Err) (l : List Err) : firstOf (some e) l = some e := rfl
theorem firstOf_none (l : List Err) : firstOf none l = l.head? := rfl
theorem firstOf_nil (c : Option Err) : firstOf c [] = c := by cases c <;> rfl

theorem firstOf_append (c : Option Err) (l1 l2 : List Err) :
    firstOf (firstOf c l1) l2 = firstOf c (l1 ++ l2) := by
  cases c with
  | some e => rfl
  | none => cases l1 <;> simp [firstOf]

theorem inHandler_fatal (f : Family) : (Fault.inHandler f).fatal = (f != .unknownEvent) := by
  cases f <;> rfl

@[simp] theorem addWake_error (s : St) (w : Wake) : (s.addWake w).error = s.error := by
  unfold St.addWake; split <;> rfl

@[simp] theorem addWake_phase (s : St) (w : Wake) : (s.addWake w).phase = s.phase := by
  unfold St.addWake; split <;> rfl

@[simp] theorem notifyRun_error (s : St) : s.notifyRun.error = s.error := by
  unfold St.notifyRun; split <;> simp

@[simp] theorem notifyRun_phase (s : St) : s.notifyRun.phase = s.phase := by
  unfold St.notifyRun; split <;> simp

@[simp] theorem leaveTry_error (s : St) : s.leaveTry.error = s.error := by
  simp [St.leaveTry]

@[simp] theorem leaveTry_phase (s : St) : s.leaveTry.phase = .sleep0 := by
  simp [St.leaveTry]

theorem abort_error (s : St) (e : Err) : (s.abort e).error = firstOf s.error [e] := by
  unfold St.abort
  cases h : s.error with
  | some e' => simp [firstOf, h]
  | none => simp only [firstOf]; split <;> simp

@[simp] theorem abort_phase (s : St) (e : Err) : (s.abort e).phase = s.phase := by
  unfold St.abort
  cases s.error with
  | some e' => rfl
  | none => simp only []; split <;> simp

theorem caught_error (s : St) (e : Err) : (s.caught e).error = firstOf s.error [e] := by
  unfold St.caught
  cases h : s.error <;> simp [firstOf, h]

@[simp] theorem caught_phase (s : St) (e : Err) : (s.caught e).phase = s.phase := by
  unfold St.caught; cases s.error <;> rfl

/-- invariant: a simulation task that has left its `try` block (clean-up, finished) has an error set -/
def Stopped (s : St) : Prop :=
  (s.phase = .sleep0 ∨ s.phase = .cleanup ∨ s.phase = .done) → s.error.isSome

theorem Stopped.phase_of_no_error {s : St} (h : Stopped s) (hs : s.error = none) :
    s.phase = .notStarted ∨ s.phase = .tryBlock := by
  cases hp : s.phase <;> simp_all [Stopped]

/-- `s'` comes from `s` by handing `l` to the two writers of the register, in this order -/
structure Delivers (s s' : St) (l : List Err) : Prop where
  error : s'.error = firstOf s.error l
  stopped : Stopped s → Stopped s'

namespace Delivers

theorem refl (s : St) : Delivers s s [] := ⟨(firstOf_nil _).symm, id⟩

theorem trans {s s' s'' : St} {l l' : List Err} (h : Delivers s s' l) (h' : Delivers s' s'' l') :
    Delivers s s'' (l ++ l') :=
  ⟨by rw [h'.error, h.error, firstOf_append], fun hs => h'.stopped (h.stopped hs)⟩

theorem of_phase {s s' : St} {l : List Err} (hp : s'.phase = s.phase) (he : s'.error = firstOf s.error l) :
    Delivers s s' l := by
  refine ⟨he, fun hs hq => ?_⟩
  rw [hp] at hq
  rw [he]
  cases h : s.error with
  | none => have := hs hq; rw [h] at this; cases this
  | some e => rfl

theorem of_same {s s' : St} (hp : s'.phase = s.phase) (he : s'.error = s.error) : Delivers s s' [] :=
  of_phase hp (he.trans (firstOf_nil _).symm)

theorem of_past {s s' : St} (hq : s.phase = .sleep0 ∨ s.phase = .cleanup ∨ s.phase = .done) (he : s'.error = s.error) :
    Delivers s s' [] :=
  ⟨he.trans (firstOf_nil _).symm, fun hs _ => he ▸ hs hq⟩

theorem of_try {s t : St} (he : t.error = s.error) (hp : t.phase = .tryBlock) : Delivers s t [] :=
  ⟨by rw [he, firstOf_nil], fun _ hq => by rw [hp] at hq; simp at hq⟩

theorem leaveTry {s t : St} {l : List Err} (h : Delivers s t l) (he : t.error.isSome) : Delivers s t.leaveTry l :=
  ⟨by rw [leaveTry_error, h.error], fun _ _ => by rw [leaveTry_error]; exact he⟩

end Delivers

theorem abort_delivers (s : St) (e : Err) : Delivers s (s.abort e) [e] := .of_phase (abort_phase s e) (abort_error s e)

theorem caught_delivers (s : St) (e : Err) : Delivers s (s.caught e) [e] := .of_phase (caught_phase s e) (caught_error s e)

theorem addWake_delivers (s : St) (w : Wake) : Delivers s (s.addWake w) [] :=
  .of_same (addWake_phase s w) (addWake_error s w)

theorem Delivers.caught_leaveTry {s t : St} {l : List Err} (h : Delivers s t l) (e : Err) :
    Delivers s (t.caught e).leaveTry (l ++ [e]) :=
  (h.trans (caught_delivers t e)).leaveTry (by rw [caught_error]; cases t.error <;> rfl)

theorem Delivers.ite {s : St} {c : Prop} [Decidable c] {a b : St × Out} (ha : Delivers s a.1 a.2.dels)
    (hb : Delivers s b.1 b.2.dels) : Delivers s (if c then a else b).1 (if c then a else b).2.dels :=
  ite_elim (P := fun x : St × Out => Delivers s x.1 x.2.dels) ha hb

theorem wakeStep_delivers (s : St) (w : Wake) : Delivers s (wakeStep s w).1 (wakeStep s w).2 := by
  cases w with
  | sim =>
    -- the task itself: out of its `try` block only through the `except` clause.  With the fields of the state as
    -- variables `wakeStep` evaluates by unification; `by exact` waits until the state it yields is known
    rcases s with ⟨ph, er, mc, ar, wk, sl, sd, rw, rm, ef⟩
    cases ph with
    | tryBlock =>
      cases mc with
      | true => exact Delivers.caught_leaveTry (l := []) (by exact .of_try rfl rfl) _
      | false =>
        rcases ar with _ | _ | ⟨id, f⟩
        · exact .refl _
        · exact (Delivers.refl _).caught_leaveTry _
        · cases f with
          | unknownEvent => exact (Delivers.refl _).caught_leaveTry _
          | _ => exact (abort_delivers _ _).caught_leaveTry _
    | sleep0 =>
      cases sl
      · exact .of_past (.inl rfl) (notifyRun_error _)
      · exact .of_past (.inl rfl) rfl
    | _ => exact .refl _
  | mon _ | sig => exact abort_delivers s _
  | sup _ _ | supEnd _ => exact .of_same (notifyRun_phase _) (notifyRun_error _)
  | runWaiter => exact addWake_delivers s _
  | shut | runAbort =>
    simp only [wakeStep]
    split
    · exact .refl s
    · exact abort_delivers s _

theorem tickFold_delivers (ws : List Wake) (s : St) (acc : St × List Err) (h : Delivers s acc.1 acc.2) :
    Delivers s (tickFold ws acc).1 (tickFold ws acc).2 := by
  induction ws generalizing acc with
  | nil => exact h
  | cons w ws ih => exact ih _ (h.trans (wakeStep_delivers _ w))

theorem step_delivers (s : St) (op : Op) : Delivers s (step s op).1 (step s op).2.dels := by
  cases op with
  | tick => exact tickFold_delivers s.wake s _ (.of_same rfl rfl)
  | finish =>
    simp only [step]
    split
    · next hp => exact .of_past (.inr (.inl (eq_of_beq hp))) (notifyRun_error _)
    · exact .refl s
  | start initErr =>
    -- the task has begun: it is inside its `try` block, or out of it at once with an error
    rcases s with ⟨ph, er, mc, ar, wk, sl, sd, rw, rm, ef⟩
    cases ph with
    | notStarted =>
      cases er with
      | some e => exact Delivers.leaveTry (by exact .of_try rfl rfl) rfl
      | none =>
        cases initErr with
        | some id => exact Delivers.caught_leaveTry (l := []) (by exact .of_try rfl rfl) _
        | none =>
          cases ef
          · exact .of_try rfl rfl
          · exact Delivers.caught_leaveTry (l := []) (by exact .of_try rfl rfl) _
    | _ => exact .refl _
  | abortCall e => exact abort_delivers s e
  | handlerErr _ _ => exact .ite (.ite (abort_delivers s _) (.refl s)) (.refl s)
  | ctrlAbort _ | ctrlAbortText | ctrlShutdown => exact .ite (abort_delivers s _) (.refl s)
  | supTrigger i id => cases id <;> exact addWake_delivers s _
  | monTrigger _ | shutdownTask | sigterm => exact addWake_delivers s _
  | paramErr | unknownEvt => exact .refl s
  | earlyInitFail _ => exact .ite (.of_same rfl rfl) (.refl s)
  | nestedUnknown _ => exact .ite (by simp only []; split <;> first | exact addWake_delivers s _ | exact .refl s) (.refl s)
  | armCalc a =>
    exact .ite (.ite (Delivers.trans (s' := { s with armed := some a }) (l := []) (.of_same rfl rfl)
      (addWake_delivers _ _)) (.refl s)) (.refl s)
  | rawCancel => exact .ite (.of_same (addWake_phase ..) (addWake_error ..)) (.refl s)

theorem step_error (s : St) (op : Op) : (step s op).1.error = firstOf s.error (step s op).2.dels :=
  (step_delivers s op).error

theorem run_delivers (s : St) (ops : List Op) : Delivers s (final s ops) (deliveries s ops) := by
  unfold final deliveries run
  suffices ∀ acc : St × List Err, Delivers s acc.1 acc.2 →
      Delivers s (ops.foldl (fun acc op => let r := step acc.1 op; (r.1, acc.2 ++ r.2.dels)) acc).1
        (ops.foldl (fun acc op => let r := step acc.1 op; (r.1, acc.2 ++ r.2.dels)) acc).2 from
    this (s, []) (.refl s)
  induction ops with
  | nil => exact fun _ h => h
  | cons op ops ih => exact fun acc h => ih _ (h.trans (step_delivers _ op))

theorem run_error (s : St) (ops : List Op) :
    (final s ops).error = firstOf s.error (deliveries s ops) :=
  (run_delivers s ops).error

theorem run_append (s : St) (a b : List Op) :
    final s (a ++ b) = final (final s a) b := by
  unfold final run
  rw [List.foldl_append]
  generalize List.foldl _ (s, []) a = acc
  -- the delivery log does not influence the state component
  have key : ∀ (ops : List Op) (st : St) (l1 l2 : List Err),
      (ops.foldl (fun acc op => let r := step acc.1 op; (r.1, acc.2 ++ r.2.dels)) (st, l1)).1 =
      (ops.foldl (fun acc op => let r := step acc.1 op; (r.1, acc.2 ++ r.2.dels)) (st, l2)).1 := by
    intro ops
    induction ops with
    | nil => intros; rfl
    | cons op ops ih => intro st l1 l2; simp only [List.foldl_cons]; exact ih _ _ _
  exact key b acc.1 acc.2 []

end Edzed.ErrorReg
