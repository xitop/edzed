/-
C05 / C11: the early-initialisation call site of `SBlock.event` (translated for C11, Gen/TranslatedDispatch.lean):
    if 0 <= self.init_steps_completed < 2:
        with self._enable_event:
            self.circuit.init_sblock(self, full=True)
is the reference program `Edzed.TrTie.initPart` (EdzedProofs/EventRef.lean; `translated_event_is_reference` shows
that the translated `event` is built from it).  Run with the primitives of the C05 model it is exactly the
early-initialisation step of `eventBody`, with `init_sblock(self, full=True)` = the model's `.initS d true`.
-/
import EdzedProofs.DispatchTie
import EdzedProofs.InitSbTie

namespace Edzed.Init

open Edzed.Gen.TrD

/-- the primitives `initPart` uses (`initSteps`, `enableEnter`, `enableExit`, `initSblockFull`) as operations of
    the C05 model (block `d`); the other leaves of `SBlock.event` do not occur in `initPart`: the guard's are given
    their model meaning all the same, the rest inert values -/
def earlyPrims (rec : Call → St → St) (d : Nat) : EventPrims St Err Unit Unit Unit Unit Unit Bool where
  isStr := fun _ => true
  etypeTruthy := fun _ => true
  isEventType := fun _ => false
  isCond := fun _ => false
  etrue := fun _ => Option.none
  efalse := fun _ => Option.none
  dataValue := fun _ => ()
  valTruthy := fun _ => false
  mkExc := fun _ _ => .routine
  excIs := fun _ _ => true
  tbDeep := fun _ => true
  getActive := fun s => s.active d
  setActive := fun v => M.modify fun s => s.setActive d v
  abort := fun _ => M.modify fun s => s.refuse
  initSteps := fun s => s.steps d
  enableEnter := fun s => (s.setActive d false, .next (s.active d))
  enableExit := fun saved => M.modify fun s => s.setActive d saved
  initSblockFull := lift (rec (.initS d true))
  lookup := fun _ => Option.none
  callHandler := fun _ _ => M.pure ()
  callDefault := fun _ _ => M.pure ()
  noneVal := ()

theorem setActive_swallow_raise (t : St) (d : Nat) (x : Bool) (e : Err) (h : t.exc = some e) :
    (t.swallow.setActive d x).raise e = t.setActive d x := by
  cases t; simp_all [St.swallow, St.raise, St.setActive]

/-- `_enable_event` clears the flag, `init_sblock(self, full=True)` is `.initS d true`, `__exit__` restores the flag
    on every outcome -/
theorem initPart_earlyPrims (rec : Call → St → St) (d : Nat) (s : St) :
    fin (Edzed.TrTie.initPart (earlyPrims rec d) s) =
      if 0 ≤ s.steps d ∧ s.steps d < 2
      then (rec (.initS d true) (s.setActive d false)).setActive d (s.active d)
      else s := by
  by_cases hc : 0 ≤ s.steps d ∧ s.steps d < 2
  · cases hx : (rec (.initS d true) (s.setActive d false)).exc with
    | none =>
      have hl := lift_none (rec (.initS d true)) (s.setActive d false) hx
      simp [Edzed.TrTie.initPart, M.withCtx, M.tryFinally, M.bind, M.get, M.modify, M.pure, earlyPrims, hc,
        hl, fin]
    | some e =>
      have hl := lift_some (rec (.initS d true)) (s.setActive d false) e hx
      simp [Edzed.TrTie.initPart, M.withCtx, M.tryFinally, M.bind, M.get, M.modify, M.pure, earlyPrims, hc,
        hl, fin, setActive_swallow_raise _ d _ e hx]
  · have hcond : ¬ ((decide ((0 : Int) ≤ (earlyPrims rec d).initSteps s) &&
        decide ((earlyPrims rec d).initSteps s < (2 : Int))) = true) := by
      intro h
      simp only [Bool.and_eq_true] at h
      exact hc ⟨of_decide_eq_true h.1, of_decide_eq_true h.2⟩
    unfold Edzed.TrTie.initPart
    simp only [M.bind, M.get]
    rw [if_neg hcond, if_neg hc]
    simp [M.pure, fin]

end Edzed.Init
