namespace Edzed

/-- used with the motive given, `refine ite_elim (P := …) ha ?_`, where `split` is very slow to check: conditions that
    mention string literals or large states -/
theorem ite_elim {α : Type} {P : α → Prop} {c : Prop} [Decidable c] {a b : α} (ha : P a) (hb : P b) :
    P (if c then a else b) := by
  by_cases h : c
  · rwa [if_pos h]
  · rwa [if_neg h]

end Edzed
