/-
C13: weekday specifications of `TimeDate.parse` – what `weekdaysOfInts` returns and that it parses back; a digit
string means the sequence of its digits.  Core Lean only.
-/
import EdzedModel.Interval
import EdzedProofs.Interval
import EdzedProofs.IntervalText

namespace Edzed.Interval

/-- weekday `d` is selected by the numbers `l`: it occurs, or it is Sunday and `0` occurs -/
def wdSel (l : List Int) (d : Nat) : Bool := decide ((d : Int) ∈ l) || (d == 7 && decide ((0 : Int) ∈ l))

theorem weekdaysOfInts_eq (l : List Int) :
    weekdaysOfInts l = if ∀ x ∈ l, 0 ≤ x ∧ x ≤ 7 then .ok ([1, 2, 3, 4, 5, 6, 7].filter (wdSel l)) else .err .value := by
  unfold weekdaysOfInts
  by_cases h : ∀ x ∈ l, 0 ≤ x ∧ x ≤ 7
  · have hall : l.all (fun x => decide (0 ≤ x) && decide (x ≤ 7)) = true := by
      simpa [List.all_eq_true] using h
    rw [if_pos hall, if_pos h]
    refine congrArg Res.ok (List.filter_congr ?_)
    intro d hd
    have hd' : 1 ≤ d ∧ d ≤ 7 := by simp at hd; omega
    rw [Bool.eq_iff_iff]
    simp only [wdSel, List.contains_eq_mem, List.mem_map, decide_eq_true_eq, Bool.or_eq_true, Bool.and_eq_true,
      beq_iff_eq]
    constructor
    · rintro ⟨x, hx, e⟩
      have := h x hx
      by_cases h0 : x = 0
      · subst h0; exact Or.inr ⟨by simpa using e.symm, hx⟩
      · rw [if_neg h0] at e; exact Or.inl (by rwa [show (d : Int) = x by omega])
    · rintro (hm | ⟨rfl, hm⟩)
      · exact ⟨d, hm, by simp; omega⟩
      · exact ⟨0, hm, by simp⟩
  · have hall : l.all (fun x => decide (0 ≤ x) && decide (x ≤ 7)) = false := by
      rw [Bool.eq_false_iff]; intro hc; exact h (by simpa [List.all_eq_true] using hc)
    rw [if_neg (by simp [hall]), if_neg h]

theorem weekdaysOfInts_congr {l1 l2 : List Int}
    (hr : (∀ x ∈ l1, 0 ≤ x ∧ x ≤ 7) ↔ (∀ x ∈ l2, 0 ≤ x ∧ x ≤ 7))
    (hs : ∀ d : Nat, 1 ≤ d → d ≤ 7 → wdSel l1 d = wdSel l2 d) : weekdaysOfInts l1 = weekdaysOfInts l2 := by
  rw [weekdaysOfInts_eq, weekdaysOfInts_eq]
  simp only [hr]
  split
  · refine congrArg Res.ok (List.filter_congr fun d hd => hs d ?_ ?_) <;> (simp at hd; omega)
  · rfl

theorem weekdaysOfInts_export (p : Nat → Bool) :
    weekdaysOfInts (([1, 2, 3, 4, 5, 6, 7].filter p).map Int.ofNat) = .ok ([1, 2, 3, 4, 5, 6, 7].filter p) := by
  rw [weekdaysOfInts_eq, if_pos]
  · refine congrArg Res.ok (List.filter_congr fun d hd => ?_)
    rw [Bool.eq_iff_iff]
    simp only [wdSel, List.mem_map, List.mem_filter, Int.ofNat_eq_natCast, Int.natCast_inj, exists_eq_right,
      Bool.or_eq_true, decide_eq_true_eq, Bool.and_eq_true, beq_iff_eq]
    constructor
    · rintro (h | ⟨-, x, ⟨hx, -⟩, h0⟩)
      · exact h.2
      · simp at hx; omega
    · exact fun h => Or.inl ⟨hd, h⟩
  · simp only [List.mem_map, List.mem_filter]
    rintro x ⟨d, ⟨hd, -⟩, rfl⟩
    simp at hd ⊢; omega

theorem char_of_dval {c : Char} (hc : isDigit c = true) : c = digitChar (dval c) := by
  have hb := isDigit_bound hc
  have h1 : dval c % 10 = dval c := by unfold dval; omega
  have h2 : 48 + dval c = c.toNat := by unfold dval; omega
  unfold digitChar
  rw [h1, h2]
  exact (Char.ofNat_toNat c).symm

def wdChars (s : List Char) : List Char := s.filter fun c => !(c == ' ' || c == '\t')

def wdDigits (s : List Char) : List Int := (wdChars s).map fun c => Int.ofNat (dval c)

theorem mem_wdDigits {s : List Char} {x : Int} :
    x ∈ wdDigits s ↔ ∃ c ∈ s, c ≠ ' ' ∧ c ≠ '\t' ∧ Int.ofNat (dval c) = x := by
  simp only [wdDigits, wdChars, List.mem_map, List.mem_filter, Bool.not_eq_true', Bool.or_eq_false_iff,
    beq_eq_false_iff_ne, ne_eq, and_assoc]

theorem parseWeekdays_str_digits {s : List Char} (ha : asciiOk s = true)
    (hd : ∀ c ∈ s, c = ' ' ∨ c = '\t' ∨ isDigit c = true) :
    parseWeekdays (.str s) = parseWeekdays (.ints (wdDigits s)) := by
  have : (wdChars s).all isDigit = true := by
    simp only [wdChars, List.all_eq_true, List.mem_filter]
    rintro c ⟨hc, hn⟩
    rcases hd c hc with rfl | rfl | h
    · simp at hn
    · simp at hn
    · exact h
  have h' : (s.filter fun c => !(c == ' ' || c == '\t')).all isDigit = true := this
  simp only [parseWeekdays, ha, Bool.not_true, Bool.false_eq_true, ↓reduceIte, h', wdDigits, wdChars]

theorem parseWeekdays_str_nondigit {s : List Char} (ha : asciiOk s = true)
    (hx : ∃ c ∈ s, c ≠ ' ' ∧ c ≠ '\t' ∧ isDigit c = false) : parseWeekdays (.str s) = .err .value := by
  obtain ⟨c, hc, h1, h2, h3⟩ := hx
  have : (s.filter fun c => !(c == ' ' || c == '\t')).all isDigit = false := by
    rw [List.all_eq_false]
    exact ⟨c, List.mem_filter.2 ⟨hc, by simp [h1, h2]⟩, by simp [h3]⟩
  simp only [parseWeekdays, ha, Bool.not_true, Bool.false_eq_true, ↓reduceIte, this]

end Edzed.Interval
