/-
Tie by translation for C09: the primitives of the translated programs of Gen/TranslatedErrReg.lean, of `run_forever`
(Gen/TranslatedLifecycle.lean) and of `SBlock.event` / `init_sblock` (Gen/TranslatedDispatch.lean,
Gen/TranslatedInitSb.lean) instantiated with the operations of the model EdzedModel/ErrorReg.lean; the model's accounts
of `run()` and `run_forever`; and the translated `run_forever` evaluated on a task that has not begun (`runForever_eq`).
The theorems `Edzed.TrTie.translated_errreg_…` are in EdzedProps/C09.lean.

An `await` suspends the coroutine; what the rest of the world does meanwhile is an ARBITRARY function on the
model state (`env k`, k = number of awaits performed so far): the theorems hold for every environment.
-/
import EdzedModel.ErrorReg
import EdzedModel.Gen.TranslatedErrReg
import EdzedModel.Gen.TranslatedLifecycle
import EdzedModel.Gen.TranslatedInitSb
import EdzedProofs.ErrorReg
import EdzedProofs.PyBool

namespace Edzed.ErrorRegTie
open Edzed.ErrorReg Edzed.Gen.TrD Edzed.Gen

/-- the Python exceptions the entry points distinguish -/
inductive PyExc where
  | err (e : Err)        -- an exception that can be held in `Circuit._error`
  | invalidState         -- EdzedInvalidState
  | attributeError       -- AttributeError (`_init_done` does not exist)
  | runtimeError         -- RuntimeError("Simulator task did not start.")
  | typeError            -- `raise None`
  | indexError           -- `coroutines[tnum]` out of range
  | other                -- any other Exception made by the code (EdzedCircuitError("The circuit is empty"))
  deriving DecidableEq, Repr

/-- what `abort()` is handed; `.exc 0` stands for an exception that is not an error of the model -/
def PyExc.toErr : PyExc → Err
  | .err e => e
  | _ => .exc 0

/-- `except Class` catches …  (CancelledError is a BaseException, everything else here an Exception) -/
def excIs : PyExc → String → Bool
  | .err (.cancelled _), c => c == "asyncio.CancelledError"
  | _, c => c == "Exception"

/-- `Class(message)` -/
def mkExc (cls _marker : String) : PyExc :=
  if cls == "EdzedInvalidState" then .invalidState
  else if cls == "RuntimeError" then .runtimeError
  else if cls == "TypeError" then .typeError
  else .other

/-- `self._msg` of the SIGTERM context manager (only its identity matters) -/
def sigMsg : String := "Signal"

/-- `asyncio.CancelledError(message)`: the tags of `Err.cancelled` (1 'shutdown', 2 the ControlBlock's
    'shutdown requested by …', 4 the signal message, 0 any other) -/
def mkCancelled (m : String) : PyExc :=
  .err (.cancelled (if m == "shutdown" then 1 else if m == "shutdown requested by" then 2 else if m == sigMsg then 4 else 0))

@[simp] theorem mkCancelled_shutdown : mkCancelled "shutdown" = .err (.cancelled 1) := by decide
@[simp] theorem mkCancelled_sig : mkCancelled sigMsg = .err (.cancelled 4) := by decide
@[simp] theorem mkCancelled_ctl : mkCancelled "shutdown requested by" = .err (.cancelled 2) := by decide
@[simp] theorem mkExc_invalid (m : String) : mkExc "EdzedInvalidState" m = .invalidState := by simp [mkExc]
@[simp] theorem mkExc_runtime (m : String) : mkExc "RuntimeError" m = .runtimeError := by
  unfold mkExc; rw [if_neg (by decide), if_pos (by decide)]
@[simp] theorem mkExc_type (m : String) : mkExc "TypeError" m = .typeError := by
  unfold mkExc; rw [if_neg (by decide), if_neg (by decide), if_pos (by decide)]
@[simp] theorem excIs_err_c (e : Err) : excIs (.err e) "asyncio.CancelledError" = e.isCancel := by
  cases e <;> simp [excIs, Err.isCancel] <;> decide
@[simp] theorem excIs_err_e (e : Err) : excIs (.err e) "Exception" = !e.isCancel := by
  cases e <;> simp [excIs, Err.isCancel] <;> decide
@[simp] theorem excIs_inv_c : excIs .invalidState "asyncio.CancelledError" = false := by decide
@[simp] theorem excIs_attr_c : excIs .attributeError "asyncio.CancelledError" = false := by decide
@[simp] theorem excIs_idx_c : excIs .indexError "asyncio.CancelledError" = false := by decide
@[simp] theorem excIs_idx_e : excIs .indexError "Exception" = true := by decide
@[simp] theorem toErr_err (e : Err) : (PyExc.err e).toErr = e := rfl

section
variable {σ ε ρ α β γ : Type}
theorem bind_apply (m : M σ ε ρ α) (k : α → M σ ε ρ β) (s : σ) :
    M.bind m k s = match m s with
      | (s1, .next a) => k a s1
      | (s1, .ret r) => (s1, .ret r)
      | (s1, .raise e) => (s1, .raise e)
      | (s1, .diverged) => (s1, .diverged) := rfl
theorem pure_apply (a : α) (s : σ) : (M.pure a : M σ ε ρ α) s = (s, .next a) := rfl
theorem raise_apply (e : ε) (s : σ) : (M.raise e : M σ ε ρ α) s = (s, .raise e) := rfl
theorem ret_apply (r : ρ) (s : σ) : (M.ret r : M σ ε ρ α) s = (s, .ret r) := rfl
theorem get_apply (s : σ) : (M.get : M σ ε ρ σ) s = (s, .next s) := rfl
theorem tryExcept_apply (body : M σ ε ρ α) (h : ε → M σ ε ρ α) (s : σ) :
    M.tryExcept body h s = match body s with
      | (s1, .raise e) => h e s1
      | p => p := rfl
theorem tryFinally_apply (body : M σ ε ρ α) (fin : M σ ε ρ Unit) (s : σ) :
    M.tryFinally body fin s = match body s with
      | (s1, o) =>
        match fin s1 with
        | (s2, .next _) => (s2, o)
        | (s2, .ret r) => (s2, .ret r)
        | (s2, .raise e) => (s2, .raise e)
        | (s2, .diverged) => (s2, .diverged) := rfl
theorem withCtx_apply (enter : M σ ε ρ γ) (exit : γ → M σ ε ρ Unit) (body : M σ ε ρ α) (s : σ) :
    M.withCtx enter exit body s = M.bind enter (fun g => M.tryFinally body (exit g)) s := rfl
theorem ite_apply' (c : Prop) [Decidable c] (f g : σ → β) (s : σ) :
    (if c then f else g) s = if c then f s else g s := by split <;> rfl
end

/-- the tasks of `run()` -/
inductive Tk where
  | sim              -- the simulation task (position 0 of `all_tasks`)
  | sup (i : Nat)    -- supporting coroutine #i
  deriving DecidableEq, Repr

/-- the awaits of the entry points -/
inductive Aw where
  | yield            -- `await asyncio.sleep(0)`
  | wait             -- `await asyncio.wait(all_tasks, return_when=FIRST_COMPLETED)` in run()
  | waitInit         -- `await asyncio.wait([init_waiter, self._simtask], …)` in wait_init()
  | simtask          -- `await self._simtask` / `await task` for the simulation task
  | runForever       -- `await circuit.run_forever()` in the current task
  deriving DecidableEq, Repr

/-- the model state plus what the entry points touch outside it -/
structure TS where
  st : St := {}
  dels : List Err := []            -- the exceptions handed to `Circuit.abort`, in order
  log : List (Aw × Bool) := []     -- the awaits performed, each with "the SIGTERM handler is installed"
  signo : Bool := false            -- `_TerminatingSignal._signo is not None`
  handler : Bool := false          -- the SIGTERM handler of run() is installed
  saved : Option Bool := none      -- `_saved_handler`: none = not saved, else "our handler was installed" when it was read
  chained : Bool := false          -- the previous handler has been called
  cancelled : List Tk := []        -- `task.cancel()` calls of run(), in order
  sched : List Err := []           -- `call_soon_threadsafe(get_circuit().abort, exc)` calls
  waited : Bool := false           -- run() has returned from `asyncio.wait`
  initDone : Option Bool := none   -- `Circuit._init_done`: none = the attribute does not exist, else `is_set()`
  waiter : Option Bool := none     -- the helper task of wait_init: some true = created, some false = cancelled
  started : List Nat := []         -- run_forever's local `started_blocks`
  startOk : Bool := false          -- run_forever's local `start_ok`
  simulated : Bool := false        -- `_simulate()` was entered
  msg : String := ""               -- `_TerminatingSignal._msg` ("" = not set)
  noted : Nat := 0                 -- notes attached to exceptions by `add_note`
  cancelAt : Nat → Bool := fun _ => false
                                   -- the environment's choice per await of a coroutine that runs in a CALLER's task
                                   -- (wait_init, shutdown, _check_started, run): true = the caller's task is cancelled
                                   -- while it is suspended at its k-th await, which then raises CancelledError

/-- an `await`: the environment runs (`env k` for the k-th await), the await is logged -/
def TS.await (env : Nat → St → St) (a : Aw) (s : TS) : TS :=
  { s with st := env s.log.length s.st, log := s.log ++ [(a, s.handler)] }

/-- the exception with which a cancelled await ends: a bare `task.cancel()` of the caller's task -/
def callerCancelled : PyExc := .err (.cancelled 0)

/-- an `await` in a caller's task as a primitive: the environment runs, then the await returns -- or, when the
    environment cancelled the caller meanwhile (`cancelAt`), raises CancelledError -/
def awaitM {ρ : Type} (env : Nat → St → St) (a : Aw) : M TS PyExc ρ Unit := fun s =>
  (s.await env a, if s.cancelAt s.log.length then .raise callerCancelled else .next ())

/-- `Circuit.abort(exc)` = the model's `St.abort`; the call is logged as a delivery -/
def abortP (x : PyExc) : M TS PyExc ρ Unit := fun s =>
  ({ s with st := s.st.abort x.toErr, dels := s.dels ++ [x.toErr] }, .next ())

/-- awaiting the simulation task: it ends with `raise self._error` (the model's `runForeverRaises`).  When the
    CALLER is cancelled while it awaits the task directly (`await task`), asyncio forwards the cancellation to the
    awaited task -- the model's `rawCancel` -- and the await raises CancelledError -/
def awaitSim (env : Nat → St → St) (a : Aw) : M TS PyExc ρ Unit := fun s =>
  if s.cancelAt s.log.length then
    ({ s.await env a with st := (step (s.await env a).st .rawCancel).1 }, .raise callerCancelled)
  else
    match runForeverRaises (s.await env a).st with
    | some e => (s.await env a, .raise (.err e))
    | none => (s.await env a, .next ())

/-- a CALL of a translated function from another translated function: `return v` ends the call, not the caller -/
def callFn {ρ ρ' : Type} (m : M TS PyExc ρ Unit) : M TS PyExc ρ' Unit := fun s =>
  match m s with
  | (s', .next _) => (s', .next ())
  | (s', .ret _) => (s', .next ())
  | (s', .raise e) => (s', .raise e)
  | (s', .diverged) => (s', .diverged)

@[reducible] def csPrims (env : Nat → St → St) : TrE.CheckStartedPrims TS PyExc where
  mkExc := mkExc
  simtask s := if s.st.phase == .notStarted then none else some ()
  sleep0 := awaitM env .yield

/-- `cur`: the caller is the simulation task itself -/
@[reducible] def sdPrims (env : Nat → St → St) (cur : Bool) : TrE.ShutdownPrims TS PyExc where
  mkExc := mkExc
  excIs := excIs
  mkCancelled := mkCancelled
  checkStarted := callFn (TrE.checkStarted (csPrims env))        -- the TRANSLATED `_check_started`
  isCurrentTask _ := cur
  abort := abortP
  awaitSimtask := awaitSim env .simtask
  -- `asyncio.wait` does not cancel the tasks it waits for and never raises their exceptions: when the CALLER is
  -- cancelled while it waits, the await is logged, the environment runs, there is NO `rawCancel` step and the await
  -- raises the caller's CancelledError; otherwise it returns normally (when the simulation task is done)
  waitSimtask := awaitM env .simtask
  simtaskCancelled s := match s.st.error with | some e => e.isCancel | none => false
  -- `Task.exception()` of the finished simulation task: what `run_forever` raised (`raise self._error`)
  simtaskException := fun s => (s, .next ((runForeverRaises s.st).map PyExc.err))

@[reducible] def wiPrims (env : Nat → St → St) : TrE.WaitInitPrims TS PyExc Unit where
  mkExc := mkExc
  checkStarted := callFn (TrE.checkStarted (csPrims env))
  createInitWaiter := fun s =>
    match s.initDone with
    | none => (s, .raise .attributeError)            -- evaluating `self._init_done` fails
    | some _ => ({ s with waiter := some true }, .next ())
  waitFirst _ := awaitM env .waitInit       -- `asyncio.wait` does not cancel the tasks it waits for
  cancelWaiter _ := fun s => ({ s with waiter := some false }, .next ())
  simtaskDone s := s.st.phase == .done
  simtaskCancelled s := match s.st.error with | some e => e.isCancel | none => false
  simtaskException := M.pure ()
  getError s := s.st.error.map .err

@[reducible] def sgPrims (savedCallable : Bool) : TrE.SigPrims TS PyExc where
  signoNone s := !s.signo
  saveHandler := fun s => ({ s with saved := some s.handler }, .next ())
  installHandler := fun s => ({ s with handler := true }, .next ())
  restoreHandler := fun s =>
    match s.saved with
    | some b => ({ s with handler := b }, .next ())
    | none => (s, .raise .attributeError)            -- `_saved_handler` was never set
  sigMsg := sigMsg
  mkCancelled := mkCancelled
  scheduleLog := M.pure ()
  -- the queued callback `abort(exc)` is the model's wake entry `sig`
  scheduleAbort x := fun s => ({ s with st := s.st.addWake .sig, sched := s.sched ++ [x.toErr] }, .next ())
  savedCallable _ := savedCallable
  callSaved := fun s => ({ s with chained := true }, .next ())
  setSigno o := fun s => ({ s with signo := o.isSome }, .next ())
  strsignal := M.pure ()
  setMsg m := fun s => ({ s with msg := m }, .next ())

/-- the `error` item of an 'abort' control event -/
inductive CtlErr where
  | exception (id : Nat)   -- an Exception object (the scripted exception `id`)
  | baseExc                -- a BaseException that is not an Exception (a CancelledError)
  | text                   -- a string, or the default '<no-error-data>'
  deriving DecidableEq, Repr

/-- `ControlBlock._event_abort / _event_shutdown`: `Class(message)` by the declared marker of the message; the
    EdzedCircuitError of the 'abort' event is `reportedText` until a cause is attached -/
@[reducible] def ctPrims : TrE.CtlPrims TS PyExc CtlErr where
  mkExc cls marker :=
    if cls == "EdzedCircuitError" && marker == "error reported by" then .err .reportedText else .other
  mkCancelled := mkCancelled
  isException e := match e with | .exception _ => true | _ => false
  withCause x e := match e with
    | .exception id => M.pure (match x with | .err .reportedText => .err (.reported id) | x => x)
    | .baseExc => M.pure .other              -- an EdzedCircuitError caused by a non-Exception: not an error of the model
    | .text => M.raise .typeError            -- "exception cause must be None or derive from BaseException"
  abort := abortP

/-- `add_note`: `raises` = the native `exc.add_note(note)` raises (a note that is not a str); otherwise a note is
    attached -- the exception object, its class and its identity are untouched -/
@[reducible] def ntPrims (hasNotes firstArgIsStr raises : Bool) : TrE.NotePrims TS PyExc where
  hasNotes := hasNotes
  nativeAddNote _ := fun s => if raises then (s, .raise .typeError) else ({ s with noted := s.noted + 1 }, .next ())
  firstArgIsStr _ := firstArgIsStr
  prependNote _ := fun s => ({ s with noted := s.noted + 1 }, .next ())

/-- `add_note` with primitives that attach the note silently (no counter) -/
@[reducible] def ntQuiet : TrE.NotePrims TS PyExc where
  hasNotes := true
  nativeAddNote _ := M.pure ()
  firstArgIsStr _ := true
  prependNote _ := M.pure ()

theorem addNote_quiet (e : PyExc) (s : TS) : (callFn (TrE.addNote ntQuiet e ()) : M TS PyExc Unit Unit) s = (s, .next ()) := by
  unfold TrE.addNote callFn
  simp [bind_apply, pure_apply]

/-- the exception id with which supporting coroutine #i failed, according to the model's `supDone` -/
def supFailure (done : List (Nat × Option Nat)) (i : Nat) : Option Nat :=
  (done.find? fun p => p.1 == i && p.2.isSome).bind (·.2)

theorem firstSupError_eq (done : List (Nat × Option Nat)) (n : Nat) :
    firstSupError done n = (List.range n).findSome? (supFailure done) := rfl

def taskDone (s : TS) : Tk → Bool
  | .sim => s.st.phase == .done
  | .sup i => s.st.supDone.any (·.1 == i)

/-- `env`: the environment; the supporting coroutines are the elements of the list given to `TrE.run` -/
@[reducible] def runPrims (env : Nat → St → St) : TrE.RunPrims TS PyExc Tk Unit where
  mkExc := mkExc
  excIs := excIs
  mkCancelled := mkCancelled
  -- the TRANSLATED `_TerminatingSignal(<signo or None>)` and `__enter__`
  sigEnter c := M.bind (callFn (TrE.sigInit (sgPrims false) (if c then some () else none)))
    fun _ => callFn (TrE.sigEnter (sgPrims false))
  sigExit _ := callFn (TrE.sigExit (sgPrims false))                                    -- the TRANSLATED `__exit__`
  runForeverHere := awaitSim env .runForever
  createSimtask := M.pure .sim
  createSupTasks cs := M.pure ((List.range cs.length).map .sup)
  -- after `asyncio.wait` the yield is the model's wake entry `runAbort`
  sleep0 := fun s =>
    awaitM env .yield (if s.waited then { s with st := s.st.addWake .runAbort } else s)
  taskDone := taskDone
  taskResult t := fun s =>
    match t with
    | .sim => (match runForeverRaises s.st with | some e => (s, .raise (.err e)) | none => (s, .next ()))
    | .sup _ => (s, .next ())
  waitFirst _ := fun s =>
    ({ s.await env .wait with waited := true }, if s.cancelAt s.log.length then .raise callerCancelled else .next ())
  -- cancelling the simulation task directly is the model's `rawCancel`; a supporting task is outside the model
  cancelTask t := fun s =>
    ({ s with cancelled := s.cancelled ++ [t]
              st := match t with | .sim => (step s.st .rawCancel).1 | .sup _ => s.st }, .next ())
  abort := abortP
  awaitTask t := match t with
    | .sim => awaitSim env .simtask
    | .sup i => fun s =>
      match supFailure s.st.supDone i with
      | some id => (s, .raise (.err (.exc id)))                  -- it failed with exception `id`
      | none => if s.st.supDone.any (·.1 == i) then (s, .next ())          -- it returned
                else (s, .raise (.err (.cancelled 0)))                     -- it was cancelled by run()
  -- Python indexing: -len ≤ i < len
  coroName cs i := fun s => if -(cs.length : Int) ≤ i ∧ i < (cs.length : Int) then (s, .next ()) else (s, .raise .indexError)
  addNote e := callFn (TrE.addNote ntQuiet e ())       -- the TRANSLATED `add_note` (its notes are not counted here)

/-- `n` coroutine objects -/
def coros (n : Nat) : List Unit := List.replicate n ()

theorem enumFrom_sups : ∀ (m k : Nat),
    TrE.enumFrom (k : Int) ((List.range' k m).map Tk.sup) = (List.range' k m).map fun (i : Nat) => ((i : Int), Tk.sup i) := by
  intro m
  induction m with
  | zero => intro k; simp [TrE.enumFrom]
  | succ m ih =>
    intro k
    simp only [List.range'_succ, List.map_cons, TrE.enumFrom]
    have h1 : (((k + 1 : Nat)) : Int) = (k : Int) + 1 := by omega
    rw [← h1, ih (k + 1)]

def orElseSup (re : Option PyExc) (x : Option Nat) : Option PyExc :=
  match re with
  | some e => some e
  | none => x.map fun id => .err (.exc id)

/-- what `run()` sees of the model when at least one supporting coroutine is given -/
def runModel (env : Nat → St → St) (s0 : St) : St × List Err :=
  let s1 := env 0 s0                                  -- `sleep(0)`: the simulation task starts
  let s2 := env 1 s1                                  -- `asyncio.wait(FIRST_COMPLETED)`
  let s4 := env 2 (wakeStep s2 .runWaiter).1          -- "stop everything", `sleep(0)`
  let r := wakeStep s4 .runAbort                      -- abort(CancelledError('shutdown')) unless the simulation is over
  (env 3 r.1, r.2)                                    -- `await simtask`

def unfinished (n : Nat) (s : TS) : List Tk :=
  ((List.range n).filter fun i => !(s.st.supDone.any (·.1 == i))).map Tk.sup

/-- the state inside the `with _TerminatingSignal(…)` frame of run() -/
def entered (c : Bool) (s : TS) : TS :=
  { s with signo := c, msg := if c then sigMsg else s.msg, saved := if c then some s.handler else s.saved,
           handler := c || s.handler }

/-- what the body of run()'s `with` does when coroutines are given, on every state and for every pattern of
    cancellations of run()'s own task: the yield that lets the simulation task start (a dead task ends run() here),
    `asyncio.wait` (a cancellation of run() is swallowed there), "stop everything", the second yield (the model's wake
    entry `runAbort`), and `abort(CancelledError('shutdown'))` unless the simulation is over; a cancellation of run() at
    one of the two yields leaves through the `with` -/
def runBody (env : Nat → St → St) (n : Nat) (s : TS) : TS × TrD.Out PyExc Unit (List Tk) :=
  let s1 := s.await env .yield
  if s.cancelAt s.log.length then (s1, .raise callerCancelled)
  else if taskDone s1 .sim then
    (s1, .raise (match shutdownRaises s1.st with
      | some e => .err e
      | none => .runtimeError))
  else
    let s2 : TS := { s1.await env .wait with waited := true }
    let s3 : TS := { s2 with cancelled := s2.cancelled ++ unfinished n s2, st := s2.st.addWake .runAbort }
    let s4 := s3.await env .yield
    if s3.cancelAt s3.log.length then (s4, .raise callerCancelled)
    else if taskDone s4 .sim then (s4, .next (Tk.sim :: (List.range n).map Tk.sup))
    else ({ s4 with st := s4.st.abort (.cancelled 1), dels := s4.dels ++ [.cancelled 1] },
          .next (Tk.sim :: (List.range n).map Tk.sup))

def outcomeOf (o : Option Err) : Out PyExc Unit Unit :=
  match o with
  | some e => .raise (.err e)
  | none => .next ()

/-- what the rest of the world does while run_forever is suspended, and how its start-up fails -/
structure RfScript where
  initErr : Option Nat := none     -- a synchronous initialisation routine raises exc id (the model's `start`)
  envInit : St → St := id          -- … during `await self._init_sblocks_async()`
  envSim : St → St := id           -- the history while the circuit is simulated
  envYield : St → St := id         -- the loop iteration of the `sleep(0)` after the try block
  envStop : St → St := id          -- … while the asynchronous clean-up runs

/-- the exception thrown into the try block when the simulation task runs (the model's `wakeStep … sim`
    without its `caught`/`leaveTry` part): a requested cancellation, else the armed evaluation -/
def thrownAt (s : St) : St × Option Err :=
  if s.mustCancel then ({ s with mustCancel := false }, some (.cancelled 0))
  else match s.armed with
    | some (.calc id) => (s, some (.exc id))
    | some (.calcHandler id f) =>
      if (Fault.inHandler f).fatal then (s.abort (.wrapped id), some (.exc id)) else (s, some (.exc id))
    | none => (s, none)

@[reducible] def erfPrims (sc : RfScript) : TrL.RunForeverPrims TS PyExc Nat where
  mkExc := mkExc
  excIs := excIs
  enum := id
  simtaskSet s := s.st.phase != .notStarted
  simtaskDone s := s.st.phase == .done
  testEager := M.pure ()
  -- the task has begun: the model's `start` (run() is in `asyncio.wait` from now on)
  setSimtask := fun s => ({ s with st := { s.st with phase := .tryBlock, runWaiting := s.st.runMode } }, .next ())
  getStartedBlocks := fun s => (s, .next s.started)
  setStartedBlocks l := fun s => ({ s with started := l }, .next ())
  addStartedBlocks k := fun s => ({ s with started := s.started ++ [k] }, .next ())
  getStartOk := fun s => (s, .next s.startOk)
  setStartOk b := fun s => ({ s with startOk := b }, .next ())
  getError s := s.st.error.map .err
  setError x := fun s => ({ s with st := { s.st with error := some x.toErr } }, .next ())
  errIsCancelled s := match s.st.error with | some e => e.isCancel | none => false
  noBlocks _ := false
  newQueue := M.pure ()
  newInitDone := fun s => ({ s with initDone := some false }, .next ())
  checkPersistentData := M.pure ()
  resolve := M.pure ()
  finalize := M.pure ()
  allBlocks := [0]
  start _ := M.pure ()
  sleep0 := fun s =>
    if s.st.error.isNone then (s, .next ())       -- the yield inside the start-up (the model's `start` is one step)
    else
      -- the yield after the try block: the task is now "at sleep0" (`leaveTry`), the other tasks run, then the
      -- task runs again (the model's `wakeStep … sim`): a pending cancellation is thrown in here
      ({ s with st := (wakeStep (sc.envYield s.st.leaveTry) .sim).1 },
       if (sc.envYield s.st.leaveTry).mustCancel then .raise (.err (.cancelled 0)) else .next ())
  initSync1 := fun s =>
    match sc.initErr with
    | some id => (s, .raise (.err (.exc id)))
    | none => (s, .next ())
  initAsync := fun s => ({ s with st := sc.envInit s.st }, .next ())
  -- `_init_sblocks_sync_2`: a block whose initialisation step failed early is not initialised again and is
  -- found uninitialised at the end
  initSync2 := fun s => if s.st.earlyFail then (s, .raise (.err .notInit)) else (s, .next ())
  initDoneSet := fun s => ({ s with initDone := some true }, .next ())
  simulate := fun s =>
    match (thrownAt (sc.envSim s.st)).2 with
    | some e => ({ s with st := (thrownAt (sc.envSim s.st)).1, simulated := true }, .raise (.err e))
    | none => ({ s with st := (thrownAt (sc.envSim s.st)).1, simulated := true }, .next ())
  storageSet _ := false
  isPersistence _ := false
  saveState _ := M.pure ()
  stampStopTime := M.pure ()
  -- the asynchronous clean-up ends with the model's `finish`
  stopSblocks _ := fun s =>
    if s.st.phase == .cleanup then ({ s with st := (step (sc.envStop s.st) .finish).1 }, .next ()) else (s, .next ())

/-- the model's account of one run of run_forever: `start`, the simulation until an exception is thrown into
    the try block, the loop iteration of the `sleep(0)`, the asynchronous clean-up -/
def rfModel (sc : RfScript) (s0 : St) : St :=
  let s1 := (step s0 (.start sc.initErr)).1
  let s2 := if s1.phase == .tryBlock then (wakeStep (sc.envSim s1) .sim).1 else s1
  let s3 := (wakeStep (sc.envYield s2) .sim).1
  if s3.phase == .cleanup then (step (sc.envStop s3) .finish).1 else s3

@[simp] theorem isCancel_cancelled (t : Nat) : (Err.cancelled t).isCancel = true := rfl
@[simp] theorem isCancel_exc (i : Nat) : (Err.exc i).isCancel = false := rfl
@[simp] theorem isCancel_wrapped (i : Nat) : (Err.wrapped i).isCancel = false := rfl
@[simp] theorem isCancel_reported (i : Nat) : (Err.reported i).isCancel = false := rfl
@[simp] theorem isCancel_notInit : Err.notInit.isCancel = false := rfl

/-- the except clause of run_forever IS the model's `caught` -/
theorem caught_eq (s : St) (e : Err) :
    (if s.error.isNone then { s with error := some e } else s) = s.caught e := by
  unfold St.caught; cases h : s.error <;> simp [h]

theorem wakeStep_sim_try_eq (s : St) (hp : s.phase = .tryBlock) :
    (wakeStep s .sim).1 = match (thrownAt s).2 with
      | some e => (((thrownAt s).1).caught e).leaveTry
      | none => s := by
  unfold wakeStep thrownAt
  simp only [hp]
  cases hm : s.mustCancel
  · cases ha : s.armed with
    | none => simp
    | some a => cases a <;> simp <;> split <;> simp_all
  · simp

theorem start_pre_error (s0 : St) (i : Option Nat) (e0 : Err) (hp : s0.phase = .notStarted) (he : s0.error = some e0) :
    (step s0 (.start i)).1 = ({ s0 with phase := .tryBlock, runWaiting := s0.runMode } : St).leaveTry := by
  simp [step, hp, he]

theorem start_init_error (s0 : St) (id : Nat) (hp : s0.phase = .notStarted) (he : s0.error = none) :
    (step s0 (.start (some id))).1 =
      (({ s0 with phase := .tryBlock, runWaiting := s0.runMode } : St).caught (.exc id)).leaveTry := by
  simp [step, hp, he]

theorem start_ok (s0 : St) (hp : s0.phase = .notStarted) (he : s0.error = none) (hf : s0.earlyFail = false) :
    (step s0 (.start none)).1 = { s0 with phase := .tryBlock, runWaiting := s0.runMode } := by
  simp [step, hp, he, hf]

theorem start_early_fail (s0 : St) (hp : s0.phase = .notStarted) (he : s0.error = none) (hf : s0.earlyFail = true) :
    (step s0 (.start none)).1 =
      (({ s0 with phase := .tryBlock, runWaiting := s0.runMode } : St).caught .notInit).leaveTry := by
  simp [step, hp, he, hf]

theorem wake_sleep0 (s : St) (hp : s.phase = .sleep0) :
    (wakeStep s .sim).1.error = s.error ∧
    (wakeStep s .sim).1.phase = (if s.slowCleanup then .cleanup else .done) := by
  unfold wakeStep
  simp only [hp]
  cases s.slowCleanup <;> simp

theorem finish_cleanup (s : St) (hp : s.phase = .cleanup) :
    (step s .finish).1.error = s.error := by
  simp [step, hp]

@[simp] theorem finish_phase (s : St) (hp : s.phase = .cleanup) : (step s .finish).1.phase = .done := by
  simp [step, hp]

theorem wake_after_try_error (sc : RfScript) (s : St) (e : Err) (he : s.error = some e)
    (hy : ∀ s, (s.error.isSome → (sc.envYield s).error = s.error) ∧ (sc.envYield s).phase = s.phase) :
    (wakeStep (sc.envYield s.leaveTry) .sim).1.error = some e := by
  rw [(wake_sleep0 _ (by rw [(hy _).2, leaveTry_phase])).1, (hy _).1 (by rw [leaveTry_error, he]; rfl), leaveTry_error, he]

/-- `b`: blocks were started (the clean-up runs iff they were) -/
theorem error_after_cleanup (sc : RfScript) (s : St) (e : Err) (he : s.error = some e) (b : Bool)
    (hy : ∀ s, (s.error.isSome → (sc.envYield s).error = s.error) ∧ (sc.envYield s).phase = s.phase)
    (hz : ∀ s, (s.error.isSome → (sc.envStop s).error = s.error) ∧ (sc.envStop s).phase = s.phase) :
    (if b && (wakeStep (sc.envYield s.leaveTry) .sim).1.phase == .cleanup
      then (step (sc.envStop (wakeStep (sc.envYield s.leaveTry) .sim).1) .finish).1
      else (wakeStep (sc.envYield s.leaveTry) .sim).1).error = some e := by
  have h3 := wake_after_try_error sc s e he hy
  split
  · next hc =>
    rw [finish_cleanup _ (by rw [(hz _).2]; exact eq_of_beq (Bool.and_eq_true_iff.mp hc).2), (hz _).1 (by rw [h3]; rfl), h3]
  · exact h3

/-- the state in which run_forever leaves its `try … except` -/
def rfTried (sc : RfScript) (s1 : St) : TS :=
  match s1.error with
  | some _ => { st := s1 }
  | none =>
    let T : TS := { st := s1, started := [0], startOk := true, initDone := some false }
    match sc.initErr with
    | some id => { T with st := s1.caught (.exc id) }
    | none =>
      let s2 := sc.envInit s1
      if s2.earlyFail then { T with st := s2.caught .notInit }
      else if s2.error.isNone then
        { T with st := (match (thrownAt (sc.envSim s2)).2 with
                        | some e => (thrownAt (sc.envSim s2)).1.caught e
                        | none => (thrownAt (sc.envSim s2)).1),
                 initDone := some true, simulated := true }
      else { T with st := s2 }

/-- the model's `start` and first run of the simulation task end where the translated `try … except` ends: in
    `T.leaveTry` for a state `T` with an error recorded, which is the state `rfTried` describes when nothing happens
    during the asynchronous initialisation -/
theorem rfModel_tried (sc : RfScript) (s0 : St) (hp : s0.phase = .notStarted) (he : s0.error = none)
    (hs : ∀ s, (sc.envSim s).phase = s.phase)
    (ht : sc.initErr = none → s0.earlyFail = false → (thrownAt (sc.envSim (step s0 (.start none)).1)).2.isSome = true) :
    ∃ (T : St) (e : Err), T.error = some e ∧
      (if (step s0 (.start sc.initErr)).1.phase == .tryBlock
        then (wakeStep (sc.envSim (step s0 (.start sc.initErr)).1) .sim).1 else (step s0 (.start sc.initErr)).1) = T.leaveTry ∧
      (sc.envInit = id → rfTried sc { s0 with phase := .tryBlock, runWaiting := s0.runMode } =
        { st := T, started := [0], startOk := true, initDone := some (sc.initErr.isNone && !s0.earlyFail),
          simulated := (sc.initErr.isNone && !s0.earlyFail) }) := by
  -- a name for the state in which the task has begun, with its equation kept (`generalize` would lose it)
  obtain ⟨s1, hs1⟩ : ∃ s1, s1 = ({ s0 with phase := .tryBlock, runWaiting := s0.runMode } : St) := ⟨_, rfl⟩
  have he1 : s1.error = none := by rw [hs1]; exact he
  have hf1 : s1.earlyFail = s0.earlyFail := by rw [hs1]
  rw [← hs1]
  cases hie : sc.initErr with
  | some id =>
    refine ⟨s1.caught (.exc id), .exc id, by rw [caught_error, he1]; rfl, ?_, fun _ => by simp only [rfTried, he1, hie]; rfl⟩
    rw [start_init_error s0 id hp he, ← hs1, leaveTry_phase]
    rfl
  | none =>
    cases hef : s0.earlyFail with
    | true =>
      refine ⟨s1.caught .notInit, .notInit, by rw [caught_error, he1]; rfl, ?_,
        fun hi => by simp only [rfTried, he1, hie, hi, id, hf1, hef, if_true]; rfl⟩
      rw [start_early_fail s0 hp he hef, ← hs1, leaveTry_phase]
      rfl
    | false =>
      have ht' := ht hie hef
      rw [start_ok s0 hp he hef, ← hs1] at ht' ⊢
      have hph : (sc.envSim s1).phase = .tryBlock := by rw [hs, hs1]
      rw [if_pos (by rw [hs1]; rfl), wakeStep_sim_try_eq _ hph]
      cases hth : (thrownAt (sc.envSim s1)).2 with
      | none => rw [hth] at ht'; cases ht'
      | some e' =>
        refine ⟨_, (firstOf (thrownAt (sc.envSim s1)).1.error [e']).get (by unfold firstOf; split <;> rfl),
          by rw [caught_error]; simp, rfl, fun hi => by
            simp only [rfTried, he1, hie, hi, id, hf1, hef, hth, Option.isNone_none, if_true, Bool.false_eq_true, if_false]; rfl⟩

theorem rfModel_done (sc : RfScript) (s0 : St) (hp : s0.phase = .notStarted) (he : s0.error = none)
    (hs : ∀ s, (sc.envSim s).phase = s.phase)
    (ht : sc.initErr = none → s0.earlyFail = false → (thrownAt (sc.envSim (step s0 (.start none)).1)).2.isSome = true)
    (hy : ∀ s, (sc.envYield s).phase = s.phase) (hz : ∀ s, (sc.envStop s).phase = s.phase) :
    (rfModel sc s0).phase = .done := by
  obtain ⟨T, _, _, hM, _⟩ := rfModel_tried sc s0 hp he hs ht
  unfold rfModel
  simp only [hM]
  have h3 := (wake_sleep0 (sc.envYield T.leaveTry) (by rw [hy, leaveTry_phase])).2
  generalize (wakeStep (sc.envYield T.leaveTry) .sim).1 = W at h3 ⊢
  cases hsl : (sc.envYield T.leaveTry).slowCleanup
  · simp [hsl] at h3; simp [h3]
  · simp [hsl] at h3
    have : (sc.envStop W).phase = .cleanup := by rw [hz]; exact h3
    simp [h3, finish_phase _ this]

/-- applied with `refine (tryExcept_caught ?_ _).trans ?_`, which finds the except clause without its text being written -/
theorem tryExcept_caught {b : M TS PyExc Unit Unit} {h : PyExc → M TS PyExc Unit Unit}
    (hh : ∀ (x : Err) (s : TS), h (.err x) s = ({ s with st := s.st.caught x }, .next ())) (s : TS) :
    M.tryExcept b h s = match b s with
      | (t, .raise (.err x)) => ({ t with st := t.st.caught x }, .next ())
      | (t, .raise e) => h e t
      | p => p := by
  rw [tryExcept_apply]
  rcases b s with ⟨t, _ | _ | e | _⟩ <;> try rfl
  cases e <;> first | exact hh _ _ | rfl

/-- `run_forever` on a task that has not begun, for every script that leaves the `try … except` with an error recorded
    (`hT`; `e` only names it): the `try … except` leaves the state `rfTried`, a
    cancellation pending at the `sleep(0)` is swallowed, the clean-up runs iff blocks were started, and the recorded
    error is raised.  The stages of the program (the try body, its except clause, the `sleep(0)`, the rest) are named by
    `generalize` with holes for their text and evaluated one at a time, each on a state VARIABLE: no stage is
    evaluated once per case of another -/
theorem runForever_eq (sc : RfScript) (s0 : St) (e : Err) (hp : s0.phase = .notStarted)
    (hT : (rfTried sc { s0 with phase := .tryBlock, runWaiting := s0.runMode }).st.error = some e) :
    TrL.runForever (erfPrims sc) { st := s0 } =
      (let T := rfTried sc { s0 with phase := .tryBlock, runWaiting := s0.runMode }
       let s3 := (wakeStep (sc.envYield T.st.leaveTry) .sim).1
       let s4 := if !T.started.isEmpty && s3.phase == .cleanup then (step (sc.envStop s3) .finish).1 else s3
       ({ T with st := s4 },
        match s4.error with
        | some e => .raise (.err e)
        | none => .raise .typeError)) := by
  unfold TrL.runForever
  -- the stages are named by their position: the first `try` statement, the next one (the `sleep(0)`), and that
  -- statement with all that follows it
  generalize htryS : M.tryExcept _ _ = tryS
  generalize hsleep : M.tryExcept _ _ = sleep
  generalize hrest : M.bind sleep _ = rest
  simp only [bind_apply, get_apply, pure_apply, hp, pybool, ↓reduceIte]
  generalize ({ s0 with phase := .tryBlock, runWaiting := s0.runMode } : St) = s1 at hT ⊢
  have htry : tryS { st := s1 } = (rfTried sc s1, .next ()) := by
    subst htryS
    refine (tryExcept_caught (fun x s => ?_) _).trans ?_
    · -- the except clause records the exception unless an error is recorded already
      cases hk : x.isCancel <;> cases hs : s.st.error <;>
        simp [bind_apply, get_apply, pure_apply, hk, hs, St.caught]
    unfold rfTried
    cases he : s1.error with
    | some e0 => simp [bind_apply, get_apply, raise_apply, he, St.caught]
    | none =>
      simp only [bind_apply, get_apply, pure_apply, he, TrL.runForever_for1, List.nil_append, Option.map_none, pybool,
        ↓reduceIte]
      cases hi : sc.initErr with
      | some id => simp
      | none =>
        dsimp only
        cases hf : (sc.envInit s1).earlyFail with
        | true => simp
        | false =>
          simp only [pybool, ↓reduceIte]
          cases he2 : (sc.envInit s1).error with
          | some e2 => simp [pure_apply]
          | none =>
            simp only [Option.map_none, pybool, ↓reduceIte, bind_apply]
            cases ht : (thrownAt (sc.envSim (sc.envInit s1))).2 with
            | none => simp [pure_apply]
            | some e3 => simp
  rw [htry]
  clear htry htryS
  generalize rfTried sc s1 = T at hT ⊢
  -- a cancellation pending at the `sleep(0)` is thrown in and swallowed
  have hS : sleep T = ({ T with st := (wakeStep (sc.envYield T.st.leaveTry) .sim).1 }, .next ()) := by
    subst hsleep
    cases hm : (sc.envYield T.st.leaveTry).mustCancel <;>
      simp [bind_apply, tryExcept_apply, pure_apply, hT, hm]
  subst hrest
  simp only [bind_apply, hS]
  generalize (wakeStep (sc.envYield T.st.leaveTry) .sim).1 = W
  cases hs : T.started <;> by_cases hc : W.phase = .cleanup <;>
    simp [hc, bind_apply, pure_apply, get_apply, ite_apply']
  · cases W.error <;> rfl
  · cases W.error <;> rfl
  · cases (step (sc.envStop W) .finish).1.error <;> rfl
  · cases W.error <;> rfl

/-- the exceptions of one event delivery -/
inductive EvExc where
  | raised (f : Family) (deep : Bool)   -- what the handler call ended with: family, traceback deeper than the call
  | simErr            -- the EdzedCircuitError made by `SBlock.event` for abort() (`__cause__` = the handler's exception)
  | recursion         -- EdzedCircuitError("Forbidden recursive event() call")
  | initFailed        -- the exception raised by a synchronous initialisation routine
  | other             -- ValueError / TypeError for a malformed event type
  deriving DecidableEq, Repr

/-- one SBlock as the error register sees it -/
structure EvSt where
  st : St := {}
  dels : List Err := []        -- the errors handed to `Circuit.abort`
  active : Bool := false       -- `_event_active`
  marker : Int := 2            -- `init_steps_completed`
  initCalls : Nat := 0         -- calls of `init_regular()`
  initialized : Bool := true

/-- the event type: one the block has a handler for, or not -/
inductive EvType where
  | known | unknown
  deriving DecidableEq, Repr

def faultEtype : Fault → EvType
  | .unknownType => .unknown
  | _ => .known

/-- the primitives of `init_sblock` for a block without persistence and without `init_from_value` whose
    `init_regular()` raises (`initFails`) or initialises the block -/
@[reducible] def isPrims (initFails : Bool) : TrI.InitPrims EvSt EvExc Unit where
  steps s _ := s.marker
  setSteps _ k := fun s => ({ s with marker := k }, .next ())
  hasPersistence _ := false
  persistent _ _ := false
  initFromPersistentData _ := M.pure ()
  isInitialized s _ := s.initialized
  initRegular _ := fun s =>
    if initFails then ({ s with initCalls := s.initCalls + 1 }, .raise .initFailed)
    else ({ s with initCalls := s.initCalls + 1, initialized := true }, .next ())
  hasInitFromValue _ := false
  initdefGiven _ := false
  initFromValue _ := M.pure ()
  excIs _ c := c == "Exception"
  mkExc _ _ := .other
  sblocks := [()]
  pblocks := []
  initSblock _ _ := M.pure ()
  hasStorage _ := false
  savePersistentState _ := M.pure ()
  queueEmpty _ := true
  queueGet := M.pure ()

/-- the primitives of `SBlock.event` for one delivery that ends with the fault `flt` (exception id `id`);
    `self.circuit.init_sblock(self, full=True)` is the TRANSLATED `init_sblock` -/
@[reducible] def evPrims (flt : Fault) (id : Nat) (initFails : Bool) :
    TrD.EventPrims EvSt EvExc EvType Unit Unit Unit Unit Bool where
  isStr _ := true
  etypeTruthy _ := true
  isEventType _ := false
  isCond _ := false
  etrue _ := none
  efalse _ := none
  dataValue _ := ()
  valTruthy _ := false
  mkExc cls marker := if cls == "EdzedCircuitError" then (if marker == "recursion" then .recursion else .simErr) else .other
  excIs e c :=
    match e with
    | .raised f _ => c == "Exception" || (c == "EdzedUnknownEvent" && f == .unknownEvent)
    | _ => c == "Exception"
  tbDeep e := match e with | .raised _ d => d | _ => true
  getActive s := s.active
  setActive b := fun s => ({ s with active := b }, .next ())
  -- `abort(sim_err)`: the model's `St.abort` with the wrapped error
  abort x := fun s =>
    let e : Err := match x with | .simErr => .wrapped id | _ => .exc 0
    ({ s with st := s.st.abort e, dels := s.dels ++ [e] }, .next ())
  initSteps s := s.marker
  enableEnter := fun s => ({ s with active := false }, .next s.active)     -- `_enable_event.__enter__`
  enableExit saved := fun s => ({ s with active := saved }, .next ())
  initSblockFull := TrI.init_sblock (isPrims initFails) () true
  lookup t := match t with | .known => some () | .unknown => none
  callHandler _ _ := M.raise (.raised flt.seen.1 flt.seen.2)
  callDefault _ _ := M.raise (.raised .unknownEvent true)      -- the default `_event()`: EdzedUnknownEvent
  noneVal := ()

end Edzed.ErrorRegTie
