/-
Lemmas for C11 about the model of event dispatch (EdzedModel/Dispatch.lean).

Everything in the model that touches a guard, the ghost stack or `_fsm_event_active` is a bracket: set on entry,
a body, restored on every outcome.  `Run` is the grammar of such executions: inert updates, sequencing, and one
rule per bracket with the facts that hold where the model takes it.  The functions a handler is made of receive
the recursive call `dlv` and are runs if the calls of `dlv` are (the lemmas `…_run`); `deliver_run`, the one
induction on the fuel, says that every call of `event()` is a run.  Frame (`Run.frm`), refusals (`Run.refAbort`),
fuel (`Run.noOOF`) and nesting (`Run.traceOk`) are inductions on `Run`.
-/
import EdzedModel.Dispatch

namespace Edzed.Dispatch

theorem upd_same {α : Type} (f : Nat → α) (i : Nat) (v : α) : upd f i v i = v := by simp [upd]

theorem upd_other {α : Type} (f : Nat → α) (i j : Nat) (v : α) (h : j ≠ i) : upd f i v j = f j := by
  simp [upd, h]

theorem upd_upd {α : Type} (f : Nat → α) (i : Nat) (v w : α) : upd (upd f i v) i w = upd f i w := by
  funext j; unfold upd; by_cases h : j = i <;> simp [h]

theorem upd_self {α : Type} (f : Nat → α) (i : Nat) : upd f i (f i) = f := by
  funext j; unfold upd; by_cases h : j = i <;> simp [h]

theorem upd_restore (f : Nat → Bool) (i : Nat) (h : f i = false) : upd (upd f i true) i false = f := by
  rw [upd_upd, ← h, upd_self]

theorem state_restored (s : St) (d : Nat) (h : s.active d = false) :
    ({ ({ s with active := upd s.active d true } : St) with
        active := upd (upd s.active d true) d false } : St) = s := by
  cases s
  simp only [St.mk.injEq, and_true]
  exact upd_restore _ _ h

section open_
variable (c : Circ) (fuel : Nat) (s : St) (d : Nat) (b : Blk) (et : EType) (data : Data)
  (hb : c.blocks[d]? = some b) (ht : et.check = Option.none) (ha : s.active d = false)
include hb ht ha

/-- an event that gets past the type checks and the guard: the body of the `try` with the guard set, then
    the `finally` -/
theorem deliver_open {p : St × Res}
    (hp : eventBody (deliver c fuel) b d s.stack { s with active := upd s.active d true } et data = p) :
    deliver c (fuel + 1) s d et data = ({ p.1 with active := upd p.1.active d false }, p.2) := by
  subst hp
  unfold deliver
  simp only [hb, ht, ha, Bool.false_eq_true, if_false]

theorem deliver_unchanged {r : Res}
    (hp : eventBody (deliver c fuel) b d s.stack { s with active := upd s.active d true } et data =
      ({ s with active := upd s.active d true }, r)) :
    deliver c (fuel + 1) s d et data = (s, r) := by
  rw [deliver_open c fuel s d b et data hb ht ha hp, state_restored s d ha]

end open_

theorem eventBody_ready (dlv : Dlv) (b : Blk) (d : Nat) (stk0 : List Frame) (s1 : St) (et : EType) (data : Data)
    (hi : s1.init d ≠ .pending) (hn : et.resolve (dataTruthy data) ≠ .none) :
    eventBody dlv b d stk0 s1 et data = callHandler dlv b d stk0 s1 (et.resolve (dataTruthy data)) data := by
  simp only [eventBody, hn, if_false, earlyInit, hi, andThen]

theorem andThen_fst (p : St × Res) (k : St → St × Res) : (andThen p k).1 = p.1 ∨ andThen p k = k p.1 := by
  unfold andThen
  split
  · exact .inl rfl
  · exact .inr rfl

/-- `s'` is a state reached from `s` by complete calls of `event()`: flags and stack are the
    same, an error is never withdrawn, a started initialisation never becomes pending again -/
structure Frm (s s' : St) : Prop where
  active : s'.active = s.active
  stack : s'.stack = s.stack
  error : s.error.isSome → s'.error.isSome
  init : ∀ x, s'.init x = .pending → s.init x = .pending
  fsm : s'.fsmActive = s.fsmActive

theorem Frm.refl (s : St) : Frm s s := ⟨rfl, rfl, id, fun _ h => h, rfl⟩

theorem Frm.trans {a b c : St} (h1 : Frm a b) (h2 : Frm b c) : Frm a c :=
  ⟨h2.active.trans h1.active, h2.stack.trans h1.stack, fun h => h2.error (h1.error h),
   fun x h => h1.init x (h2.init x h), h2.fsm.trans h1.fsm⟩

theorem abort_frm (s : St) (e : Exc) : Frm s (s.abort e) := by
  unfold St.abort
  split
  · exact Frm.refl s
  · exact ⟨rfl, rfl, fun _ => rfl, fun _ h => h, rfl⟩

theorem abort_trace (s : St) (e : Exc) : (s.abort e).trace = s.trace := by
  unfold St.abort; split <;> rfl

theorem abort_stack (s : St) (e : Exc) : (s.abort e).stack = s.stack := by
  unfold St.abort; split <;> rfl

theorem abort_error (s : St) (e : Exc) : (s.abort e).error.isSome := by
  unfold St.abort; split <;> simp_all

theorem classify_exc (s : St) (x : Exc) :
    classify s (.exc x) = if x = .unknownEvent ∨ x = .outOfFuel then s else s.abort .circuitError := by
  cases x <;> rfl

theorem classify_frm (s : St) (r : Res) : Frm s (classify s r) := by
  unfold classify
  split <;> first | exact Frm.refl s | exact abort_frm s _

theorem classify_aborts (s : St) (e : Exc) (h1 : e ≠ .unknownEvent) (h2 : e ≠ .outOfFuel) :
    (classify s (.exc e)).error.isSome := by
  rw [classify_exc, if_neg (fun h => h.elim h1 h2)]
  exact abort_error s _

/-- `s'` is `s` with other values in `out`, `fstate`, `nextEv`, `timer`, `rcur`, or with an initialisation
    that was pending or running moved on -/
structure Inert (s s' : St) : Prop where
  active : s'.active = s.active
  stack : s'.stack = s.stack
  trace : s'.trace = s.trace
  error : s'.error = s.error
  fsm : s'.fsmActive = s.fsmActive
  init : ∀ x, s'.init x = .pending → s.init x = .pending

theorem Inert.refl (s : St) : Inert s s := ⟨rfl, rfl, rfl, rfl, rfl, fun _ h => h⟩

theorem Inert.frm {s s' : St} (h : Inert s s') : Frm s s' :=
  ⟨h.active, h.stack, fun he => h.error ▸ he, h.init, h.fsm⟩

theorem inert_init (s : St) (d : Nat) (v : InitSt) (hv : v ≠ .pending) :
    Inert s { s with init := upd s.init d v } := by
  refine ⟨rfl, rfl, rfl, rfl, rfl, fun x hx => ?_⟩
  by_cases hxd : x = d
  · subst hxd; simp [upd] at hx; exact absurd hx hv
  · simpa [upd, hxd] using hx

/-- the outcome is not the model's artefact "out of fuel" -/
def NoOOF (p : St × Res) : Prop := p.2 ≠ .exc .outOfFuel

theorem check_ne_outOfFuel {et : EType} {x : Exc} (h : et.check = some x) : x ≠ .outOfFuel := by
  cases et <;> simp [EType.check] at h <;> subst h <;> decide

theorem counterResult_ne_outOfFuel {b : Blk} {out : Val} {name : String} {data : Data} {x : Exc}
    (h : counterResult b out name data = .error x) : x ≠ .outOfFuel := by
  unfold counterResult at h
  repeat' split at h
  all_goals first
    | (cases h; decide)
    | cases h

/-- where a piece of code runs: outside of the handler frames it was started from (`code`: the start-up, a
    main task, an early initialisation, the window of an FSM), in a handler frame (`body`), in the body of an
    FSM transition (`transition`: `_fsm_event_active` set, the window may open), or in `event()` of block `d`
    between setting and clearing its guard (`glue d`) -/
inductive Site where
  | code | body | transition | glue (d : Nat)

/-- the sites whose code calls `event()` (the glue of `event()` itself does not) -/
def Site.calls : Site → Prop
  | .glue _ => False
  | _ => True

/-- the bracket discipline of `event()`: what code at a site, started with the stack `stk` in state `s`,
    can end in, when nested calls may go `fuel` deep.  `stk` is an index, not `s.stack`, because the rules
    restore the stack to it (the model passes it down as `stk0`); the properties assume `s.stack = stk`. -/
inductive Run (c : Circ) : Nat → Site → List Frame → St → St × Res → Prop
  | ret {fuel k stk s s'} (r : Res) (hi : Inert s s') (hr : r ≠ .exc .outOfFuel) : Run c fuel k stk s (s', r)
  | trans {fuel k stk s p q} (h1 : Run c fuel k stk s p) (h2 : Run c fuel k stk p.1 q) : Run c fuel k stk s q
  | oof {k stk s} : Run c 0 k stk s (s, .exc .outOfFuel)
  | abort {fuel k stk s} (e : Exc) (r : Res) (hr : r ≠ .exc .outOfFuel) : Run c fuel k stk s (s.abort e, r)
  | refuse {fuel k stk s} (d : Nat) (ha : s.active d = true) :
      Run c fuel k stk s ({ s.abort .circuitError with trace := .refused d :: s.trace }, .exc .circuitError)
  | event {fuel k stk s p} (d : Nat) (hk : k.calls) (hd : d < c.n) (ha : s.active d = false)
      (h : Run c fuel (.glue d) s.stack { s with active := upd s.active d true } p) :
      Run c (fuel + 1) k stk s ({ p.1 with active := upd p.1.active d false }, p.2)
  | early {fuel stk0 s p} (d : Nat) (hd : d < c.n) (hp : s.init d = .pending)
      (h : Run c fuel .code (⟨d, .init⟩ :: stk0)
        { s with active := upd s.active d false, stack := ⟨d, .init⟩ :: stk0, init := upd s.init d .running } p) :
      Run c fuel (.glue d) stk0 s ({ p.1 with active := upd p.1.active d (s.active d), stack := stk0 }, p.2)
  | handler {fuel stk0 s p} (d : Nat) (v : Option Val) (w : Nat) (ok : Res → Bool)
      (h : Run c fuel .body (⟨d, .handler⟩ :: stk0)
        { s with stack := ⟨d, .handler⟩ :: stk0, trace := .enter d (handlerDepth stk0 d + 1) v w :: s.trace } p) :
      Run c fuel (.glue d) stk0 s (classify { p.1 with stack := stk0, trace := .exit d (ok p.2) :: p.1.trace } p.2, p.2)
  | accept {fuel stk s p} (d : Nat) (hd : d < c.n) (hf : s.fsmActive d = false)
      (h : Run c fuel .transition stk { s with fsmActive := upd s.fsmActive d true } p) :
      Run c fuel .body stk s ({ p.1 with fsmActive := upd p.1.fsmActive d false }, p.2)
  | window {fuel stk0 s p} (d : Nat)
      (h : Run c fuel .code (⟨d, .window⟩ :: stk0)
        { s with active := upd s.active d false, stack := ⟨d, .window⟩ :: stk0 } p) :
      Run c fuel .transition (⟨d, .handler⟩ :: stk0) s
        ({ p.1 with active := upd p.1.active d (s.active d), stack := ⟨d, .handler⟩ :: stk0 }, p.2)

/-! Handler code: updates of fields that neither `event()` nor its guards look at, complete nested calls of
    `event()`, sequencing (an exception ends a sequence; `try/except` swallows it); an FSM adds `_fsm_event_active`
    around a transition and the window inside it. -/

variable {c : Circ}

section run
variable {fuel : Nat} {k : Site} {stk : List Frame}

theorem Run.ok {s s' : St} (v : Val) (h : Inert s s' := by exact ⟨rfl, rfl, rfl, rfl, rfl, fun _ h => h⟩) :
    Run c fuel k stk s (s', .ret v) := .ret _ h nofun

theorem Run.exc (s : St) (x : Exc) (hx : x ≠ .outOfFuel := by decide) : Run c fuel k stk s (s, .exc x) :=
  .ret _ (.refl s) (fun h => hx (Res.exc.inj h))

theorem Run.pre {s s' : St} {p : St × Res} (hp : Run c fuel k stk s' p)
    (h : Inert s s' := by exact ⟨rfl, rfl, rfl, rfl, rfl, fun _ h => h⟩) : Run c fuel k stk s p :=
  .trans (Run.ok .none h) hp

theorem Run.seq {s : St} {p : St × Res} {f : St → St × Res}
    (h1 : Run c fuel k stk s p) (h2 : Run c fuel k stk p.1 (f p.1)) : Run c fuel k stk s (andThen p f) := by
  unfold andThen
  split
  · next x hx => rw [← hx]; exact h1
  · exact .trans h1 h2

theorem Run.swallow {s : St} {p : St × Res} (h : Run c fuel k stk s p) : Run c fuel k stk s (Dispatch.swallow p) := by
  unfold Dispatch.swallow
  split
  · exact h
  · exact .trans h (.ok _)
  · exact h

variable {dlv : Dlv} (hc : ∀ k, k.calls → ∀ stk s d et data, Run c fuel k stk s (dlv s d et data))

section site
-- the site is explicit: `trivial` for `hk` is elaborated before an implicit site would be known
variable (k) (hk : k.calls)
include hc hk

theorem sendEdges_run (src : Nat) (s : St) (es : List Edge) (data : Data) :
    Run c fuel k stk s (sendEdges dlv src s es data) := by
  induction es generalizing s with
  | nil => exact .ok _
  | cons e es ih =>
    unfold sendEdges
    split
    · exact ih s
    · exact .seq (hc k hk ..) (ih _)

theorem setOutput_run (b : Blk) (d : Nat) (s : St) (v : Val) : Run c fuel k stk s (setOutput dlv b d s v) := by
  unfold setOutput
  split
  · exact .exc s .valueError
  · dsimp only
    split
    · exact sendEdges_run k hc hk ..
    · exact .pre (.seq (sendEdges_run k hc hk ..) (sendEdges_run k hc hk ..))

theorem runAct_run (b : Blk) (d : Nat) (s : St) (a : Act) : Run c fuel k stk s (runAct dlv b d s a) := by
  cases a with
  | setOut v => exact setOutput_run k hc hk ..
  | send i v =>
    simp only [runAct]
    split
    · exact .exc s .other
    · exact sendEdges_run k hc hk ..
  | trySend i v =>
    simp only [runAct]
    split
    · exact .exc s .other
    · exact .swallow (sendEdges_run k hc hk ..)
  | raise => exact .exc s .runtimeError
  | rawEvent x et => exact hc k hk ..

theorem runActs_run (b : Blk) (d : Nat) (s : St) (as : List Act) : Run c fuel k stk s (runActs dlv b d s as) := by
  induction as generalizing s with
  | nil => exact .ok _
  | cons a as ih =>
    unfold runActs
    exact .seq (runAct_run k hc hk ..) (ih _)

theorem handlerBody_run (b : Blk) (d : Nat) (s : St) (name : String) (data : Data) :
    Run c fuel k stk s (handlerBody dlv b d s name data) := by
  unfold handlerBody
  split
  · -- probe: one of its scripts, or nothing
    split
    · exact runActs_run k hc hk ..
    · split
      · exact runActs_run k hc hk ..
      · split
        · exact runActs_run k hc hk ..
        · exact .ok _
  · -- Input: KeyError, a refused value, or `set_output` and True
    split
    · exact .exc s .other
    · split
      · exact .ok _
      · exact .seq (setOutput_run k hc hk ..) (.ok _)
  · -- Counter: its own error, or `set_output` and the value
    split
    · next hx => exact .exc s _ (counterResult_ne_outOfFuel hx)
    · exact .seq (setOutput_run k hc hk ..) (.ok _)
  · -- OutputFunc: KeyError, or the on_error / on_success events and a tuple
    split
    · exact .exc s .other
    · split
      · exact .seq (sendEdges_run k hc hk ..) (.ok _)
      · exact .seq (sendEdges_run k hc hk ..) (.ok _)
  · exact .ok _
  · exact .ok _

theorem initRegular_run (b : Blk) (d : Nat) (s : St) : Run c fuel k stk s (initRegular dlv b d s) := by
  unfold initRegular
  split
  · exact runActs_run k hc hk ..
  · exact setOutput_run k hc hk ..
  · exact setOutput_run k hc hk ..
  · exact .ok _

theorem initFromValue_run (b : Blk) (d : Nat) (s : St) : Run c fuel k stk s (initFromValue dlv b d s) := by
  unfold initFromValue
  split
  · -- an FSM starts with an event to itself
    split
    · exact hc k hk ..
    · exact .ok _
  · split
    · -- only Input (an event to itself) and Counter (`set_output`) take their initdef
      split
      · exact .ok _
      · exact .ok _
      · exact .ok _
      · exact .ok _
      · exact hc k hk ..
      · exact setOutput_run k hc hk ..
    · exact .ok _

theorem initBlock_run (b : Blk) (d : Nat) (s : St) : Run c fuel k stk s (initBlock dlv b d s) := by
  unfold initBlock
  exact .pre (.seq (initRegular_run k hc hk ..)
    (.seq (initFromValue_run k hc hk ..) (.ok _ (inert_init _ d .done (by decide))))) (inert_init s d .running (by decide))

theorem repeatEvent_run (b : Blk) (d : Nat) (s : St) (et : EType) (data : Data) :
    Run c fuel k stk s (repeatEvent dlv b d s et data) := by
  unfold repeatEvent
  split
  · exact .ok _
  · exact .seq (setOutput_run k hc hk ..)
      (.seq (sendEdges_run k hc hk ..) (.ok _))

theorem resendBody_run (b : Blk) (d : Nat) (s : St) (data : Data) (rep : Nat) :
    Run c fuel k stk s (resendBody dlv b d s data rep) := by
  unfold resendBody
  exact .pre (.seq (setOutput_run k hc hk ..) (sendEdges_run k hc hk ..))

theorem winBody_run (b : Blk) (d : Nat) (s : St) (wb : WinBody) : Run c fuel k stk s (winBody dlv b d s wb) := by
  unfold winBody
  split
  · exact runActs_run k hc hk ..
  · split
    · exact .ok _
    · split
      · exact hc k hk ..
      · split
        · exact .ok _
        · exact .ok _

theorem chainExit_run (b : Blk) (d : Nat) (s : St) (chained : Bool) :
    Run c fuel k stk s (chainExit dlv b d s chained) := by
  unfold chainExit
  refine .pre (s' := { s with nextEv := upd s.nextEv d Option.none }) ?_
  dsimp only
  split
  · split
    · exact runActs_run k hc hk ..
    · exact .ok _
  · exact .ok _

theorem fsmLeave_run (b : Blk) (d : Nat) (s : St) : Run c fuel k stk s (fsmLeave dlv b d s) := by
  unfold fsmLeave
  split
  · exact .ok _
  · split
    · exact .ok _
    · exact .seq (runActs_run k hc hk ..)
        (.seq (sendEdges_run k hc hk ..) (.ok _))

theorem fsmFinish_run (b : Blk) (d : Nat) (s : St) : Run c fuel k stk s (fsmFinish dlv b d s) := by
  unfold fsmFinish
  split
  · exact .ok _
  · exact .seq (setOutput_run k hc hk ..) (.seq (sendEdges_run k hc hk ..) (.ok _))

theorem fsmCond_run (b : Blk) (d : Nat) (s : St) (et : EType) (data : Data) :
    Run c fuel k stk s (fsmCond dlv b d s et data) := by
  unfold fsmCond
  split
  · -- a named event of an initialised FSM with a `cond_EVENT` callback: its statements, then its value
    split
    · exact .ok _
    · split
      · exact .ok _
      · exact .seq (runActs_run k hc hk ..) (.ok _)
  · exact .ok _

end site

variable (b : Blk) {d : Nat} (stk0 : List Frame)
include hc

theorem fsmChain_run (n : Nat) (s : St) (chained : Bool) (ns : Nat) (data : Data) :
    Run c fuel .transition (⟨d, .handler⟩ :: stk0) s (fsmChain dlv b d stk0 n s chained ns data) := by
  have hw : ∀ s wb, Run c fuel .transition (⟨d, .handler⟩ :: stk0) s (fsmWindow dlv b d stk0 s wb) :=
    fun s wb => .window d (winBody_run .code hc trivial b d _ wb)
  induction n generalizing s chained ns data with
  | zero => exact .exc s .circuitError
  | succ n ih =>
    unfold fsmChain
    refine .seq (chainExit_run .transition hc trivial ..) (.pre (.seq (hw _ _) ?_))
    split
    · exact ih ..
    · split
      · exact .ok _
      · refine .seq (hw _ _) ?_
        split
        · exact ih ..
        · exact .ok _

theorem fsmTransition_run (s : St) (ns : Nat) (data : Data) :
    Run c fuel .transition (⟨d, .handler⟩ :: stk0) s (fsmTransition dlv b d stk0 s ns data) := by
  unfold fsmTransition
  refine .seq (fsmLeave_run .transition hc trivial ..) ?_
  split
  · exact .exc _ .other
  · exact .seq (fsmChain_run hc b stk0 ..) (fsmFinish_run .transition hc trivial ..)

theorem fsmAccept_run (hd : d < c.n) (s : St) (ns : Nat) (data : Data) :
    Run c fuel .body (⟨d, .handler⟩ :: stk0) s (fsmAccept dlv b d stk0 s ns data) := by
  unfold fsmAccept
  split
  · split
    · exact .exc s .circuitError
    · exact .ok _
  · next hfa => exact .accept d hd (by simpa using hfa) (fsmTransition_run hc b stk0 ..)

theorem fsmEvent_run (hd : d < c.n) (s : St) (et : EType) (data : Data) :
    Run c fuel .body (⟨d, .handler⟩ :: stk0) s (fsmEvent dlv b d stk0 s et data) := by
  unfold fsmEvent
  split
  · exact .exc s .unknownEvent
  · exact .exc s .valueError
  · exact .exc s .other
  · exact .seq (sendEdges_run .body hc trivial ..) (.ok _)
  · have h := fsmCond_run .body hc trivial (stk := ⟨d, .handler⟩ :: stk0) b d s et data
    dsimp only
    split
    · next x hx => rw [← hx]; exact h
    · split
      · exact .trans h (fsmAccept_run hc b stk0 hd ..)
      · exact .trans h (.ok _)

end run

section step
variable {fuel : Nat} (ih : ∀ k, k.calls → ∀ stk s d et data, Run c fuel k stk s (deliver c fuel s d et data))
  (b : Blk) {d : Nat} (hd : d < c.n) (stk0 : List Frame) (s : St)
include ih hd

theorem earlyInit_run : Run c fuel (.glue d) stk0 s (earlyInit (deliver c fuel) b d stk0 s) := by
  unfold earlyInit
  split
  · next hp =>
    refine .early d hd hp ?_
    -- `init_steps_completed = -2` is part of the entry: it pays for the released guard
    unfold initBlock
    exact .seq (initRegular_run .code ih trivial ..)
      (.seq (initFromValue_run .code ih trivial ..) (.ok _ (inert_init _ d .done (by decide))))
  · exact .ret _ (.refl s) nofun

theorem callHandler_run (et : EType) (data : Data) :
    Run c fuel (.glue d) stk0 s (callHandler (deliver c fuel) b d stk0 s et data) := by
  have hin : ∀ body : St → St × Res, (∀ s4, Run c fuel .body (⟨d, .handler⟩ :: stk0) s4 (body s4)) →
      Run c fuel (.glue d) stk0 s (inHandler d stk0 s data body) :=
    fun body h => .handler d _ _ (fun r => match r with | .ret _ => true | .exc _ => false) (h _)
  unfold callHandler
  split
  · exact hin _ fun s4 => fsmEvent_run ih b stk0 hd s4 et data
  · split
    · exact hin _ fun s4 => repeatEvent_run .body ih trivial b d s4 et data
    · split
      · exact .ret _ (.refl s) nofun
      · split
        · exact .ret _ (.refl s) nofun
        · exact hin _ fun s4 => handlerBody_run .body ih trivial b d s4 _ data

end step

theorem deliver_run (fuel : Nat) :
    ∀ k, k.calls → ∀ stk s d et data, Run c fuel k stk s (deliver c fuel s d et data) := by
  induction fuel with
  | zero => intro k _ stk s d et data; exact .oof
  | succ fuel ih =>
    intro k hk stk s d et data
    unfold deliver
    split
    · exact .ret _ (.refl s) nofun
    · split
      · next x hx => exact .ret _ (.refl s) (fun h => check_ne_outOfFuel hx (Res.exc.inj h))
      · split
        · next hact => exact .refuse d hact
        · next b hb _ _ hact =>
          have hdn : d < c.n := (List.getElem?_eq_some_iff.1 hb).1
          refine .event d hk hdn (by simpa using hact) ?_
          unfold eventBody
          dsimp only
          split
          · exact .ret _ (.refl _) nofun
          · exact .seq (earlyInit_run ih b hdn ..) (callHandler_run ih b hdn ..)

theorem Run.frm {fuel : Nat} {k : Site} {stk : List Frame} {s : St} {p : St × Res} (h : Run c fuel k stk s p)
    (hs : s.stack = stk) : Frm s p.1 := by
  induction h with
  | ret r hi hr => exact hi.frm
  | trans h1 h2 ih1 ih2 => exact (ih1 hs).trans (ih2 ((ih1 hs).stack.trans hs))
  | oof => exact Frm.refl _
  | abort e r hr => exact abort_frm _ e
  | @refuse _ _ _ s d ha =>
    have h := abort_frm s .circuitError
    exact ⟨h.active, h.stack, h.error, h.init, h.fsm⟩
  | event d hk hd ha h ih =>
    have f := ih rfl
    exact ⟨(congrArg (upd · d false) f.active).trans (upd_restore _ _ ha), f.stack, f.error, f.init, f.fsm⟩
  | early d hd hp h ih =>
    have f := ih rfl
    refine ⟨?_, hs.symm, f.error, fun x hx => ?_, f.fsm⟩
    · show upd _ d _ = _
      rw [f.active, upd_upd, upd_self]
    · have := f.init x hx
      by_cases hxd : x = d
      · exact hxd ▸ hp
      · simpa [upd, hxd] using this
  | @handler _ stk0 s p d v w ok h ih =>
    have f := ih rfl
    have f6 : Frm s { p.1 with stack := stk0, trace := .exit d (ok p.2) :: p.1.trace } :=
      ⟨f.active, hs.symm, f.error, f.init, f.fsm⟩
    exact f6.trans (classify_frm _ _)
  | accept d hd hf h ih =>
    have f := ih hs
    exact ⟨f.active, f.stack, f.error, f.init, (congrArg (upd · d false) f.fsm).trans (upd_restore _ _ hf)⟩
  | window d h ih =>
    have f := ih rfl
    refine ⟨?_, hs.symm, f.error, f.init, f.fsm⟩
    show upd _ d _ = _
    rw [f.active, upd_upd, upd_self]

theorem deliver_frm (c : Circ) (fuel : Nat) (s : St) (d : Nat) (et : EType) (data : Data) :
    Frm s (deliver c fuel s d et data).1 :=
  (deliver_run fuel .code trivial s.stack s d et data).frm rfl

/-- if an event was refused by a busy block, `Circuit.error` is set -/
def RefAbort (s : St) : Prop := (∃ x, TItem.refused x ∈ s.trace) → s.error.isSome

theorem refAbort_of_eq {s s' : St} (h : RefAbort s) (htr : s'.trace = s.trace) (he : s'.error = s.error) :
    RefAbort s' := by
  intro ⟨x, hx⟩; rw [he]; exact h ⟨x, htr ▸ hx⟩

theorem refAbort_nil {s : St} (ht : s.trace = []) : RefAbort s := by
  intro ⟨y, hy⟩; simp [ht] at hy

theorem classify_trace (s : St) (r : Res) : (classify s r).trace = s.trace := by
  unfold classify
  split <;> first | rfl | exact abort_trace _ _

theorem RefAbort.cons {s : St} (h : RefAbort s) (t : TItem) (ht : ∀ x, t ≠ .refused x)
    (s' : St) (htr : s'.trace = t :: s.trace) (he : s'.error = s.error) : RefAbort s' := by
  intro ⟨x, hx⟩
  rw [htr] at hx
  rw [he]
  rcases List.mem_cons.1 hx with hx | hx
  · exact absurd hx.symm (ht x)
  · exact h ⟨x, hx⟩

theorem Run.refAbort {fuel : Nat} {k : Site} {stk : List Frame} {s : St} {p : St × Res} (h : Run c fuel k stk s p)
    (hs : RefAbort s) : RefAbort p.1 := by
  induction h with
  | ret r hi hr => exact refAbort_of_eq hs hi.trace hi.error
  | trans h1 h2 ih1 ih2 => exact ih2 (ih1 hs)
  | oof => exact hs
  | abort e r hr => exact fun _ => abort_error _ e
  | @refuse _ _ _ s d ha => exact fun _ => abort_error s _
  | event d hk hd ha h ih => exact refAbort_of_eq (ih (refAbort_of_eq hs rfl rfl)) rfl rfl
  | early d hd hp h ih => exact refAbort_of_eq (ih (refAbort_of_eq hs rfl rfl)) rfl rfl
  | @handler _ stk0 s p d v w ok h ih =>
    have h4 := ih (hs.cons (.enter d (handlerDepth stk0 d + 1) v w) (fun _ => nofun) _ rfl rfl)
    intro ⟨x, hx⟩
    rw [classify_trace] at hx
    exact (classify_frm _ _).error
      ((h4.cons (.exit d (ok p.2)) (fun _ => nofun) { p.1 with stack := stk0, trace := .exit d (ok p.2) :: p.1.trace } rfl rfl) ⟨x, hx⟩)
  | accept d hd hf h ih => exact refAbort_of_eq (ih (refAbort_of_eq hs rfl rfl)) rfl rfl
  | window d h ih => exact refAbort_of_eq (ih (refAbort_of_eq hs rfl rfl)) rfl rfl

/-- blocks that can still enter `event()`, blocks whose early initialisation can still open a
    window, FSMs that can still start a transition (and open its window): every nested call of
    `event()` lowers this number -/
def phi (n : Nat) (s : St) : Nat :=
  (List.range n).countP (fun d => !s.active d) + (List.range n).countP (fun d => s.init d == .pending)
    + (List.range n).countP (fun d => !s.fsmActive d)

theorem countP_flip (l : List Nat) (hl : l.Nodup) (d : Nat) (hd : d ∈ l) (p p' : Nat → Bool)
    (hp : p d = true) (hp' : p' d = false) (hne : ∀ x, x ≠ d → p' x = p x) :
    l.countP p' + 1 = l.countP p := by
  induction l with
  | nil => cases hd
  | cons a l ih =>
    rw [List.nodup_cons] at hl
    by_cases had : a = d
    · subst had
      have : l.countP p' = l.countP p := by
        apply List.countP_congr
        intro x hx
        have : x ≠ a := fun h => hl.1 (h ▸ hx)
        rw [hne x this]
      simp [hp, hp', this]
    · have hd' : d ∈ l := by
        rcases List.mem_cons.1 hd with h | h
        · exact absurd h.symm had
        · exact h
      have := ih hl.2 hd'
      simp only [List.countP_cons, hne a had]
      omega

theorem phi_frm (n : Nat) {s s' : St} (f : Frm s s') : phi n s' ≤ phi n s := by
  unfold phi
  rw [f.active, f.fsm]
  apply Nat.add_le_add_right
  apply Nat.add_le_add_left
  apply List.countP_mono_left
  intro x _ hx
  have := f.init x (by simpa using hx)
  simp [this]

theorem phi_le (n : Nat) (s : St) : phi n s ≤ 3 * n := by
  unfold phi
  have h1 := List.countP_le_length (p := fun d => !s.active d) (l := List.range n)
  have h2 := List.countP_le_length (p := fun d => s.init d == .pending) (l := List.range n)
  have h3 := List.countP_le_length (p := fun d => !s.fsmActive d) (l := List.range n)
  simp only [List.length_range] at h1 h2 h3
  omega

theorem countP_release (n : Nat) (a : Nat → Bool) (d : Nat) :
    (List.range n).countP (fun x => !upd a d false x) ≤ (List.range n).countP (fun x => !a x) + 1 := by
  by_cases had : a d = false
  · rw [← had, upd_self]; omega
  · by_cases hmem : d ∈ List.range n
    · have := countP_flip (List.range n) List.nodup_range d hmem
        (fun x => !upd a d false x) (fun x => !a x) (by simp [upd]) (by simpa using had)
        (fun x hx => by simp [upd, hx])
      omega
    · have : (List.range n).countP (fun x => !upd a d false x) = (List.range n).countP (fun x => !a x) := by
        apply List.countP_congr
        intro x hx
        have : x ≠ d := fun h => hmem (h ▸ hx)
        simp [upd, this]
      omega

theorem phi_release (n : Nat) (s : St) (d : Nat) (stk : List Frame) :
    phi n { s with active := upd s.active d false, stack := stk } ≤ phi n s + 1 := by
  unfold phi
  have := countP_release n s.active d
  simp only [] at this ⊢
  omega

theorem countP_upd {α : Type} (n d : Nat) (hd : d < n) (f : Nat → α) (v : α) (q : α → Bool)
    (h1 : q (f d) = true) (h2 : q v = false) :
    (List.range n).countP (fun x => q (upd f d v x)) + 1 = (List.range n).countP (fun x => q (f x)) :=
  countP_flip (List.range n) List.nodup_range d (List.mem_range.2 hd) _ _ h1 (by simp [upd, h2])
    (fun x hx => by simp [upd, hx])

theorem phi_lock (n : Nat) (s : St) (d : Nat) (hd : d < n) (h : s.active d = false) :
    phi n { s with active := upd s.active d true } + 1 = phi n s := by
  have := countP_upd n d hd s.active true (fun b => !b) (by simp [h]) rfl
  unfold phi
  dsimp only at this ⊢
  omega

theorem phi_init (n : Nat) (s : St) (d : Nat) (hd : d < n) (h : s.init d = .pending) :
    phi n { s with init := upd s.init d .running } + 1 = phi n s := by
  have := countP_upd n d hd s.init .running (fun i => i == .pending) (by simp [h]) rfl
  unfold phi
  dsimp only at this ⊢
  omega

theorem phi_accept (n : Nat) (s : St) (d : Nat) (hd : d < n) (h : s.fsmActive d = false) :
    phi n { s with fsmActive := upd s.fsmActive d true } + 1 = phi n s := by
  have := countP_upd n d hd s.fsmActive true (fun b => !b) (by simp [h]) rfl
  unfold phi
  dsimp only at this ⊢
  omega

theorem phi_lt_fuel (c : Circ) (s : St) : phi c.n s < c.fuel := by
  unfold Circ.fuel; have := phi_le c.n s; omega

theorem phi_stack_trace (n : Nat) (s : St) (stk : List Frame) (t : List TItem) :
    phi n { s with stack := stk, trace := t } = phi n s := rfl

/-- inside an FSM transition one more nested call must be affordable: the window releases the guard -/
def Site.reserve : Site → Nat
  | .transition => 1
  | _ => 0

theorem phi_early (n : Nat) (s : St) (d : Nat) (hd : d < n) (stk : List Frame) (h : s.init d = .pending) :
    phi n { s with active := upd s.active d false, stack := stk, init := upd s.init d .running } ≤ phi n s :=
  Nat.le_of_succ_le_succ (Nat.le_trans
    (Nat.le_of_eq (phi_init n { s with active := upd s.active d false, stack := stk } d hd h)) (phi_release n s d stk))

/-- the nesting depth of `event()` calls below a state `s` is at most `phi s` -/
theorem Run.noOOF {fuel : Nat} {k : Site} {stk : List Frame} {s : St} {p : St × Res} (h : Run c fuel k stk s p)
    (hs : s.stack = stk) (hk : phi c.n s + k.reserve < fuel) : NoOOF p := by
  induction h with
  | ret r hi hr => exact hr
  | trans h1 h2 ih1 ih2 =>
    have f := h1.frm hs
    exact ih2 (f.stack.trans hs) (Nat.lt_of_le_of_lt (Nat.add_le_add_right (phi_frm c.n f) _) hk)
  | oof => exact absurd hk (Nat.not_lt_zero _)
  | abort e r hr => exact hr
  | refuse d ha => exact nofun
  | @event _ _ _ s _ d _ hd ha h ih =>
    -- the locked block pays for the call
    exact ih rfl (Nat.lt_of_succ_lt_succ (Nat.lt_of_le_of_lt (Nat.le_of_eq (phi_lock c.n s d hd ha))
      (Nat.lt_of_le_of_lt (Nat.le_add_right _ _) hk)))
  | @early _ stk0 s _ d hd hp h ih => exact ih rfl (Nat.lt_of_le_of_lt (phi_early c.n s d hd (⟨d, .init⟩ :: stk0) hp) hk)
  | handler d v w ok h ih => exact ih rfl hk
  | @accept _ _ s _ d hd hf h ih => exact ih hs (Nat.lt_of_le_of_lt (Nat.le_of_eq (phi_accept c.n s d hd hf)) hk)
  | @window _ stk0 s _ d h ih => exact ih rfl (Nat.lt_of_le_of_lt (phi_release c.n s d (⟨d, .window⟩ :: stk0)) hk)

/-- consistency of guards and (ghost) stack: a block is locked iff its handler is running
    (and not suspended in a window) -/
def Inv (s : St) : Prop := ∀ x, s.active x = true ↔ (⟨x, .handler⟩ : Frame) ∈ s.stack

/-- nesting depth recorded at the entry of a handler: 1 = no other handler of the block is running
    (frames of the block that are suspended in a window are counted separately, in `win`) -/
def TItem.ok : TItem → Prop
  | .enter _ k _ _ => k = 1
  | _ => True

def TraceOk (s : St) : Prop := ∀ t ∈ s.trace, t.ok

def Good (s : St) : Prop := Inv s ∧ TraceOk s

theorem Inv.of_frm {s s' : St} (h : Inv s) (f : Frm s s') : Inv s' := by
  intro x; rw [f.active, f.stack]; exact h x

theorem handlerDepth_zero {stk : List Frame} {d : Nat} (h : (⟨d, .handler⟩ : Frame) ∉ stk) :
    handlerDepth stk d = 0 := by
  unfold handlerDepth
  rw [List.countP_eq_zero]
  intro f hf hp
  apply h
  have : f = ⟨d, .handler⟩ := by
    cases f with
    | mk b ph => simp at hp; simp [hp.1, hp.2]
  exact this ▸ hf

theorem mem_handler_cons {x d : Nat} {ph : Phase} {stk : List Frame} (h : x ≠ d ∨ ph ≠ .handler) :
    (⟨x, .handler⟩ : Frame) ∈ (⟨d, ph⟩ : Frame) :: stk ↔ (⟨x, .handler⟩ : Frame) ∈ stk := by
  rcases h with h | h
  · simp [h]
  · simp [Ne.symm h]

theorem inv_push {a : Nat → Bool} {stk : List Frame} {d : Nat} (ph : Phase)
    (ho : ∀ x, x ≠ d → (a x = true ↔ (⟨x, .handler⟩ : Frame) ∈ stk)) (hd : (⟨d, .handler⟩ : Frame) ∉ stk) (x : Nat) :
    upd a d (ph == .handler) x = true ↔ (⟨x, .handler⟩ : Frame) ∈ (⟨d, ph⟩ : Frame) :: stk := by
  by_cases hx : x = d
  · subst hx
    rw [upd_same]
    cases ph <;> simp [hd]
  · rw [upd_other _ _ _ _ hx, mem_handler_cons (.inl hx)]
    exact ho x hx

theorem classify_traceOk (s6 : St) (r : Res) (h : TraceOk s6) : TraceOk (classify s6 r) := by
  unfold classify St.abort
  repeat' split
  all_goals exact h

/-- the top frame, if it is a handler frame, is the only handler frame of its block -/
def TopOnce (stk : List Frame) : Prop := ∀ d stk0, stk = ⟨d, .handler⟩ :: stk0 → (⟨d, .handler⟩ : Frame) ∉ stk0

/-- what holds where code at a site starts: the invariant; in a handler frame it is the only one of the block;
    in `event()` of block `d` the guard of `d` is set and its handler frame not pushed yet -/
def Site.Pre : Site → St → Prop
  | .glue d, s => s.active d = true ∧ (∀ x, x ≠ d → (s.active x = true ↔ (⟨x, .handler⟩ : Frame) ∈ s.stack)) ∧
      (⟨d, .handler⟩ : Frame) ∉ s.stack ∧ TraceOk s
  | .code, s => Good s
  | _, s => Good s ∧ TopOnce s.stack

theorem Site.Pre.traceOk : ∀ {k : Site} {s : St}, k.Pre s → TraceOk s
  | .glue _, _, h => h.2.2.2
  | .code, _, h => h.2
  | .body, _, h => h.1.2
  | .transition, _, h => h.1.2

theorem Site.Pre.of_frm {k : Site} {s s' : St} (h : k.Pre s) (f : Frm s s') (ht : TraceOk s') : k.Pre s' := by
  cases k with
  | glue d =>
    obtain ⟨h1, h2, h3, _⟩ := h
    exact ⟨by rw [f.active]; exact h1, fun x hx => by rw [f.active, f.stack]; exact h2 x hx,
      by rw [f.stack]; exact h3, ht⟩
  | code => exact ⟨h.1.of_frm f, ht⟩
  | body => exact ⟨⟨h.1.1.of_frm f, ht⟩, by rw [f.stack]; exact h.2⟩
  | transition => exact ⟨⟨h.1.1.of_frm f, ht⟩, by rw [f.stack]; exact h.2⟩

theorem Run.traceOk {fuel : Nat} {k : Site} {stk : List Frame} {s : St} {p : St × Res} (h : Run c fuel k stk s p)
    (hs : s.stack = stk) (hp : k.Pre s) : TraceOk p.1 := by
  induction h with
  | ret r hi hr => exact fun t ht => hp.traceOk t (hi.trace ▸ ht)
  | trans h1 h2 ih1 ih2 =>
    have f := h1.frm hs
    exact ih2 (f.stack.trans hs) (hp.of_frm f (ih1 hs hp))
  | oof => exact hp.traceOk
  | abort e r hr => exact fun t ht => hp.traceOk t (abort_trace _ e ▸ ht)
  | refuse d ha =>
    intro t ht
    rcases List.mem_cons.1 ht with rfl | ht
    · trivial
    · exact hp.traceOk t ht
  | @event _ k _ s _ d hk hd ha h ih =>
    -- between setting the guard of `d` and pushing its handler frame `Inv` fails at `d`: `Site.Pre (.glue d)`
    have hg : Good s := by cases k <;> first | exact hp | exact hp.1 | exact hk.elim
    refine ih rfl ⟨upd_same .., fun x hx => ?_, fun hm => ?_, hg.2⟩
    · show upd s.active d true x = true ↔ _
      rw [upd_other _ _ _ _ hx]; exact hg.1 x
    · have := (hg.1 d).2 hm; rw [ha] at this; cases this
  | @early _ stk0 s _ d hd hpd h ih =>
    obtain ⟨h1, h2, h3, h5⟩ := hp
    subst hs
    exact ih rfl ⟨inv_push .init h2 h3, h5⟩
  | @handler _ stk0 s p d v w ok h ih =>
    obtain ⟨h1, h2, h3, h5⟩ := hp
    subst hs
    apply classify_traceOk
    intro t ht
    rcases List.mem_cons.1 ht with rfl | ht
    · trivial
    · have ha : upd s.active d true = s.active := by rw [← h1, upd_self]
      refine ih rfl ⟨⟨ha ▸ inv_push .handler h2 h3, fun t ht => ?_⟩, fun d' stk0' he => ?_⟩ t ht
      · rcases List.mem_cons.1 ht with rfl | ht
        · -- the entry just recorded has depth 1: no handler frame of `d` is below (`h3`, from `Site.Pre (.glue d)`)
          simp [TItem.ok, handlerDepth_zero h3]
        · exact h5 t ht
      · cases he; exact h3
  | accept d hd hf h ih => exact ih hs hp
  | @window _ stk0 s _ d h ih =>
    obtain ⟨⟨h1, h3⟩, h2⟩ := hp
    -- the guard is released: `Inv` inside the window needs that no other handler frame of `d` is below
    have hnot := h2 d stk0 hs
    exact ih rfl ⟨inv_push .window (fun x hx => (h1 x).trans (hs ▸ mem_handler_cons (.inl hx))) hnot, h3⟩

/-! The top level: the start-up loop and the repetitions of a Repeat block's main task are runs at site
    `code` (what they add to deliveries is `abort`). -/

theorem taskOutcome_exc (d : Nat) (s : St) (x : Exc) (hx : x ≠ .outOfFuel) :
    taskOutcome d (s, .exc x) = ({ s.abort x with rcur := upd s.rcur d Option.none }, .exc x) := by
  cases x <;> first | exact absurd rfl hx | rfl

theorem initLoop_run (stk : List Frame) (s : St) (ds : List Nat) : Run c c.fuel .code stk s (initLoop c s ds) := by
  induction ds generalizing s with
  | nil => exact .ok .none
  | cons d ds ih =>
    unfold initLoop
    split
    · exact .exc s .other
    · split
      · exact .seq (initBlock_run .code (deliver_run c.fuel) trivial ..) (ih _)
      · exact ih s

theorem initAll_run (s : St) : Run c c.fuel .code s.stack s (initAll c s) := by
  unfold initAll
  have h := initLoop_run (c := c) s.stack s (List.range c.n)
  have hn : NoOOF (initLoop c s (List.range c.n)) := h.noOOF rfl (phi_lt_fuel c s)
  split
  · next s1 x heq =>
    rw [heq] at h hn
    exact .trans h (.abort x _ hn)
  · next s1 v heq =>
    rw [heq] at h
    split
    · exact .trans h (.ret _ (.refl _) nofun)
    · exact .trans h (.abort _ _ nofun)

/-- a repetition is `set_output`, the send, and – when that fails – the task monitor's `abort` -/
theorem resend_run (s : St) (d : Nat) (p : St × Res) (h : resend c s d = some p) :
    Run c c.fuel .code s.stack s p := by
  unfold resend at h
  split at h
  · split at h
    · cases h
      rename_i b data rep _ _ _
      have h0 := resendBody_run .code (deliver_run (c := c) c.fuel) trivial (stk := s.stack) b d s data (rep + 1)
      generalize resendBody _ b d s data (rep + 1) = q at h0 ⊢
      obtain ⟨s', r⟩ := q
      cases r with
      | ret v => exact .trans h0 (.ret _ (.refl _) nofun)
      | exc x =>
        by_cases hx : x = .outOfFuel
        · subst hx; exact h0
        · rw [taskOutcome_exc d s' x hx]
          have hx' : Res.exc x ≠ .exc .outOfFuel := fun h => hx (Res.exc.inj h)
          exact .trans h0 (.trans (.abort x _ hx') (.ret _ ⟨rfl, rfl, rfl, rfl, rfl, fun _ h => h⟩ hx'))
    · cases h
  · cases h

def Idle (s : St) : Prop := (∀ d, s.active d = false) ∧ s.stack = []

theorem Idle.inv {s : St} (h : Idle s) : Inv s := by
  intro x; rw [h.1 x, h.2]; simp

theorem Idle.good {s : St} (h : Idle s) (ht : s.trace = []) : Good s :=
  ⟨h.inv, by intro t; simp [ht]⟩

theorem Idle.of_frm {s s' : St} (h : Idle s) (f : Frm s s') : Idle s' :=
  ⟨fun d => by rw [f.active]; exact h.1 d, f.stack.trans h.2⟩

end Edzed.Dispatch
