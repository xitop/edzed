/-
C05: stage equations of the interpreter of EdzedModel/AsyncInit.lean, for the ties of the translated small methods
around asynchronous initialisation (Gen/TranslatedAsyncInit.lean; the ties themselves are in EdzedProps/C05.lean).

The programs are closed terms, so the interpreter evaluates by reduction once the tests it meets are decided;
`sblockSetOutput` is never unfolded: program and model are the same function of its result.  The fuel (8, and 12 for
the loop of `_maintask`) is any bound above the number of statements a method executes.
-/
import EdzedModel.AsyncInit
import EdzedProofs.DataLemmas

namespace Edzed.AsyncInit

open Edzed.Gen.TrAI

theorem interp_act (env : Env) (f : Nat) (a : Act) (rest : List Stmt) (o : Obj) (cur : Val) :
    interp env (f + 1) (.act a :: rest) o cur =
      match (doAct env o cur a).1 with
      | .done o1 _ => interp env f rest o1 (doAct env o cur a).2
      | r => r := by
  show (match doAct env o cur a with
    | (.done o1 _, cur1) => interp env f rest o1 cur1
    | (r, _) => r) = _
  rcases doAct env o cur a with ⟨r, c⟩
  cases r <;> rfl

theorem interp_ite (env : Env) (f : Nat) (c : Cond) (t e rest : List Stmt) (o : Obj) (cur : Val) :
    interp env (f + 1) (.ite c t e :: rest) o cur =
      match evalCond env o cur c with
      | .ok true => interp env f (t ++ rest) o cur
      | .ok false => interp env f (e ++ rest) o cur
      | .error cls => .raised cls o := rfl

theorem plain_then (o : Obj) (v : Val) (k : Obj → Outcome) :
    (match plainSetOutput o v with
      | .done o1 _ => k o1
      | r => r) =
    match sblockSetOutput o v with
    | .error c => .raised c o
    | .ok o1 => k o1 := by
  unfold plainSetOutput
  cases sblockSetOutput o v <;> rfl

/-- `set_output` returns nothing: a method that ends with it ends as it does -/
theorem plain_last (o : Obj) (v : Val) :
    (match plainSetOutput o v with
      | .done o1 _ => .done o1 none
      | r => r) = plainSetOutput o v := by
  unfold plainSetOutput
  cases sblockSetOutput o v <;> rfl

theorem ai_last (o : Obj) (v : Val) :
    (match aiSetOutput o v with
      | .done o1 _ => .done o1 none
      | r => r) = aiSetOutput o v := by
  unfold aiSetOutput
  cases sblockSetOutput o v with
  | error c => rfl
  | ok o1 =>
    -- the record is opened: with `ev` a constructor both sides are literals and `rfl` decides
    rcases o1 with ⟨ev, out, oe, iv, fs, cs, bs, ac, sv, tr⟩
    rcases ev with _ | _ | _ <;> rfl

theorem interp_setOutput_last (env : Env) (f : Nat) (a : Arg) (o : Obj) (cur : Val) :
    interp env (f + 2) [.act (.setOutput a)] o cur =
      if env.asyncInitClass then aiSetOutput o (argVal cur a) else plainSetOutput o (argVal cur a) := by
  refine (interp_act env (f + 1) _ _ o cur).trans ?_
  show (match (if env.asyncInitClass = true then aiSetOutput o (argVal cur a)
      else plainSetOutput o (argVal cur a)) with
    | .done o1 _ => Outcome.done o1 none
    | r => r) = _
  cases env.asyncInitClass
  · exact plain_last o _
  · exact ai_last o _

end Edzed.AsyncInit
