/-
C16, tie by translation: helper definitions and lemmas.

* how the edit functions of a `DataEdit` object read as Python callables (`c16ApplyEdit`);
* the leaves of the translated `Event.send` (`Gen.TrD.SendPrims`, generated for C11) instantiated with
  the filters of THIS model (`c16SendPrims`).
Nothing here mentions a generated definition that can be omitted (only the fixed preludes), so that a broken
translation breaks named theorems of EdzedProps/C16.lean and not this import.
-/
import EdzedModel.Filters
import EdzedProofs.Filters
import EdzedModel.Gen.TranslatedDispatch
import EdzedModel.Gen.TranslatedFilterObjs

namespace Edzed.TrTie
open Edzed.Filters

/-- the edit functions of a `DataEdit` object as Python callables: what `func(data)` produces -/
def c16ApplyEdit (env : Env) (op : EditOp) (d : Data) : FRes := Gen.TrFo.editResult (op.apply env d)

theorem c16_dataEditCall_eq (env : Env) (ops : List EditOp) (d : Data) :
    Filters.dataEditCall env ops d = Gen.TrFo.editResult (chain env ops d) := by
  unfold Filters.dataEditCall
  cases chain env ops d with
  | ok d' => rfl
  | error s => cases s <;> rfl

/-- `Edge(rise, fall, u_rise, u_fall)` called with arbitrary Python objects, read as the model's arguments:
    the truth values, and `u_rise` absent exactly when the object is `None` (NOT when it is merely false) -/
def c16EdgeArgs (rise fall uRise uFall : Val) : EdgeArgs :=
  { rise := rise.truthy, fall := fall.truthy,
    uRise := if uRise = Val.none then none else some uRise.truthy,
    uFall := uFall.truthy }

/-- the model's arguments as Python objects -/
def c16OptBoolVal : Option Bool → Val
  | none => Val.none
  | some b => Val.bool b

theorem c16_xabs_sub_comm (a b : XNum) : XNum.abs (a.sub b) = XNum.abs (b.sub a) :=
  XNum.abs_sub_comm a b

/-- the leaves of `Event.send` (generated structure of C11) read with the C16 model: the state is the list
    of event data the destination has received; a filter is called through `Filter.call`.  The loop asks
    `resTruthy` only of a result that is not a mapping and `asData` only of a mapping with string keys, so their
    values on the other results (`!d.isEmpty`, `[]`) are never used -/
def c16SendPrims (env : Env) (src : String) : Gen.TrD.SendPrims (List Data) Err Data Filter FRes where
  sameCircuit := true
  mkExc := fun kind _ => if kind = "TypeError" then .typeError else .valueError
  setSource := fun d => d.set "source" (Val.str src)
  applyFilter := fun f d => Gen.TrD.M.pure (f.call env d).ret
  isMapping := fun r => match r with | .mapping _ => true | .badKey => true | _ => false
  anyKeyNotStr := fun r => match r with | .badKey => true | _ => false
  asData := fun r => match r with | .mapping d => d | _ => []
  resTruthy := fun r => match r with | .other v => v.truthy | .mapping d => !d.isEmpty | .badKey => true | .raise _ => false
  resIsNone := fun r => match r with | .other v => v == Val.none | _ => false
  destEvent := fun d s => (s ++ [d], .next ())

/-- a filter call as the translated loop sees it: no exception, and the dict is not modified in place
    (the loop of C11 is translated with `efilter(data)` as a function of the data) -/
def PlainFilter (env : Env) (f : Filter) : Prop :=
  ∀ d, (f.call env d).data = d ∧ ∀ e, (f.call env d).ret ≠ .raise e

/-- how an outcome of the model reads in the monad of the translated program -/
def c16LoopOut : Outcome → Gen.TrD.Out Err Bool Data
  | .delivered d => .next d
  | .rejected => .ret false
  | .error e => .raise e

end Edzed.TrTie
