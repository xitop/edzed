/-
For C15: `get_conf()` of a finalized circuit (`Inp.conf_*`) and `check_signature`.  The documented rule is `Matches`
(`Expect.accepts` item by item); both forms of the model's check, `checkSignature` and its diagnosis `sigDiagnosis`, are
functions of the one Boolean `accepted` (`checkSignature_eq`, `sigDiagnosis_eq`), and `accepted_iff` says it is the rule.
-/
import EdzedProofs.Wiring

namespace Edzed.Wiring

theorem confName_of_resolved (r : Ref) (h : r.resolved = true) : ∃ n, r.confName = some n := by
  cases r with
  | obj f a => exact ⟨a, rfl⟩
  | const v => exact ⟨_, rfl⟩
  | name s => cases h
  | val v => cases h

theorem mapM_some_of_forall {α β : Type} {f : α → Option β} (l : List α)
    (h : ∀ a ∈ l, ∃ b, f a = some b) : ∃ l', l.mapM f = some l' := by
  induction l with
  | nil => exact ⟨[], rfl⟩
  | cons a l ih =>
    obtain ⟨b, hb⟩ := h a (List.mem_cons_self ..)
    obtain ⟨l', hl⟩ := ih fun x hx => h x (List.mem_cons_of_mem _ hx)
    exact ⟨b :: l', by simp [List.mapM_cons, hb, hl]⟩

theorem map_of_mapM {α β γ : Type} {f : α → Option β} {g : β → γ} {h : α → γ}
    (hfg : ∀ a b, f a = some b → g b = h a) :
    ∀ (l : List α) (l' : List β), l.mapM f = some l' → l'.map g = l.map h := by
  intro l
  induction l with
  | nil => intro l' hl; cases hl; rfl
  | cons a l ih =>
    intro l' hl
    rw [List.mapM_cons] at hl
    cases ha : f a with
    | none => simp [ha] at hl
    | some b =>
      cases hm : l.mapM f with
      | none => simp [ha, hm] at hl
      | some bs =>
        simp [ha, hm] at hl
        subst hl
        rw [List.map_cons, List.map_cons, hfg a b ha, ih bs hm]

theorem Inp.conf_isSome (i : Inp) (h : ∀ r ∈ i.refs, r.resolved = true) : ∃ x, i.conf = some x := by
  cases i with
  | single r =>
    obtain ⟨n, hn⟩ := confName_of_resolved r (h r (List.mem_singleton.mpr rfl))
    exact ⟨.single n, by rw [Inp.conf, hn]; rfl⟩
  | group rs =>
    obtain ⟨ns, hns⟩ := mapM_some_of_forall rs fun r hr => confName_of_resolved r (h r hr)
    exact ⟨.group ns, by rw [Inp.conf, hns]; rfl⟩

theorem Inp.conf_sigVal {i : Inp} {x : ConfInp} (h : i.conf = some x) : x.sigVal = i.sigVal := by
  cases i with
  | single r =>
    obtain ⟨_, _, rfl⟩ := Option.map_eq_some_iff.mp h
    rfl
  | group rs =>
    obtain ⟨ns, hns, rfl⟩ := Option.map_eq_some_iff.mp h
    -- the two lists have the same length: `map_of_mapM` with both sides mapped to `()`
    have := congrArg List.length (map_of_mapM (g := fun _ => ()) (h := fun _ => ()) (fun _ _ _ => rfl) rs ns hns)
    rw [List.length_map, List.length_map] at this
    exact congrArg some this

/-- the documented rule: a single input matches only `None`; a group of `k` inputs (0 included)
    matches the size `k` and every range that contains `k`; nothing matches a malformed expectation -/
def Expect.accepts : Expect → Option Nat → Prop
  | .single, v => v = none
  | .exact n, v => v = some n
  | .range lo hi, v => ∃ k, v = some k ∧ (∀ l, lo = some l → l ≤ k) ∧ (∀ h, hi = some h → k ≤ h)
  | .malformed, _ => False

theorem valueDiff_false_iff (e : Expect) (v : Option Nat) : valueDiff e v = false ↔ e.accepts v := by
  cases e with
  | single => cases v <;> simp [valueDiff, Expect.accepts]
  | exact n =>
    cases v with
    | none => simp [valueDiff, Expect.accepts]
    | some k => simp [valueDiff, Expect.accepts]
  | malformed => cases v <;> simp [valueDiff, Expect.accepts]
  | range lo hi =>
    cases v with
    | none => simp [valueDiff, Expect.accepts]
    | some k =>
      cases lo <;> cases hi <;> simp [valueDiff, Expect.accepts] <;> omega

/-- the documented rule of `check_signature`: the expected input names, every input of the expected shape -/
def Matches (bsig : List (String × Option Nat)) (esig : List (String × Expect)) : Prop :=
  sameKeys bsig esig = true ∧ ∀ p ∈ esig, ∃ v, bsig.lookup p.1 = some v ∧ p.2.accepts v

theorem sigEq_sound {bsig : List (String × Option Nat)} {esig : List (String × Expect)}
    (h : sigEq bsig esig = true) : Matches bsig esig := by
  unfold Matches
  unfold sigEq at h
  simp only [Bool.and_eq_true, List.all_eq_true] at h
  obtain ⟨hl, ha⟩ := h
  have key : ∀ p ∈ esig, ∃ v, bsig.lookup p.1 = some v ∧ p.2.accepts v := by
    intro p hp
    have := ha p hp
    split at this
    · next h1 h2 => exact ⟨none, h2, by rw [h1]; rfl⟩
    · next n k h1 h2 =>
      refine ⟨some k, h2, ?_⟩
      rw [h1]; simp only [Expect.accepts]
      have : k = n := by simpa using this
      rw [this]
    · cases this
  refine ⟨?_, key⟩
  unfold sameKeys
  simp only [Bool.and_eq_true, List.all_eq_true]
  refine ⟨hl, fun p hp => ?_⟩
  obtain ⟨v, hv, _⟩ := key p hp
  rw [hv]; rfl

/-- the expected item `p` is not matched by the signature `bsig` (as `check_signature` tests it) -/
def differs (bsig : List (String × Option Nat)) (p : String × Expect) : Bool :=
  match bsig.lookup p.1 with
  | some v => valueDiff p.2 v
  | none => true

theorem differs_false_iff (bsig : List (String × Option Nat)) (p : String × Expect) :
    differs bsig p = false ↔ ∃ v, bsig.lookup p.1 = some v ∧ p.2.accepts v := by
  unfold differs
  cases bsig.lookup p.1 with
  | none => exact ⟨nofun, nofun⟩
  | some v =>
    rw [valueDiff_false_iff]
    exact ⟨fun h => ⟨v, rfl, h⟩, fun ⟨_, hv, h⟩ => Option.some.inj hv ▸ h⟩

/-- what both forms of the model's check compute: the fast path `==`, else the same names and no differing item -/
def accepted (bsig : List (String × Option Nat)) (esig : List (String × Expect)) : Bool :=
  sigEq bsig esig || (sameKeys bsig esig && !esig.any (differs bsig))

theorem accepted_iff (bsig : List (String × Option Nat)) (esig : List (String × Expect)) :
    accepted bsig esig = true ↔ Matches bsig esig := by
  have hall : esig.any (differs bsig) = false ↔
      ∀ p ∈ esig, ∃ v, bsig.lookup p.1 = some v ∧ p.2.accepts v := by
    rw [List.any_eq_false]
    exact forall₂_congr fun p _ => by rw [Bool.not_eq_true, differs_false_iff]
  unfold accepted Matches
  rw [Bool.or_eq_true, Bool.and_eq_true, Bool.not_eq_true', hall]
  exact ⟨fun h => h.elim sigEq_sound id, Or.inr⟩

theorem inputSignature_cases (c : Circ) (b : String) :
    (c.inputs b = [] ∧ inputSignature c b = .error .invalidState) ∨
    ∃ bsig, inputSignature c b = .ok bsig := by
  unfold inputSignature
  cases h : c.inputs b with
  | nil => exact Or.inl ⟨rfl, rfl⟩
  | cons p l => exact Or.inr ⟨_, rfl⟩

theorem checkSignature_eq {c : Circ} {b : String} {bsig : List (String × Option Nat)}
    (hs : inputSignature c b = .ok bsig) (esig : List (String × Expect)) :
    checkSignature c b esig = if accepted bsig esig then .ok () else .error .valueError := by
  unfold checkSignature accepted
  rw [hs]
  show (if sigEq bsig esig = true then _ else if (!sameKeys bsig esig) = true then _
    else if esig.any (differs bsig) = true then _ else _) = _
  cases sigEq bsig esig <;> cases sameKeys bsig esig <;> cases esig.any (differs bsig) <;> rfl

theorem checkSignature_ok_iff (c : Circ) (b : String) (esig : List (String × Expect)) :
    checkSignature c b esig = .ok () ↔ ∃ bsig, inputSignature c b = .ok bsig ∧ accepted bsig esig = true := by
  rcases inputSignature_cases c b with ⟨_, he⟩ | ⟨bsig, hs⟩
  · rw [checkSignature, he]
    exact ⟨nofun, fun ⟨_, h, _⟩ => nomatch h⟩
  · rw [checkSignature_eq hs, hs]
    cases ha : accepted bsig esig
    · exact ⟨nofun, fun ⟨_, h, h2⟩ => by cases h; rw [ha] at h2; cases h2⟩
    · exact ⟨fun _ => ⟨bsig, rfl, ha⟩, fun _ => rfl⟩

theorem firstMalformed_differs {bsig : List (String × Option Nat)} {esig : List (String × Expect)}
    {k : String} (h : firstMalformed bsig esig = some k) : esig.any (differs bsig) = true := by
  induction esig with
  | nil => cases h
  | cons p rest ih =>
    obtain ⟨k0, e⟩ := p
    rw [List.any_cons]
    cases e with
    | malformed =>
      cases hl : bsig.lookup k0 with
      | none => simp [differs, hl]
      | some v => cases v <;> simp [differs, hl, valueDiff]
    | _ => rw [ih h, Bool.or_true]

theorem isEmpty_filter {α : Type} (p : α → Bool) (l : List α) : (l.filter p).isEmpty = !l.any p := by
  induction l with
  | nil => rfl
  | cons a l ih => rw [List.filter_cons, List.any_cons]; cases p a <;> simp [ih]

theorem sigDiagnosis_eq (bsig : List (String × Option Nat)) (esig : List (String × Expect)) :
    sigDiagnosis bsig esig =
      if accepted bsig esig then none
      else if !sameKeys bsig esig then
        some (.names ((keysOf bsig).filter fun k => !(keysOf esig).contains k)
          ((keysOf esig).filter fun k => !(keysOf bsig).contains k))
      else match firstMalformed bsig esig with
        | some k => some (.malformed k)
        | none => some (.values (keysOf (esig.filter (differs bsig)))) := by
  unfold accepted
  rw [sigDiagnosis]
  cases sigEq bsig esig
  · cases sameKeys bsig esig
    · rfl
    · cases hm : firstMalformed bsig esig with
      | some k => rw [firstMalformed_differs hm]; rfl
      | none =>
        show (if (keysOf (esig.filter (differs bsig))).isEmpty = true then none else some _) = _
        rw [keysOf, List.isEmpty_map, isEmpty_filter]
        cases esig.any (differs bsig) <;> rfl
  · rfl

theorem sigDiagnosis_none_iff (bsig : List (String × Option Nat)) (esig : List (String × Expect)) :
    sigDiagnosis bsig esig = none ↔ accepted bsig esig = true := by
  rw [sigDiagnosis_eq]
  cases accepted bsig esig
  · refine ⟨fun h => ?_, nofun⟩
    rw [if_neg nofun] at h
    split at h
    · cases h
    · split at h <;> cases h
  · exact ⟨fun _ => rfl, fun _ => rfl⟩

end Edzed.Wiring
