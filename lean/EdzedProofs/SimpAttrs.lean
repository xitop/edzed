/-
The simp sets by which translated methods are run on the primitives they are instantiated with.  A simp
attribute cannot be used in the module that declares it, so all of them are declared here; the tie modules
fill them.
-/
import Lean.Meta.Tactic.Simp.RegisterCommand

/-- `Circuit._simulate` (`Gen.TrL`) on `SimTie.simPrims` (EdzedProofs/SimTie.lean, for C01 and C10): the
    equations `p_*` of the primitives the loop calls on sets and on the world, the drain loop as one mask
    (`foldl_union_eq`: the model's `drain`, unfolded), and the reductions of `Bool`, `decide` and `if` that
    bring a test of the loop to the form of the hypotheses -/
register_simp_attr simtie

/-- the methods of `FSM` translated into `Gen.TrM` / `Gen.TrT` for C04 (EdzedProofs/FsmTie.lean,
    FsmTimerTie.lean, FsmRestoreTie.lean, EdzedProps/C04.lean): the statement combinators and the equations
    of the primitives of the instantiation at hand -/
register_simp_attr trm

/-- `FSM._ctx_event` on `F03.prims` for C03 (EdzedProofs/FsmTie03.lean, EdzedProps/C03.lean): the statement
    combinators of `Gen.TrM` applied to a state, and the equations of the primitives -/
register_simp_attr fsm03

/-- the class- and instance-creation side of `FSM` (`_build_tables`, `__init__`, `_send_events`, `_run_cb`,
    `_event`; EdzedProofs/FsmTablesTie.lean): the combinators of the state monad of `Gen.TrFT`, unfolded on an
    object -/
register_simp_attr trft

/-- the outcome-passing laws of the monad `Gen.TrD.M` of the translated programs (EdzedProofs/TrdRun.lean) -/
register_simp_attr trd

/-- the reductions of `Bool`, `decide` and `if` that bring a test of the translated
    `edzed/utils/timeunits.py` to a proposition about its data, whichever way round the source
    writes it, and the ways of writing `parts.append(x)` under an `if` (EdzedProofs/TimeUnitsTie.lean,
    which also says why the set holds no lemma that drops a decided conjunct) -/
register_simp_attr c19tie

/-- the Boolean algebra by which a test of a translated program evaluates once its atoms are decided,
    whichever way round the source writes it (`not`, `and`/`or` in either order, swapped arms);
    EdzedProofs/PyBool.lean tags the lemmas -/
register_simp_attr pybool
