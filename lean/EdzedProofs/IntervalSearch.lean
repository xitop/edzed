/-
C13: `_match_pattern` and the regular expressions of `_convert_str` on the texts they are made for.  `_match_pattern`
searches a pattern from the left and removes what it matched.  A text is seen as pieces (month name, day, year,
`--MMDD`, a time of day) with blanks between them (`Sp`); a pattern passes over pieces (`Skip`) and takes the first one
it does not pass over, and the other pieces remain (`Sp.search`).  With it: what each pattern does with each kind of
piece, what `convert_date_str` answers for a date written with a month name in either order or as `--MMDD`, and the
date part of a date-time (IntervalOrders puts the time of day beside it).  `Skip` is also the scan of `str.split` in
IntervalString.  Core Lean only.
-/
import EdzedModel.Interval
import EdzedProofs.Interval
import EdzedProofs.IntervalText
import EdzedProofs.ListLoops

namespace Edzed.Interval

/-- the scanner `m` passes over `X` when `R` follows it: it fails at every position of `X` -/
def Skip {β : Type} (m : List Char → Option β) (X R : List Char) : Prop :=
  ∀ A1 a A2, X = A1 ++ a :: A2 → m (a :: A2 ++ R) = none

theorem Skip.append {β : Type} {m : List Char → Option β} {X Y R : List Char} (hX : Skip m X (Y ++ R))
    (hY : Skip m Y R) : Skip m (X ++ Y) R := by
  intro A1 a A2 h
  rcases List.append_eq_append_iff.1 h with ⟨t, -, ht⟩ | ⟨t, ht, ht'⟩
  · exact hY t a A2 ht
  · cases t with
    | nil => exact hY [] a A2 ht'.symm
    | cons b t' =>
      rw [List.cons_append, List.cons.injEq] at ht'
      obtain ⟨rfl, rfl⟩ := ht'
      simpa only [List.append_assoc, List.cons_append] using hX A1 a t' ht

theorem skip_first {β : Type} {m : List Char → Option β} {P : Char → Bool}
    (hm : ∀ a r, P a = false → m (a :: r) = none) {X : List Char} (hX : ∀ c ∈ X, P c = false) (R : List Char) :
    Skip m X R :=
  fun A1 a A2 e => hm a _ (hX a (by rw [e]; simp))

theorem skip_blanks {β : Type} {m : List Char → Option β} (hw : ∀ r, m (' ' :: r) = none) {g : List Char}
    (hg : blanks g) (R : List Char) : Skip m g R :=
  fun A1 a A2 e => by rw [hg a (by rw [e]; simp)]; exact hw _

theorem searchGo_skip (m : List Char → Option Match) {A R : List Char} (h : Skip m A R) (pre : List Char) :
    searchGo m pre (A ++ R) = searchGo m (A.reverse ++ pre) R := by
  induction A generalizing pre with
  | nil => rfl
  | cons a A' ih =>
    have h0 := h [] a A' rfl
    simp only [List.cons_append] at h0 ⊢
    simp only [searchGo, h0]
    rw [ih (fun A1 b A2 e => h (a :: A1) b A2 (by simp [e])) (a :: pre)]
    simp

theorem search_hit (m : List Char → Option Match) (A tok B : List Char) (g : List (List Char))
    (hskip : Skip m A (tok ++ B)) (hhit : m (tok ++ B) = some ⟨tok.length, g⟩) :
    search m (A ++ (tok ++ B)) = some (removeMatch A.reverse B, g) := by
  unfold search
  rw [searchGo_skip m hskip [], List.append_nil]
  cases h : tok ++ B with
  | nil =>
    rw [h] at hhit
    obtain ⟨rfl, rfl⟩ := List.append_eq_nil_iff.1 h
    simp only [searchGo, hhit, Option.map_some]
  | cons c cs =>
    rw [h] at hhit
    simp only [searchGo, hhit]
    rw [← h, List.drop_left]

theorem search_none (m : List Char → Option Match) {s : List Char} (hnil : m [] = none) (hs : Skip m s []) :
    search m s = none := by
  have := searchGo_skip m hs []
  rw [List.append_nil] at this
  rw [search, this]
  simp only [searchGo, hnil, Option.map_none]

/-- what `_match_pattern` leaves: the text before and after the match, joined by a blank when both exist -/
theorem removeMatch_reverse (A B : List Char) :
    ∃ w, blanks w ∧ (w = [] → B = [] ∨ A = []) ∧ removeMatch A.reverse B = A ++ w ++ B := by
  cases A with
  | nil => exact ⟨[], blanks_nil, fun _ => Or.inr rfl, by simp [removeMatch]⟩
  | cons a A' =>
    cases B with
    | nil => exact ⟨[], blanks_nil, fun _ => Or.inl rfl, by simp [removeMatch]⟩
    | cons b B' => exact ⟨[' '], by simp [blanks], fun e => by simp at e, by simp [removeMatch]⟩

/-- what may follow a piece -/
abbrev Fol (ok : Char → Bool) : List Char → Prop := Next fun c => c = ' ' ∨ ok c = true

/-- `Sp stop ps s`: the text `s` consists of the non-empty pieces `ps` in this order, with blanks before, between
    and after them.  A piece `p` may also be followed directly by a piece whose first character `stop p` admits.
    The blanks are not named: a text with one piece taken out by `_match_pattern` is again such a text. -/
inductive Sp (stop : List Char → Char → Bool) : List (List Char) → List Char → Prop
  | nil {g : List Char} (hg : blanks g) : Sp stop [] g
  | cons {g p s : List Char} {ps : List (List Char)} (hg : blanks g) (hp : p ≠ []) (hs : Sp stop ps s)
      (hf : Fol (stop p) s) : Sp stop (p :: ps) (g ++ (p ++ s))

/-- pieces that only blanks separate -/
abbrev noStop : List Char → Char → Bool := fun _ _ => false

theorem Fol.endOk {p R : List Char} (h : Fol (noStop p) R) : EndOk R :=
  h.imp_right fun ⟨_, r, e, hc⟩ => ⟨r, hc.resolve_right nofun ▸ e⟩

section
variable {stop : List Char → Char → Bool}

theorem Sp.blanks_append {g s : List Char} {ps : List (List Char)} (hg : blanks g) (h : Sp stop ps s) :
    Sp stop ps (g ++ s) := by
  cases h with
  | nil h' => exact .nil (hg.append h')
  | cons h' hp hs hf =>
    rw [← List.append_assoc]
    exact .cons (hg.append h') hp hs hf

/-- `w` stands for the blanks that `_match_pattern` leaves in the place of `x`: at least one unless `x` stood at an
    end -/
theorem Sp.split {β : Type} {m : List Char → Option β} (hw : ∀ r, m (' ' :: r) = none) {x : List Char}
    {post pre : List (List Char)} {s : List Char} (h : Sp stop (pre ++ x :: post) s)
    (hskip : ∀ p ∈ pre, ∀ R, Fol (stop p) R → Skip m p R) :
    ∃ A B, s = A ++ (x ++ B) ∧ Skip m A (x ++ B) ∧ Fol (stop x) B ∧
      ∀ w, blanks w → (w = [] → B = [] ∨ A = []) → Sp stop (pre ++ post) (A ++ w ++ B) := by
  induction pre generalizing s with
  | nil =>
    rw [List.nil_append] at h
    cases h with
    | @cons g _ s1 _ hg hp hs hf =>
      exact ⟨g, s1, rfl, skip_blanks hw hg _, hf, fun w hw' _ => Sp.blanks_append (hg.append hw') hs⟩
  | cons q pre ih =>
    rw [List.cons_append] at h
    cases h with
    | @cons g _ s1 _ hg hp hs hf =>
      obtain ⟨A', B, rfl, hS, hB, hsp⟩ := ih hs (fun q hq => hskip q (List.mem_cons_of_mem _ hq))
      have he : ∀ {w : List Char}, (w = [] → B = [] ∨ g ++ (q ++ A') = []) → w = [] → B = [] :=
        fun hwe e => (hwe e).resolve_right (by simp [hp])
      refine ⟨g ++ (q ++ A'), B, by simp only [List.append_assoc], ?_, hB, fun w hw' hwe => ?_⟩
      · exact Skip.append (skip_blanks hw hg _) (Skip.append (hskip _ (List.mem_cons_self ..) _ hf) hS)
      · -- `q` keeps a permitted follower: blanks stand where `x` stood, or `x` was the last piece
        have := Sp.cons (stop := stop) hg hp (hsp w hw' fun e => Or.inl (he hwe e))
          (hf.replace (Or.inl rfl) hw' (he hwe))
        simpa only [List.append_assoc, List.cons_append] using this

/-- `_match_pattern` on a text of pieces: the pattern passes over the pieces before `x` and takes `x`; the other pieces
    remain -/
theorem Sp.search {m : List Char → Option Match} (hw : ∀ r, m (' ' :: r) = none) {x s : List Char}
    {pre post : List (List Char)} {grp : List (List Char)} (h : Sp stop (pre ++ x :: post) s)
    (hskip : ∀ p ∈ pre, ∀ R, Fol (stop p) R → Skip m p R)
    (htake : ∀ R, Fol (stop x) R → m (x ++ R) = some ⟨x.length, grp⟩) :
    ∃ s', Sp stop (pre ++ post) s' ∧ Interval.search m s = some (s', grp) := by
  obtain ⟨A, B, rfl, hS, hB, hsp⟩ := h.split hw hskip
  obtain ⟨w, hwh, hwe, e⟩ := removeMatch_reverse A B
  exact ⟨_, hsp w hwh hwe, e ▸ search_hit m A x B grp hS (htake B hB)⟩

theorem Sp.search_none {m : List Char → Option Match} (hw : ∀ r, m (' ' :: r) = none) (hnil : m [] = none)
    {s : List Char} {ps : List (List Char)} (h : Sp stop ps s)
    (hskip : ∀ p ∈ ps, ∀ R, Fol (stop p) R → Skip m p R) : Interval.search m s = none := by
  refine Interval.search_none m hnil ?_
  induction h with
  | nil hg => exact skip_blanks hw hg _
  | cons hg hp hs hf ih =>
    refine Skip.append (skip_blanks hw hg _) (Skip.append ?_ (ih fun q hq => hskip q (List.mem_cons_of_mem _ hq)))
    rw [List.append_nil]; exact hskip _ (List.mem_cons_self ..) _ hf

theorem Sp.forall_mem {P : Char → Prop} (hb : P ' ') {s : List Char} {ps : List (List Char)}
    (h : Sp stop ps s) (hp : ∀ p ∈ ps, ∀ c ∈ p, P c) : ∀ c ∈ s, P c := by
  induction h with
  | nil hg => exact fun c hc => hg c hc ▸ hb
  | cons hg hp' hs hf ih =>
    simp only [List.forall_mem_append]
    exact ⟨fun c hc => hg c hc ▸ hb, hp _ (List.mem_cons_self ..), ih fun q hq => hp q (List.mem_cons_of_mem _ hq)⟩

theorem Sp.white {s : List Char} (h : Sp stop [] s) : White s := by
  cases h with
  | nil hg => exact white_of_blanks hg

theorem joinSp_cons_ne (a : List Char) {l : List (List Char)} (h : l ≠ []) :
    joinSp (a :: l) = a ++ ' ' :: joinSp l := by
  cases l with
  | nil => exact absurd rfl h
  | cons b rest => rfl

theorem Sp.of_joinSp : ∀ {ts : List (List Char)}, (∀ t ∈ ts, t ≠ []) → Sp stop ts (joinSp ts)
  | [], _ => .nil blanks_nil
  | [a], h => by
    simpa [joinSp] using Sp.cons (stop := stop) (g := []) blanks_nil (h a (by simp)) (.nil blanks_nil) (Or.inl rfl)
  | a :: b :: r, h => by
    have ih : Sp stop (b :: r) ([' '] ++ joinSp (b :: r)) :=
      (Sp.of_joinSp fun t ht => h t (List.mem_cons_of_mem _ ht)).blanks_append (by simp [blanks])
    rw [joinSp_cons_ne _ (by simp)]
    simpa using Sp.cons (stop := stop) (g := []) blanks_nil (h a (by simp)) ih (Or.inr ⟨' ', _, rfl, Or.inl rfl⟩)

end

theorem perm_split {α : Type} {x : α} {ts l : List α} (h : ts.Perm (x :: l)) :
    ∃ pre post, ts = pre ++ x :: post ∧ (pre ++ post).Perm l := by
  obtain ⟨pre, post, rfl⟩ := List.append_of_mem (h.symm.subset (List.mem_cons_self ..))
  exact ⟨pre, post, rfl, (List.perm_middle.symm.trans h).cons_inv⟩

/-- an optional period, as `\.?` takes it -/
def OptDot (p : List Char) : Prop := p = [] ∨ p = ['.']

/-- `B` does not continue a token of `P`-characters with its optional period -/
abbrev Stops (P : Char → Bool) : List Char → Prop := Next fun c => P c = false ∧ c ≠ '.'

theorem optDot_next {P : Char → Bool} {p B : List Char} (hp : OptDot p) (hB : Stops P B) (hdot : P '.' = false) :
    Next (P · = false) (p ++ B) ∧ periodNext (p ++ B) = (p == ['.']) ∧
      p.length = if p == ['.'] then 1 else 0 := by
  rcases hp with rfl | rfl
  · rcases hB with rfl | ⟨c, r, rfl, hc, hd⟩
    · exact ⟨Or.inl rfl, rfl, rfl⟩
    · exact ⟨Or.inr ⟨c, r, rfl, hc⟩, by simp [Interval.periodNext, hd], rfl⟩
  · exact ⟨Or.inr ⟨'.', B, rfl, hdot⟩, rfl, rfl⟩

theorem takeWhile_run (P : Char → Bool) (q R : List Char) (hq : ∀ z ∈ q, P z = true)
    (hR : Next (P · = false) R) :
    (q ++ R).takeWhile P = q ∧ (q ++ R).dropWhile P = R := by
  induction q with
  | nil => rcases hR with rfl | ⟨c, r, rfl, hc⟩ <;> simp [*]
  | cons x xs ih =>
    have := ih (fun z hz => hq z (by simp [hz]))
    simp [hq x (by simp), this.1, this.2]

theorem reMonth_nonalpha {a : Char} (h : isAlpha a = false) (r : List Char) : reMonth (a :: r) = none := by
  simp [reMonth, h]

theorem reMonth_tok {name p B : List Char} (ha : ∀ c ∈ name, isAlpha c = true) (h3 : 3 ≤ name.length)
    (hp : OptDot p) (hB : Stops isAlpha B) : reMonth (name ++ p ++ B) = some ⟨(name ++ p).length, [name]⟩ := by
  obtain ⟨h1, h2, h4⟩ := optDot_next hp hB (by decide)
  have ht := takeWhile_run isAlpha name (p ++ B) ha h1
  rw [List.append_assoc]
  simp only [reMonth, ht.1, ht.2, h2, ge_iff_le, h3, ↓reduceIte, List.length_append, h4]
  split <;> rfl

theorem reDay_nondigit {a : Char} (h : isDigit a = false) (r : List Char) : reDay (a :: r) = none := by
  cases r <;> simp [reDay, digits12, h]

theorem reDay_tok {D q B : List Char} (hD : Dig12 D) (hq : OptDot q) (hB : Stops isDigit B) :
    reDay (D ++ q ++ B) = some ⟨(D ++ q).length, [D]⟩ := by
  obtain ⟨h1, h2, h4⟩ := optDot_next hq hB (by decide)
  rw [List.append_assoc]
  simp only [reDay, digits12_tok hD h1, h2, List.length_append, h4]
  split <;> rfl

theorem reIsoDM_nondash {a : Char} (h : a ≠ '-') (r : List Char) : reIsoDM (a :: r) = none := by
  cases r <;> simp [reIsoDM, h]

theorem skip_nodash {t : List Char} (h : '-' ∉ t) (R : List Char) : Skip reIsoDM t R :=
  skip_first (P := (· == '-')) (fun a r ha => reIsoDM_nondash (by simpa using ha) r)
    (fun c hc => by simp only [beq_eq_false_iff_ne, ne_eq]; rintro rfl; exact h hc) R

theorem hourColon_nondigit {a : Char} (h : isDigit a = false) (r : List Char) : hourColon (a :: r) = none := by
  match r with
  | [] => rfl
  | [b] => simp [hourColon, h]
  | b :: c :: r => simp [hourColon, h]

theorem hourColon_nocolon (a b c : Char) (r : List Char) (hb : (b == ':') = false) (hc : (c == ':') = false) :
    hourColon (a :: b :: c :: r) = none := by simp [hourColon, hb, hc]

/-- `_RE_TIME` passes over a piece without a colon: an hour needs its colon within three characters, and a blank or
    the end comes first -/
theorem skip_reTime {p R : List Char} (hp : ':' ∉ p) (hR : EndOk R) : Skip reTime p R := by
  intro A1 a A2 e
  have hmem : ∀ x ∈ A2, (x == ':') = false := fun x hx => by
    simp only [beq_eq_false_iff_ne, ne_eq]; rintro rfl; exact hp (by rw [e]; simp [hx])
  suffices hq : hourColon (a :: A2 ++ R) = none by unfold reTime; rw [hq]
  match A2, hmem with
  | [], _ => rcases hR with rfl | ⟨r, rfl⟩ <;> first | rfl | (cases r <;> simp [hourColon])
  | [b], hmem => rcases hR with rfl | ⟨r, rfl⟩ <;> simp [hourColon, hmem b (by simp)]
  | b :: c :: A3, hmem => exact hourColon_nocolon _ _ _ _ (hmem b (by simp)) (hmem c (by simp))

/-- the characters of a date written with a month name -/
def DateChar (a : Char) : Prop := isSpace a = true ∨ isAlpha a = true ∨ isDigit a = true ∨ a = '.'

theorem dateChar_clean {a : Char} (h : DateChar a) : a ≠ '/' ∧ a ≠ ';' ∧ a ≠ '-' ∧ a ≠ ':' := by
  have ne : ∀ d : Char, isSpace d = false → isAlpha d = false → isDigit d = false → d ≠ '.' → a ≠ d := by
    intro d h1 h2 h3 h4 e
    subst e
    rcases h with h | h | h | h
    · rw [h] at h1; cases h1
    · rw [h] at h2; cases h2
    · rw [h] at h3; cases h3
    · exact h4 h
  exact ⟨ne '/' rfl rfl rfl (by decide), ne ';' rfl rfl rfl (by decide), ne '-' rfl rfl rfl (by decide),
    ne ':' rfl rfl rfl (by decide)⟩

theorem DateChar.ascii {a : Char} (h : DateChar a) : asciiC a = true := by
  rcases h with h | h | h | rfl
  · exact (isSpace_props h).2.2
  · exact (isAlpha_props h).2.2
  · exact (isDigit_props h).2
  · rfl

theorem monthDay_of_searches {s s1 s2 name D : List Char} {mo : Nat} (hiso : search reIsoDM s = none)
    (hmon : search reMonth s = some (s1, [name])) (hname : nameToMonth name = some mo)
    (hday : search reDay s1 = some (s2, [D])) : monthDay s = .ok (s2, mo, numOf D) := by
  simp only [monthDay, hiso, hmon, hname, hday]

/-- a spelling of the name of month `mo` that `_RE_MONTH` matches and `_name_to_month` resolves -/
structure MonthName (mo : Nat) (name : List Char) : Prop where
  alpha : ∀ c ∈ name, isAlpha c = true
  long : 3 ≤ name.length
  month : nameToMonth name = some mo

theorem month_piece_chars {name p : List Char} {mo : Nat} (hn : MonthName mo name) (hp : OptDot p) :
    ∀ c ∈ name ++ p, DateChar c ∧ isDigit c = false := by
  simp only [List.forall_mem_append]
  refine ⟨fun c h => ⟨Or.inr (Or.inl (hn.alpha c h)), (isAlpha_props (hn.alpha c h)).1⟩, fun c h => ?_⟩
  rcases hp with rfl | rfl <;> simp at h
  subst h; exact ⟨Or.inr (Or.inr (Or.inr rfl)), rfl⟩

theorem day_piece_chars {D q : List Char} (hD : Dig12 D) (hq : OptDot q) :
    ∀ c ∈ D ++ q, DateChar c ∧ isAlpha c = false := by
  simp only [List.forall_mem_append]
  refine ⟨fun c h => ⟨Or.inr (Or.inr (Or.inl (hD.digits c h))), isDigit_nonalpha (hD.digits c h)⟩, fun c h => ?_⟩
  rcases hq with rfl | rfl <;> simp at h
  subst h; exact ⟨Or.inr (Or.inr (Or.inr rfl)), rfl⟩

theorem date_pieces_chars {name p D q : List Char} {mo : Nat} {ts : List (List Char)} (hn : MonthName mo name)
    (hp : OptDot p) (hD : Dig12 D) (hq : OptDot q) (hperm : ts.Perm [name ++ p, D ++ q]) :
    ∀ t ∈ ts, ∀ c ∈ t, DateChar c := fun t ht =>
  forall_mem_pair (P := fun t => ∀ c ∈ t, DateChar c) (fun c h => (month_piece_chars hn hp c h).1)
    (fun c h => (day_piece_chars hD hq c h).1) t (hperm.subset ht)

/-- month name (three or more letters, optional period) and day (one or two digits, optional period) as the two
    pieces of a text, in either order: `_RE_ISO_DM` finds nothing, `_RE_MONTH` takes the name, `_RE_DAY` the day -/
theorem monthDay_pieces {stop : List Char → Char → Bool} {name p D q s : List Char} {mo : Nat}
    {ts : List (List Char)} (hn : MonthName mo name) (hp : OptDot p) (hD : Dig12 D) (hq : OptDot q)
    (hsM : ∀ c, stop (name ++ p) c = true → isAlpha c = false ∧ c ≠ '.')
    (hsD : ∀ c, stop (D ++ q) c = true → isDigit c = false ∧ c ≠ '.')
    (h : Sp stop ts s) (hperm : ts.Perm [name ++ p, D ++ q]) :
    ∃ rest, White rest ∧ monthDay s = .ok (rest, mo, numOf D) := by
  have cD := day_piece_chars hD hq
  have hiso : search reIsoDM s = none :=
    h.search_none (fun r => reIsoDM_nondash (by decide) r) rfl fun t ht R _ => skip_nodash (fun hm =>
      (dateChar_clean (date_pieces_chars hn hp hD hq hperm t ht _ hm)).2.2.1 rfl) R
  obtain ⟨pre, post, rfl, h1⟩ := perm_split hperm
  obtain ⟨s1, sp1, e1⟩ := h.search (m := reMonth) (grp := [name]) (fun r => reMonth_nonalpha rfl r)
    (fun t ht R _ => skip_first (fun a r h => reMonth_nonalpha h r) (fun c hc => by
      have : t = D ++ q := by simpa using h1.mem_iff.1 (List.mem_append_left _ ht)
      exact (cD c (this ▸ hc)).2) R)
    (fun R hR => reMonth_tok hn.alpha hn.long hp (hR.mono fun c hc => hc.elim (fun e => e ▸ ⟨rfl, by decide⟩) (hsM c)))
  obtain ⟨pre', post', e, h0⟩ := perm_split h1
  rw [e] at sp1
  obtain ⟨s2, sp2, e2⟩ := sp1.search (m := reDay) (grp := [D]) (fun r => reDay_nondigit rfl r)
    (fun t ht => by simpa using h0.mem_iff.1 (List.mem_append_left _ ht))
    (fun R hR => reDay_tok hD hq (hR.mono fun c hc => hc.elim (fun e => e ▸ ⟨rfl, by decide⟩) (hsD c)))
  rw [List.perm_nil.1 h0] at sp2
  exact ⟨s2, sp2.white, monthDay_of_searches hiso e1 hn.month e2⟩

theorem convertDateCore_of_monthDay {s rest : List Char} {mo d : Nat} (h : monthDay s = .ok (rest, mo, d))
    (hw : White rest) (hv : validDate [mo, d] = true) : convertDateCore s = .ok [mo, d] := by
  simp only [convertDateCore, dateRaw, h, Res.bind_ok, strip_white hw, List.isEmpty_nil, ↓reduceIte, checkEp,
    validEp, hv]

theorem convertStr_date_of_core {pre X post : List Char} {e : Ep} (hpre : White pre) (hpost : White post)
    (hX : ∀ a ∈ X, asciiC a = true) (ht : trimmedB X = true) (hc : convertDateCore X = .ok e) :
    convertStr .date (pre ++ X ++ post) = .ok e := by
  rw [convertStr_padded (List.all_eq_true.2 hX) ht hpre hpost]
  exact convertStr_of_trimmed (k := .date) (List.all_eq_true.2 hX) ht hc

theorem lastOk_optDot {Y p : List Char} (hp : OptDot p) (hY : LastOk Y) : LastOk (Y ++ p) := by
  rcases hp with rfl | rfl
  · rwa [List.append_nil]
  · exact LastOk.append_left Y rfl

theorem alpha_firstLast {name : List Char} (ha : ∀ c ∈ name, isAlpha c = true) (h3 : 3 ≤ name.length) :
    FirstOk name ∧ LastOk name := by
  cases name with
  | nil => simp at h3
  | cons a r =>
    refine ⟨firstOk_cons (isAlpha_props (ha a (by simp))).2.1, ?_⟩
    unfold LastOk
    cases h : (a :: r).getLast? with
    | none => simp at h
    | some z => simp [(isAlpha_props (ha z (List.mem_of_getLast? h))).2.1]

theorem MonthName.head_alpha {mo : Nat} {name : List Char} (hn : MonthName mo name) (X : List Char) :
    ∃ c r, name ++ X = c :: r ∧ isAlpha c = true := by
  cases name with
  | nil => exact absurd hn.long (by simp)
  | cons a r => exact ⟨a, r ++ X, rfl, hn.alpha a (by simp)⟩

/-- in a date without time and year a day may follow a month name directly, and the other way round -/
def dateStop : List Char → Char → Bool
  | a :: _, c => if isAlpha a then isDigit c else isAlpha c
  | [], _ => false

theorem dateStop_month {mo : Nat} {name : List Char} (hn : MonthName mo name) (p : List Char) (c : Char) :
    dateStop (name ++ p) c = isDigit c := by
  obtain ⟨a, r, e, ha⟩ := hn.head_alpha p
  simp only [e, dateStop, ha, ↓reduceIte]

theorem dateStop_day {D : List Char} (hD : Dig12 D) (q : List Char) (c : Char) : dateStop (D ++ q) c = isAlpha c := by
  obtain ⟨b, r, e, hb⟩ := hD.head_digit q
  simp only [e, dateStop, isDigit_nonalpha hb, Bool.false_eq_true, ↓reduceIte]

theorem Sp.two {stop : List Char → Char → Bool} {x y g y' : List Char} {c : Char} (hg : blanks g)
    (hx : x ≠ []) (hy : y = c :: y') (hadj : g = [] → stop x c = true) : Sp stop [x, y] (x ++ (g ++ y)) := by
  subst hy
  have hf : Fol (stop x) (g ++ (c :: y' ++ [])) := by
    cases g with
    | nil => exact Or.inr ⟨c, _, rfl, Or.inr (hadj rfl)⟩
    | cons b g' => exact Or.inr ⟨b, _, rfl, Or.inl (hg b (by simp))⟩
  have := Sp.cons (stop := stop) (g := []) blanks_nil hx
    (Sp.cons hg (List.cons_ne_nil _ _) (.nil blanks_nil) (Or.inl rfl)) hf
  simpa only [List.nil_append, List.append_nil] using this

/-- a date whose pieces are a month name and a day, for `convert_date_str`: surrounded by any whitespace -/
theorem date_of_pieces {name p D q X pre post : List Char} {mo : Nat} {ts : List (List Char)}
    (hn : MonthName mo name) (hp : OptDot p) (hD : Dig12 D) (hq : OptDot q) (sp : Sp dateStop ts X)
    (hperm : ts.Perm [name ++ p, D ++ q]) (ht : trimmedB X = true) {d : Nat} (hd : numOf D = d)
    (hv : validDate [mo, d] = true) (hpre : White pre) (hpost : White post) :
    convertStr .date (pre ++ X ++ post) = .ok [mo, d] := by
  subst hd
  obtain ⟨rest, hw, hmd⟩ := monthDay_pieces hn hp hD hq
    (fun c hc => by rw [dateStop_month hn] at hc; exact ⟨isDigit_nonalpha hc, isDigit_ne hc rfl⟩)
    (fun c hc => by
      rw [dateStop_day hD] at hc
      exact ⟨(isAlpha_props hc).1, ne_of_class hc (by decide)⟩) sp hperm
  refine convertStr_date_of_core hpre hpost (fun c hc => DateChar.ascii ?_) ht (convertDateCore_of_monthDay hmd hw hv)
  exact Sp.forall_mem (P := DateChar) (Or.inl rfl) sp (date_pieces_chars hn hp hD hq hperm) c hc

theorem date_month_day {name p D q g pre post : List Char} {mo : Nat}
    (hn : MonthName mo name) (hp : OptDot p) (hD : Dig12 D) (hq : OptDot q) (hg : blanks g)
    {d : Nat} (hd : numOf D = d) (hv : validDate [mo, d] = true) (hpre : White pre) (hpost : White post) :
    convertStr .date (pre ++ (name ++ (p ++ (g ++ (D ++ q)))) ++ post) = .ok [mo, d] := by
  obtain ⟨a, r, ea, -⟩ := hn.head_alpha p
  obtain ⟨b, r', eb, hb⟩ := hD.head_digit q
  have := date_of_pieces hn hp hD hq
    (Sp.two hg (ea ▸ List.cons_ne_nil _ _) eb fun _ => by rw [dateStop_month hn]; exact hb) (.refl _)
    (trimmedB_append (firstOk_append p (alpha_firstLast hn.alpha hn.long).1)
      (LastOk.append_left g (lastOk_optDot hq hD.firstLast.2))) hd hv hpre hpost
  simpa only [List.append_assoc] using this

theorem date_day_month {name p D q g pre post : List Char} {mo : Nat}
    (hn : MonthName mo name) (hp : OptDot p) (hD : Dig12 D) (hq : OptDot q) (hg : blanks g)
    {d : Nat} (hd : numOf D = d) (hv : validDate [mo, d] = true) (hpre : White pre) (hpost : White post) :
    convertStr .date (pre ++ (D ++ (q ++ (g ++ (name ++ p)))) ++ post) = .ok [mo, d] := by
  obtain ⟨a, r, ea, ha⟩ := hn.head_alpha p
  obtain ⟨b, r', eb, -⟩ := hD.head_digit q
  have := date_of_pieces hn hp hD hq
    (Sp.two hg (eb ▸ List.cons_ne_nil _ _) ea fun _ => by rw [dateStop_day hD]; exact ha) (.swap ..)
    (trimmedB_append (firstOk_append q hD.firstLast.1)
      (LastOk.append_left g (lastOk_optDot hp (alpha_firstLast hn.alpha hn.long).2))) hd hv hpre hpost
  simpa only [List.append_assoc] using this

theorem take4digits_pad4 (n : Nat) (r : List Char) : take4digits (pad 4 n ++ r) = some (pad 4 n, r) := by
  simp [pad4, take4digits]

theorem take4digits_nondigit {s : List Char} {c : Char} (i : Nat) (hi : i < 4) (hs : s[i]? = some c)
    (hc : isDigit c = false) : take4digits s = none := by
  rcases s with _ | ⟨a, _ | ⟨b, _ | ⟨c', _ | ⟨d, r⟩⟩⟩⟩ <;> try rfl
  match i, hi with
  | 0, _ | 1, _ | 2, _ | 3, _ =>
    simp only [List.getElem?_cons_zero, List.getElem?_cons_succ, Option.some.injEq] at hs
    subst hs
    simp [take4digits, hc]

theorem take4digits_short {t R : List Char} (hl : t.length < 4)
    (hR : NoDigitNext R) : take4digits (t ++ R) = none := by
  rcases hR with rfl | ⟨c, r, rfl, hc⟩
  · rcases t with _ | ⟨_, _ | ⟨_, _ | ⟨_, _ | ⟨_, t⟩⟩⟩⟩ <;> first | rfl | (simp at hl; omega)
  · exact take4digits_nondigit t.length hl (by simp) hc

theorem reYMD_of_take4 {s : List Char} (h : take4digits s = none) : reYMD s = none := by
  simp only [reYMD, h]

theorem reYMD_nondigit {a : Char} (h : isDigit a = false) (r : List Char) : reYMD (a :: r) = none :=
  reYMD_of_take4 (take4digits_nondigit (s := a :: r) 0 (by decide) rfl h)

theorem reYear_nondigit {a : Char} (h : isDigit a = false) (r : List Char) : reYear (a :: r) = none := by
  simp only [reYear, take4digits_nondigit (s := a :: r) 0 (by decide) rfl h]

theorem skip_four_short {t R : List Char} (hl : t.length < 4)
    (hR : NoDigitNext R) : Skip take4digits t R := fun A1 a A2 e =>
  take4digits_short (t := a :: A2) (by rw [e] at hl; simp at hl ⊢; omega) hR

/-- `_RE_YMD` needs a hyphen right after four digits -/
theorem reYMD_nohyphen (a b c d x : Char) (r : List Char) (hx : (x == '-') = false) :
    reYMD (a :: b :: c :: d :: x :: r) = none := by
  cases h : (isDigit a && isDigit b && isDigit c && isDigit d) <;>
    simp only [reYMD, take4digits, h, hx, if_true, Bool.false_eq_true, if_false]

/-- `_RE_YMD` passes over a piece without a hyphen: four digits need their hyphen, and a blank or the end comes
    first -/
theorem skip_reYMD_nohyphen {p R : List Char} (hp : '-' ∉ p) (hR : EndOk R) : Skip reYMD p R := by
  intro A1 a A2 e
  have hmem : ∀ x ∈ A2, (x == '-') = false := fun x hx => by
    simp only [beq_eq_false_iff_ne, ne_eq]; rintro rfl; exact hp (by rw [e]; simp [hx])
  match A2, hmem with
  | b :: c :: d :: x :: A3, hmem => exact reYMD_nohyphen _ _ _ _ _ _ (hmem x (by simp))
  | [b, c, d], _ =>
    rcases hR with rfl | ⟨r, rfl⟩
    · simp [reYMD, take4digits]
    · exact reYMD_nohyphen _ _ _ _ _ _ rfl
  | [b, c], _ | [b], _ | [], _ =>
    exact reYMD_of_take4 (take4digits_short (by simp) hR.noDigit)

theorem nohyphen_digits {ds : List Char} (hd : ∀ c ∈ ds, isDigit c = true) : '-' ∉ ds :=
  fun h => absurd (hd _ h) (by decide)

/-- `YYYY-MM-DD` -/
def ymdNum (y mo d : Nat) : List Char := pad 4 y ++ '-' :: pad 2 mo ++ '-' :: pad 2 d

/-- `YYYY-mon-DD` with a month name of three letters -/
def ymdName (a b c : Char) (y d : Nat) : List Char := pad 4 y ++ '-' :: a :: b :: c :: '-' :: pad 2 d

theorem reYMD_num (y mo d : Nat) (B : List Char) :
    reYMD (ymdNum y mo d ++ B) = some ⟨(ymdNum y mo d).length, [pad 4 y, pad 2 mo, pad 2 d]⟩ := by
  simp [ymdNum, reYMD, pad4, pad2, take4digits, take2digits]

theorem reYMD_name {name : List Char} (ha : ∀ c ∈ name, isAlpha c = true) (h3 : 3 ≤ name.length) (y d : Nat)
    (B : List Char) :
    reYMD (pad 4 y ++ '-' :: name ++ '-' :: pad 2 d ++ B) =
      some ⟨(pad 4 y ++ '-' :: name ++ '-' :: pad 2 d).length, [pad 4 y, name, pad 2 d]⟩ := by
  have ht := takeWhile_run isAlpha name ('-' :: (pad 2 d ++ B)) ha (Or.inr ⟨'-', _, rfl, rfl⟩)
  have e : pad 4 y ++ '-' :: name ++ '-' :: pad 2 d ++ B = pad 4 y ++ '-' :: (name ++ '-' :: (pad 2 d ++ B)) := by
    simp only [List.append_assoc, List.cons_append]
  rw [e]
  simp only [reYMD, take4digits_pad4, beq_self_eq_true, ↓reduceIte, ht.1, ht.2, ge_iff_le, h3, take2digits_pad2,
    List.length_append, List.length_cons, pad_length]
  simp only [Nat.add_assoc, Nat.add_comm, Nat.add_left_comm]

/-- what `_convert_str(..., with_time=True)` does once the time has been taken out: the body of the model's
    `dateTimeRaw` after `convertTimeStr t`, word for word (`dateTimeRaw_eq` is `rfl`); a part of a definition cannot be named otherwise -/
def afterTime (s : List Char) (tm : Ep) : Res Ep :=
  let ymd : Res (List Char × Nat × Option (Nat × Nat)) :=
    match search reYMD s with
    | some (s, [y, mo, d]) =>
      if mo.all isDigit then .ok (s, numOf y, some (numOf mo, numOf d))
      else (match nameToMonth mo with
            | some m => .ok (s, numOf y, some (m, numOf d))
            | none => .err .value)
    | some _ => .unsupported
    | none =>
      match search reYear s with
      | some (s, [y]) => .ok (s, numOf y, none)
      | _ => .err .value
  ymd.bind fun (s, y, md) =>
    let md' : Res (List Char × Nat × Nat) :=
      match md with
      | some (mo, d) => .ok (s, mo, d)
      | none => monthDay s
    md'.bind fun (rest, mo, d) =>
      if (strip rest).isEmpty then .ok ([y, mo, d] ++ tm) else .err .value

theorem dateTimeRaw_eq (s : List Char) :
    dateTimeRaw s = match search reTime s with
      | some (s, [t]) => (convertTimeStr t).bind fun tm => afterTime s tm
      | _ => .err .value := by
  rfl

/-- a hyphenated date `Z` (`_RE_YMD` matches all of it) is what is left beside the time -/
theorem afterTime_ymd {Z mon s : List Char} (y m d : Nat) (tm : Ep) (h : Sp noStop [Z] s) (hy : y ≤ 9999)
    (hd : d ≤ 99) (hre : ∀ R, reYMD (Z ++ R) = some ⟨Z.length, [pad 4 y, mon, pad 2 d]⟩)
    (hmon : (mon.all isDigit = true ∧ numOf mon = m) ∨ (mon.all isDigit = false ∧ nameToMonth mon = some m)) :
    afterTime s tm = .ok ([y, m, d] ++ tm) := by
  obtain ⟨s', sp, hs⟩ := Sp.search (pre := []) (post := []) (fun r => reYMD_nondigit rfl r) h
    (fun _ hp => nomatch hp) (fun R _ => hre R)
  have hw := strip_white sp.white
  rcases hmon with ⟨h1, h2⟩ | ⟨h1, h2⟩ <;>
    simp only [afterTime, hs, h1, h2, ↓reduceIte, Bool.false_eq_true, Res.bind_ok, hw, List.isEmpty_nil, numOf_pad,
      Nat.mod_eq_of_lt (show y < 10 ^ 4 by omega), Nat.mod_eq_of_lt (show d < 10 ^ 2 by omega)]

/-- the year among other pieces, none of which holds a `YYYY-MM-DD`, those before it no four digits: `_RE_YEAR` takes
    the year, and month and day come from the pieces that are left -/
theorem afterTime_year {pre post : List (List Char)} {s : List Char} {y mo d : Nat} (tm : Ep) (hy : y ≤ 9999)
    (h : Sp noStop (pre ++ pad 4 y :: post) s)
    (hymd : ∀ t ∈ pre ++ post, ∀ R, EndOk R → Skip reYMD t R) (hyear : ∀ t ∈ pre, ∀ R, EndOk R → Skip reYear t R)
    (hmd : ∀ s', Sp noStop (pre ++ post) s' → ∃ rest, White rest ∧ monthDay s' = .ok (rest, mo, d)) :
    afterTime s tm = .ok ([y, mo, d] ++ tm) := by
  have h1 : search reYMD s = none := by
    refine h.search_none (fun r => reYMD_nondigit rfl r) rfl fun t ht R hR => ?_
    have hE := hR.endOk
    rcases List.mem_append.1 ht with ht | ht
    · exact hymd t (List.mem_append_left _ ht) R hE
    · rcases List.mem_cons.1 ht with rfl | ht
      · exact skip_reYMD_nohyphen (nohyphen_digits (pad_digits 4 y)) hE
      · exact hymd t (List.mem_append_right _ ht) R hE
  obtain ⟨s', sp, h2⟩ := h.search (m := reYear) (grp := [pad 4 y]) (fun r => reYear_nondigit rfl r)
    (fun t ht R hR => hyear t ht R (hR.endOk))
    (fun R _ => by simp only [reYear, take4digits_pad4, pad_length])
  obtain ⟨rest, hw, hm⟩ := hmd s' sp
  simp only [afterTime, h1, h2, Res.bind_ok, hm, strip_white hw, List.isEmpty_nil, ↓reduceIte, numOf_pad,
    Nat.mod_eq_of_lt (show y < 10 ^ 4 by omega)]

/-- `--MMDD` -/
def isoMD (mo d : Nat) : List Char := '-' :: '-' :: pad 2 mo ++ pad 2 d

/-- `--MM-DD` -/
def isoMDd (mo d : Nat) : List Char := '-' :: '-' :: pad 2 mo ++ '-' :: pad 2 d

theorem reIsoDM_tok (mo d : Nat) (Z : List Char) (hZ : Z = isoMD mo d ∨ Z = isoMDd mo d) (B : List Char) :
    reIsoDM (Z ++ B) = some ⟨Z.length, [pad 2 mo, pad 2 d]⟩ := by
  rcases hZ with rfl | rfl
  · simp [isoMD, reIsoDM, take2digits, pad2]
  · simp [isoMDd, reIsoDM, take2digits, pad2]

theorem monthDay_iso {stop : List Char → Char → Bool} {mo d : Nat} {Z s : List Char}
    (hZ : Z = isoMD mo d ∨ Z = isoMDd mo d) (h : Sp stop [Z] s) :
    ∃ rest, White rest ∧ monthDay s = .ok (rest, mo % 100, d % 100) := by
  obtain ⟨s', sp, hs⟩ := Sp.search (pre := []) (post := []) (fun r => reIsoDM_nondash (by decide) r) h
    (fun _ hp => nomatch hp) (fun R _ => reIsoDM_tok mo d Z hZ R)
  exact ⟨s', sp.white, by simp only [monthDay, hs, numOf_pad]⟩

/-- `--MMDD` and `--MM-DD` hold no `YYYY-MM-DD`: the `MM` before a hyphen is too short, the other digits are followed
    by no hyphen -/
theorem skip_reYMD_isoMD {mo d : Nat} {Z R : List Char} (hZ : Z = isoMD mo d ∨ Z = isoMDd mo d) (hR : EndOk R) :
    Skip reYMD Z R := by
  have hh : ∀ X, Skip reYMD ['-', '-'] X :=
    skip_first (fun a r h => reYMD_nondigit h r) (by simp [show isDigit '-' = false from rfl])
  rcases hZ with rfl | rfl
  · exact (hh _).append (skip_reYMD_nohyphen
      (nohyphen_digits (List.forall_mem_append.2 ⟨pad_digits 2 mo, pad_digits 2 d⟩)) hR)
  · have h2 : Skip reYMD (pad 2 mo) ('-' :: pad 2 d ++ R) := fun A1 a A2 e =>
      reYMD_of_take4 (skip_four_short (by simp [pad_length]) (Or.inr ⟨'-', _, rfl, rfl⟩) A1 a A2 e)
    have := (hh _).append (h2.append ((skip_first (X := ['-']) (fun a r h => reYMD_nondigit h r)
      (by simp [show isDigit '-' = false from rfl]) _).append
        (skip_reYMD_nohyphen (nohyphen_digits (pad_digits 2 d)) hR)))
    simpa only [isoMDd, List.cons_append, List.nil_append, List.append_assoc] using this

theorem date_isoMD {mo d : Nat} {Z pre post : List Char} (hZ : Z = isoMD mo d ∨ Z = isoMDd mo d)
    (hv : validDate [mo, d] = true) (hpre : White pre) (hpost : White post) :
    convertStr .date (pre ++ Z ++ post) = .ok [mo, d] := by
  obtain ⟨rest, hw, hmd⟩ := monthDay_iso (stop := noStop) hZ (Sp.of_joinSp (ts := [Z]) (by rcases hZ with rfl | rfl <;> simp [isoMD, isoMDd]))
  obtain ⟨_, _, he, -, h12, -, hd⟩ := validDate_shape hv
  cases he
  have hd31 := daysInMonth_le Gen.dummyYear mo
  rw [Nat.mod_eq_of_lt (show mo < 100 by omega), Nat.mod_eq_of_lt (show d < 100 by omega)] at hmd
  have hs : isSpace '-' = false := by decide
  refine convertStr_date_of_core hpre hpost ?_ ?_ (convertDateCore_of_monthDay hmd hw hv)
  · rcases hZ with rfl | rfl <;> simp [isoMD, isoMDd, pad2]
  · rcases hZ with rfl | rfl <;> simp [isoMD, isoMDd, pad2, trimmedB, hs]

end Edzed.Interval
