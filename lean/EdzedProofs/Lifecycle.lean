/- Lemmas about the life-cycle model (EdzedModel/Lifecycle.lean) for C08.  The observers `stops`, `starteds`, `sabs`, `saes`,
   `outsOf` read a trace.  `finishResult` is the run for admissible orders, `run_cases` the elimination rule of `runForever`.
   An observer that ignores the output calls (`NoOut`) sees of the trace what it sees of its skeleton (`filterMap_trace`);
   `outsOf_trace` is the other half. -/
import EdzedModel.Lifecycle
import EdzedProofs.ListLoops

namespace Edzed.Lifecycle

def stops (tr : List Ev) : List Nat := tr.filterMap fun | .stop k => some k | _ => none
def starteds (tr : List Ev) : List Nat := tr.filterMap fun | .started k => some k | _ => none
def starts (tr : List Ev) : List Nat := tr.filterMap fun | .start k => some k | _ => none
def sabs (tr : List Ev) : List Nat := tr.filterMap fun | .sab k => some k | _ => none
def saes (tr : List Ev) : List Nat := tr.filterMap fun | .sae k _ => some k | _ => none
/-- calls of the output function of block `k` (true = with stop_data) -/
def outsOf (k : Nat) (tr : List Ev) : List Bool :=
  tr.filterMap fun | .out j sd => if j = k then some sd else none | _ => none

@[simp] theorem stops_append (a b : List Ev) : stops (a ++ b) = stops a ++ stops b := by simp [stops]
@[simp] theorem starteds_append (a b : List Ev) : starteds (a ++ b) = starteds a ++ starteds b := by simp [starteds]
@[simp] theorem sabs_append (a b : List Ev) : sabs (a ++ b) = sabs a ++ sabs b := by simp [sabs]
@[simp] theorem saes_append (a b : List Ev) : saes (a ++ b) = saes a ++ saes b := by simp [saes]
@[simp] theorem outsOf_append (k : Nat) (a b : List Ev) : outsOf k (a ++ b) = outsOf k a ++ outsOf k b := by simp [outsOf]

theorem mem_stops {tr : List Ev} {k : Nat} (h : Ev.stop k ∈ tr) : k ∈ stops tr := by
  simp only [stops, List.mem_filterMap]
  exact ⟨_, h, rfl⟩

theorem startLoop_fst (i : Nat) (bs : List Blk) :
    (startLoop i bs).1 = (startLoop i bs).2.1.flatMap (fun k => [Ev.start k, Ev.started k]) ++
      (if (startLoop i bs).2.2 then [Ev.start (i + (startLoop i bs).2.1.length)] else []) := by
  induction bs generalizing i with
  | nil => rfl
  | cons b rest ih =>
    unfold startLoop
    split
    · rfl
    · simp only [ih (i + 1), List.flatMap_cons, List.length_cons, List.cons_append, List.nil_append,
        Nat.add_assoc, Nat.add_comm 1]

theorem startLoop_snd (i : Nat) (bs : List Blk) :
    ∃ n, n ≤ bs.length ∧ (startLoop i bs).2 = (List.range' i n, decide (n < bs.length)) ∧
      (∀ j, j < n → (bs.getD j {}).fStart = false) ∧ (n < bs.length → (bs.getD n {}).fStart = true) := by
  induction bs generalizing i with
  | nil => exact ⟨0, Nat.le_refl _, rfl, fun _ h => absurd h (Nat.not_lt_zero _), fun h => absurd h (Nat.not_lt_zero _)⟩
  | cons b rest ih =>
    unfold startLoop
    split
    · next hb => exact ⟨0, Nat.zero_le _, by simp, fun _ h => absurd h (Nat.not_lt_zero _), fun _ => hb⟩
    · next hb =>
      obtain ⟨n, hn, h, h1, h2⟩ := ih (i + 1)
      refine ⟨n + 1, Nat.succ_le_succ hn, by simp [h, List.range'_succ], fun j hj => ?_, fun hl => ?_⟩
      · cases j with
        | zero => simpa using hb
        | succ j => simpa using h1 j (Nat.lt_of_succ_lt_succ hj)
      · simpa using h2 (Nat.lt_of_succ_lt_succ hl)

theorem startLoop_nodup (i : Nat) (bs : List Blk) : (startLoop i bs).2.1.Nodup := by
  obtain ⟨n, _, h, _⟩ := startLoop_snd i bs
  rw [h]; exact List.nodup_range' ..

theorem startLoop_failed_of_nil {i : Nat} {l : List Blk} (h : (startLoop i l).2.1 = []) (hl : l ≠ []) :
    (startLoop i l).2.2 = true := by
  obtain ⟨n, _, hs, _⟩ := startLoop_snd i l
  rw [hs] at h ⊢
  have : n = 0 := by simpa using h
  simpa [this, List.length_pos_iff] using hl

theorem startLoop_mem (i : Nat) (bs : List Blk) (k : Nat) :
    k ∈ (startLoop i bs).2.1 ↔ i ≤ k ∧ k < i + bs.length ∧ ∀ j, j ≤ k - i → (bs.getD j {}).fStart = false := by
  obtain ⟨n, hn, hs, h1, h2⟩ := startLoop_snd i bs
  rw [hs, List.mem_range'_1]
  constructor
  · rintro ⟨hi, hk⟩
    exact ⟨hi, by omega, fun j hj => h1 j (by omega)⟩
  · rintro ⟨hi, hk, h3⟩
    refine ⟨hi, Nat.lt_of_not_le fun hle => ?_⟩
    have := h3 n (by omega)
    rw [h2 (by omega)] at this
    cases this
theorem cancelEnd_k (l T : Nat) (j : Job) : (Job.cancelEnd l T j).k = j.k := by
  unfold Job.cancelEnd; split <;> rfl

theorem atCancel_k (l T : Nat) (j : Job) : (Job.atCancel l T j).k = j.k := by
  unfold Job.atCancel; split
  · split
    · rfl
    · exact cancelEnd_k l T j
  · exact cancelEnd_k l T j

theorem lastEnd_le_iff (a B : Nat) (es : List JobEnd) : lastEnd a es ≤ B ↔ a ≤ B ∧ ∀ e ∈ es, e.time ≤ B :=
  foldl_max_le_iff _ es a B

theorem le_lastEnd (a : Nat) (es : List JobEnd) : a ≤ lastEnd a es := foldl_max_ge _ es a

theorem mem_le_lastEnd {a : Nat} {es : List JobEnd} {e : JobEnd} (h : e ∈ es) : e.time ≤ lastEnd a es :=
  foldl_max_mem _ es a e h

theorem lastEnd_map {α : Type} (F : α → JobEnd) (xs : List α) (a : Nat) :
    lastEnd a (xs.map F) = xs.foldl (fun m x => max m (F x).time) a := by
  unfold lastEnd; rw [List.foldl_map]

theorem doneBy_dur (j : Job) {a : Nat} (hd : j.doneBy a = true) : ∃ d, j.dur = some d ∧ d ≤ a := by
  unfold Job.doneBy at hd
  cases h : j.dur with
  | none => simp [h] at hd
  | some d => simp [h] at hd; exact ⟨d, rfl, hd⟩

theorem doneBy_time (j : Job) (now : Nat) (h : j.doneBy now = true) : j.dur.getD now ≤ now := by
  obtain ⟨d, hd, hle⟩ := doneBy_dur j h
  rw [hd]; exact hle

theorem doneBy_mono (j : Job) {a b : Nat} (h : a ≤ b) (hd : j.doneBy a = true) : j.doneBy b = true := by
  unfold Job.doneBy at *
  cases hj : j.dur with
  | none => simp [hj] at hd
  | some d => simp [hj] at hd ⊢; omega

theorem fin_cases (j : Job) : (j.fin = .ok ∧ j.ok = true) ∨ (j.fin = .err ∧ j.ok = false) := by
  unfold Job.fin; cases j.ok <;> simp

theorem atCancel_of_done {L : Nat} {x : Job} (T : Nat) (h : x.doneBy L = true) :
    Job.atCancel L T x = ⟨x.k, x.dur.getD L, x.fin⟩ := by
  obtain ⟨d, hd, hle⟩ := doneBy_dur x h
  simp [Job.atCancel, hd, hle]

theorem atCancel_of_not_done {L : Nat} {x : Job} (T : Nat) (h : x.doneBy L = false) :
    Job.atCancel L T x = x.cancelEnd L T := by
  unfold Job.atCancel
  cases hd : x.dur with
  | none => rfl
  | some d =>
    have : ¬ d ≤ L := by simpa [Job.doneBy, hd] using h
    simp [this]

theorem atCancel_time (L T : Nat) (x : Job) :
    (Job.atCancel L T x).time =
      if x.doneBy L then x.dur.getD L else min (max L T) (L + x.cdur) := by
  cases h : x.doneBy L with
  | true => rw [atCancel_of_done T h]; rfl
  | false =>
    rw [atCancel_of_not_done T h]
    unfold Job.cancelEnd
    split <;> simp only [Bool.false_eq_true, if_false] <;> omega

theorem atCancel_time_le (L T : Nat) (x : Job) : (Job.atCancel L T x).time ≤ max L T := by
  rw [atCancel_time]
  split
  · next hd => have := doneBy_time x L hd; omega
  · exact Nat.min_le_left _ _

theorem wake_le (j : Job) (now M : Nat) (hnow : now ≤ M) (hj : j.timeout ≤ M) : (j.wake now).1 ≤ M := by
  unfold Job.wake
  cases j.dur with
  | none => simp; omega
  | some d =>
    simp only []
    split
    · simp; omega
    · simp; omega

theorem cancelledBefore_some {limit : Option Nat} {w l : Nat} (h : cancelledBefore limit w = some l) :
    limit = some l ∧ l < w := by
  unfold cancelledBefore at h
  cases limit with
  | none => simp at h
  | some x =>
    simp only at h
    split at h
    · simp only [Option.some.injEq] at h; subst h; exact ⟨rfl, by assumption⟩
    · simp at h

theorem cancelledBefore_none {limit : Option Nat} {w : Nat} (h : cancelledBefore limit w = none) :
    ∀ l, limit = some l → w ≤ l := by
  intro l hl
  subst hl
  unfold cancelledBefore at h
  simp only at h
  split at h
  · simp at h
  · omega

theorem wake_ge (j : Job) (now : Nat) (hnd : j.doneBy now = false) : now ≤ (j.wake now).1 := by
  unfold Job.wake
  unfold Job.doneBy at hnd
  cases hj : j.dur with
  | none => simp; omega
  | some d =>
    simp [hj] at hnd
    simp only
    split
    · simp; omega
    · simp; omega

theorem wake_res (j : Job) (now : Nat) :
    (j.wake now).2 = .timeout ∨ (j.dur = some (j.wake now).1 ∧ (j.wake now).2 = j.fin) := by
  unfold Job.wake
  cases hj : j.dur with
  | none => simp
  | some d =>
    simp only
    split
    · right; simp
    · left; rfl

/-- one turn of the loop of `_run_tasks`: the first task had ended, ends while it is awaited or is cancelled by its time-out,
    and the loop goes on at `now'`; or the loop is cancelled while awaiting it -/
theorem awaitJobs_cons (limit : Option Nat) (T now : Nat) (j : Job) (js : List Job) :
    (∃ e now', awaitJobs limit T now (j :: js) = (e :: (awaitJobs limit T now' js).1, (awaitJobs limit T now' js).2) ∧
        e.k = j.k ∧ e.time ≤ now' ∧ now ≤ now' ∧ now' ≤ max now j.timeout ∧ (e.res = j.fin ∨ e.res = .timeout) ∧
        ∀ l, limit = some l → now ≤ l → now' ≤ l) ∨
    (∃ l, limit = some l ∧ awaitJobs limit T now (j :: js) =
        (⟨j.k, l + j.cdur, .cancelled⟩ :: js.map (Job.atCancel (l + j.cdur) T),
         lastEnd (l + j.cdur) (js.map (Job.atCancel (l + j.cdur) T)), true)) := by
  rw [awaitJobs]
  cases hd : j.doneBy now with
  | true =>
    exact .inl ⟨⟨j.k, j.dur.getD now, j.fin⟩, now, by simp, rfl, doneBy_time j now hd, Nat.le_refl _,
      Nat.le_max_left _ _, .inl rfl, fun _ _ h => h⟩
  | false =>
    cases hc : cancelledBefore limit (j.wake now).1 with
    | some l => exact .inr ⟨l, (cancelledBefore_some hc).1, by simp⟩
    | none =>
      refine .inl ⟨⟨j.k, (j.wake now).1, (j.wake now).2⟩, (j.wake now).1, by simp, rfl, Nat.le_refl _, wake_ge j now hd,
        wake_le j now _ (Nat.le_max_left _ _) (Nat.le_max_right _ _), ?_, fun l hl _ => cancelledBefore_none hc l hl⟩
      rcases wake_res j now with h | ⟨_, h⟩
      · exact .inr h
      · exact .inl h

theorem awaitJobs_ks (limit : Option Nat) (T now : Nat) (js : List Job) :
    (awaitJobs limit T now js).1.map (·.k) = js.map (·.k) := by
  induction js generalizing now with
  | nil => rfl
  | cons j js ih =>
    rcases awaitJobs_cons limit T now j js with ⟨e, now', h, hk, _⟩ | ⟨l, _, h⟩
    · rw [h, List.map_cons, List.map_cons, ih, hk]
    · simp [h, atCancel_k, Function.comp_def]

theorem awaitJobs_bound (M T : Nat) (now : Nat) (js : List Job) (hnow : now ≤ M)
    (h : ∀ j ∈ js, j.timeout ≤ M) :
    (awaitJobs none T now js).2.1 ≤ M ∧ ∀ e ∈ (awaitJobs none T now js).1, e.time ≤ M := by
  induction js generalizing now with
  | nil => simp [awaitJobs, hnow]
  | cons j js ih =>
    rcases awaitJobs_cons none T now j js with ⟨e, now', he, _, h1, _, h2, _⟩ | ⟨l, hl, _⟩
    · have hM : now' ≤ M := Nat.le_trans h2 (Nat.max_le.2 ⟨hnow, h j (by simp)⟩)
      have := ih now' hM (fun x hx => h x (by simp [hx]))
      rw [he]
      refine ⟨this.1, ?_⟩
      intro x hx
      simp only [List.mem_cons] at hx
      rcases hx with rfl | hx
      · exact Nat.le_trans h1 hM
      · exact this.2 x hx
    · cases hl

theorem runTasks_ks (limit : Option Nat) (js : List Job) :
    (runTasks limit js).1.map (·.k) = (sortJobs js).map (·.k) := awaitJobs_ks ..

theorem sortJobs_perm (js : List Job) : (sortJobs js).Perm js := List.mergeSort_perm ..
theorem sortEnds_perm (l : List JobEnd) : (sortEnds l).Perm l := List.mergeSort_perm ..

theorem chain_cases (bs : List Blk) (k : Nat) :
    chain bs k = [] ∨ ∃ j, (blk bs k).onSuccess = some j ∧ (blk bs j).kind = .outf ∧ chain bs k = [Ev.out j false] := by
  unfold chain
  cases h : (blk bs k).onSuccess with
  | none => simp
  | some j =>
    by_cases hk : (blk bs j).kind = .outf
    · exact .inr ⟨j, rfl, hk, by simp [hk]⟩
    · simp [hk]

/-- the events of `stop()` of block `k`: they do not depend on the state of the clean-up -/
def stopEvs (bs : List Blk) (k : Nat) : List Ev :=
  if (blk bs k).kind == .outf && (blk bs k).stopData then [Ev.stop k, Ev.out k true] ++ chain bs k else [Ev.stop k]

theorem stopSyncAll_snd (bs : List Blk) (s : CState) (os : List Nat) :
    (stopSyncAll bs s os).2 = os.flatMap (stopEvs bs) := by
  induction os generalizing s with
  | nil => rfl
  | cons k ks ih =>
    show stopEvs bs k ++ (stopSyncAll bs _ ks).2 = _
    rw [ih, List.flatMap_cons]

theorem stopSyncAll_mem (bs : List Blk) (s : CState) (os : List Nat) (e : Ev)
    (he : e ∈ (stopSyncAll bs s os).2) :
    (∃ k, k ∈ os ∧ e = .stop k) ∨ (∃ k b, e = .out k b) := by
  rw [stopSyncAll_snd, List.mem_flatMap] at he
  obtain ⟨k, hk, he⟩ := he
  unfold stopEvs at he
  split at he
  · simp only [List.cons_append, List.nil_append, List.mem_cons] at he
    rcases he with rfl | rfl | he
    · exact .inl ⟨k, hk, rfl⟩
    · exact .inr ⟨k, true, rfl⟩
    · rcases chain_cases bs k with h | ⟨j, _, _, h⟩ <;> simp only [h, List.not_mem_nil, List.mem_singleton] at he
      exact .inr ⟨j, false, he⟩
  · exact .inl ⟨k, hk, List.mem_singleton.1 he⟩

theorem stopJob_k_timeout (bs : List Blk) (failed inited : List Nat) (k : Nat) :
    (stopJob bs failed inited k).k = k ∧ (stopJob bs failed inited k).timeout = (blk bs k).stopTimeout := by
  unfold stopJob; simp only []
  split
  · split <;> exact ⟨rfl, rfl⟩
  · split <;> exact ⟨rfl, rfl⟩

section
variable (bs : List Blk) (failed inited started timers0 oa os : List Nat)

/-! The five segments of the clean-up trace (`stopSblocks_trace`): stop() of the asynchronous set, the
    stop_data calls of the control tasks, the first steps of the stop_async tasks, their ends in the order
    of time, the synchronous set. -/
def seg1 : List Ev := oa.map Ev.stop
def seg2 : List Ev := (oa.filter (outaDelivers bs inited)).map (Ev.out · true)
def seg3 : List Ev := oa.flatMap fun k =>
    if immediate bs failed inited k then [Ev.sab k, Ev.sae k (stopJob bs failed inited k).fin]
    else [Ev.sab k]
def ends : List JobEnd := (runTasks none (oa.map (stopJob bs failed inited))).1
def seg4 : List Ev :=
  (sortEnds ((ends bs failed inited oa).filter fun e => !immediate bs failed inited e.k)).map
    fun e => Ev.sae e.k (seenRes bs e)
def seg5 : List Ev := (stopSyncAll bs { timers := timers0, stopped := oa, started := started } os).2

theorem stopSblocks_trace :
    (stopSblocks bs failed inited started timers0 oa os).trace =
      seg1 oa ++ seg2 bs inited oa ++ seg3 bs failed inited oa ++ seg4 bs failed inited oa
        ++ seg5 bs started timers0 oa os := rfl

theorem seg4_saes :
    (saes (seg4 bs failed inited oa)).Perm (oa.filter fun k => !immediate bs failed inited k) := by
  have h1 : saes (seg4 bs failed inited oa) =
      (sortEnds ((ends bs failed inited oa).filter fun e => !immediate bs failed inited e.k)).map (·.k) := by
    simp [seg4, saes, List.filterMap_map, Function.comp_def]
  rw [h1]
  refine ((sortEnds_perm _).map _).trans ?_
  have h2 : ((ends bs failed inited oa).filter fun e => !immediate bs failed inited e.k).map (·.k) =
      ((ends bs failed inited oa).map (·.k)).filter fun k => !immediate bs failed inited k := by
    rw [List.filter_map]; rfl
  rw [h2, ends, runTasks_ks]
  refine ((sortJobs_perm _).map _).filter _ |>.trans ?_
  simp [List.map_map, Function.comp_def, stopJob_k_timeout]

theorem stopSblocks_nil_async :
    stopSblocks bs failed inited started timers0 [] os =
      { trace := (stopSyncAll bs { timers := timers0, stopped := [], started := started } os).2
        st := (stopSyncAll bs { timers := timers0, stopped := [], started := started } os).1
        dur := 0 } := by
  simp [stopSblocks, runTasks, awaitJobs, sortJobs, sortEnds]

theorem stopSblocks_dur (M : Nat) (h : ∀ k ∈ oa, (blk bs k).stopTimeout ≤ M) :
    (stopSblocks bs failed inited started timers0 oa os).dur ≤ M := by
  have : (stopSblocks bs failed inited started timers0 oa os).dur =
      (runTasks none (oa.map (stopJob bs failed inited))).2.1 := rfl
  rw [this]
  unfold runTasks
  refine (awaitJobs_bound M _ 0 _ (Nat.zero_le _) ?_).1
  intro j hj
  rw [(sortJobs_perm _).mem_iff] at hj
  obtain ⟨k, hk, rfl⟩ := List.mem_map.1 hj
  rw [(stopJob_k_timeout ..).2]; exact h k hk

end

theorem arm_stopped_started (bs : List Blk) (s : CState) (j : Nat) :
    (arm bs s j).stopped = s.stopped ∧ (arm bs s j).started = s.started := by
  unfold arm; split <;> exact ⟨rfl, rfl⟩

theorem armAll_started (bs : List Blk) (s : CState) (ks : List Nat) :
    (armAll bs s ks).started = s.started := by
  induction ks generalizing s with
  | nil => rfl
  | cons k ks ih =>
    have h1 : armAll bs s (k :: ks) =
        armAll bs (match (blk bs k).onSuccess with | some j => arm bs s j | none => s) ks := rfl
    rw [h1, ih]
    split
    · exact (arm_stopped_started ..).2
    · rfl

theorem stopSync_stopped_started (bs : List Blk) (s : CState) (k : Nat) :
    (stopSync bs s k).1.stopped = k :: s.stopped ∧ (stopSync bs s k).1.started = s.started := by
  unfold stopSync; simp only []
  split
  · split <;> simp [arm_stopped_started]
  · exact ⟨rfl, rfl⟩

theorem stopSyncAll_stopped_started (bs : List Blk) (s : CState) (os : List Nat) :
    (stopSyncAll bs s os).1.stopped = os.reverse ++ s.stopped ∧ (stopSyncAll bs s os).1.started = s.started := by
  induction os generalizing s with
  | nil => exact ⟨rfl, rfl⟩
  | cons k ks ih =>
    unfold stopSyncAll
    rw [(ih _).1, (ih _).2, (stopSync_stopped_started bs s k).1, (stopSync_stopped_started bs s k).2]
    simp

/-- the invariant of the timer handles: a pending one belongs to a timer block between its start() and its stop() -/
def TimersOk (bs : List Blk) (s : CState) : Prop :=
  ∀ x ∈ s.timers, (blk bs x).kind = .timer ∧ x ∈ s.started ∧ x ∉ s.stopped

theorem TimersOk.arm {bs : List Blk} {s : CState} (h : TimersOk bs s) (j : Nat) : TimersOk bs (arm bs s j) := by
  unfold Lifecycle.arm
  split
  · next hj =>
    simp only [Bool.and_eq_true, beq_iff_eq, Bool.not_eq_true', List.contains_eq_mem,
      decide_eq_false_iff_not, decide_eq_true_eq] at hj
    intro x hx
    simp only [List.mem_cons, List.mem_filter] at hx
    rcases hx with rfl | ⟨hx, _⟩
    · exact ⟨hj.1.1, hj.1.2, hj.2⟩
    · exact h x hx
  · exact h

theorem TimersOk.armAll {bs : List Blk} {s : CState} (h : TimersOk bs s) (ks : List Nat) :
    TimersOk bs (armAll bs s ks) := by
  induction ks generalizing s with
  | nil => exact h
  | cons k ks ih =>
    simp only [Lifecycle.armAll, List.foldl_cons]
    apply ih
    split
    · exact h.arm _
    · exact h

theorem TimersOk.stopSync {bs : List Blk} {s : CState} (h : TimersOk bs s) (k : Nat) :
    TimersOk bs (stopSync bs s k).1 := by
  have key : ∀ s1 : CState, TimersOk bs s1 →
      TimersOk bs { timers := s1.timers.filter (· != k), stopped := k :: s1.stopped, started := s1.started } := by
    intro s1 h1 x hx
    simp only [List.mem_filter, bne_iff_ne, ne_eq] at hx
    obtain ⟨ht, hs, hn⟩ := h1 x hx.1
    exact ⟨ht, hs, by simp [hx.2, hn]⟩
  unfold Lifecycle.stopSync
  simp only []
  apply key
  split
  · split
    · exact h.arm _
    · exact h
  · exact h

theorem TimersOk.stopSyncAll {bs : List Blk} {s : CState} (h : TimersOk bs s) (os : List Nat) :
    TimersOk bs (stopSyncAll bs s os).1 := by
  induction os generalizing s with
  | nil => exact h
  | cons k ks ih =>
    unfold Lifecycle.stopSyncAll
    exact ih (h.stopSync k)

/-! `plan` is one long `let`; the proofs use it through the facts below.  Where a fact only needs the SHAPE
    of a field (`phase` is `phaseOf` of five conditions, `termTime` a `match` on the phase, …) it is stated
    with the parts that do not matter existentially quantified and proved by `⟨_, …, rfl⟩`, so that the
    `let`s are never unfolded. -/

theorem plan_startEvs (c : Cfg) : (plan c).startEvs = (startLoop 0 c.blocks).1 := rfl
theorem plan_started (c : Cfg) : (plan c).started = (startLoop 0 c.blocks).2.1 := rfl
theorem plan_puts_eq (c : Cfg) :
    (plan c).puts = (putBlocksOf c.blocks (plan c).started (plan c).phase).flatMap
      (fun k => Ev.out k false :: chain c.blocks k) := rfl

theorem plan_puts (c : Cfg) : ∃ ks : List Nat, (plan c).puts = ks.map (Ev.out · false) := by
  rw [plan_puts_eq]
  induction putBlocksOf c.blocks (plan c).started (plan c).phase with
  | nil => exact ⟨[], rfl⟩
  | cons k l ih =>
    obtain ⟨ks, h⟩ := ih
    rcases chain_cases c.blocks k with hc | ⟨j, _, _, hc⟩
    · exact ⟨k :: ks, by simp [hc, h]⟩
    · exact ⟨k :: j :: ks, by simp [hc, h]⟩

theorem outsOf_puts (c : Cfg) (k : Nat) : ∀ x ∈ outsOf k (plan c).puts, x = false := by
  obtain ⟨ks, h⟩ := plan_puts c
  intro x hx
  simp only [h, outsOf, List.filterMap_map, List.mem_filterMap, Function.comp_apply] at hx
  obtain ⟨j, _, hj⟩ := hx
  split at hj <;> simp_all

theorem plan_timers (c : Cfg) : ∃ pass1 pass2 ph, (plan c).timers =
    (armAll c.blocks
      { timers := initTimers c.blocks (plan c).started pass1 pass2, stopped := [], started := (plan c).started }
      (putBlocksOf c.blocks (plan c).started ph)).timers := ⟨_, _, _, rfl⟩

theorem plan_termTime (c : Cfg) : ∃ x y, (plan c).termTime = (match (plan c).phase with
    | .startFailed | .afterStart | .notStarted => 0
    | .running => x
    | .asyncInit | .initFailed | .evalFailed => y) := ⟨_, _, rfl⟩

theorem plan_timers_nil (c : Cfg) (h : (plan c).started = []) : (plan c).timers = [] := by
  obtain ⟨pass1, pass2, ph, hpt⟩ := plan_timers c
  rw [hpt, h]
  simp [initTimers, putBlocksOf, armAll]

theorem plan_timers_mem (c : Cfg) {x : Nat} (hx : x ∈ (plan c).timers) :
    (blk c.blocks x).kind = .timer ∧ x ∈ (plan c).started := by
  obtain ⟨pass1, pass2, ph, hpt⟩ := plan_timers c
  rw [hpt] at hx
  have h0 : TimersOk c.blocks
      { timers := initTimers c.blocks (plan c).started pass1 pass2, stopped := [], started := (plan c).started } := by
    intro y hy
    simp only [initTimers, List.mem_filter, Bool.and_eq_true, beq_iff_eq] at hy
    exact ⟨hy.2.1, hy.1, by simp⟩
  obtain ⟨hk, hs, _⟩ := h0.armAll (putBlocksOf c.blocks (plan c).started ph) x hx
  rw [armAll_started] at hs
  exact ⟨hk, hs⟩

theorem plan_phase_cases (c : Cfg) :
    ((startLoop 0 c.blocks).2.2 = true ∧ (plan c).phase = .startFailed ∧ (plan c).isError = true) ∨
    ((startLoop 0 c.blocks).2.2 = false ∧ (plan c).phase = .afterStart) ∨
    ((startLoop 0 c.blocks).2.2 = false ∧ (plan c).phase = .asyncInit) ∨
    ((startLoop 0 c.blocks).2.2 = false ∧ (plan c).phase = .initFailed ∧ (plan c).isError = true) ∨
    ((startLoop 0 c.blocks).2.2 = false ∧ (plan c).phase = .evalFailed ∧ (plan c).isError = true) ∨
    ((startLoop 0 c.blocks).2.2 = false ∧ (plan c).phase = .running) := by
  obtain ⟨a, b, d, e, x, h1, h2⟩ : ∃ a b d e x,
      (plan c).phase = phaseOf (startLoop 0 c.blocks).2.2 a b d e ∧
      (plan c).isError = (match (plan c).phase with
        | .startFailed | .initFailed | .evalFailed => true
        | _ => x) := ⟨_, _, _, _, _, rfl, rfl⟩
  rw [h2, h1]
  -- `phaseOf` asks its five conditions in this order: each is decided only where the earlier ones are false
  cases (startLoop 0 c.blocks).2.2
  case true => simp [phaseOf]
  cases a
  case true => simp [phaseOf]
  cases b
  case true => simp [phaseOf]
  cases d
  case true => simp [phaseOf]
  cases e <;> simp [phaseOf]

theorem plan_puts_nil (c : Cfg) (h : (plan c).phase ≠ .running) : (plan c).puts = [] := by
  rw [plan_puts_eq, putBlocksOf, if_neg (by simpa using h)]; rfl

theorem plan_pending_false (c : Cfg) (h : (plan c).phase ≠ .running) : (plan c).pendingCancel = false := by
  have : (plan c).pendingCancel = ((plan c).phase == .running && _ && _ && _) := rfl
  rw [this, beq_false_of_ne h]; rfl

theorem plan_startFailed (c : Cfg) (h : (startLoop 0 c.blocks).2.2 = true) :
    (plan c).phase = .startFailed ∧ (plan c).termTime = 0 := by
  have hph : (plan c).phase = .startFailed := by
    rcases plan_phase_cases c with ⟨_, hph, _⟩ | ⟨hsf, _⟩ | ⟨hsf, _⟩ | ⟨hsf, _⟩ | ⟨hsf, _⟩ | ⟨hsf, _⟩
    · exact hph
    all_goals rw [h] at hsf; cases hsf
  obtain ⟨_, _, htt⟩ := plan_termTime c
  exact ⟨hph, by rw [htt, hph]⟩

theorem mem_blockTasks {bs : List Blk} {started failed : List Nat} {t : Task}
    (h : t ∈ blockTasks bs started failed) :
    ∃ k, k ∈ started ∧ ((t = .main k ∧ (blk bs k).hasMain = true) ∨ (t = .ctrl k ∧ (blk bs k).hasCtrl = true)) := by
  simp only [blockTasks, List.mem_filterMap] at h
  obtain ⟨k, hk, hkt⟩ := h
  refine ⟨k, hk, ?_⟩
  split at hkt
  · next hm =>
    split at hkt
    · cases hkt
    · exact .inl ⟨(Option.some.inj hkt).symm, hm⟩
  · split at hkt
    · next hc => exact .inr ⟨(Option.some.inj hkt).symm, hc⟩
    · cases hkt

/-- what `finish` returns when the two orders are admissible (the pending cancellation has been
    consumed and no second cause cancels the simulation task: the truncated clean-up cannot happen).
    `storage` keeps `consumePending p`, the form in which `finish` has it: `saveStep`
    recurses over a list with the plan as an argument, so the two forms are not convertible by `rfl`. -/
def finishResult (c : Cfg) (p : Plan) : Result :=
  let cl := stopSblocks c.blocks p.failed p.inited p.started p.timers c.oa c.os
  { trace := p.startEvs ++ p.puts ++ cl.trace
    started := p.started
    startOk := p.phase != .startFailed && p.phase != .afterStart
    phase := p.phase
    initRes := p.initRes
    termTime := p.termTime
    endTime := p.termTime + cl.dur
    tasks := ((blockTasks c.blocks p.started p.failed ++ (if p.helper then [Task.helper] else [])).filter
      fun t => !t.cleanedBy c.oa).filter (· != Task.helper)
    timers := cl.st.timers
    error := some (if p.isError then .failure else .cancelled)
    simDone := true
    storage := saveStep c.storageFault c.blocks (consumePending p) (storageAtStop c.blocks (consumePending p))
    helperSpan := helperSpanOf c p (p.termTime + cl.dur) }

@[simp] theorem second_any_false (o : Option (Second × Nat)) :
    (o.any fun x => x.1.cancelsSimtask) = false := by
  cases o with
  | none => rfl
  | some x => cases x with | mk a b => cases a <;> rfl

/-- `finish` never takes its truncated clean-up: `consumePending` has cleared the pending cancellation and no second cause
    cancels the simulation task (`second_any_false`) -/
theorem finish_eq (c : Cfg) (p : Plan) :
    finish c p = if permOf c.oa (setA c.blocks p.started) && permOf c.os (setS c.blocks p.started)
      then some (finishResult c p) else none := by
  unfold finish
  simp only [consumePending, second_any_false, Bool.or_false, Bool.false_and, Bool.false_eq_true, if_false]
  cases permOf c.oa (setA c.blocks p.started) && permOf c.os (setS c.blocks p.started) <;> rfl

theorem finish_eq_some {c : Cfg} {p : Plan} {r : Result} (h : finish c p = some r) :
    c.oa.Perm (setA c.blocks p.started) ∧ c.os.Perm (setS c.blocks p.started) ∧ r = finishResult c p := by
  rw [finish_eq] at h
  split at h
  · next hp =>
    simp only [Bool.and_eq_true, permOf, List.isPerm_iff] at hp
    exact ⟨hp.1, hp.2, (Option.some.inj h).symm⟩
  · cases h

theorem finish_of_perm {c : Cfg} {p : Plan} (hA : c.oa.Perm (setA c.blocks p.started))
    (hS : c.os.Perm (setS c.blocks p.started)) : finish c p = some (finishResult c p) := by
  rw [finish_eq, if_pos]
  simp only [permOf, Bool.and_eq_true, List.isPerm_iff]
  exact ⟨hA, hS⟩

theorem Blk.asyncStop_of_task {b : Blk} (h : b.hasMain = true ∨ b.hasCtrl = true) (ht : 0 < b.stopTimeout) :
    b.asyncStop = true := by
  simp only [Blk.hasMain, Blk.hasCtrl, beq_iff_eq] at h
  rcases h with h | h <;> simp [Blk.asyncStop, h, ht]

theorem mem_setA {bs : List Blk} {st : List Nat} {k : Nat} : k ∈ setA bs st ↔ k ∈ st ∧ (blk bs k).asyncStop = true := by
  simp [setA]

theorem mem_setS {bs : List Blk} {st : List Nat} {k : Nat} : k ∈ setS bs st ↔ k ∈ st ∧ (blk bs k).asyncStop = false := by
  simp [setS]

theorem run_cases {c : Cfg} {r : Result} (h : runForever c = some r) :
    (c.cause.before = true ∧ r = { error := some (if c.cause.kind.isError then .failure else .cancelled), simDone := true
                                   storage := storage0 c.blocks }) ∨
    (c.cause.before = false ∧ c.oa.Perm (setA c.blocks (plan c).started) ∧
      c.os.Perm (setS c.blocks (plan c).started) ∧ r = finishResult c (plan c)) := by
  unfold runForever at h
  cases hb : c.cause.before with
  | true =>
    rw [hb, if_pos rfl] at h
    exact .inl ⟨rfl, (Option.some.inj h).symm⟩
  | false =>
    rw [hb, if_neg Bool.false_ne_true] at h
    exact .inr ⟨rfl, finish_eq_some h⟩

theorem run_eq (c : Cfg) (r : Result) (h : runForever c = some r) (hb : c.cause.before = false) :
    c.oa.Perm (setA c.blocks (plan c).started) ∧ c.os.Perm (setS c.blocks (plan c).started) ∧
    r = finishResult c (plan c) := by
  rcases run_cases h with ⟨hb', _⟩ | ⟨_, x⟩
  · rw [hb] at hb'; cases hb'
  · exact x

theorem run_of_perm {c : Cfg} (hb : c.cause.before = false) (hA : c.oa.Perm (setA c.blocks (plan c).started))
    (hS : c.os.Perm (setS c.blocks (plan c).started)) : runForever c = some (finishResult c (plan c)) := by
  unfold runForever
  rw [hb, if_neg Bool.false_ne_true]
  exact finish_of_perm hA hS

/-- a result that has the fields of `finishResult c p` of which the properties of the stop() calls, tasks and timers speak,
    for admissible orders (`run_spec`) -/
structure FinishSpec (c : Cfg) (p : Plan) (r : Result) : Prop where
  permA : c.oa.Perm (setA c.blocks p.started)
  permS : c.os.Perm (setS c.blocks p.started)
  trace : r.trace = p.startEvs ++ p.puts ++ (stopSblocks c.blocks p.failed p.inited p.started p.timers c.oa c.os).trace
  started : r.started = p.started
  endTime : r.endTime = p.termTime + (stopSblocks c.blocks p.failed p.inited p.started p.timers c.oa c.os).dur
  termTime : r.termTime = p.termTime
  tasks : r.tasks = ((blockTasks c.blocks p.started p.failed ++ (if p.helper then [Task.helper] else [])).filter
      fun t => !t.cleanedBy c.oa).filter (· != Task.helper)
  timers : r.timers = (stopSblocks c.blocks p.failed p.inited p.started p.timers c.oa c.os).st.timers
  error : r.error.isSome = true
  simDone : r.simDone = true

theorem run_spec (c : Cfg) (r : Result) (h : runForever c = some r) (hb : c.cause.before = false) :
    FinishSpec c (plan c) r := by
  obtain ⟨hA, hS, rfl⟩ := run_eq c r h hb
  exact ⟨hA, hS, rfl, rfl, rfl, rfl, rfl, rfl, rfl, rfl⟩

theorem trace_eq (c : Cfg) :
    (finishResult c (plan c)).trace = (startLoop 0 c.blocks).1 ++ (plan c).puts ++
      (seg1 c.oa ++ seg2 c.blocks (plan c).inited c.oa ++ seg3 c.blocks (plan c).failed (plan c).inited c.oa ++
        seg4 c.blocks (plan c).failed (plan c).inited c.oa ++ seg5 c.blocks (plan c).started (plan c).timers c.oa c.os) :=
  rfl

/-- an observer that ignores the calls of output functions, as `stops`, `starteds`, `sabs`, `saes` do (`fun _ _ => rfl`).  The
    parts of a trace that are not plain lists of constructors (`puts`, `seg2`, `seg5`) are so only for their `out` events,
    so what such an observer sees is stated once, for all of them. -/
def NoOut {α : Type} (f : Ev → Option α) : Prop := ∀ j sd, f (.out j sd) = none

/- the trace without the calls of output functions, in the three parts of `trace_parts`: `skelA`, `skelB`, `c.os.map Ev.stop` -/
def skelA (c : Cfg) : List Ev := (startLoop 0 c.blocks).1 ++ c.oa.map Ev.stop
def skelB (c : Cfg) : List Ev :=
  seg3 c.blocks (plan c).failed (plan c).inited c.oa ++ seg4 c.blocks (plan c).failed (plan c).inited c.oa

section
variable {α : Type} {f : Ev → Option α} (hf : NoOut f)
include hf

theorem filterMap_map_out (l : List Nat) (sd : Bool) : (l.map (Ev.out · sd)).filterMap f = [] := by
  rw [List.filterMap_map]
  exact List.filterMap_eq_nil_iff.2 fun j _ => hf j sd

theorem filterMap_stopEvs (bs : List Blk) (k : Nat) : (stopEvs bs k).filterMap f = [Ev.stop k].filterMap f := by
  unfold stopEvs
  split
  · have hf' : ∀ j sd, f (.out j sd) = none := hf
    rcases chain_cases bs k with h | ⟨j, _, _, h⟩ <;> simp [h, List.filterMap_cons, hf']
  · rfl

theorem filterMap_seg5 (bs : List Blk) (s : CState) (os : List Nat) :
    (stopSyncAll bs s os).2.filterMap f = (os.map Ev.stop).filterMap f := by
  rw [stopSyncAll_snd, List.filterMap_flatMap, List.map_eq_flatMap, List.filterMap_flatMap]
  simp only [filterMap_stopEvs hf]

theorem filterMap_head (c : Cfg) :
    ((startLoop 0 c.blocks).1 ++ (plan c).puts ++ (seg1 c.oa ++ seg2 c.blocks (plan c).inited c.oa)).filterMap f =
      (skelA c).filterMap f := by
  obtain ⟨ks, hp⟩ := plan_puts c
  simp only [hp, seg1, seg2, skelA, List.filterMap_append, filterMap_map_out hf, List.append_nil]

theorem filterMap_trace (c : Cfg) :
    (finishResult c (plan c)).trace.filterMap f = (skelA c ++ skelB c ++ c.os.map Ev.stop).filterMap f := by
  -- bracket the trace as (start loop, output calls, seg1, seg2) ++ (seg3 ++ seg4) ++ seg5, the three parts of the skeleton
  rw [trace_eq, ← List.append_assoc, ← List.append_assoc, ← List.append_assoc, List.append_assoc _ (seg3 ..),
    List.filterMap_append, List.filterMap_append, filterMap_head hf, seg5, filterMap_seg5 hf, ← List.filterMap_append,
    ← List.filterMap_append]
  rfl
end

theorem skeleton_evs (c : Cfg) :
    (stops (skelA c) = c.oa ∧ starteds (skelA c) = (startLoop 0 c.blocks).2.1 ∧ sabs (skelA c) = [] ∧ saes (skelA c) = []) ∧
    (stops (skelB c) = [] ∧ starteds (skelB c) = [] ∧ sabs (skelB c) = c.oa ∧
      saes (skelB c) = c.oa.filter (immediate c.blocks (plan c).failed (plan c).inited) ++
        saes (seg4 c.blocks (plan c).failed (plan c).inited c.oa)) ∧
    (stops (c.os.map Ev.stop) = c.os ∧ starteds (c.os.map Ev.stop) = [] ∧ sabs (c.os.map Ev.stop) = [] ∧
      saes (c.os.map Ev.stop) = []) := by
  rw [skelA, skelB, startLoop_fst, seg3]
  refine ⟨⟨?_, ?_, ?_, ?_⟩, ⟨?_, ?_, ?_, ?_⟩, ?_, ?_, ?_, ?_⟩ <;>
  simp [stops, starteds, sabs, saes, seg4, List.filterMap_flatMap, List.filterMap_map, Function.comp_def,
    apply_ite (List.filterMap _), filterMap_const_none, flatMap_const_nil, flatMap_ite_singleton, List.flatMap_singleton']

theorem trace_observers (c : Cfg) :
    stops (finishResult c (plan c)).trace = c.oa ++ c.os ∧ starteds (finishResult c (plan c)).trace = (plan c).started ∧
    sabs (finishResult c (plan c)).trace = c.oa ∧ (saes (finishResult c (plan c)).trace).Perm c.oa := by
  have e := fun {α : Type} {f : Ev → Option α} (hf : NoOut f) => filterMap_trace hf c
  obtain ⟨⟨a1, a2, a3, a4⟩, ⟨b1, b2, b3, b4⟩, d1, d2, d3, d4⟩ := skeleton_evs c
  refine ⟨(e fun _ _ => rfl).trans ?_, (e fun _ _ => rfl).trans ?_, (e fun _ _ => rfl).trans ?_, ?_⟩
  · rw [← stops, stops_append, stops_append, a1, b1, d1, List.append_nil]
  · rw [← starteds, starteds_append, starteds_append, a2, b2, d2, List.append_nil, List.append_nil]; rfl
  · rw [← sabs, sabs_append, sabs_append, a3, b3, d3, List.nil_append, List.append_nil]
  · rw [show saes _ = _ from e fun _ _ => rfl, ← saes, saes_append, saes_append, a4, b4, d4, List.nil_append,
      List.append_nil]
    exact (List.Perm.append_left _ (seg4_saes ..)).trans (List.filter_append_perm _ _)

/-- the trace in three parts: up to the yield of `_stop_sblocks` (`a`: every stop() of the asynchronous set, no
    stop_async event), the stop_async tasks (`b`), the synchronous set (`d`) -/
theorem trace_parts (c : Cfg) :
    ∃ a b d, (finishResult c (plan c)).trace = a ++ b ++ d ∧ stops a = c.oa ∧ sabs a = [] ∧ saes a = [] ∧ stops b = [] ∧
      ∀ e ∈ d, (∃ k, k ∈ c.os ∧ e = .stop k) ∨ ∃ k sd, e = .out k sd := by
  have e := fun {α : Type} {f : Ev → Option α} (hf : NoOut f) => filterMap_head hf c
  obtain ⟨⟨a1, _, a3, a4⟩, ⟨b1, _⟩, _⟩ := skeleton_evs c
  refine ⟨_, skelB c, seg5 c.blocks (plan c).started (plan c).timers c.oa c.os, ?_, (e fun _ _ => rfl).trans a1,
    (e fun _ _ => rfl).trans a3, (e fun _ _ => rfl).trans a4, b1, fun e he => stopSyncAll_mem _ _ _ e he⟩
  rw [trace_eq, skelB]
  simp only [List.append_assoc]

/-- no OutputFunc with stop_data sends its on_success event to block `k` -/
def NoStopDataSender (bs : List Blk) (k : Nat) : Prop :=
  ∀ j, (blk bs j).kind = .outf → (blk bs j).stopData = true → (blk bs j).onSuccess ≠ some k

theorem outsOf_chain_ne (bs : List Blk) (k j : Nat) (h : (blk bs j).onSuccess ≠ some k) :
    outsOf k (chain bs j) = [] := by
  rcases chain_cases bs j with hc | ⟨i, hi, _, hc⟩
  · simp [hc, outsOf]
  · have : i ≠ k := fun e => h (e ▸ hi)
    simp [hc, outsOf, this]

theorem outsOf_seg2_ne (bs : List Blk) (inited oa : List Nat) (k : Nat) (h : (blk bs k).kind ≠ .outa) :
    outsOf k (seg2 bs inited oa) = [] := by
  simp only [seg2, outsOf, List.filterMap_map]
  apply List.filterMap_eq_nil_iff.2
  intro j hj
  simp only [List.mem_filter, outaDelivers, Bool.and_eq_true, beq_iff_eq] at hj
  simp only [Function.comp_apply]
  split
  · next hjk => subst hjk; exact absurd hj.2.1.1 h
  · rfl

theorem outsOf_trace (c : Cfg) (k : Nat) :
    outsOf k (finishResult c (plan c)).trace = outsOf k (plan c).puts ++ outsOf k (seg2 c.blocks (plan c).inited c.oa) ++
      c.os.flatMap fun j => outsOf k (stopEvs c.blocks j) := by
  rw [trace_eq, startLoop_fst, seg1, seg3, seg4, seg5, stopSyncAll_snd]
  simp [outsOf, List.filterMap_flatMap, List.filterMap_map, Function.comp_def, apply_ite (List.filterMap _),
    filterMap_const_none, flatMap_const_nil]

theorem outsOf_stopEvs (bs : List Blk) (k j : Nat) (hno : NoStopDataSender bs k) :
    outsOf k (stopEvs bs j) = if j = k ∧ (blk bs k).kind = .outf ∧ (blk bs k).stopData = true then [true] else [] := by
  unfold stopEvs
  split
  · next hc =>
    simp only [Bool.and_eq_true, beq_iff_eq] at hc
    rw [outsOf_append, outsOf_chain_ne bs k j (hno j hc.1 hc.2)]
    by_cases hjk : j = k
    · subst hjk; simp [outsOf, hc]
    · simp [outsOf, hjk]
  · next hc =>
    have : ¬ (j = k ∧ (blk bs k).kind = .outf ∧ (blk bs k).stopData = true) := by
      rintro ⟨rfl, h1, h2⟩; simp [h1, h2] at hc
    simp [outsOf, this]

/-- two block lists that differ at most in the clean-up fault scripts (`stop()` raises,
    `stop_async()` raises) of their blocks -/
inductive SameButCleanup : List Blk → List Blk → Prop
  | nil : SameButCleanup [] []
  | cons {b b' : Blk} {l l' : List Blk} :
      b' = { b with fStop := b'.fStop, fStopAsync := b'.fStopAsync } →
      SameButCleanup l l' → SameButCleanup (b :: l) (b' :: l')

/-- two block lists that differ at most in `persistent` / `restored` (whether a block takes part in
    the "save the state" step of run_forever and whether the storage holds an entry of it) -/
inductive SameButPersistence : List Blk → List Blk → Prop
  | nil : SameButPersistence [] []
  | cons {b b' : Blk} {l l' : List Blk} :
      b' = { b with persistent := b'.persistent, restored := b'.restored } →
      SameButPersistence l l' → SameButPersistence (b :: l) (b' :: l')

/-- two block lists that agree in what decides which blocks are started and to which clean-up
    set a block belongs -/
inductive SameStartStop : List Blk → List Blk → Prop
  | nil : SameStartStop [] []
  | cons {b b' : Blk} {l l' : List Blk} :
      b'.fStart = b.fStart → b'.asyncStop = b.asyncStop →
      SameStartStop l l' → SameStartStop (b :: l) (b' :: l')

theorem SameButCleanup.toStartStop {l l' : List Blk} (h : SameButCleanup l l') : SameStartStop l l' := by
  induction h with
  | nil => exact .nil
  | @cons b b' l₁ l₂ hbb _ ih => exact .cons (by rw [hbb]) (by rw [hbb]; rfl) ih

theorem SameButPersistence.toStartStop {l l' : List Blk} (h : SameButPersistence l l') :
    SameStartStop l l' := by
  induction h with
  | nil => exact .nil
  | @cons b b' l₁ l₂ hbb _ ih => exact .cons (by rw [hbb]) (by rw [hbb]; rfl) ih

theorem SameStartStop.startLoop {l l' : List Blk} (h : SameStartStop l l') (i : Nat) :
    startLoop i l' = startLoop i l := by
  induction h generalizing i with
  | nil => rfl
  | @cons b b' l₁ l₂ hs _ _ ih =>
    unfold Edzed.Lifecycle.startLoop
    simp only [hs, ih]

theorem SameStartStop.asyncStop {l l' : List Blk} (h : SameStartStop l l') (k : Nat) :
    (blk l' k).asyncStop = (blk l k).asyncStop := by
  unfold blk
  induction h generalizing k with
  | nil => rfl
  | @cons b b' l₁ l₂ _ ha _ ih =>
    cases k with
    | zero => simpa using ha
    | succ k => simpa using ih k

theorem same_partition_same_stops (c c' : Cfg) (r : Result) (h : runForever c = some r)
    (hb : c.cause.before = false) (hb' : c'.cause.before = false) (hoa : c'.oa = c.oa) (hos : c'.os = c.os)
    (hbl : SameStartStop c.blocks c'.blocks) :
    ∃ r', runForever c' = some r' ∧ stops r'.trace = stops r.trace ∧ sabs r'.trace = sabs r.trace ∧
      r'.started = r.started := by
  obtain ⟨hA, hS, rfl⟩ := run_eq c r h hb
  have hblk := hbl.asyncStop
  have hst : (plan c').started = (plan c).started := by
    rw [plan_started, plan_started, hbl.startLoop 0]
  have hrun : runForever c' = some (finishResult c' (plan c')) :=
    run_of_perm hb' (by simp only [setA, hst, hblk, hoa]; exact hA) (by simp only [setS, hst, hblk, hos]; exact hS)
  obtain ⟨h1, _, h3, _⟩ := trace_observers c
  obtain ⟨h1', _, h3', _⟩ := trace_observers c'
  exact ⟨_, hrun, by rw [h1, h1', hoa, hos], by rw [h3, h3', hoa], hst⟩

theorem helperSpanOf_end {c : Cfg} {p : Plan} {e a b : Nat} (h : helperSpanOf c p e = some (a, b)) :
    b ≤ e ∧ ∀ t, c.waiter = .cancelled t → b ≤ t := by
  unfold helperSpanOf at h
  cases hw : c.waiter <;> cases hi : p.initEnd <;>
    simp only [hw, hi, Option.some.injEq, Prod.mk.injEq, reduceCtorEq] at h <;>
    refine ⟨by omega, fun t ht => ?_⟩ <;> cases ht <;> omega

theorem helperAt_of_le {span : Option (Nat × Nat)} {t : Nat} (h : ∀ a b, span = some (a, b) → b ≤ t) :
    helperAt span t = false := by
  match span, h with
  | none, _ => rfl
  | some (a, b), h =>
    have := h a b rfl
    simp only [helperAt, Bool.and_eq_false_iff, decide_eq_false_iff_not]
    omega

end Edzed.Lifecycle
