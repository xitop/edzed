/-
C05: the place of `init_async` among the initialisation calls of a block.

`init_async` entries are written by `_init_sblocks_async` only, once per eligible block; at that moment every
block has left `init_steps_completed == 0` (so the restore comes before), and a block that has already begun
its step 2 (only an event can cause that before the asynchronous phase) never runs a synchronous routine again.
-/
import EdzedModel.Init
import EdzedProofs.Init
import EdzedProofs.InitOrder

namespace Edzed.Init

theorem initS_ne_zero (c : Cfg) (fuel : Nat) (a : Nat) (s : St) (hs : s.ok = true)
    (ht : (exec c fuel (.initS a false) s).ok = true) : (exec c fuel (.initS a false) s).steps a ≠ 0 := by
  cases fuel with
  | zero => simp [exec, hs] at ht
  | succ f =>
    by_cases h0 : s.steps a = 0
    · rw [exec_initS c f a false s hs, initBody_zero _ _ a false s h0, if_neg (fun h => Bool.noConfusion h.1),
        step1_steps]
      decide
    · exact (exec_move c (f + 1) a (.initS a false) s).ne_zero h0

theorem foldl_initS_ne_zero (c : Cfg) (l : List Nat) :
    ∀ s, (l.foldl (fun s b => exec c c.fuel (.initS b false) s) s).ok = true →
      ∀ b ∈ l, (l.foldl (fun s b => exec c c.fuel (.initS b false) s) s).steps b ≠ 0 := by
  induction l with
  | nil => intro s _ b hb; cases hb
  | cons a r ih =>
    intro s hok b hb
    rcases List.mem_cons.mp hb with rfl | hb
    · exact ((moveWalk c b).fold _ (fun s x => exec_move c c.fuel b (.initS x false) s) r _).ne_zero
        (initS_ne_zero c c.fuel b s (foldl_exec_ok c (b :: r) s hok) (foldl_exec_ok c r _ hok))
    · exact ih _ hok b hb

theorem syncPhase_ne_zero (c : Cfg) (s : St) (hok : (syncPhase c s).ok = true) (b : Nat) (hb : b < c.n) :
    (syncPhase c s).steps b ≠ 0 :=
  foldl_initS_ne_zero c (List.range c.n) s hok b (List.mem_range.mpr hb)

inductive SK4 where
  | P | A | R | D
  deriving DecidableEq, Repr

def embed : SK → SK4
  | .P => .P
  | .R => .R
  | .D => .D

def kind4 (b : Nat) : Entry → Option SK4
  | .async x _ _ => if x = b then some .A else none
  | e => (syncKind b e).map embed

/-- the initialisation routines of block `b` in the order of their calls:
    P `_restore_state`, A `init_async`, R `init_regular`, D `init_from_value(initdef)` -/
def proj4 (b : Nat) (log : List Entry) : List SK4 := log.filterMap (kind4 b)

theorem kind4_of_not_async (b : Nat) (e : Entry) (h : isAsync e = false) :
    kind4 b e = (syncKind b e).map embed := by
  cases e <;> first | rfl | simp [isAsync] at h

theorem proj4_noasync (b : Nat) (l : List Entry) (h : ∀ x ∈ l, isAsync x = false) :
    proj4 b l = (proj b l).map embed := by
  induction l with
  | nil => rfl
  | cons e r ih =>
    have he := kind4_of_not_async b e (h e (List.mem_cons_self ..))
    have hr := ih (fun x hx => h x (List.mem_cons_of_mem _ hx))
    simp only [proj4, proj, List.filterMap_cons] at hr ⊢
    rw [he]
    cases syncKind b e <;> simp [hr]

theorem proj4_asyncs (b : Nat) (l : List Nat) (g : Nat → Bool) (t : Nat → Int) :
    proj4 b (l.map fun x => Entry.async x (g x) (t x)) = List.replicate (l.count b) .A := by
  induction l with
  | nil => rfl
  | cons x r ih =>
    simp only [proj4, List.map_cons, List.filterMap_cons, kind4] at ih ⊢
    by_cases h : x = b
    · subst h; simp [ih, List.replicate_succ]
    · have : (x == b) = false := by simpa using h
      simp [h, ih, List.count_cons, this]

theorem eligible_nodup (c : Cfg) (s : St) : (eligible c s).Nodup := List.Pairwise.filter _ List.nodup_range

theorem proj4_asyncEntries (c : Cfg) (s : St) (b : Nat) :
    ∃ n, proj4 b (asyncEntries c s) = List.replicate n .A ∧
      (n = 0 ∨ (n = 1 ∧ s.ok = true ∧ b ∈ eligible c s)) := by
  unfold asyncEntries
  cases hok : s.ok with
  | false => exact ⟨0, rfl, Or.inl rfl⟩
  | true =>
    refine ⟨(eligible c s).count b, proj4_asyncs b _ _ _, ?_⟩
    rcases Nat.le_one_iff_eq_zero_or_eq_one.mp (List.nodup_iff_count.mp (eligible_nodup c s) b) with h | h
    · exact Or.inl h
    · exact Or.inr ⟨h, rfl, List.count_pos_iff.mp (by omega)⟩

theorem sublist_prd_embed (l : List SK) (h : l.Sublist [.P, .R, .D]) :
    (l.map embed).Sublist [.P, .A, .R, .D] := by
  have h1 : (l.map embed).Sublist ([SK.P, .R, .D].map embed) := h.map embed
  exact h1.trans (by decide)

theorem order_before (l1 l2 : List SK) (h1 : l1 = [] ∨ l1 = [.P]) (hc : l2.count .P = 0)
    (hs : (l1 ++ l2).Sublist [.P, .R, .D]) :
    (l1.map embed ++ [SK4.A] ++ l2.map embed).Sublist [.P, .A, .R, .D] := by
  have h2 : l2.Sublist [.P, .R, .D] := (List.sublist_append_right l1 l2).trans hs
  have h2' : l2.Sublist [.R, .D] := by
    rcases List.sublist_cons_iff.mp h2 with h | ⟨r, hr, _⟩
    · exact h
    · rw [hr] at hc; simp at hc
  have a1 : (l1.map embed).Sublist [SK4.P] := by
    rcases h1 with e | e <;> subst e <;> decide
  have a2 : (l2.map embed).Sublist [SK4.R, .D] := by
    have := h2'.map embed
    exact this
  exact (a1.append (List.Sublist.refl [SK4.A])).append a2

theorem order_after (l1 : List SK) (hs : l1.Sublist [.P, .R, .D]) :
    (l1.map embed ++ [SK4.A]).Sublist [.P, .R, .D, .A] :=
  (hs.map embed).append (List.Sublist.refl [SK4.A])

end Edzed.Init
