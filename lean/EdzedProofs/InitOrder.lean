/-
C05: every synchronous routine of a block runs at most once and in the order
_restore_state, init_regular, init_from_value -- the `init_steps_completed` protocol.

`SK`: P = `_restore_state`, R = `init_regular`, D = `init_from_value(initdef)`.
One relation, `Move b`, says what a complete call can do to block `b`: nothing, or advance it from
`init_steps_completed` 0 or 1 along the protocol.  A block whose step is in progress (-1, -2) or whose steps
are completed (2) is therefore not touched by anybody but the call that owns the step.  `Shape k l`: the calls `l`
a block at counter `k` can have made; `Move b` keeps it (`Fits`).
-/
import EdzedModel.Init
import EdzedProofs.Init

namespace Edzed.Init

inductive SK where
  | P | R | D
  deriving DecidableEq, Repr

def syncKind (b : Nat) : Entry → Option SK
  | .restore x => if x = b then some .P else none
  | .regular x => if x = b then some .R else none
  | .initdef x _ => if x = b then some .D else none
  | _ => none

/-- the synchronous routines of block `b` in the order of their calls -/
def proj (b : Nat) (log : List Entry) : List SK := log.filterMap (syncKind b)

theorem proj_append (b : Nat) (l e : List Entry) : proj b (l ++ e) = proj b l ++ proj b e :=
  List.filterMap_append

theorem proj_push (b : Nat) (s : St) (e : Entry) :
    proj b (s.push e).log = proj b s.log ++ (syncKind b e).toList := by
  rw [push_log, proj_append]
  cases h : syncKind b e <;> simp [proj, h]

theorem syncKind_note (b : Nat) (e : Entry) (h : Note e) : syncKind b e = none := by
  cases e <;> first | rfl | cases h

theorem syncKind_restore (x : Nat) : syncKind x (.restore x) = some .P := by simp [syncKind]
theorem syncKind_regular (x : Nat) : syncKind x (.regular x) = some .R := by simp [syncKind]
theorem syncKind_initdef (x : Nat) (u : Bool) : syncKind x (.initdef x u) = some .D := by simp [syncKind]
theorem syncKind_other_restore {b x : Nat} (h : x ≠ b) : syncKind b (.restore x) = none := by
  simp [syncKind, h]
theorem syncKind_other_regular {b x : Nat} (h : x ≠ b) : syncKind b (.regular x) = none := by
  simp [syncKind, h]
theorem syncKind_other_initdef {b x : Nat} (u : Bool) (h : x ≠ b) : syncKind b (.initdef x u) = none := by
  simp [syncKind, h]

/-- one step of `init_sblock`: the counter before and after, and the routines called -/
inductive Stp : Int → Int → List SK → Prop
  | one {x : List SK} : (x = [] ∨ x = [.P]) → Stp 0 1 x
  | two {k' : Int} {x : List SK} : (k' = -2 ∨ k' = 2) → (x = [.R] ∨ x = [.R, .D]) → Stp 1 k' x

/-- a call of `init_sblock` takes the block from `init_steps_completed` k to k' and calls the routines x:
    one step, or both -/
inductive Adv : Int → Int → List SK → Prop
  | step {k k' : Int} {x : List SK} : Stp k k' x → Adv k k' x
  | both {k' : Int} {x y : List SK} : Stp 0 1 x → Stp 1 k' y → Adv 0 k' (x ++ y)

theorem Adv.from {k k' : Int} {x : List SK} (h : Adv k k' x) :
    (k = 0 ∨ k = 1) ∧ k' ≠ 0 ∧ (k ≠ 0 → x.count .P = 0) := by
  cases h with
  | step s =>
    cases s with
    | one _ => exact ⟨Or.inl rfl, by decide, fun h => absurd rfl h⟩
    | two hk hx => exact ⟨Or.inr rfl, by omega, fun _ => by rcases hx with rfl | rfl <;> rfl⟩
  | both _ s2 =>
    cases s2 with
    | two hk _ => exact ⟨Or.inl rfl, by omega, fun h => absurd rfl h⟩

/-- only step 1 can be continued, and only by step 2 -/
theorem Adv.trans {k k' k'' : Int} {x y : List SK} (h1 : Adv k k' x) (h2 : Adv k' k'' y) :
    Adv k k'' (x ++ y) := by
  have h := h2.from.1
  cases h1 with
  | step s1 =>
    cases s1 with
    | one hx =>
      cases h2 with
      | step s2 => exact .both (.one hx) s2
    | two hk _ => omega
  | both _ s2 =>
    cases s2 with
    | two hk _ => omega

/-- block `b` is left alone or advanced -/
def Move (b : Nat) (s t : St) : Prop :=
  ∃ x, proj b t.log = proj b s.log ++ x ∧ ((t.steps b = s.steps b ∧ x = []) ∨ Adv (s.steps b) (t.steps b) x)

namespace Move
variable {b : Nat}

theorem same {s t : St} (hs : t.steps b = s.steps b) (hl : proj b t.log = proj b s.log) : Move b s t :=
  ⟨[], by rw [hl, List.append_nil], Or.inl ⟨hs, rfl⟩⟩

theorem trans {s t u : St} (h1 : Move b s t) (h2 : Move b t u) : Move b s u := by
  obtain ⟨x, hx, c1⟩ := h1
  obtain ⟨y, hy, c2⟩ := h2
  refine ⟨x ++ y, by rw [hy, hx, List.append_assoc], ?_⟩
  rcases c1 with ⟨e1, rfl⟩ | a1
  · rw [e1] at c2
    rcases c2 with ⟨e2, rfl⟩ | a2
    · exact Or.inl ⟨e2, rfl⟩
    · exact Or.inr a2
  · rcases c2 with ⟨e2, rfl⟩ | a2
    · rw [e2, List.append_nil]; exact Or.inr a1
    · exact Or.inr (a1.trans a2)

theorem push (s : St) (e : Entry) (h : syncKind b e = none) : Move b s (s.push e) :=
  same rfl (by rw [proj_push, h]; exact List.append_nil _)

theorem keep {s t : St} (h : Move b s t) (h0 : s.steps b ≠ 0) (h1 : s.steps b ≠ 1) :
    t.steps b = s.steps b ∧ proj b t.log = proj b s.log := by
  obtain ⟨x, hx, ⟨e, rfl⟩ | a⟩ := h
  · exact ⟨e, by rw [hx, List.append_nil]⟩
  · exact absurd a.from.1 (fun h => h.elim h0 h1)

theorem ne_zero {s t : St} (h : Move b s t) (h0 : s.steps b ≠ 0) : t.steps b ≠ 0 := by
  obtain ⟨x, _, ⟨e, _⟩ | a⟩ := h
  · rw [e]; exact h0
  · exact a.from.2.1

theorem count_P {s t : St} (h : Move b s t) (h0 : s.steps b ≠ 0) :
    (proj b t.log).count .P = (proj b s.log).count .P := by
  obtain ⟨x, hx, ⟨_, rfl⟩ | a⟩ := h
  · rw [hx, List.append_nil]
  · rw [hx, List.count_append, a.from.2.2 h0, Nat.add_zero]

end Move

theorem moveWalk (c : Cfg) (b : Nat) : Walk c (fun _ => True) (Move b) where
  trans := Move.trans
  quiet := fun hl hs _ _ => Move.same (by rw [hs]) (by rw [hl])
  note := fun s e he => Move.push s e (syncKind_note b e he)
  refused := fun s d => Move.same (by rw [refuse_steps]; rfl)
    (by rw [refuse_log, proj_push]; exact List.append_nil _)
  handle := fun s _ _ _ => Move.push s _ rfl
  setOut := fun _ _ _ _ _ => Move.same rfl rfl
  own := fun _ _ => trivial
  edge := fun _ _ _ _ => trivial

theorem step1_steps (c : Cfg) (rec : Call → St → St) (x : Nat) (s : St) : (step1 c rec x s).steps x = 1 := by
  unfold step1; simp

section self
variable {c : Cfg} {rec : Call → St → St} {b : Nat} (hr : ∀ call s, Move b s (rec call s))
include hr

/-- the nested calls leave the block alone while it is at -1 -/
theorem Move.step1_self (s : St) (h0 : s.steps b = 0) : Move b s (step1 c rec b s) := by
  have key : ∀ (a : St) (x : List SK), (x = [] ∨ x = [.P]) → proj b a.log = proj b s.log ++ x →
      Move b s (a.setSteps b 1) :=
    fun a x hx hl => ⟨x, hl, Or.inr (.step (by rw [h0, setSteps_steps, upd_same]; exact .one hx))⟩
  have hP : proj b ((s.setSteps b (-1)).push (.restore b)).log = proj b s.log ++ [.P] := by
    rw [proj_push, syncKind_restore]; rfl
  unfold step1
  dsimp only
  split
  · exact key _ [] (Or.inl rfl) (List.append_nil _).symm
  · exact key _ [.P] (Or.inr rfl) hP
  · next v how _ =>
    have k := (hr (applyCall how b v) ((s.setSteps b (-1)).push (.restore b))).keep (by simp) (by simp)
    exact key _ [.P] (Or.inr rfl) (by rw [swallow_log, k.2, hP])

/-- likewise while it is at -2 -/
theorem Move.step2_self (s : St) (h1 : s.steps b = 1) : Move b s (step2 c rec b s) := by
  have key : ∀ (a : St) (x : List SK), (x = [.R] ∨ x = [.R, .D]) → proj b a.log = proj b s.log ++ x →
      (a.steps b = -2 ∨ a.steps b = 2) → Move b s a :=
    fun a x hx hl hk => ⟨x, hl, Or.inr (.step (by rw [h1]; exact .two hk hx))⟩
  unfold step2
  dsimp only
  generalize ha : regularBody c rec b ((s.setSteps b (-2)).push (.regular b)) = a
  have hak : a.steps b = -2 ∧ proj b a.log = proj b s.log ++ [.R] := by
    have k := ((moveWalk c b).regularBody (fun call s _ => hr call s) b
      ((s.setSteps b (-2)).push (.regular b))).keep (by simp) (by simp)
    rw [ha] at k
    exact ⟨by rw [k.1]; simp, by rw [k.2, proj_push, syncKind_regular]; rfl⟩
  split
  · exact key a _ (Or.inl rfl) hak.2 (Or.inl hak.1)
  · have hd : (initdefBody c rec b a).steps b = -2 ∧ ∃ x, (x = [.R] ∨ x = [.R, .D]) ∧
        proj b (initdefBody c rec b a).log = proj b s.log ++ x := by
      rcases initdefBody_cases c rec b a with ⟨e, _⟩ | ⟨v, how, _, _, e⟩ <;> rw [e]
      · exact ⟨hak.1, _, Or.inl rfl, hak.2⟩
      · have k := (hr (applyCall how b v) (a.push (.initdef b (a.out b).isUndef))).keep
          (by rw [push_steps, hak.1]; decide) (by rw [push_steps, hak.1]; decide)
        exact ⟨by rw [k.1, push_steps, hak.1], [.R, .D], Or.inr rfl,
          by rw [k.2, proj_push, syncKind_initdef, hak.2, List.append_assoc]; rfl⟩
    obtain ⟨hk, x, hx, hl⟩ := hd
    split
    · exact key _ x hx hl (Or.inl hk)
    · exact key _ x hx hl (Or.inr (by simp))

end self

theorem Move.initBody (c : Cfg) (b : Nat) : InitS c (fun _ => True) (Move b) := by
  intro rec hr x full s
  have hr' : ∀ call s, Move b s (rec call s) := fun call s => hr call s (legit_true call)
  by_cases hx : x = b
  · subst hx
    by_cases h0 : s.steps x = 0
    · rw [initBody_zero c rec x full s h0]
      have m1 := Move.step1_self (c := c) hr' s h0
      split
      · exact m1.trans (Move.step2_self (c := c) hr' _ (step1_steps c rec x s))
      · exact m1
    · by_cases h1 : s.steps x = 1
      · rw [initBody_one c rec x full s h1]
        split
        · exact Move.step2_self (c := c) hr' s h1
        · exact Move.same rfl rfl
      · rw [initBody_done c rec x full s h0 h1]; exact Move.same rfl rfl
  · exact (moveWalk c b).initBody_of_steps hr x (fun s k => Move.same (by simp [upd_other (Ne.symm hx)]) rfl)
      (fun s => Move.push s _ (syncKind_other_restore hx)) (fun s => Move.push s _ (syncKind_other_regular hx))
      (fun s _ => Move.push s _ (syncKind_other_initdef _ hx)) full s

theorem exec_move (c : Cfg) (fuel : Nat) (b : Nat) (call : Call) (s : St) : Move b s (exec c fuel call s) :=
  (moveWalk c b).exec (Move.initBody c b) fuel call s (legit_true call)

theorem proj_asyncEntries (c : Cfg) (s : St) (b : Nat) : proj b (asyncEntries c s) = [] := by
  unfold asyncEntries
  split
  · induction eligible c s with
    | nil => rfl
    | cons x r ih => simp [proj, List.filterMap_cons, syncKind]
  · rfl

theorem started_move (c : Cfg) (s : St) (b : Nat) : Move b s (started c s) :=
  Move.same rfl (by rw [started, proj_append, proj_asyncEntries, List.append_nil])

theorem move_pieces (c : Cfg) (b : Nat) :
    Move b init (afterSync1 c) ∧ Move b (started c (afterSync1 c)) (run c) :=
  (moveWalk c b).run (fun call s _ => exec_move c c.fuel b call s)

theorem run_move (c : Cfg) (b : Nat) : Move b init (run c) :=
  (move_pieces c b).1.trans ((started_move c _ b).trans (move_pieces c b).2)

/-- the synchronous routines a block at `init_steps_completed = k` has called -/
def Shape (k : Int) (l : List SK) : Prop :=
  (k = 0 ∧ l = []) ∨ ((k = -1 ∨ k = 1) ∧ (l = [] ∨ l = [.P])) ∨
  ((k = -2 ∨ k = 2) ∧ (l = [.R] ∨ l = [.P, .R] ∨ l = [.R, .D] ∨ l = [.P, .R, .D]))

theorem Shape.nonneg {k : Int} {l : List SK} (h : Shape k l) (h0 : 0 ≤ k) : k = 0 ∨ k = 1 ∨ k = 2 := by
  rcases h with ⟨e, _⟩ | ⟨e | e, _⟩ | ⟨e | e, _⟩
  · exact .inl e
  · subst e; exact absurd h0 (by decide)
  · exact .inr (.inl e)
  · subst e; exact absurd h0 (by decide)
  · exact .inr (.inr e)

theorem shape0 (l : List SK) : Shape 0 l ↔ l = [] := by simp [Shape]
theorem shape1 (l : List SK) : Shape 1 l ↔ (l = [] ∨ l = [.P]) := by simp [Shape]
theorem shape2 (l : List SK) :
    Shape 2 l ↔ (l = [.R] ∨ l = [.P, .R] ∨ l = [.R, .D] ∨ l = [.P, .R, .D]) := by simp [Shape]

theorem calls_both {x y : List SK} (hx : x = [] ∨ x = [.P]) (hy : y = [.R] ∨ y = [.R, .D]) :
    x ++ y = [.R] ∨ x ++ y = [.P, .R] ∨ x ++ y = [.R, .D] ∨ x ++ y = [.P, .R, .D] := by
  rcases hx with rfl | rfl <;> rcases hy with rfl | rfl <;> decide

theorem Move.shape {b : Nat} {s t : St} (h : Move b s t) (hs : Shape (s.steps b) (proj b s.log)) :
    Shape (t.steps b) (proj b t.log) := by
  obtain ⟨x, hx, ⟨e, rfl⟩ | a⟩ := h
  · rw [hx, List.append_nil, e]; exact hs
  · rw [hx]
    generalize s.steps b = k at hs a
    generalize t.steps b = k' at a ⊢
    generalize proj b s.log = l at hs ⊢
    cases a with
    | step st =>
      cases st with
      | one hx' => rw [(shape0 l).mp hs]; exact Or.inr (Or.inl ⟨Or.inr rfl, hx'⟩)
      | two hk hx' => exact Or.inr (Or.inr ⟨hk, calls_both ((shape1 l).mp hs) hx'⟩)
    | both s1 s2 =>
      rw [(shape0 l).mp hs, List.nil_append]
      cases s1 with
      | one hx1 =>
        cases s2 with
        | two hk hx2 => exact Or.inr (Or.inr ⟨hk, calls_both hx1 hx2⟩)

/-- every block's calls so far fit its counter -/
def Fits (s : St) : Prop := ∀ b, Shape (s.steps b) (proj b s.log)

theorem init_fits : Fits init := fun _ => Or.inl ⟨rfl, rfl⟩

theorem run_fits (c : Cfg) : Fits (run c) := fun b => (run_move c b).shape (init_fits b)

theorem shape_sublist (k : Int) (l : List SK) (h : Shape k l) : l.Sublist [.P, .R, .D] := by
  rcases h with ⟨_, e⟩ | ⟨_, e | e⟩ | ⟨_, e | e | e | e⟩ <;> subst e <;> decide

end Edzed.Init
