/-
Lemmas for C17 about the model EdzedModel/Validate.lean: the rule of `set_output` (`store`), the three outcomes of
`put` as equations and as one case distinction (`put_cases`), and `_validate` as one decision list (`validateT_rows`,
`calls_rows`) over the verdicts of the three validators (`allowedOk`, `checkOk`, `converted`), from which acceptance,
refusal and the order of the calls of user code are read in EdzedProps/C17.lean.
-/
import EdzedModel.Validate
import EdzedProofs.DataLemmas

namespace Edzed

namespace Validate

theorem store_pyEq (out w : Val) : (store out w).pyEq w = true := by
  unfold store; split
  · assumption
  · exact Val.pyEq_refl w

theorem store_cases (out w : Val) : store out w = out ∧ out.pyEq w = true ∨ store out w = w := by
  unfold store; split <;> simp [*]

theorem store_undef (w : Val) (hw : w ≠ .undef) : store .undef w = w := by
  unfold store
  rw [Val.undef_pyEq]
  cases w <;> simp_all [Val.isUndef]

theorem store_ne_undef (out w : Val) (hw : w ≠ .undef) : store out w ≠ .undef := by
  unfold store; split
  · next h => intro ho; subst ho; rw [Val.undef_pyEq] at h; exact hw ((Val.isUndef_iff w).1 h)
  · exact hw

theorem setOut_pyEq (out w : Val) (hw : w ≠ .undef) : (setOut out w).pyEq w = true := by
  simp [setOut, (Val.isUndef_false_iff w).2 hw, store_pyEq]

theorem fsmRestore_restored (e : ExpCfg) (sv : SavedExp) (s : ExpState) (h : fsmRestore e sv = .restored s) :
    ∃ dl, s = ⟨sv.st, sv.input, setOut .undef (calcOutput e sv.st sv.input), 0, dl⟩ := by
  rcases sv with ⟨st, rem, inp⟩
  unfold fsmRestore at h
  cases rem with
  | none => cases st <;> cases inp <;> simp at h ⊢ <;> exact ⟨_, h.symm⟩
  | some r =>
    by_cases hr : r ≤ 0
    · simp [hr] at h
    · cases st <;> cases inp <;> simp [hr] at h ⊢ <;> exact ⟨_, h.symm⟩

theorem run_nil (c : Cfg) (out : Val) : run c out [] = out := rfl

theorem run_cons (c : Cfg) (out v : Val) (vs : List Val) :
    run c out (v :: vs) = run c (put c out v).out vs := rfl

theorem run_append (c : Cfg) (out : Val) (xs ys : List Val) :
    run c out (xs ++ ys) = run c (run c out xs) ys := by
  simp [run, List.foldl_append]

theorem runExp_cons (e : ExpCfg) (s : ExpState) (op : ExpOp) (ops : List ExpOp) :
    runExp e s (op :: ops) = runExp e (stepExp e s op) ops := rfl

theorem runExp_append (e : ExpCfg) (s : ExpState) (xs ys : List ExpOp) :
    runExp e s (xs ++ ys) = runExp e (runExp e s xs) ys := by
  simp [runExp, List.foldl_append]

theorem put_none (c : Cfg) (out v : Val) (h : validate c v = none) :
    (put c out v).out = out ∧ (put c out v).res = .ret false := by
  simp [put, h]

theorem put_some (c : Cfg) (out v w : Val) (h : validate c v = some w) (hw : w ≠ .undef) :
    (put c out v).out = store out w ∧ (put c out v).res = .ret true := by
  have : w.isUndef = false := (Val.isUndef_false_iff w).2 hw
  simp [put, h, this]

theorem put_undef (c : Cfg) (out v : Val) (h : validate c v = some .undef) :
    (put c out v).out = out ∧ (put c out v).res = .abort := by
  simp [put, h, Val.isUndef]

/-- the three outcomes of `put`: refused, accepted with UNDEF (which `set_output` refuses), accepted -/
theorem put_cases (c : Cfg) (out v : Val) :
    validate c v = none ∧ (put c out v).out = out ∧ (put c out v).res = .ret false ∨
    validate c v = some .undef ∧ (put c out v).out = out ∧ (put c out v).res = .abort ∨
    ∃ w, validate c v = some w ∧ w ≠ .undef ∧ (put c out v).out = store out w ∧ (put c out v).res = .ret true := by
  cases hv : validate c v with
  | none => exact .inl ⟨rfl, put_none c out v hv⟩
  | some w =>
    by_cases hw : w = .undef
    · subst hw
      exact .inr (.inl ⟨rfl, put_undef c out v hv⟩)
    · exact .inr (.inr ⟨w, rfl, hw, put_some c out v w hv hw⟩)

theorem put_calls (c : Cfg) (out v : Val) : (put c out v).calls = calls c v := by
  unfold put; split
  · rfl
  · split <;> rfl

/- the verdicts of the three validators on `v`; an absent validator accepts and converts nothing -/
def allowedOk (c : Cfg) (v : Val) : Bool := c.allowed.all fun l => inAllowed l v
def checkOk (c : Cfg) (v : Val) : Bool := c.check.all fun f => (f v).truthy
def converted (c : Cfg) (v : Val) : Option Val :=
  match c.schema with
  | none => some v
  | some s => (s v).toOption

theorem validateT_eq (c : Cfg) (v : Val) :
    validateT c v = if allowedOk c v then checkStage c v else (none, []) := by
  unfold validateT allowedOk
  cases c.allowed <;> rfl

/-- `_validate` as a decision list: the result and the calls of user code, row by row -/
theorem validateT_rows (c : Cfg) (v : Val) :
    validateT c v =
      if allowedOk c v then
        if checkOk c v then
          (converted c v, (c.check.map fun _ => Call.check v).toList ++ (c.schema.map fun _ => Call.schema v).toList)
        else (none, (c.check.map fun _ => Call.check v).toList)
      else (none, []) := by
  rcases c with ⟨al, ch, sc⟩
  have hs : schemaStage ⟨al, ch, sc⟩ v = (converted ⟨al, ch, sc⟩ v, (sc.map fun _ => Call.schema v).toList) := by
    cases sc <;> rfl
  have hc : checkStage ⟨al, ch, sc⟩ v =
      if checkOk ⟨al, ch, sc⟩ v then
        (converted ⟨al, ch, sc⟩ v, (ch.map fun _ => Call.check v).toList ++ (sc.map fun _ => Call.schema v).toList)
      else (none, (ch.map fun _ => Call.check v).toList) := by
    cases ch with
    | none => exact hs
    | some f =>
      simp only [checkStage, checkOk, Option.all_some, hs]
      rfl
  rw [validateT_eq, hc]

theorem calls_rows (c : Cfg) (v : Val) :
    calls c v =
      if allowedOk c v then
        (c.check.map fun _ => Call.check v).toList ++
          if checkOk c v then (c.schema.map fun _ => Call.schema v).toList else []
      else [] := by
  unfold calls
  rw [validateT_rows]
  cases allowedOk c v <;> cases checkOk c v <;> simp

theorem allowedOk_iff (c : Cfg) (v : Val) :
    allowedOk c v = true ↔ ∀ l, c.allowed = some l → v.hashable = true ∧ ∃ a ∈ l, v.pyEq a = true := by
  unfold allowedOk
  cases c.allowed <;> simp [inAllowed]

theorem checkOk_iff (c : Cfg) (v : Val) :
    checkOk c v = true ↔ ∀ f, c.check = some f → (f v).truthy = true := by
  unfold checkOk
  cases c.check <;> simp

theorem converted_iff (c : Cfg) (v w : Val) :
    converted c v = some w ↔ (match c.schema with | none => w = v | some s => s v = .ok w) := by
  unfold converted
  cases c.schema with
  | none => simp [eq_comm]
  | some s => cases h : s v <;> simp [Except.toOption, h]

theorem mem_toList_const {α β : Type} (o : Option α) (y y' : β) :
    y ∈ (o.map fun _ => y').toList ↔ y = y' ∧ o.isSome = true := by
  cases o <;> simp

end Validate
end Edzed
