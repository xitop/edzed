/-
For C15 (model: EdzedModel/Wiring.lean; the theorems are in EdzedProps/C15.lean).  `Inv`: the connection tables agree
with each other and with the stored inputs.  `Ext`: what block creation and a name lookup keep.  What a successful `_validate_blk` does (`validateName_cases`, `VB`).  `Grow P`:
what a part of the finalisation may do to the circuit, and `GrowR`, which adds that stored inputs are only replaced by
their own resolution.  One record per level of the nested loops of `_finalize` – `RL` (references handed to
`_validate_blk`), `FB` (one block), `FP` (one pass), `FC` (all of it) – and `RS` for what also a failed run keeps.  `Good`
holds of every circuit built through the API.  EdzedProofs/WiringTie.lean uses `Grow`/`RL` to re-establish what the
translated loops need after each step.
-/
import EdzedModel.Wiring

namespace Edzed.Wiring

theorem mem_addSet {l : List String} {x y : String} : y ∈ addSet l x ↔ y ∈ l ∨ y = x := by
  unfold addSet
  split
  · next h => constructor
              · intro hy; exact Or.inl hy
              · intro hy; cases hy with
                | inl h1 => exact h1
                | inr h1 => exact h1 ▸ h
  · simp

theorem upd_same {α : Type} (f : String → α) (k : String) (v : α) : upd f k v k = v := by
  simp [upd]

theorem upd_other {α : Type} (f : String → α) (k x : String) (v : α) (h : x ≠ k) :
    upd f k v x = f x := by
  simp [upd, h]

theorem upd_self {α : Type} (f : String → α) (b : String) : upd f b (f b) = f := by
  funext x; simp only [upd]; split
  · next h => rw [h]
  · rfl

theorem upd_upd {α : Type} (f : String → α) (b : String) (x y : α) : upd (upd f b x) b y = upd f b y := by
  funext z; simp only [upd]; split <;> rfl

/-- the resolution the documentation promises: a block object stays, a name becomes the block
    of that name, a Const stays, a plain value is wrapped into a Const -/
def Ref.target : Ref → Ref
  | .obj _ n => .obj false n
  | .name s => .obj false s
  | .const v => .const v
  | .val (.atom (.str s)) => .obj false s
  | .val v => .const v

def Ref.resolved : Ref → Bool
  | .obj false _ => true
  | .const _ => true
  | _ => false

/-- false exactly for the references that can never be accepted: a block of another circuit, UNDEF -/
def Ref.okShape : Ref → Bool
  | .obj true _ => false
  | .val .undef => false
  | _ => true

theorem target_resolved (r : Ref) : r.target.resolved = true := by
  unfold Ref.target; split <;> rfl

theorem target_of_resolved (r : Ref) (h : r.resolved = true) : r.target = r := by
  unfold Ref.resolved at h
  split at h <;> first | rfl | cases h

/-- the two connection tables agree, and every recorded connection is among the stored inputs of its block -/
structure Inv (c : Circ) : Prop where
  sym : ∀ a b, b ∈ c.oconn a ↔ a ∈ c.iconn b
  sub : ∀ a b, a ∈ c.iconn b → ∃ f, Ref.obj f a ∈ allRefs (c.inputs b)

theorem inv_empty : Inv {} := ⟨fun _ _ => by simp, fun _ _ h => by simp at h⟩

structure Ext (c c' : Circ) : Prop where
  kind : ∀ x k, c.kind x = some k → c'.kind x = some k
  inputs : ∀ x, (c.kind x).isSome → c'.inputs x = c.inputs x
  inv : Inv c → Inv c'
  fin : c'.finalized = c.finalized
  stopped : c'.stopped = c.stopped

theorem Ext.refl (c : Circ) : Ext c c := ⟨fun _ _ h => h, fun _ _ => rfl, id, rfl, rfl⟩

theorem Ext.trans {a b c : Circ} (h1 : Ext a b) (h2 : Ext b c) : Ext a c where
  kind := fun x k h => h2.kind x k (h1.kind x k h)
  inputs := fun x h => by
    obtain ⟨k, hk⟩ := Option.isSome_iff_exists.mp h
    have : (b.kind x).isSome := by rw [h1.kind x k hk]; rfl
    rw [h2.inputs x this, h1.inputs x h]
  inv := fun h => h2.inv (h1.inv h)
  fin := by rw [h2.fin, h1.fin]
  stopped := by rw [h2.stopped, h1.stopped]

theorem ok_of_guard {ε α : Type} {p : Prop} [Decidable p] {e : ε} {x : Except ε α} {a : α}
    (h : (if p then .error e else x) = .ok a) : ¬ p ∧ x = .ok a := by
  by_cases hp : p
  · rw [if_pos hp] at h; cases h
  · rw [if_neg hp] at h; exact ⟨hp, h⟩

theorem error_of_not_ok {ε α : Type} {x : Except ε α} (h : ∀ a, x ≠ .ok a) : ∃ e, x = .error e := by
  cases x with
  | error e => exact ⟨e, rfl⟩
  | ok a => exact absurd rfl (h a)

theorem ok_of_notFinalized {α : Type} {c : Circ} {x : Except Err α} {a : α}
    (h : (match checkNotFinalized c with
      | .error e => (.error e : Except Err α)
      | .ok () => x) = .ok a) : c.finalized = false ∧ c.stopped = false ∧ x = .ok a := by
  rcases c with ⟨_, _, _, _, _, fin, st, _, _⟩
  cases st <;> cases fin <;> first | exact ⟨rfl, rfl, h⟩ | cases h

theorem addBlock_ok {c c' : Circ} {n : String} {k : BKind} {r : Bool}
    (h : addBlock c n k r = .ok c') :
    c.kind n = none ∧ c.finalized = false ∧ c.stopped = false ∧
    c' = { c with order := c.order ++ [n], kind := upd c.kind n (some k) } := by
  unfold addBlock at h
  obtain ⟨hf, hs, h⟩ := ok_of_notFinalized (ok_of_guard (ok_of_guard h).2).2
  obtain ⟨hk, h⟩ := ok_of_guard h
  cases h
  exact ⟨Option.not_isSome_iff_eq_none.mp hk, hf, hs, rfl⟩

theorem addBlock_ext {c c' : Circ} {n : String} {k : BKind} {r : Bool}
    (h : addBlock c n k r = .ok c') : Ext c c' := by
  obtain ⟨hn, _, _, rfl⟩ := addBlock_ok h
  refine ⟨?_, fun _ _ => rfl, fun hi => ⟨hi.sym, hi.sub⟩, rfl, rfl⟩
  intro x k' hx
  have : x ≠ n := by intro e; rw [e, hn] at hx; cases hx
  simp [upd, this, hx]

theorem connect_ok {c c' : Circ} {b : String} {pos : List Ref} {named : Inputs}
    (h : connect c b pos named = .ok c') :
    (∃ cls, c.kind b = some (.c cls)) ∧ c.finalized = false ∧ c.stopped = false ∧ c.inputs b = [] ∧
    (pos.isEmpty && named.isEmpty) = false ∧ named.any (fun p => p.1 == "_") = false ∧
    pos.any Ref.isMultiple = false ∧
    c' = { c with inputs := upd c.inputs b (connectInputs pos named) } := by
  unfold connect at h
  cases hk : c.kind b with
  | none => rw [hk] at h; cases h
  | some kd =>
    cases kd with
    | s => rw [hk] at h; cases h
    | c cls =>
      rw [hk] at h
      obtain ⟨hf, hs, h⟩ := ok_of_notFinalized h
      obtain ⟨h1, h⟩ := ok_of_guard h
      obtain ⟨h2, h⟩ := ok_of_guard h
      obtain ⟨h3, h⟩ := ok_of_guard h
      obtain ⟨h4, h⟩ := ok_of_guard h
      cases h
      exact ⟨⟨cls, rfl⟩, hf, hs, by simpa using h1, Bool.eq_false_iff.mpr h2, Bool.eq_false_iff.mpr h3,
        Bool.eq_false_iff.mpr h4, rfl⟩

/-- the block had no inputs, hence no connections -/
theorem connect_inv {c c' : Circ} {b : String} {pos : List Ref} {named : Inputs}
    (h : connect c b pos named = .ok c') (hi : Inv c) : Inv c' := by
  obtain ⟨_, _, _, hin, _, _, _, rfl⟩ := connect_ok h
  refine ⟨hi.sym, ?_⟩
  intro a b' ha
  by_cases e : b' = b
  · subst e
    obtain ⟨f, hf⟩ := hi.sub a b' ha
    rw [hin] at hf
    simp [allRefs] at hf
  · obtain ⟨f, hf⟩ := hi.sub a b' ha
    exact ⟨f, by simpa [upd, e] using hf⟩

theorem findblock_ok {c c' : Circ} {s : String} {r' : Ref} (h : findblock c s = .ok (c', r')) :
    c' = c ∧ r' = .obj false s ∧ (c.kind s).isSome := by
  unfold findblock at h
  by_cases hk : (c.kind s).isSome = true
  · rw [if_pos hk] at h; cases h; exact ⟨rfl, rfl, hk⟩
  · rw [if_neg hk] at h; cases h

/-- the three ways a name is resolved: the block exists; `'_ctrl'` is created; the inverter `'_not_T'`
    is created and connected to the name `T` -/
theorem validateName_cases {c c' : Circ} {s : String} {r' : Ref}
    (h : validateName c s = .ok (c', r')) :
    r' = .obj false s ∧
    ((c' = c ∧ (c.kind s).isSome) ∨
     (startsUnderscore s = true ∧
       (addBlock c s .s true = .ok c' ∨
        ∃ t c1, notTarget? s = some t ∧ addBlock c s (.c .not) true = .ok c1 ∧
          connect c1 s [.name t] [] = .ok c'))) := by
  have hfind : ∀ {Q : Prop}, findblock c s = .ok (c', r') →
      r' = .obj false s ∧ ((c' = c ∧ (c.kind s).isSome) ∨ Q) := fun hf =>
    ⟨(findblock_ok hf).2.1, Or.inl ⟨(findblock_ok hf).1, (findblock_ok hf).2.2⟩⟩
  unfold validateName at h
  by_cases hc : (startsUnderscore s && !(c.kind s).isSome) = true
  · rw [if_pos hc] at h
    have hu : startsUnderscore s = true := (Bool.and_eq_true_iff.mp hc).1
    by_cases h2 : (s == "_ctrl") = true
    · rw [if_pos h2] at h
      cases h1 : addBlock c s .s true with
      | error e => rw [h1] at h; cases h
      | ok c1 => rw [h1] at h; cases h; exact ⟨rfl, Or.inr ⟨hu, Or.inl rfl⟩⟩
    · rw [if_neg h2] at h
      cases ht : notTarget? s with
      | none => rw [ht] at h; exact hfind h
      | some t =>
        rw [ht] at h
        cases h1 : addBlock c s (.c .not) true with
        | error e => rw [h1] at h; cases h
        | ok c1 =>
          rw [h1] at h
          cases h3 : connect c1 s [.name t] [] with
          | error e => simp only [h3] at h; cases h
          | ok c2 => simp only [h3] at h; cases h; exact ⟨rfl, Or.inr ⟨hu, Or.inr ⟨t, c1, rfl, rfl, h3⟩⟩⟩
  · rw [if_neg hc] at h; exact hfind h

theorem validateName_ext {c c' : Circ} {s : String} {r' : Ref}
    (h : validateName c s = .ok (c', r')) : Ext c c' := by
  rcases (validateName_cases h).2 with ⟨rfl, _⟩ | ⟨_, h1 | ⟨t, c1, _, h1, h2⟩⟩
  · exact Ext.refl _
  · exact addBlock_ext h1
  · obtain ⟨hn, _, _, e0⟩ := addBlock_ok h1
    obtain ⟨_, _, _, _, _, _, _, e⟩ := connect_ok h2
    have e1 := addBlock_ext h1
    refine ⟨?_, ?_, fun hi => connect_inv h2 (e1.inv hi), ?_, ?_⟩
    · intro x k hx; rw [e]; exact e1.kind x k hx
    · intro x hx
      have : x ≠ s := by intro ex; rw [ex, hn] at hx; cases hx
      rw [e, e0]; simp [upd, this]
    · rw [e]; exact e1.fin
    · rw [e]; exact e1.stopped

theorem notTarget_noUnderscore {s t : String} (h : notTarget? s = some t) :
    startsUnderscore t = false := by
  unfold notTarget? at h
  split at h
  · next rest _ =>
    split at h
    · cases h
    · next hr =>
      cases h
      unfold startsUnderscore
      cases rest with
      | nil => simp
      | cons a r =>
        simp only [String.toList_ofList]
  · cases h

/-- a block nobody has touched since the simulator created it as an inverter -/
def Fresh (c : Circ) (x : String) : Prop :=
  ∃ t, c.inputs x = [("_", .group [.name t])] ∧ startsUnderscore t = false

structure NameRes (c : Circ) (s : String) (c' : Circ) : Prop where
  kind : (c'.kind s).isSome
  iconn : c'.iconn = c.iconn
  oconn : c'.oconn = c.oconn
  slots : c'.slots = c.slots
  created : c' = c ∨ (c.kind s = none ∧ startsUnderscore s = true ∧ c'.order = c.order ++ [s] ∧
      (∀ x, x ≠ s → c'.kind x = c.kind x) ∧
      ((c'.kind s = some .s ∧ c'.inputs = c.inputs) ∨
       (c'.kind s = some (.c .not) ∧ ∃ t, notTarget? s = some t ∧
          c'.inputs = upd c.inputs s [("_", .group [.name t])])))

theorem validateName_spec {c c' : Circ} {s : String} {r' : Ref}
    (h : validateName c s = .ok (c', r')) : r' = .obj false s ∧ NameRes c s c' := by
  refine ⟨(validateName_cases h).1, ?_⟩
  rcases (validateName_cases h).2 with ⟨rfl, hk⟩ | ⟨hu, h1 | ⟨t, c1, ht, h1, h2⟩⟩
  · exact ⟨hk, rfl, rfl, rfl, Or.inl rfl⟩
  · obtain ⟨hn, _, _, rfl⟩ := addBlock_ok h1
    exact ⟨by simp [upd], rfl, rfl, rfl,
      Or.inr ⟨hn, hu, rfl, fun x hx => upd_other _ _ _ _ hx, Or.inl ⟨upd_same .., rfl⟩⟩⟩
  · obtain ⟨hn, _, _, rfl⟩ := addBlock_ok h1
    obtain ⟨_, _, _, _, _, _, _, rfl⟩ := connect_ok h2
    exact ⟨by simp [upd], rfl, rfl, rfl,
      Or.inr ⟨hn, hu, rfl, fun x hx => upd_other _ _ _ _ hx, Or.inr ⟨upd_same .., t, ht, rfl⟩⟩⟩

theorem validateName_quiet {c c' : Circ} {s : String} {r' : Ref}
    (h : validateName c s = .ok (c', r')) (hs : startsUnderscore s = false) : c' = c := by
  rcases (validateName_cases h).2 with ⟨rfl, _⟩ | ⟨hu, _⟩
  · rfl
  · rw [hs] at hu; cases hu

def WF (c : Circ) : Prop := ∀ x, (c.kind x).isSome → x ∈ c.order

/-- what a part of the finalisation may do: blocks stay, connections are only added, a new block is an SBlock or an
    inverter that is still as created.  `P` = the blocks whose `inputs` may have been rewritten.  Because of the last
    promise two such steps compose only while `P` holds of blocks that existed at the start (`Grow.trans`). -/
structure Grow (P : String → Prop) (c c' : Circ) : Prop where
  kind : ∀ x k, c.kind x = some k → c'.kind x = some k
  inputs : ∀ x, ¬ P x → (c.kind x).isSome → c'.inputs x = c.inputs x
  inv : Inv c → Inv c'
  fin : c'.finalized = c.finalized
  slots : c'.slots = c.slots
  iconnMono : ∀ a b, a ∈ c.iconn b → a ∈ c'.iconn b
  newFresh : ∀ x, c.kind x = none →
    c'.kind x = none ∨ c'.kind x = some .s ∨ (c'.kind x = some (.c .not) ∧ Fresh c' x)
  wf : WF c → WF c'

theorem Grow.refl (P : String → Prop) (c : Circ) : Grow P c c :=
  ⟨fun _ _ h => h, fun _ _ _ => rfl, id, rfl, rfl, fun _ _ h => h, fun _ h => Or.inl h, id⟩

theorem Grow.mono {P Q : String → Prop} {c c' : Circ} (h : Grow P c c') (hpq : ∀ x, P x → Q x) :
    Grow Q c c' :=
  ⟨h.kind, fun x hx hk => h.inputs x (fun hp => hx (hpq x hp)) hk, h.inv, h.fin, h.slots,
   h.iconnMono, h.newFresh, h.wf⟩

theorem isSome_of_kind {c : Circ} {x : String} {k : BKind} (h : c.kind x = some k) :
    (c.kind x).isSome := by rw [h]; rfl

theorem Grow.isSome {P : String → Prop} {c c' : Circ} (g : Grow P c c') {x : String}
    (h : (c.kind x).isSome) : (c'.kind x).isSome := by
  obtain ⟨k, hk⟩ := Option.isSome_iff_exists.mp h
  exact isSome_of_kind (g.kind x k hk)

theorem Grow.new_cblock {P : String → Prop} {c c' : Circ} (g : Grow P c c') {x : String} {cls : CCls}
    (h0 : c.kind x = none) (h1 : c'.kind x = some (.c cls)) : cls = .not ∧ Fresh c' x := by
  rcases g.newFresh x h0 with h | h | ⟨h, hf⟩
  · rw [h1] at h; cases h
  · rw [h1] at h; cases h
  · rw [h1] at h; cases h; exact ⟨rfl, hf⟩

theorem Grow.trans {P : String → Prop} {a b c : Circ} (h1 : Grow P a b) (h2 : Grow P b c)
    (hP : ∀ x, P x → (a.kind x).isSome) : Grow P a c where
  kind := fun x k h => h2.kind x k (h1.kind x k h)
  inputs := fun x hx h => by
    rw [h2.inputs x hx (h1.isSome h), h1.inputs x hx h]
  inv := fun h => h2.inv (h1.inv h)
  fin := by rw [h2.fin, h1.fin]
  slots := by rw [h2.slots, h1.slots]
  iconnMono := fun x y h => h2.iconnMono x y (h1.iconnMono x y h)
  newFresh := fun x hx => by
    rcases h1.newFresh x hx with h | h | ⟨h, t, ht, hu⟩
    · exact h2.newFresh x h
    · exact Or.inr (Or.inl (h2.kind x _ h))
    · refine Or.inr (Or.inr ⟨h2.kind x _ h, t, ?_, hu⟩)
      have hnp : ¬ P x := fun hp => by have := hP x hp; rw [hx] at this; cases this
      rw [h2.inputs x hnp (isSome_of_kind h), ht]
  wf := fun h => h2.wf (h1.wf h)

/-- no block's `inputs` are rewritten (the `P` of `Grow` for `_validate_blk` and what is built from it) -/
abbrev NoP : String → Prop := fun _ => False

theorem Grow.transNoP {a b c : Circ} (h1 : Grow NoP a b) (h2 : Grow NoP b c) : Grow NoP a c :=
  Grow.trans h1 h2 (fun _ hf => hf.elim)

/-- references whose validation cannot create a block -/
def Ref.quiet : Ref → Bool
  | .obj false _ => true
  | .const _ => true
  | .name t => !startsUnderscore t
  | _ => false

theorem nameRes_grow {c c' : Circ} {s : String} (hn : NameRes c s c') (he : Ext c c') :
    Grow NoP c c' where
  kind := he.kind
  inputs := fun x _ h => he.inputs x h
  inv := he.inv
  fin := he.fin
  slots := hn.slots
  iconnMono := fun a b h => by rw [hn.iconn]; exact h
  newFresh := fun x hx => by
    rcases hn.created with rfl | ⟨_, _, _, hk, hc⟩
    · exact Or.inl hx
    · by_cases e : x = s
      · subst e
        rcases hc with ⟨h1, _⟩ | ⟨h1, t, ht, hi⟩
        · exact Or.inr (Or.inl h1)
        · exact Or.inr (Or.inr ⟨h1, t, by rw [hi]; simp [upd], notTarget_noUnderscore ht⟩)
      · exact Or.inl (by rw [hk x e]; exact hx)
  wf := fun hw x hx => by
    rcases hn.created with rfl | ⟨_, _, ho, hk, _⟩
    · exact hw x hx
    · rw [ho]
      by_cases e : x = s
      · simp [e]
      · rw [hk x e] at hx; exact List.mem_append.mpr (Or.inl (hw x hx))

/-- what a successful `_validate_blk` did -/
structure VB (c : Circ) (r : Ref) (c' : Circ) (r' : Ref) : Prop where
  target : r' = r.target
  shape : r.okShape = true
  exists_ : ∀ n, r' = .obj false n → (c'.kind n).isSome
  grow : Grow (fun _ => False) c c'
  quiet : r.quiet = true → c' = c

theorem VB.const (c : Circ) {r : Ref} {v : Val} (ht : r.target = .const v) (hs : r.okShape = true) :
    VB c r c (.const v) :=
  ⟨ht.symm, hs, nofun, Grow.refl _ _, fun _ => rfl⟩

theorem VB.name {c c' : Circ} {r r' : Ref} {s : String} (h : validateName c s = .ok (c', r'))
    (ht : r.target = .obj false s) (hs : r.okShape = true)
    (hq : r.quiet = true → startsUnderscore s = false) : VB c r c' r' := by
  obtain ⟨e, hn⟩ := validateName_spec h
  refine ⟨e.trans ht.symm, hs, fun n hn' => ?_, nameRes_grow hn (validateName_ext h),
    fun hqq => validateName_quiet h (hq hqq)⟩
  cases e.symm.trans hn'
  exact hn.kind

theorem validateBlk_vb {c c' : Circ} {r r' : Ref} (h : validateBlk c r = .ok (c', r')) :
    VB c r c' r' := by
  cases r with
  | const v => cases h; exact VB.const c rfl rfl
  | name s => exact VB.name h rfl rfl fun hq => by simpa [Ref.quiet] using hq
  | obj f n =>
    obtain ⟨hc, h⟩ := ok_of_guard h
    cases h
    cases f with
    | true => exact absurd rfl hc
    | false =>
      have hk : (c.kind n).isSome = true := by
        cases hh : (c.kind n).isSome with
        | true => rfl
        | false => exact absurd (by rw [hh]; rfl) hc
      exact ⟨rfl, rfl, (fun m hm => by cases hm; exact hk), Grow.refl _ _, fun _ => rfl⟩
  | val v =>
    cases v with
    | undef => cases h
    | tup l => cases h; exact VB.const c rfl rfl
    | lst l => cases h; exact VB.const c rfl rfl
    | atom a =>
      cases a with
      | str s => exact VB.name h rfl rfl nofun
      | none => cases h; exact VB.const c rfl rfl
      | num q k => cases h; exact VB.const c rfl rfl

def Inp.mapT : Inp → Inp
  | .single r => .single r.target
  | .group rs => .group (rs.map Ref.target)

def mapI (l : Inputs) : Inputs := l.map fun p => (p.1, p.2.mapT)

theorem Inp.mapT_refs (i : Inp) : i.mapT.refs = i.refs.map Ref.target := by
  cases i <;> rfl

theorem Inp.mapT_sigVal (i : Inp) : i.mapT.sigVal = i.sigVal := by
  cases i <;> simp [Inp.mapT, Inp.sigVal]

theorem allRefs_append (l1 l2 : Inputs) : allRefs (l1 ++ l2) = allRefs l1 ++ allRefs l2 := by
  simp [allRefs]

theorem allRefs_cons (k : String) (i : Inp) (l : Inputs) : allRefs ((k, i) :: l) = i.refs ++ allRefs l := by
  simp [allRefs]

theorem mapI_cons (k : String) (i : Inp) (l : Inputs) : mapI ((k, i) :: l) = (k, i.mapT) :: mapI l := rfl

theorem allRefs_mapI (l : Inputs) : allRefs (mapI l) = (allRefs l).map Ref.target := by
  induction l with
  | nil => rfl
  | cons p l ih =>
    obtain ⟨k, i⟩ := p
    rw [mapI_cons, allRefs_cons, allRefs_cons, ih, Inp.mapT_refs, List.map_append]

theorem Inp.mapT_mapT (i : Inp) : i.mapT.mapT = i.mapT := by
  cases i with
  | single r => exact congrArg Inp.single (target_of_resolved _ (target_resolved r))
  | group rs =>
    refine congrArg Inp.group ?_
    rw [List.map_map]
    exact List.map_congr_left fun r _ => target_of_resolved _ (target_resolved r)

theorem Inp.mapT_of_resolved {i : Inp} (h : ∀ r ∈ i.refs, r.resolved = true) : i.mapT = i := by
  cases i with
  | single r => exact congrArg Inp.single (target_of_resolved r (h r (List.mem_singleton.mpr rfl)))
  | group rs =>
    exact congrArg Inp.group ((List.map_congr_left fun r hr => target_of_resolved r (h r hr)).trans (List.map_id _))

theorem mapI_of_resolved {l : Inputs} (h : ∀ r ∈ allRefs l, r.resolved = true) : mapI l = l :=
  (List.map_congr_left fun p hp => by
    rw [Inp.mapT_of_resolved fun r hr => h r (List.mem_flatMap.mpr ⟨p, hp, hr⟩)]
    rfl).trans (List.map_id _)

theorem mapI_keys (l : Inputs) : (mapI l).map (·.1) = l.map (·.1) := by
  simp only [mapI, List.map_map]
  rfl

/-- `Grow`, and the stored inputs of every block resolve to what they resolved to before: inputs are only
    ever replaced by their own resolution.  Being an equation, `res` composes without any condition on `P`; the names
    and group sizes of the inputs, hence the distinctness of the names, ride on it. -/
structure GrowR (P : String → Prop) (c c' : Circ) : Prop extends Grow P c c' where
  res : ∀ x, (c.kind x).isSome → mapI (c'.inputs x) = mapI (c.inputs x)

theorem GrowR.refl (P : String → Prop) (c : Circ) : GrowR P c c := ⟨Grow.refl P c, fun _ _ => rfl⟩

theorem GrowR.mono {P Q : String → Prop} {c c' : Circ} (h : GrowR P c c') (hpq : ∀ x, P x → Q x) :
    GrowR Q c c' := ⟨h.toGrow.mono hpq, h.res⟩

theorem GrowR.ofNoP {c c' : Circ} (g : Grow NoP c c') : GrowR NoP c c' :=
  ⟨g, fun x h => by rw [g.inputs x id h]⟩

theorem GrowR.trans {P : String → Prop} {a b c : Circ} (h1 : GrowR P a b) (h2 : GrowR P b c)
    (hP : ∀ x, P x → (a.kind x).isSome) : GrowR P a c :=
  ⟨h1.toGrow.trans h2.toGrow hP, fun x h => (h2.res x (h1.toGrow.isSome h)).trans (h1.res x h)⟩

/-- the references `rs` were handed to `_validate_blk` one after the other on the way from `c` to `c'`,
    while only the stored inputs of the blocks `P` changed; `ok`: all of them were accepted.  `ok` is a Boolean so that
    the outcome of a composed run computes (`RL.append`: `o1 && o2`) and no producer has to adapt a condition. -/
structure RL (P : String → Prop) (c : Circ) (rs : List Ref) (c' : Circ) (ok : Bool) : Prop where
  grow : GrowR P c c'
  quiet : (∀ r ∈ rs, r.quiet = true) → c'.kind = c.kind
  acc : ok = true → (∀ r ∈ rs, r.okShape = true) ∧ ∀ n, Ref.obj false n ∈ rs.map Ref.target → (c'.kind n).isSome

theorem RL.fail (P : String → Prop) (c : Circ) (rs : List Ref) : RL P c rs c false :=
  ⟨GrowR.refl _ _, fun _ => rfl, fun h => nomatch h⟩

theorem RL.mono {P Q : String → Prop} {c c' : Circ} {rs : List Ref} {ok : Bool} (h : RL P c rs c' ok)
    (hpq : ∀ x, P x → Q x) : RL Q c rs c' ok :=
  ⟨h.grow.mono hpq, h.quiet, h.acc⟩

theorem RL.of_vb {c c' : Circ} {r r' : Ref} (vb : VB c r c' r') : RL NoP c [r] c' true :=
  ⟨GrowR.ofNoP vb.grow, fun hq => by rw [vb.quiet (hq r (List.mem_singleton.mpr rfl))],
   fun _ => ⟨fun x hx => List.mem_singleton.mp hx ▸ vb.shape,
     fun n hn => vb.exists_ n (vb.target.trans (List.mem_singleton.mp hn).symm)⟩⟩

theorem RL.of_grow {P : String → Prop} {c c' : Circ} (g : GrowR P c c') (hk : c'.kind = c.kind) :
    RL P c [] c' true :=
  ⟨g, fun _ => hk, fun _ => ⟨fun _ h => (nomatch h), fun _ h => (nomatch h)⟩⟩

theorem RL.append {P : String → Prop} {a b c : Circ} {rs1 rs2 : List Ref} {o1 o2 : Bool}
    (h1 : RL P a rs1 b o1) (h2 : RL P b rs2 c o2) (hP : ∀ x, P x → (a.kind x).isSome) :
    RL P a (rs1 ++ rs2) c (o1 && o2) where
  grow := h1.grow.trans h2.grow hP
  quiet := fun hq => by
    rw [h2.quiet fun r hr => hq r (List.mem_append_right _ hr),
      h1.quiet fun r hr => hq r (List.mem_append_left _ hr)]
  acc := fun hp => by
    obtain ⟨p1, p2⟩ := Bool.and_eq_true_iff.mp hp
    exact ⟨fun r hr => (List.mem_append.mp hr).elim ((h1.acc p1).1 r) ((h2.acc p2).1 r),
      fun n hn => by
        rw [List.map_append] at hn
        exact (List.mem_append.mp hn).elim (fun h => h2.grow.isSome ((h1.acc p1).2 n h)) ((h2.acc p2).2 n)⟩

theorem validateList_rl (rs : List Ref) : ∀ (c c' : Circ) (res : Except Err (List Ref)),
    validateList c rs = (c', res) →
    RL NoP c rs c' res.toBool ∧ ∀ rs', res = .ok rs' → rs' = rs.map Ref.target := by
  induction rs with
  | nil =>
    intro c c' res h
    cases h
    exact ⟨RL.of_grow (GrowR.refl _ _) rfl, fun _ h => by cases h; rfl⟩
  | cons r rs ih =>
    intro c c' res h
    unfold validateList at h
    split at h
    · cases h
      exact ⟨RL.fail _ _ _, fun _ h => nomatch h⟩
    · next c1 r' hv =>
      have vb := validateBlk_vb hv
      cases h2 : validateList c1 rs with
      | mk c2 res2 =>
        obtain ⟨rl, hr⟩ := ih c1 c2 res2 h2
        rw [h2] at h
        cases res2 with
        | error e => cases h; exact ⟨(RL.of_vb vb).append rl nofun, fun _ h => nomatch h⟩
        | ok rs' =>
          cases h
          exact ⟨(RL.of_vb vb).append rl nofun, fun _ h => by cases h; rw [vb.target, hr rs' rfl]; rfl⟩

theorem resolveInput_rl {c c' : Circ} {i : Inp} {res : Except Err Inp}
    (h : resolveInput c i = (c', res)) :
    RL NoP c i.refs c' res.toBool ∧ ∀ i', res = .ok i' → i' = i.mapT := by
  cases i with
  | single r =>
    simp only [resolveInput] at h
    split at h
    · cases h
      exact ⟨RL.fail _ _ _, fun _ h => nomatch h⟩
    · next c1 r' hv =>
      cases h
      have vb := validateBlk_vb hv
      exact ⟨RL.of_vb vb, fun _ h => by cases h; rw [vb.target]; rfl⟩
  | group rs =>
    simp only [resolveInput] at h
    split at h
    · next c1 e h1 =>
      cases h
      exact ⟨(validateList_rl rs _ _ (.error e) h1).1, fun _ h => nomatch h⟩
    · next c1 rs' h1 =>
      cases h
      exact ⟨(validateList_rl rs _ _ (.ok rs') h1).1,
        fun _ h => by cases h; rw [(validateList_rl rs _ _ _ h1).2 rs' rfl]; rfl⟩

/-- the step of `_finalize` that stores one resolved item in place: the connections recorded so far stay justified,
    since a block object among the references stays one under its name -/
theorem store_growR {c : Circ} {b k : String} {i : Inp} {done rest : Inputs}
    (hin : c.inputs b = done ++ (k, i) :: rest) :
    GrowR (· = b) c { c with inputs := upd c.inputs b (done ++ (k, i.mapT) :: rest) } := by
  refine ⟨⟨fun _ _ h => h, fun x hx _ => by simp [upd, hx], fun hi => ⟨hi.sym, fun a b' ha => ?_⟩, rfl, rfl,
    fun _ _ h => h, fun _ h => Or.inl h, id⟩, fun x _ => ?_⟩
  · obtain ⟨f, hf⟩ := hi.sub a b' ha
    by_cases e : b' = b
    · subst e
      rw [hin, allRefs_append, allRefs_cons] at hf
      simp only [upd_same, allRefs_append, allRefs_cons, Inp.mapT_refs]
      rcases List.mem_append.mp hf with h | h
      · exact ⟨f, List.mem_append.mpr (Or.inl h)⟩
      · rcases List.mem_append.mp h with h | h
        · exact ⟨false, List.mem_append.mpr (Or.inr (List.mem_append.mpr (Or.inl
            (List.mem_map.mpr ⟨_, h, rfl⟩))))⟩
        · exact ⟨f, List.mem_append.mpr (Or.inr (List.mem_append.mpr (Or.inr h)))⟩
    · exact ⟨f, by simpa [upd, e] using hf⟩
  · show mapI (upd c.inputs b _ x) = _
    by_cases e : x = b
    · rw [e, upd_same, hin]
      simp only [mapI, List.map_append, List.map_cons, Inp.mapT_mapT]
    · rw [upd_other _ _ _ _ e]

theorem resolveItems_rl (b : String) (todo : Inputs) : ∀ (c : Circ) (done : Inputs) (c' : Circ)
    (e : Option Err), (c.kind b).isSome → c.inputs b = done ++ todo →
    resolveItems c b done todo = (c', e) →
    RL (· = b) c (allRefs todo) c' e.isNone ∧ (e = none → c'.inputs b = done ++ mapI todo) := by
  induction todo with
  | nil =>
    intro c done c' e _ hin h
    cases h
    exact ⟨RL.of_grow (GrowR.refl _ _) rfl, fun _ => by simpa [mapI] using hin⟩
  | cons p rest ih =>
    obtain ⟨k, i⟩ := p
    intro c done c' e hb hin h
    have hP : ∀ {a : Circ}, (a.kind b).isSome → ∀ x, x = b → (a.kind x).isSome := fun h x hx => hx ▸ h
    rw [allRefs_cons]
    unfold resolveItems at h
    split at h
    · next c1 e1 h1 =>
      cases h
      exact ⟨((resolveInput_rl h1).1.mono nofun).append (RL.fail _ _ _) (hP hb), fun h => nomatch h⟩
    · next c1 i' h1 =>
      have ri := resolveInput_rl h1
      cases ri.2 i' rfl
      have hin1 : c1.inputs b = done ++ (k, i) :: rest := by
        rw [ri.1.grow.inputs b id hb]; exact hin
      have hb1 : (c1.kind b).isSome := ri.1.grow.isSome hb
      have r2 := ih { c1 with inputs := upd c1.inputs b (done ++ (k, i.mapT) :: rest) }
        (done ++ [(k, i.mapT)]) c' e hb1 (by simp [upd]) h
      exact ⟨(ri.1.mono nofun).append ((RL.of_grow (store_growR hin1) rfl).append r2.1 (hP hb1)) (hP hb),
        fun he => by rw [r2.2 he]; simp [mapI]⟩

theorem mem_upd_addSet (f : String → List String) (k v x y : String) :
    x ∈ upd f k (addSet (f k) v) y ↔ x ∈ f y ∨ (y = k ∧ x = v) := by
  by_cases e : y = k
  · rw [e, upd_same, mem_addSet]; simp
  · rw [upd_other _ _ _ _ e]; simp [e]

theorem exists_obj_cons_obj (x a0 : String) (f0 : Bool) (rest : List Ref) :
    (∃ f, Ref.obj f x ∈ Ref.obj f0 a0 :: rest) ↔ x = a0 ∨ ∃ f, Ref.obj f x ∈ rest := by
  simp only [List.mem_cons, exists_or, Ref.obj.injEq, exists_eq_left]

theorem exists_obj_cons_other (x : String) (r : Ref) (rest : List Ref) (h : ∀ f a, r ≠ .obj f a) :
    (∃ f, Ref.obj f x ∈ r :: rest) ↔ ∃ f, Ref.obj f x ∈ rest := by
  simp only [List.mem_cons, fun f => (h f x).symm, false_or]

/-- one record equation, of which the equation of each other field is a `congrArg` -/
theorem connectAll_frame (refs : List Ref) : ∀ (c : Circ) (b : String),
    connectAll c b refs =
      { c with iconn := (connectAll c b refs).iconn, oconn := (connectAll c b refs).oconn } := by
  induction refs with
  | nil => intro c b; rfl
  | cons r rest ih =>
    intro c b
    cases r with
    | obj f a => exact (ih _ b).trans rfl
    | _ => exact ih c b

theorem mem_connectAll (refs : List Ref) : ∀ (c : Circ) (b x y : String),
    (x ∈ (connectAll c b refs).iconn y ↔ x ∈ c.iconn y ∨ (y = b ∧ ∃ f, Ref.obj f x ∈ refs)) ∧
    (y ∈ (connectAll c b refs).oconn x ↔ y ∈ c.oconn x ∨ (y = b ∧ ∃ f, Ref.obj f x ∈ refs)) := by
  induction refs with
  | nil => intro c b x y; simp [connectAll]
  | cons r rest ih =>
    intro c b x y
    cases r with
    | obj f0 a0 =>
      rw [connectAll, (ih _ b x y).1, (ih _ b x y).2, mem_upd_addSet, mem_upd_addSet, exists_obj_cons_obj]
      exact ⟨by rw [or_assoc, ← and_or_left], by rw [and_comm (a := x = a0), or_assoc, ← and_or_left]⟩
    | _ =>
      rw [exists_obj_cons_other _ _ _ (by intro _ _ h; cases h)]
      exact ih c b x y

/-- all inputs of `b` are resolved, point to existing blocks and are registered as connections -/
def Done (c : Circ) (b : String) : Prop :=
  ∀ r ∈ allRefs (c.inputs b), r.resolved = true ∧
    ∀ a, r = .obj false a → a ∈ c.iconn b ∧ (c.kind a).isSome

theorem resolved_quiet {r : Ref} (h : r.resolved = true) : r.quiet = true := by
  unfold Ref.resolved at h
  split at h <;> first | rfl | cases h

theorem Done.stable {P : String → Prop} {c c' : Circ} {b : String} (hd : Done c b)
    (hg : Grow P c c') (hb : (c.kind b).isSome) (hp : ¬ P b) : Done c' b := by
  intro r hr
  rw [hg.inputs b hp hb] at hr
  obtain ⟨h1, h2⟩ := hd r hr
  refine ⟨h1, fun a ha => ?_⟩
  obtain ⟨h3, h4⟩ := h2 a ha
  exact ⟨hg.iconnMono a b h3, hg.isSome h4⟩

theorem Done.inputs {c c' : Circ} {b : String} (hd : Done c' b)
    (hres : mapI (c'.inputs b) = mapI (c.inputs b)) : c'.inputs b = mapI (c.inputs b) :=
  hres ▸ (mapI_of_resolved fun r hr => (hd r hr).1).symm

/-- what `finalizeBlk` did with block `b`: inputs resolved in place, then registered as connections -/
structure FB (c : Circ) (b : String) (c' : Circ) (e : Option Err) : Prop where
  grow : GrowR (· = b) c c'
  ok : e = none → (∀ r ∈ allRefs (c.inputs b), r.okShape = true) ∧ Done c' b
  quiet : (∀ r ∈ allRefs (c.inputs b), r.quiet = true) → c'.kind = c.kind

theorem finalizeBlk_fb {c c' : Circ} {b : String} {e : Option Err} (hb : (c.kind b).isSome)
    (h : finalizeBlk c b = (c', e)) : FB c b c' e := by
  -- `resolveItems`, then `connectAll` over the resolved references: it keeps `Inv` because
  -- it adds exactly the pairs that the resolved `inputs b` justifies, on both sides at once
  unfold finalizeBlk at h
  split at h
  · next c1 e1 h1 =>
    cases h
    have rit := (resolveItems_rl b _ c [] _ _ hb (by simp) h1).1
    exact ⟨rit.grow, (fun h => by cases h), rit.quiet⟩
  · next c1 h1 =>
    cases h
    obtain ⟨rit, a1⟩ := resolveItems_rl b _ c [] _ _ hb (by simp) h1
    have a1 := a1 rfl
    obtain ⟨a2, a3⟩ := rit.acc rfl
    have hfr := connectAll_frame (allRefs (c1.inputs b)) c1 b
    have s1 : (connectAll c1 b (allRefs (c1.inputs b))).inputs = c1.inputs := (congrArg Circ.inputs hfr :)
    have s2 : (connectAll c1 b (allRefs (c1.inputs b))).kind = c1.kind := (congrArg Circ.kind hfr :)
    have s3 : (connectAll c1 b (allRefs (c1.inputs b))).order = c1.order := (congrArg Circ.order hfr :)
    have s4 := fun x y => (mem_connectAll (allRefs (c1.inputs b)) c1 b x y).1
    have s5 := fun x y => (mem_connectAll (allRefs (c1.inputs b)) c1 b x y).2
    have g2 : GrowR (· = b) c1 (connectAll c1 b (allRefs (c1.inputs b))) := by
      refine ⟨⟨fun x k h => by rw [s2]; exact h, fun x _ _ => by rw [s1], fun hi => ⟨?_, ?_⟩,
        (congrArg Circ.finalized hfr :), (congrArg Circ.slots hfr :),
        fun a y h => (s4 a y).mpr (Or.inl h), fun x h => Or.inl (by rw [s2]; exact h),
        fun hw x hx => by rw [s3]; rw [s2] at hx; exact hw x hx⟩, fun x _ => by rw [s1]⟩
      · intro a y
        rw [s4, s5, hi.sym]
      · intro a y hy
        rcases (s4 a y).mp hy with h | ⟨rfl, f, hf⟩
        · rw [s1]; exact hi.sub a y h
        · rw [s1]; exact ⟨f, hf⟩
    have hb1 : (c1.kind b).isSome := rit.grow.isSome hb
    refine ⟨rit.grow.trans g2 (fun x hx => by subst hx; exact hb), fun _ => ⟨a2, ?_⟩,
      fun hq => by rw [s2]; exact rit.quiet hq⟩
    · intro r hr
      rw [s1, a1, List.nil_append, allRefs_mapI] at hr
      obtain ⟨r0, _, rfl⟩ := List.mem_map.mp hr
      refine ⟨target_resolved r0, fun a ha => ⟨?_, ?_⟩⟩
      · refine (s4 a b).mpr (Or.inr ⟨rfl, false, ?_⟩)
        rw [a1, List.nil_append, allRefs_mapI, ← ha]; exact hr
      · rw [s2]; exact a3 a (by rw [← ha]; exact hr)

/-- what one pass of `_finalize` over the blocks `L` did -/
structure FP (L : List String) (c c' : Circ) (e : Option Err) : Prop where
  grow : GrowR (· ∈ L) c c'
  ok : e = none → ∀ b ∈ L, (∀ r ∈ allRefs (c.inputs b), r.okShape = true) ∧ Done c' b
  quiet : (∀ b ∈ L, ∀ r ∈ allRefs (c.inputs b), r.quiet = true) → c'.kind = c.kind

theorem finalizePass_fp (L : List String) : ∀ (c c' : Circ) (e : Option Err),
    (∀ b ∈ L, (c.kind b).isSome) → finalizePass c L = (c', e) → FP L c c' e := by
  induction L with
  | nil =>
    intro c c' e _ h
    cases h
    exact ⟨GrowR.refl _ _, (fun _ _ hb => nomatch hb), fun _ => rfl⟩
  | cons b rest ih =>
    intro c c' e hL h
    have hb := hL b (List.mem_cons_self ..)
    unfold finalizePass at h
    split at h
    · next c1 e1 h1 =>
      cases h
      have fb := finalizeBlk_fb hb h1
      exact ⟨fb.grow.mono (fun x hx => by simp [hx]), nofun, fun hq => fb.quiet (hq b (List.mem_cons_self ..))⟩
    · next c1 h1 =>
      have fb := finalizeBlk_fb hb h1
      obtain ⟨f2, f3⟩ := fb.ok rfl
      have hL1 : ∀ x ∈ rest, (c1.kind x).isSome := fun x hx =>
        fb.grow.isSome (hL x (List.mem_cons_of_mem _ hx))
      have fp := ih c1 c' e hL1 h
      have hb1 : (c1.kind b).isSome := fb.grow.isSome hb
      have hin : ∀ x ∈ rest, x ≠ b → c1.inputs x = c.inputs x := fun x hx exb =>
        fb.grow.inputs x exb (hL x (List.mem_cons_of_mem _ hx))
      refine ⟨(fb.grow.mono (fun x hx => by simp [hx])).trans
          (fp.grow.mono (fun x hx => by simp [hx])) hL, fun he x hx => ?_, fun hq => ?_⟩
      · by_cases exb : x = b
        · subst exb
          refine ⟨f2, ?_⟩
          by_cases hr : x ∈ rest
          · exact (fp.ok he x hr).2
          · exact f3.stable fp.grow.toGrow hb1 hr
        · have hx := (List.mem_cons.mp hx).resolve_left exb
          exact ⟨hin x hx exb ▸ (fp.ok he x hx).1, (fp.ok he x hx).2⟩
      · have q1 := fb.quiet (hq b (List.mem_cons_self ..))
        have q2 := fp.quiet (fun x hx r hr => by
          by_cases exb : x = b
          · subst exb
            exact resolved_quiet (f3 r hr).1
          · rw [hin x hx exb] at hr
            exact hq x (List.mem_cons_of_mem _ hx) r hr)
        rw [q2, q1]

theorem mem_cblockNames {c : Circ} {x : String} :
    x ∈ cblockNames c ↔ x ∈ c.order ∧ ∃ cls, c.kind x = some (.c cls) := by
  unfold cblockNames
  rw [List.mem_filter]
  constructor
  · rintro ⟨h1, h2⟩
    refine ⟨h1, ?_⟩
    split at h2
    · next cls hk => exact ⟨cls, hk⟩
    · cases h2
  · rintro ⟨h1, cls, hk⟩
    exact ⟨h1, by rw [hk]⟩

theorem isSome_of_mem_cblockNames {c : Circ} {b : String} (hb : b ∈ cblockNames c) : (c.kind b).isSome := by
  obtain ⟨_, cls, hk⟩ := mem_cblockNames.mp hb
  exact isSome_of_kind hk

theorem mem_notNames {c : Circ} {x : String} :
    x ∈ notNames c ↔ x ∈ c.order ∧ c.kind x = some (.c .not) := by
  unfold notNames
  rw [List.mem_filter]
  simp

/-- what every part of `finalize()` keeps, whether it succeeds or not -/
structure RS (c c' : Circ) : Prop where
  kind : ∀ x k, c.kind x = some k → c'.kind x = some k
  inv : Inv c → Inv c'
  wf : WF c → WF c'
  fin : c'.finalized = c.finalized

theorem RS.ofGrow {P : String → Prop} {c c' : Circ} (g : Grow P c c') : RS c c' :=
  ⟨g.kind, g.inv, g.wf, g.fin⟩

theorem RS.trans {a b c : Circ} (h1 : RS a b) (h2 : RS b c) : RS a c :=
  ⟨fun x k h => h2.kind x k (h1.kind x k h), fun h => h2.inv (h1.inv h), fun h => h2.wf (h1.wf h),
   by rw [h2.fin, h1.fin]⟩

theorem finalizeCore_passes {c w : Circ} {e : Option Err} (h : finalizeCore c = (w, e)) :
    ∃ c1 e1, FP (cblockNames c) c c1 e1 ∧
      ((e1 = e ∧ e ≠ none ∧ c1 = w) ∨ (e1 = none ∧ FP (notNames c1) c1 w e)) := by
  unfold finalizeCore at h
  cases h1 : finalizePass c (cblockNames c) with
  | mk c1 e1 =>
    have p1 := finalizePass_fp _ c c1 e1
      (fun _ => isSome_of_mem_cblockNames) h1
    rw [h1] at h
    cases e1 with
    | some x => cases h; exact ⟨_, _, p1, Or.inl ⟨rfl, nofun, rfl⟩⟩
    | none =>
      exact ⟨c1, none, p1, Or.inr ⟨rfl, finalizePass_fp _ c1 w e
        (fun b hb => isSome_of_kind (mem_notNames.mp hb).2) h⟩⟩

theorem finalizeCore_rs {c w : Circ} {e : Option Err} (h : finalizeCore c = (w, e)) :
    RS c w ∧ w.slots = c.slots := by
  obtain ⟨c1, e1, p1, ⟨_, _, rfl⟩ | ⟨_, p2⟩⟩ := finalizeCore_passes h
  · exact ⟨RS.ofGrow p1.grow.toGrow, p1.grow.slots⟩
  · exact ⟨(RS.ofGrow p1.grow.toGrow).trans (RS.ofGrow p2.grow.toGrow), p2.grow.slots.trans p1.grow.slots⟩

/-- the two classes `_validate_blk` creates (`'_ctrl'`, `'_not_NAME'`) -/
def startsUnderscoreNew (c w : Circ) (x : String) : Prop :=
  c.kind x = none ∧ (w.kind x = some .s ∨ w.kind x = some (.c .not))

/-- result of `_finalize` -/
structure FC (c w : Circ) : Prop where
  kind : ∀ x k, c.kind x = some k → w.kind x = some k
  inv : Inv c → Inv w
  fin : w.finalized = c.finalized
  slots : w.slots = c.slots
  wf : WF w
  origin : ∀ x, (w.kind x).isSome → (c.kind x).isSome ∨ startsUnderscoreNew c w x
  done : ∀ b cls, w.kind b = some (.c cls) → Done w b

theorem finalizeCore_fc {c w : Circ} (hw : WF c) (h : finalizeCore c = (w, none)) : FC c w := by
  obtain ⟨rs, hsl⟩ := finalizeCore_rs h
  obtain ⟨c1, e1, p1, ⟨_, hne, _⟩ | ⟨rfl, p2⟩⟩ := finalizeCore_passes h
  · exact absurd rfl hne
  have hw1 : WF c1 := p1.grow.wf hw
  have d1 := fun b hb => (p1.ok rfl b hb).2
  have hold : ∀ b k cls, c.kind b = some k → c1.kind b = some (.c cls) → b ∈ cblockNames c :=
    fun b k cls hk hk1 => by
      have hk' := p1.grow.kind b k hk
      rw [hk1] at hk'; cases hk'
      exact mem_cblockNames.mpr ⟨hw b (isSome_of_kind hk), _, hk⟩
  -- the second pass creates nothing
  have hq : ∀ b ∈ notNames c1, ∀ r ∈ allRefs (c1.inputs b), r.quiet = true := by
    intro b hb r hr
    obtain ⟨_, hk1⟩ := mem_notNames.mp hb
    cases hk : c.kind b with
    | some k => exact resolved_quiet (d1 b (hold b k _ hk hk1) r hr).1
    | none =>
      obtain ⟨_, t, ht, hu⟩ := p1.grow.new_cblock hk hk1
      rw [ht] at hr
      simp [allRefs, Inp.refs] at hr
      subst hr
      simp [Ref.quiet, hu]
  have hk2 := p2.quiet hq
  refine ⟨rs.kind, rs.inv, rs.fin, hsl, rs.wf hw, ?_, ?_⟩
  · intro x hx
    cases hk : c.kind x with
    | some k => exact Or.inl rfl
    | none =>
      refine Or.inr ⟨hk, ?_⟩
      rw [hk2] at hx ⊢
      rcases p1.grow.newFresh x hk with h0 | h0 | ⟨h0, _⟩
      · rw [h0] at hx; cases hx
      · exact Or.inl h0
      · exact Or.inr h0
  · intro b cls hb
    have hb1 : c1.kind b = some (.c cls) := by rw [← hk2]; exact hb
    by_cases h2 : b ∈ notNames c1
    · exact (p2.ok rfl b h2).2
    · cases hk : c.kind b with
      | some k => exact (d1 b (hold b k cls hk hb1)).stable p2.grow.toGrow (isSome_of_kind hb1) h2
      | none =>
        obtain ⟨rfl, _⟩ := p1.grow.new_cblock hk hb1
        exact absurd (mem_notNames.mpr ⟨hw1 b (isSome_of_kind hb1), hb1⟩) h2

theorem finalizeCore_shapes {c w : Circ} (hw : WF c) (h : finalizeCore c = (w, none)) :
    ∀ b cls, c.kind b = some (.c cls) → ∀ r ∈ allRefs (c.inputs b), r.okShape = true := by
  obtain ⟨c1, e1, p1, ⟨_, hne, _⟩ | ⟨rfl, _⟩⟩ := finalizeCore_passes h
  · exact absurd rfl hne
  · exact fun b cls hk =>
      (p1.ok rfl b (mem_cblockNames.mpr ⟨hw b (isSome_of_kind hk), cls, hk⟩)).1

/-- a registration after the resolver: a name replaced by the block of that name -/
def Slot.res (sl : Slot) : Slot :=
  match sl.ref with
  | .name s => { sl with ref := .obj s }
  | .obj _ => sl

/-- but for the registrations themselves, the resolver does what its `_validate_blk` calls do -/
theorem resolveSlots_grow (todo : List Slot) : ∀ (c : Circ) (done : List Slot) (c' : Circ)
    (e : Option Err), resolveSlots c done todo = (c', e) →
    Grow NoP c { c' with slots := c.slots } ∧
    (e = none → c'.slots = done ++ todo.map Slot.res ∧
      ∀ sl ∈ todo, ∀ s, sl.ref = .name s →
        ∃ k, c'.kind s = some k ∧ (sl.needS = true → k = .s)) := by
  induction todo with
  | nil =>
    intro c done c' e h
    cases h
    exact ⟨Grow.refl _ _, fun _ => ⟨(List.append_nil _).symm, nofun⟩⟩
  | cons sl rest ih =>
    intro c done c' e h
    unfold resolveSlots at h
    split at h
    · next n hn =>
      obtain ⟨g, o⟩ := ih _ _ _ _ h
      refine ⟨g, fun he => ?_⟩
      obtain ⟨a1, a2⟩ := o he
      exact ⟨by rw [a1, List.append_assoc, List.map_cons, Slot.res, hn]; rfl,
        List.forall_mem_cons.mpr ⟨(fun s hs => nomatch hn.symm.trans hs), a2⟩⟩
    · next s hs =>
      split at h
      · cases h; exact ⟨Grow.refl _ _, nofun⟩
      · next c1 r' hv =>
        have vb := validateBlk_vb hv
        have g1 := vb.grow
        split at h
        -- the model hands the registrations of `c` to the next call with `c1`: `c1.slots = c.slots` puts
        -- `g1` and the induction hypothesis (about `c1.slots`) in terms of `c.slots`
        · cases h; exact ⟨g1.slots ▸ g1, nofun⟩
        · next hc =>
          obtain ⟨g2, o⟩ := ih _ _ _ _ h
          refine ⟨g1.transNoP (g1.slots ▸ g2), fun he => ?_⟩
          obtain ⟨a1, a2⟩ := o he
          refine ⟨by rw [a1, List.append_assoc, List.map_cons, Slot.res, hs]; rfl,
            List.forall_mem_cons.mpr ⟨fun t ht => ?_, a2⟩⟩
          rw [hs] at ht; cases ht
          obtain ⟨k, hk⟩ := Option.isSome_iff_exists.mp (vb.exists_ s vb.target)
          refine ⟨k, g2.kind s k hk, fun hn => ?_⟩
          rw [hk] at hc
          simpa [hn] using hc

theorem resolveSlots_rs {c c' : Circ} {done todo : List Slot} {e : Option Err}
    (h : resolveSlots c done todo = (c', e)) :
    RS c c' ∧ ∀ x, (c.kind x).isSome → c'.inputs x = c.inputs x := by
  have g := (resolveSlots_grow _ _ _ _ _ h).1
  exact ⟨⟨g.kind, fun hi => ⟨(g.inv hi).sym, (g.inv hi).sub⟩, g.wf, g.fin⟩, fun x => g.inputs x id⟩

def AllDone (c : Circ) : Prop := ∀ b cls, c.kind b = some (.c cls) → Done c b

/-- what holds of every circuit built through the API -/
structure Good (c : Circ) : Prop where
  inv : Inv c
  wf : WF c
  done : c.finalized = true → AllDone c

theorem good_empty : Good {} :=
  ⟨inv_empty, fun x h => by simp at h, fun h => by cases h⟩

theorem addBlock_good {c c' : Circ} {n : String} {k : BKind} {r : Bool}
    (h : addBlock c n k r = .ok c') (g : Good c) : Good c' := by
  have e := addBlock_ext h
  obtain ⟨_, hf, _, rfl⟩ := addBlock_ok h
  refine ⟨e.inv g.inv, ?_, fun h => by simp [hf] at h⟩
  intro x hx
  by_cases ex : x = n
  · simp [ex]
  · simp only [upd, ex, if_false] at hx
    exact List.mem_append.mpr (Or.inl (g.wf x hx))

theorem connect_good {c c' : Circ} {b : String} {pos : List Ref} {named : Inputs}
    (h : connect c b pos named = .ok c') (g : Good c) : Good c' := by
  have hi := connect_inv h g.inv
  obtain ⟨_, hf, _, _, _, _, _, rfl⟩ := connect_ok h
  exact ⟨hi, g.wf, fun h => by simp [hf] at h⟩

theorem register_ok {c c' : Circ} {r : SRef} {n : Bool} (h : register c r n = .ok c') :
    c' = { c with slots := c.slots ++ [⟨r, n⟩] } := by
  unfold register at h
  split at h
  · cases h; rfl
  · split at h
    · cases h
    · split at h
      · cases h
      · cases h; rfl

theorem register_good {c c' : Circ} {r : SRef} {n : Bool} (h : register c r n = .ok c')
    (g : Good c) : Good c' := by
  rw [register_ok h]
  exact ⟨⟨g.inv.sym, g.inv.sub⟩, g.wf, g.done⟩

theorem setStorage_good {c c' : Circ} {d : Option Nat} (h : setStorage c d = .ok c')
    (g : Good c) : Good c' := by
  unfold setStorage at h
  split at h
  · cases h
  · cases h; exact ⟨⟨g.inv.sym, g.inv.sub⟩, g.wf, g.done⟩

theorem finalize_ok {c w : Circ} (hf : c.finalized = false) (h : finalize c = (w, none)) :
    ∃ c1 c2, resolve c = (c1, none) ∧ finalizeCore c1 = (c2, none) ∧ w = { c2 with finalized := true } := by
  unfold finalize at h
  rw [if_neg (by rw [hf]; nofun)] at h
  split at h
  · cases h
  · next c1 h1 =>
    split at h
    · cases h
    · next c2 h2 => cases h; exact ⟨c1, c2, h1, h2, rfl⟩

theorem finalize_good {c : Circ} (g : Good c) :
    Good (finalize c).1 ∧ ((finalize c).2 = none → (finalize c).1.finalized = true) := by
  unfold finalize
  split
  · next hf => exact ⟨g, fun _ => hf⟩
  · next hf =>
    have hf : c.finalized = false := by simpa using hf
    split
    · next c1 e1 h1 =>
      obtain ⟨rs, _⟩ := resolveSlots_rs h1
      exact ⟨⟨rs.inv g.inv, rs.wf g.wf, fun h => by rw [rs.fin, hf] at h; cases h⟩, nofun⟩
    · next c1 h1 =>
      obtain ⟨rs, _⟩ := resolveSlots_rs h1
      split
      · next c2 e2 h2 =>
        obtain ⟨k, _⟩ := finalizeCore_rs h2
        exact ⟨⟨k.inv (rs.inv g.inv), k.wf (rs.wf g.wf), fun h => by rw [k.fin, rs.fin, hf] at h; cases h⟩,
          nofun⟩
      · next c2 h2 =>
        have fc := finalizeCore_fc (rs.wf g.wf) h2
        have hi := fc.inv (rs.inv g.inv)
        exact ⟨⟨⟨hi.sym, hi.sub⟩, fc.wf, fun _ b cls hk => fc.done b cls hk⟩, fun _ => rfl⟩

end Edzed.Wiring
