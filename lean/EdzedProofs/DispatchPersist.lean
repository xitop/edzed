/-
C11 and the translations made for other properties (C06: persistence, C18: Repeat), given their meaning on
the DISPATCH state.  Kept out of the model file so that the compiled driver does not depend on them.

Persistence: `AddonPersistence.event` (edzed/addons.py) wraps `SBlock.event` of every Input, Counter
and FSM.  The wrapper is translated from the source for C06 (`Gen.TrP2.eventActs`, tools/py2lean_persist.py:
the primitive actions in program order).  Here `super().event(...)` is the model's `deliver`, a save
(`save_persistent_state` -> `get_state()`) is logged (ghost) with the value `_event_active` of the block has at that
moment.
-/
import EdzedModel.Dispatch
import EdzedModel.Gen.TranslatedPersist2
import EdzedModel.Gen.TranslatedRepeat
import EdzedProofs.Dispatch

namespace Edzed.Dispatch
open Edzed.Gen.TrP2

/-- dispatch state + `self.persistent` + ghost: `_event_active` of the block at each of its saves -/
structure PSt where
  st : St
  persistent : Bool
  saves : List Bool := []
  /-- `_persist_event_active` at entry: this call is nested in another event() of the same block (only the
      outermost call saves) -/
  nested : Bool := false

/-- the meaning of the wrapper's actions; `sup` = outcome of `super().event(etype, **data)`.
    `some r`: the method was left with result / exception `r`.  The last clause skips the actions that mean nothing on
    this state: `enter` / `leave` (`_persist_event_active` is the parameter `nested`, which they restore) and the
    actions of the other methods of the add-on -/
def runPersistPrims (d : Nat) (sup : St × Res) : PSt → List Prim → PSt × Option Res
  | p, [] => (p, Option.none)
  | p, .superEvent :: r => runPersistPrims d sup { p with st := sup.1 } r
  | p, .fails .superEvent :: r => runPersistPrims d sup { p with st := sup.1 } r
  | p, .disable :: r => runPersistPrims d sup { p with persistent := false } r
  | p, .reraise :: _ => (p, some sup.2)
  | p, .save :: r => runPersistPrims d sup { p with saves := p.st.active d :: p.saves } r
  | p, .fails .save :: r => runPersistPrims d sup { p with saves := p.st.active d :: p.saves } r
  | p, .ret :: _ => (p, some sup.2)
  | p, .propagate :: _ => (p, some (.exc .other))
  | p, _ :: r => runPersistPrims d sup p r

def isExc : Res → Bool
  | .exc _ => true
  | .ret _ => false

/-- a busy block handles nothing: `event()` raises – the refusal, or before it the exception of the type check or of
    `findblock` (without fuel: the model's artefact) -/
theorem deliver_raises_of_active (c : Circ) (fuel : Nat) (s : St) (d : Nat) (et : EType) (data : Data)
    (h : s.active d = true) : isExc (deliver c fuel s d et data).2 = true := by
  cases fuel with
  | zero => rfl
  | succ fuel =>
    unfold deliver
    split
    · rfl
    · split
      · rfl
      · rw [if_pos h]; rfl

/-- `AddonPersistence.event` as translated, around the model's `SBlock.event` (`sync` = `self.sync_state`,
    `saveRaises`: `save_persistent_state` suppresses its errors, an escaping one is kept as a possibility) -/
def persistEvent (c : Circ) (fuel : Nat) (sync saveRaises : Bool) (p : PSt) (d : Nat) (et : EType) (data : Data) :
    PSt × Option Res :=
  let sup := deliver c fuel p.st d et data
  runPersistPrims d sup p
    (eventActs (isExc sup.2) p.persistent sup.1.error.isNone sync (!(sup.1.out d).isUndef) saveRaises p.nested)

/-- The wrapper on every path, for arbitrary truth values of its tests: every test of the wrapper is on one of these
    truth values, however the source groups them.  `sr`: `super().event()` raised; `ready`: the simulation is still
    ready; `ini`: the block is initialised; `svr`: the save raises. -/
theorem runPersistPrims_eventActs (d : Nat) (sup : St × Res) (st : St) (saves : List Bool)
    (sr pers ready sy ini svr nested : Bool) :
    runPersistPrims d sup ⟨st, pers, saves, nested⟩ (eventActs sr pers ready sy ini svr nested) =
      if sr then (⟨sup.1, pers && ready, saves, nested⟩, some sup.2)
      else if !nested && pers && sy && ini then
        (⟨sup.1, pers, sup.1.active d :: saves, nested⟩, some (if svr then .exc .other else sup.2))
      else (⟨sup.1, pers, saves, nested⟩, some sup.2) := by
  cases sr
  · cases nested <;> cases pers <;> cases sy <;> cases ini <;> try rfl
    cases svr <;> rfl
  · cases pers <;> cases ready <;> rfl

/-- the meaning of the actions of `Repeat._event` as translated from the source
    (`Gen.TrR.repeatEventActs`, tools/py2lean_repeat.py), in terms of this model; an exception ends
    the list, `ret` returns None -/
def runRepActs (dlv : Dlv) (b : Blk) (d : Nat) : St → Data → List Gen.TrR.Act → St × Res
  | s, _, [] => (s, .ret .none)
  | s, data, a :: as =>
    match a with
    | .warnOnce => runRepActs dlv b d s data as
    | .setItemFromItem dst src => runRepActs dlv b d s (data.set dst ((data.get? src).getD .none)) as
    | .setOutput n => andThen (setOutput dlv b d s (.int n)) fun s1 => runRepActs dlv b d s1 data as
    | .send rep =>
      andThen (sendEdges dlv d s [repeatEdge b] (withRepeat data rep)) fun s1 => runRepActs dlv b d s1 data as
    | .enqueue => runRepActs dlv b d { s with rcur := upd s.rcur d (some (data, 0)) } data as
    | .ret => (s, .ret .none)

end Edzed.Dispatch
