/-
Tie of the FSM model to the TRANSLATED `Timer.__init__`, `Timer.cond_start` / `cond_stop` / `calc_output`, the body of
`class FSM` and `FSM.__init_subclass__` (lean/EdzedModel/Gen/TranslatedTimerBlk.lean, regenerated from the current
Python AST by tools/py2lean_timerblk.py on every check): what the model side needs -- the keyword arguments of
`Timer(…)` as a mapping, the primitives the translated constructor runs on, and lemmas of the model about a Timer
(`timerCfg`).

Nothing here mentions the generated file: an edit of the Python source shows up in the theorems of
EdzedProps/C04.lean (`translated_timer_…`, `translated_fsm_…`, `timer_…`).
-/
import EdzedModel.FsmTimer
import EdzedProofs.FsmTimer

namespace Edzed.TrTie
open Edzed.FsmTimer

/-- the keyword arguments of `Timer(…)` as a mapping: `'k' in kwargs` -/
def kwHas (kw : TimerKw) (k : String) : Bool :=
  if k == "t_period" then kw.tPeriod.isSome else if k == "t_on" then kw.tOn.isSome
  else if k == "t_off" then kw.tOff.isSome else false

/-- `kwargs.pop('k')` -/
def kwPop (kw : TimerKw) (k : String) : Option (Dur × TimerKw) :=
  if k == "t_period" then kw.tPeriod.map fun v => (v, { kw with tPeriod := none })
  else if k == "t_on" then kw.tOn.map fun v => (v, { kw with tOn := none })
  else if k == "t_off" then kw.tOff.map fun v => (v, { kw with tOff := none })
  else none

/-- `kwargs['k'] = v` -/
def kwSet (kw : TimerKw) (k : String) (v : Dur) : TimerKw :=
  if k == "t_period" then { kw with tPeriod := some v } else if k == "t_on" then { kw with tOn := some v }
  else if k == "t_off" then { kw with tOff := some v } else kw

/-- `FSM.__init__` as far as the durations are concerned: a `t_` argument must be convertible
    (the table it builds is tied by `translated_fsmtimer_init_duration_is_model`) -/
def fsmInitKw (kw : TimerKw) : Except ErrKind TimerKw :=
  if kw.tOn = some .bad || kw.tOff = some .bad then .error .valueError else .ok kw

theorem timer_conds (a b : Dur) (r : Bool) (init : String) (s : St) (d : EvData) :
    evalConds s d ((timerCfg a b r init).condsOf "start") = some (s, r || s.state != some "on") ∧
    evalConds s d ((timerCfg a b r init).condsOf "stop") = some (s, r || s.state != some "off") := by
  cases r <;> simp [timerCfg, Cfg.condsOf, evalConds, evalCond]

theorem timer_instDur (a b : Dur) (r : Bool) (init : String) :
    (timerCfg a b r init).instDur "on" = (if a = .none then .inf else a) ∧
    (timerCfg a b r init).instDur "off" = (if b = .none then .inf else b) := by
  constructor
  · cases a <;> rfl
  · cases b <;> rfl

def OutBoolOrUndef (s : St) : Prop := s.out = .undef ∨ ∃ b, s.out = .bool b

theorem setOut_bool (s : St) (b : Bool) (ho : OutBoolOrUndef s) : (setOut s (.bool b)).out = .bool b := by
  have hb : ∀ x y : Bool, (Val.bool x).pyEq (.bool y) = true → Val.bool x = .bool y := by decide
  unfold setOut
  rcases ho with ho | ⟨x, ho⟩ <;> rw [show s.out = _ from ho]
  · rfl
  · cases hp : (Val.bool x).pyEq (.bool b)
    · rfl
    · simp only [Bool.or_true, if_true]; exact ho.trans (hb x b hp)

theorem timer_finish (a b : Dur) (r : Bool) (init : String) (s : St) (q : String) (hs : s.state = some q) :
    (finish (timerCfg a b r init) s).state = some q ∧ (finish (timerCfg a b r init) s).failed = s.failed ∧
    (OutBoolOrUndef s → (finish (timerCfg a b r init) s).out = .bool (q == "on")) := by
  have hfin : finish (timerCfg a b r init) s = sendOnEnter (setOut s (.bool (q == "on"))) := by
    simp only [finish, calcOutput, timerCfg, hs]
  have hse : ∀ x : St, (sendOnEnter x).failed = x.failed ∧ (sendOnEnter x).out = x.out := by
    intro x; unfold sendOnEnter; split <;> exact ⟨rfl, rfl⟩
  rw [hfin]
  exact ⟨((frame_sendOnEnter _).state.trans (frame_setOut _ _).state).trans hs,
    (hse _).1.trans (setOut_fields _ _).1, fun ho => (hse _).2.trans (setOut_bool s _ ho)⟩

theorem timer_enter_on (n : Int) (hn : 0 < n) (b : Dur) (r : Bool) (init : String) (s : St) (d : EvData)
    (hd : d.dur = Dur.none) (hl : live s = []) (hnx : s.next = none) (hf : s.failed = none)
    (hst : s.stopped = false) :
    (enterLoop (timerCfg (.us n) b r init) (timerCfg (.us n) b r init).tbl.chainLimit s d "on").failed = none ∧
    live (enterLoop (timerCfg (.us n) b r init) (timerCfg (.us n) b r init).tbl.chainLimit s d "on")
      = [{ id := s.nextId, when := s.now + n.toNat, ev := .ev "stop", epoch := s.epoch + 1 }] := by
  -- `enterLoop` recurses on its fuel: the chain limit of a Timer (3 · 2 states) is shown as a successor
  have hcl : (timerCfg (.us n) b r init).tbl.chainLimit = 5 + 1 := rfl
  have ht : timerTable.timedOf "on" = some (.ev "stop", .inf) := by decide
  rw [hcl]
  unfold enterLoop
  have hp : popNext s d "on" = (s, d, "on") := by simp [popNext, hnx]
  rw [hp]
  dsimp only
  have he : enterState (timerCfg (.us n) b r init) s d "on"
      = setTimer ((s.enter "on").emit (.enter "on" s.ctx)) n.toNat (.ev "stop") := by
    have hn' : ¬ n ≤ 0 := by omega
    have hn2 : ¬ n < 0 := by omega
    simp [enterState, runEnter, timerCfg, ht, startTimer, effDur, hd, Cfg.instDur, clamp, hn', hn2, St.enter,
      St.emit, hf, hnx]
  rw [he]
  obtain ⟨-, -, -, hstate, hnext, hfailed, -, -⟩ :=
    setTimer_fields ((s.enter "on").emit (.enter "on" s.ctx)) n.toNat (.ev "stop")
  have sl := live_setTimer ((s.enter "on").emit (.enter "on" s.ctx)) n.toNat (.ev "stop") hst
    (by simpa [live, St.enter, St.emit] using hl)
  generalize setTimer ((s.enter "on").emit (.enter "on" s.ctx)) n.toNat (.ev "stop") = s2 at hstate hnext hfailed sl
  have h1 : s2.failed = none := by rw [hfailed]; simpa [St.enter, St.emit] using hf
  have h2 : s2.next = none := by rw [hnext]; simpa [St.enter, St.emit] using hnx
  have h3 : s2.state = some "on" := by rw [hstate]; simp [St.enter, St.emit]
  simp only [h1, h2, Option.isSome_none, Bool.false_eq_true, if_false]
  refine ⟨(timer_finish _ b r init s2 "on" h3).2.1.trans h1, ?_⟩
  unfold live at sl ⊢
  rw [(frame_finish _ s2).timers, sl]
  simp [St.enter, St.emit]

theorem timer_enterLoop_out (a b : Dur) (r : Bool) (init : String) : ∀ (fuel : Nat) (s : St) (d : EvData) (q : String),
    OutBoolOrUndef s → (enterLoop (timerCfg a b r init) fuel s d q).failed = none →
    (enterLoop (timerCfg a b r init) fuel s d q).out
      = .bool ((enterLoop (timerCfg a b r init) fuel s d q).state == some "on") := by
  refine enterLoop_rule _ (J := OutBoolOrUndef) (Q := fun s' => s'.failed = none → s'.out = .bool (s'.state == some "on"))
    (fun s _ h => absurd h (fail_failed _ _)) ?_
  intro s d q ho s2 hs2
  have ho2 : OutBoolOrUndef s2 := by
    unfold OutBoolOrUndef; rw [hs2, enterState_out, (frameO_popNext s d q).out]; exact ho
  have hst : s2.state = some (popNext s d q).2.2 := hs2 ▸ enterState_state _ _ _ _
  refine ⟨fun h1 h2 => absurd h2 h1, fun _ _ => ho2, fun _ _ _ => ?_⟩
  have k := timer_finish a b r init s2 _ hst
  rw [k.2.2 ho2, k.1]
  congr 1

/-- between events: the output of a Timer that is not UNDEF is `calc_output()` of the current state
    (in the model: whether the state is `on`) -/
def TOut (s : St) : Prop := s.failed = none → (s.out = .undef ∨ s.out = .bool (s.state == some "on"))

theorem tout_run (a b : Dur) (r : Bool) (init : String) : ∀ (ops : List Op) (s : St), TOut s →
    TOut (run (timerCfg a b r init) s ops) := by
  intro ops s h
  refine (run_steps _ ops s).running (Q := fun s => s.out = .undef ∨ s.out = .bool (s.state == some "on")) ?_ h
  intro s s' st _ hf' hq
  cases st with
  | kept kr => rw [kr.out, kr.state]; exact hq
  | fail k => exact absurd hf' (fail_failed _ _)
  | clock => exact hq
  | expire => exact hq
  | stop =>
    obtain ⟨-, -, hout, hstate⟩ := stopTimer_fields s
    show (stopTimer s).out = .undef ∨ (stopTimer s).out = .bool ((stopTimer s).state == some "on")
    rw [hout, hstate]; exact hq
  | restore q exp sd m _ hu =>
    rcases restore_out (timerCfg a b r init) s q exp sd m hu with hu' | ⟨hs, hc⟩
    · left
      cases ho : (restore (timerCfg a b r init) s q exp sd m).1.out <;> simp [ho, Val.isUndef] at hu' ⊢
    · cases m with
      | raises => simp [calcFor] at hc
      | undef => left; simp only [calcFor, Option.some.injEq] at hc; exact hc.symm
      | normal =>
        right
        have hc' : some (Val.bool (q == "on")) = some (restore (timerCfg a b r init) s q exp sd .normal).1.out := by
          rw [← hc]; simp [calcFor, calcOutput, timerCfg, St.enter, St.setInput]
        rw [← Option.some.inj hc', hs]
        congr 1
  | transit d q _ hnf _ =>
    refine .inr (timer_enterLoop_out a b r init _ (leave s) d q ?_ hnf)
    unfold OutBoolOrUndef
    rw [leave_out]
    rcases hq with h | h
    · exact .inl h
    · exact .inr ⟨_, h⟩
  | abort => exact absurd hf' (fail_failed _ _)

end Edzed.TrTie
