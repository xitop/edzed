/-
Lemmas on the Repeat model for C18.  One timeout (`fire`) and one arrival (`arrive_same`: a matching event by the
destination's answer) as equations; `advanceFuel_induction` along the timeouts that happen while time passes and,
built on it, `run_induction` for operation sequences, by which the invariants of `run` are proved; `waiting`, the
closed form of a block repeating an event towards an accepting destination; delivery along a chain of two blocks.
-/
import EdzedModel.Repeat

namespace Edzed.Repeat

theorem fire_snd (c : Cfg) (s : State) (p : Pending) :
    (fire c s p).2 = ⟨p.deadline, c.etype, p.rep + 1, outData c p.data (p.rep + 1), s.answer⟩ := by
  unfold fire; split <;> rfl

theorem fire_out (c : Cfg) (s : State) (p : Pending) : (fire c s p).1.out = p.rep + 1 := by
  unfold fire; split <;> rfl

theorem fire_resp (c : Cfg) (s : State) (p : Pending) : (fire c s p).1.resp = s.resp.tail := by
  unfold fire; split <;> rfl

theorem fire_ok (c : Cfg) (s : State) (p : Pending) (h : s.answer = .ok) :
    (fire c s p).1 =
      { s with
          out := p.rep + 1
          cur := if !s.stopped && repeating c (p.rep + 1)
                 then some { p with rep := p.rep + 1, deadline := p.deadline + c.interval } else none
          resp := s.resp.tail } := by
  unfold fire; rw [h]

theorem fire_not_ok (c : Cfg) (s : State) (p : Pending) (h : s.answer ≠ .ok) :
    (fire c s p).1 = { out := p.rep + 1, cur := none, stopped := true, resp := s.resp.tail } := by
  unfold fire
  split
  · next e => exact absurd e h
  · rfl

/-- a refused repetition ends the simulation -/
theorem fire_refused (c : Cfg) (s : State) (p : Pending) (h : s.answer ≠ .ok) :
    (fire c s p).1.stopped = true ∧ (fire c s p).1.cur = none := by
  rw [fire_not_ok c s p h]
  exact ⟨rfl, rfl⟩

theorem fire_cur_data (c : Cfg) (s : State) (p q : Pending) (h : (fire c s p).1.cur = some q) :
    q.data = p.data := by
  cases ha : s.answer with
  | ok =>
    rw [fire_ok c s p ha] at h
    simp only at h
    split at h
    · cases h; rfl
    · cases h
  | _ => rw [fire_not_ok c s p (by simp [ha])] at h; cases h

theorem answer_of_accepting (s : State) (h : s.resp = []) : s.answer = .ok := by
  simp [State.answer, h]

theorem answer_with_out (s : State) (n : Nat) : ({ s with out := n } : State).answer = s.answer := rfl

theorem advanceFuel_none (c : Cfg) (fuel : Nat) (s : State) (t : Nat) (h : s.cur = none) :
    advanceFuel c fuel s t = (s, []) := by
  cases fuel <;> simp [advanceFuel, h]

theorem advance_none (c : Cfg) (s : State) (t : Nat) (h : s.cur = none) : advance c s t = (s, []) :=
  advanceFuel_none c _ s t h

theorem advanceFuel_not_due (c : Cfg) (fuel : Nat) (s : State) (t : Nat) (p : Pending)
    (h : s.cur = some p) (ht : t < p.deadline) : advanceFuel c fuel s t = (s, []) := by
  cases fuel with
  | zero => rfl
  | succ f => simp only [advanceFuel, h]; rw [if_neg (by omega)]

theorem advanceFuel_due (c : Cfg) (fuel : Nat) (s : State) (t : Nat) (p : Pending)
    (h : s.cur = some p) (ht : p.deadline ≤ t) :
    advanceFuel c (fuel + 1) s t =
      ((advanceFuel c fuel (fire c s p).1 t).1, (fire c s p).2 :: (advanceFuel c fuel (fire c s p).1 t).2) := by
  simp only [advanceFuel, h]; rw [if_pos ht]

theorem advanceFuel_induction (c : Cfg) (t : Nat) {P : State → State × List Sent → Prop}
    (rest : ∀ s, P s (s, []))
    (step : ∀ s p r, s.cur = some p → p.deadline ≤ t → P (fire c s p).1 r →
      P s (r.1, (fire c s p).2 :: r.2)) :
    ∀ fuel s, P s (advanceFuel c fuel s t) := by
  intro fuel
  induction fuel with
  | zero => exact rest
  | succ f ih =>
    intro s
    cases h : s.cur with
    | none => rw [advanceFuel_none c _ s t h]; exact rest s
    | some p =>
      by_cases hd : p.deadline ≤ t
      · rw [advanceFuel_due c f s t p h hd]; exact step s p _ h hd (ih _)
      · rw [advanceFuel_not_due c _ s t p h (by omega)]; exact rest s

theorem advance_accepting (c : Cfg) (s : State) (t : Nat) (h : s.resp = []) :
    (advance c s t).1.stopped = s.stopped ∧ (advance c s t).1.resp = [] := by
  revert h
  refine advanceFuel_induction c t (P := fun s r => s.resp = [] → r.1.stopped = s.stopped ∧ r.1.resp = [])
    (fun s h => ⟨rfl, h⟩) (fun s p r _ _ ih h => ?_) (t + 1) s
  rw [fire_ok c s p (answer_of_accepting s h)] at ih
  exact ih (by simp [h])

theorem advanceFuel_sent (c : Cfg) (t fuel : Nat) (s : State) :
    ∀ x ∈ (advanceFuel c fuel s t).2, x.t ≤ t ∧ x.etype = c.etype := by
  refine advanceFuel_induction c t (P := fun _ r => ∀ x ∈ r.2, x.t ≤ t ∧ x.etype = c.etype)
    (fun _ x hx => nomatch hx) (fun s p r _ hd ih x hx => ?_) fuel s
  rcases List.mem_cons.mp hx with h | h
  · rw [h, fire_snd]; exact ⟨hd, rfl⟩
  · exact ih x h

/-- `Repeat.output` after time has passed = the number of the last repetition sent -/
def lastRep (xs : List Sent) (d : Nat) : Nat := xs.foldl (fun _ x => x.rep) d

theorem lastRep_append (xs ys : List Sent) (d : Nat) :
    lastRep (xs ++ ys) d = lastRep ys (lastRep xs d) :=
  List.foldl_append ..

theorem lastRep_eq_getLast (xs : List Sent) (d : Nat) :
    lastRep xs d = (xs.getLast?.map (·.rep)).getD d := by
  induction xs generalizing d with
  | nil => rfl
  | cons x xs ih =>
    simp only [lastRep, List.foldl_cons] at ih ⊢
    rw [ih, List.getLast?_cons]
    cases xs.getLast? <;> rfl

/-- the running block `r` repetitions after an event with (queued) data `d` arrived at `t0`:
    the state right after the arrival for `r = 0`, and each accepted timeout leads from `r` to `r + 1` -/
def waiting (c : Cfg) (d : Data) (t0 r : Nat) : State :=
  { out := r
    cur := if repeating c r then some ⟨d, r, t0 + (r + 1) * c.interval⟩ else none
    stopped := false
    resp := [] }

theorem fire_waiting (c : Cfg) (d : Data) (t0 r : Nat) :
    fire c (waiting c d t0 r) ⟨d, r, t0 + (r + 1) * c.interval⟩ =
      (waiting c d t0 (r + 1), ⟨t0 + (r + 1) * c.interval, c.etype, r + 1, outData c d (r + 1), .ok⟩) := by
  refine Prod.ext ?_ (fire_snd ..)
  rw [fire_ok _ _ _ rfl, waiting, waiting, Nat.succ_mul (r + 1), Nat.add_assoc]
  rfl

/-- `n` is the number of repetitions due by time `t` for an event that arrived at `t0`:
    the `n`-th is due (`t0 + n·I ≤ t`), and either the count is exhausted or the next one
    is not due yet -/
def DueBy (c : Cfg) (t0 t n : Nat) : Prop :=
  (∀ m, c.count = some m → n ≤ m) ∧ t0 + n * c.interval ≤ t ∧
    (c.count = some n ∨ t < t0 + (n + 1) * c.interval)

/-- `m = n - r` is what the induction runs on; any `fuel ≥ m` will do, each timeout uses one unit. -/
theorem advanceFuel_waiting (c : Cfg) (d : Data) (t0 t n : Nat) (hn : DueBy c t0 t n) :
    ∀ (m r fuel : Nat), r + m = n → m ≤ fuel →
      advanceFuel c fuel (waiting c d t0 r) t =
        (waiting c d t0 n, (List.range' r m).map fun k =>
          ⟨t0 + (k + 1) * c.interval, c.etype, k + 1, outData c d (k + 1), .ok⟩) := by
  obtain ⟨hcnt, hdue, hend⟩ := hn
  intro m
  induction m with
  | zero =>
    intro r fuel hr _
    obtain rfl : r = n := hr
    cases hrep : repeating c r with
    | false => exact advanceFuel_none c _ _ t (by rw [waiting, hrep]; rfl)
    | true =>
      refine advanceFuel_not_due c _ _ t ⟨d, r, t0 + (r + 1) * c.interval⟩ (by rw [waiting, hrep]; rfl) ?_
      refine hend.resolve_left fun he => ?_
      rw [repeating, he] at hrep
      exact Nat.lt_irrefl r (of_decide_eq_true hrep)
  | succ m ih =>
    intro r fuel hr hf
    subst hr
    cases fuel with
    | zero => exact absurd hf (Nat.not_succ_le_zero m)
    | succ f =>
      have hlt : r < r + (m + 1) := Nat.lt_add_of_pos_right (Nat.succ_pos m)
      have hrep : repeating c r = true := by
        unfold repeating
        cases hc : c.count with
        | none => rfl
        | some k => exact decide_eq_true (Nat.lt_of_lt_of_le hlt (hcnt k hc))
      have hd : t0 + (r + 1) * c.interval ≤ t :=
        Nat.le_trans (Nat.add_le_add_left (Nat.mul_le_mul_right _ hlt) _) hdue
      rw [advanceFuel_due c f _ t ⟨d, r, t0 + (r + 1) * c.interval⟩ (by rw [waiting, hrep]; rfl) hd,
        fire_waiting, ih (r + 1) f (Nat.succ_add_eq_add_succ r m) (Nat.le_of_succ_le_succ hf)]
      rfl

/-- the fuel `t + 1` of `advance` suffices: with a positive interval at most `t` repetitions are due by `t` -/
theorem advance_waiting (c : Cfg) (hI : 0 < c.interval) (d : Data) (t0 t n : Nat) (hn : DueBy c t0 t n) :
    advance c (waiting c d t0 0) t =
      (waiting c d t0 n, (List.range n).map fun k =>
        ⟨t0 + (k + 1) * c.interval, c.etype, k + 1, outData c d (k + 1), .ok⟩) := by
  have hfuel : n ≤ t + 1 :=
    Nat.le_trans (Nat.le_mul_of_pos_right n hI) (Nat.le_trans (Nat.le_add_left _ t0) (Nat.le_succ_of_le hn.2.1))
  rw [advance, advanceFuel_waiting c d t0 t n hn n 0 _ (Nat.zero_add n) hfuel, List.range_eq_range']

theorem run_append (c : Cfg) (s : State) (ops ops' : List Op) :
    run c s (ops ++ ops') =
      ((run c (run c s ops).1 ops').1, (run c s ops).2 ++ (run c (run c s ops).1 ops').2) := by
  induction ops generalizing s with
  | nil => simp [run]
  | cons op ops ih => simp [run, ih, List.append_assoc]

theorem arrive_other (c : Cfg) (s : State) (t : Nat) (etype : String) (data : Data) (h : etype ≠ c.etype) :
    arrive c s t etype data = (s, []) := by
  have : (etype != c.etype) = true := by simpa using h
  simp [arrive, this]

/-- `unknown` is EdzedUnknownEvent, `fatal` any other exception of the synchronous forward: neither queues anything,
    and under `fatal` only a timeout of this very instant is still on its way -/
theorem arrive_same (c : Cfg) (s : State) (t : Nat) (data : Data) :
    arrive c s t c.etype data =
      (match s.answer with
        | .ok =>
          { s with
              out := 0
              cur := if !s.stopped && repeating c 0 then some ⟨withOrig data, 0, t + c.interval⟩ else none
              resp := s.resp.tail }
        | .unknown => { s with out := 0, resp := s.resp.tail }
        | .fatal =>
          { s with
              out := 0
              cur := match s.cur with
                | some p => if p.deadline ≤ t then some p else none
                | none => none
              stopped := true
              resp := s.resp.tail },
       [⟨t, c.etype, 0, outData c (withOrig data) 0, s.answer⟩]) := by
  unfold arrive
  simp only [bne_self_eq_false, Bool.false_eq_true, if_false]
  cases s.answer <;> rfl

theorem arrive_accepting (c : Cfg) (s : State) (t : Nat) (data : Data) (h : s.resp = []) :
    arrive c s t c.etype data =
      ({ s with out := 0,
                cur := if !s.stopped && repeating c 0 then some ⟨withOrig data, 0, t + c.interval⟩ else none },
       [⟨t, c.etype, 0, outData c (withOrig data) 0, .ok⟩]) := by
  rw [arrive_same, answer_of_accepting s h, h]
  rfl

/-- what a forward failing at `t` leaves pending (`arrive_same`, `fatal`): the timeout of that very instant, if one
    was due -/
theorem stillDue_eq_some {cur : Option Pending} {t : Nat} {q : Pending}
    (h : (match cur with
          | some p => if p.deadline ≤ t then some p else none
          | none => none) = some q) : cur = some q ∧ q.deadline ≤ t := by
  cases cur with
  | none => cases h
  | some p =>
    by_cases hd : p.deadline ≤ t
    · exact Option.some.inj ((if_pos hd).symm.trans h) ▸ ⟨rfl, hd⟩
    · exact nomatch (if_neg hd).symm.trans h

theorem arrive_sent (c : Cfg) (s : State) (t : Nat) (etype : String) (data : Data) :
    ∀ x ∈ (arrive c s t etype data).2, x = ⟨t, c.etype, 0, outData c (withOrig data) 0, s.answer⟩ := by
  intro x hx
  by_cases h : etype = c.etype
  · subst h; rw [arrive_same] at hx; exact List.mem_singleton.mp hx
  · rw [arrive_other c s t etype data h] at hx; cases hx

theorem arrive_cur (c : Cfg) (s : State) (t : Nat) (etype : String) (data : Data) (q : Pending)
    (h : (arrive c s t etype data).1.cur = some q) : q.data = withOrig data ∨ s.cur = some q := by
  by_cases he : etype = c.etype
  · subst he
    rw [arrive_same] at h
    revert h
    cases s.answer with
    | ok =>
      intro h
      simp only at h
      split at h <;> cases h
      exact .inl rfl
    | unknown => exact .inr
    | fatal => exact fun h => .inr (stillDue_eq_some h).1
  · rw [arrive_other c s t etype data he] at h
    exact .inr h

theorem arrive_out (c : Cfg) (s : State) (t : Nat) (etype : String) (data : Data) :
    (arrive c s t etype data).1.out = lastRep (arrive c s t etype data).2 s.out := by
  by_cases he : etype = c.etype
  · subst he
    rw [arrive_same]
    cases s.answer <;> rfl
  · rw [arrive_other c s t etype data he]
    rfl

/-- One induction for everything a block does: `P s r` relates a state to what became of it, the final state and the
    events sent on the way. -/
theorem run_induction (c : Cfg) (ops : List Op) {P : State → State × List Sent → Prop}
    (hrest : ∀ s, P s (s, []))
    (htrans : ∀ s r r', P s r → P r.1 r' → P s (r'.1, r.2 ++ r'.2))
    (hfire : ∀ s p, s.cur = some p → P s ((fire c s p).1, [(fire c s p).2]))
    (harrive : ∀ s t pl e d, Op.event t pl e d ∈ ops → P s (arrive c s t e d))
    (hstop : ∀ s, P s (stop s, [])) :
    ∀ s, P s (run c s ops) := by
  have adv : ∀ t fuel s, P s (advanceFuel c fuel s t) := fun t =>
    advanceFuel_induction c t hrest fun s p r hp _ ih => htrans s (_, [_]) r (hfire s p hp) ih
  suffices h : ∀ l, (∀ op ∈ l, op ∈ ops) → ∀ s, P s (run c s l) from h ops fun _ h => h
  intro l
  induction l with
  | nil => exact fun _ s => hrest s
  | cons op l ih =>
    intro hl s
    refine htrans s _ _ ?_ (ih (fun o ho => hl o (List.mem_cons_of_mem _ ho)) _)
    cases op with
    | advance t => exact adv t _ s
    | stop => exact hstop s
    | event t pl e d => exact htrans s _ _ (adv _ _ s) (harrive _ t pl e d (hl _ List.mem_cons_self))

theorem run_out (c : Cfg) (s : State) (ops : List Op) :
    (run c s ops).1.out = lastRep (run c s ops).2 s.out :=
  run_induction c ops (P := fun s r => r.1.out = lastRep r.2 s.out) (fun _ => rfl)
    (fun s r r' h h' => by rw [lastRep_append, ← h, ← h'])
    (fun s p _ => by rw [fire_out, fire_snd]; rfl)
    (fun s t _ e d _ => arrive_out c s t e d) (fun _ => rfl) s

theorem run_stopped (c : Cfg) (ops : List Op) (s : State) (h : s.stopped = true ∧ s.cur = none ∧ s.resp = []) :
    ∀ x ∈ (run c s ops).2, x.rep = 0 ∧ ∃ pl d, Op.event x.t pl c.etype d ∈ ops := by
  refine (run_induction c ops
    (P := fun s r => s.stopped = true ∧ s.cur = none ∧ s.resp = [] →
      (r.1.stopped = true ∧ r.1.cur = none ∧ r.1.resp = []) ∧
        ∀ x ∈ r.2, x.rep = 0 ∧ ∃ pl d, Op.event x.t pl c.etype d ∈ ops)
    (fun s hs => ⟨hs, fun _ hx => (nomatch hx)⟩)
    (fun s r r' h h' hs =>
      ⟨(h' (h hs).1).1, fun x hx => (List.mem_append.mp hx).elim ((h hs).2 x) ((h' (h hs).1).2 x)⟩)
    (fun s p hp hs => nomatch hp.symm.trans hs.2.1)
    (fun s t pl e d hd hs => ?_)
    (fun s hs => ⟨⟨rfl, rfl, hs.2.2⟩, fun _ hx => (nomatch hx)⟩) s h).2
  by_cases he : e = c.etype
  · subst he
    rw [arrive_accepting c s t d hs.2.2]
    refine ⟨⟨hs.1, by simp [hs.1], hs.2.2⟩, fun x hx => ?_⟩
    rw [List.mem_singleton.mp hx]
    exact ⟨rfl, pl, d, hd⟩
  · rw [arrive_other c s t e d he]
    exact ⟨hs, fun _ hx => (nomatch hx)⟩

theorem horizon_le (pl : Placement) (t : Nat) : pl.horizon t ≤ t := by
  cases pl with
  | A => exact Nat.le_refl t
  | _ => exact Nat.sub_le t 1

theorem horizon_lt {pl : Placement} {t : Nat} (h : pl ≠ .A) (ht : 0 < t) : pl.horizon t < t := by
  cases pl with
  | A => exact absurd rfl h
  | _ => exact Nat.sub_lt ht Nat.one_pos

theorem event_accepting (c : Cfg) (s : State) (t : Nat) (pl : Placement) (data : Data) (h : s.resp = []) :
    event c s t pl c.etype data =
      ({ out := 0,
         cur := if !s.stopped && repeating c 0 then some ⟨withOrig data, 0, t + c.interval⟩ else none,
         stopped := s.stopped, resp := [] },
       (advance c s (pl.horizon t)).2 ++ [⟨t, c.etype, 0, outData c (withOrig data) 0, .ok⟩]) := by
  have ha := advance_accepting c s (pl.horizon t) h
  simp only [event, arrive_accepting _ _ _ _ ha.2, ha.1, ha.2]

theorem event_waiting (c : Cfg) (s : State) (t : Nat) (pl : Placement) (data : Data) (h : s.resp = [])
    (hs : s.stopped = false) : (event c s t pl c.etype data).1 = waiting c (withOrig data) t 0 := by
  rw [event_accepting c s t pl data h, hs, waiting, Nat.zero_add, Nat.one_mul]
  rfl

theorem event_sent_etype (c : Cfg) (s : State) (t : Nat) (pl : Placement) (etype : String) (data : Data) :
    ∀ x ∈ (event c s t pl etype data).2, x.etype = c.etype := by
  intro x hx
  rcases List.mem_append.mp hx with h | h
  · exact (advanceFuel_sent c _ _ s x h).2
  · rw [arrive_sent c _ t etype data x h]

theorem event_forward_mem (c : Cfg) (s : State) (t : Nat) (pl : Placement) (data : Data) :
    ∃ a, (⟨t, c.etype, 0, outData c (withOrig data) 0, a⟩ : Sent) ∈ (event c s t pl c.etype data).2 := by
  refine ⟨(advance c s (pl.horizon t)).1.answer, ?_⟩
  simp only [event, arrive_same]
  exact List.mem_append_right _ (List.mem_cons_self ..)

theorem feed_cons (c2 : Cfg) (s : State) (x : Sent) (xs : List Sent) (pl : Placement) (fl : List Bool)
    (r : State × List Sent × List Bool) (h : feed c2 s (x :: xs) pl fl = some r) :
    ∃ pl' fl' q, feed c2 (event c2 s x.t pl' x.etype x.data).1 xs pl fl' = some q ∧
      r.2.1 = (event c2 s x.t pl' x.etype x.data).2 ++ q.2.1 := by
  simp only [feed] at h
  split at h
  · obtain ⟨q, hq, rfl⟩ := Option.map_eq_some_iff.mp h
    exact ⟨_, _, q, hq, rfl⟩
  · split at h
    · cases h
    · obtain ⟨q, hq, rfl⟩ := Option.map_eq_some_iff.mp h
      exact ⟨_, _, q, hq, rfl⟩

theorem feed_forwards (c2 : Cfg) : ∀ (xs : List Sent) (s : State) (pl : Placement) (fl : List Bool)
    (r : State × List Sent × List Bool), feed c2 s xs pl fl = some r →
    ∀ x ∈ xs, x.etype = c2.etype →
      ∃ a, (⟨x.t, c2.etype, 0, outData c2 (withOrig x.data) 0, a⟩ : Sent) ∈ r.2.1 := by
  intro xs
  induction xs with
  | nil => intro s pl fl r _ x hx; cases hx
  | cons y ys ih =>
    intro s pl fl r hr x hx hety
    obtain ⟨pl', fl', q, hq, hr⟩ := feed_cons c2 s y ys pl fl r hr
    rw [hr]
    rcases List.mem_cons.mp hx with h | h
    · subst h
      rw [hety]
      obtain ⟨a, ha⟩ := event_forward_mem c2 s x.t pl' x.data
      exact ⟨a, List.mem_append_left _ ha⟩
    · obtain ⟨a, ha⟩ := ih _ _ _ _ hq x h hety
      exact ⟨a, List.mem_append_right _ ha⟩

def eventData : List Op → List Data
  | [] => []
  | .event _ _ _ d :: ops => d :: eventData ops
  | _ :: ops => eventData ops

/-- the queued data stems from one of the received events -/
def QueuedFrom (D : List Data) (s : State) : Prop := ∀ p, s.cur = some p → ∃ d ∈ D, p.data = withOrig d

/-- a sent event is a received one with `orig_source`, `repeat`, `source` set -/
def SentFrom (c : Cfg) (D : List Data) (x : Sent) : Prop :=
  x.etype = c.etype ∧ ∃ d ∈ D, x.data = outData c (withOrig d) x.rep

theorem arrive_shape (c : Cfg) (D : List Data) (s : State) (t : Nat) (e : String) (d : Data)
    (h : QueuedFrom D s) (hd : d ∈ D) :
    QueuedFrom D (arrive c s t e d).1 ∧ ∀ x ∈ (arrive c s t e d).2, SentFrom c D x := by
  refine ⟨fun q hq => ?_, fun x hx => ?_⟩
  · rcases arrive_cur c s t e d q hq with hq | hq
    · exact ⟨d, hd, hq⟩
    · exact h q hq
  · rw [arrive_sent c s t e d x hx]; exact ⟨rfl, d, hd, rfl⟩

theorem mem_eventData {t : Nat} {pl : Placement} {e : String} {d : Data} :
    ∀ {ops : List Op}, Op.event t pl e d ∈ ops → d ∈ eventData ops
  | op :: ops, h => by
    rcases List.mem_cons.mp h with rfl | h'
    · exact List.mem_cons_self
    · have ih : d ∈ eventData ops := mem_eventData h'
      cases op <;> first | exact List.mem_cons_of_mem _ ih | exact ih

theorem run_shape (c : Cfg) (ops : List Op) (s : State) (h : QueuedFrom (eventData ops) s) :
    ∀ x ∈ (run c s ops).2, SentFrom c (eventData ops) x := by
  refine (run_induction c ops
    (P := fun s r => QueuedFrom (eventData ops) s →
      QueuedFrom (eventData ops) r.1 ∧ ∀ x ∈ r.2, SentFrom c (eventData ops) x)
    (fun s hs => ⟨hs, fun _ hx => (nomatch hx)⟩)
    (fun s r r' h h' hs =>
      ⟨(h' (h hs).1).1, fun x hx => (List.mem_append.mp hx).elim ((h hs).2 x) ((h' (h hs).1).2 x)⟩)
    (fun s p hp hs => ?_)
    (fun s t _ e d hd hs => arrive_shape c _ s t e d hs (mem_eventData hd))
    (fun s _ => ⟨fun _ hp => (nomatch hp), fun _ hx => (nomatch hx)⟩) s h).2
  obtain ⟨d, hd, hpd⟩ := hs p hp
  refine ⟨fun q hq => ⟨d, hd, by rw [fire_cur_data c s p q hq, hpd]⟩, fun x hx => ?_⟩
  rw [List.mem_singleton.mp hx, fire_snd]
  exact ⟨rfl, d, hd, by rw [hpd]⟩

end Edzed.Repeat
