/-
Tie by translation for C07, second part: construction / configuration of the cron service and its clients
(lean/EdzedModel/Gen/TranslatedCronCfg.lean, generated by tools/py2lean_cron_cfg.py).  Lemmas behind
`TrTie.translated_croncfg_…` (EdzedProps/C07.lean).
-/
import EdzedModel.Cron
import EdzedModel.Gen.TranslatedCronCfg
import EdzedProofs.PyBool

namespace Edzed.Cron
open Gen.TrCronCfg

def zoneOf : Tz → Zone
  | .naive => .naive
  | .utc => .utc
  | .other => .other

def zoneRes : Except TzExc TzRes → ZoneRes
  | .ok .asIs => .asIs
  | .ok .stripped => .stripped
  | .error .typeError => .typeError
  | .error .valueError => .valueError

theorem check_tz_is_model (u it : Bool) (z : Tz) :
    zoneRes (checkTz u ⟨it, z⟩) = checkZone u it (zoneOf z) := by
  cases u <;> cases it <;> cases z <;> rfl

def gcPrims : GcPrims (List SvcBlk) SvcBlk where
  findblock circ name := circ.find? (fun b => b.name == name)
  isCron b := b.isCron
  newCron circ name utc reserved := (⟨name, true, utc, reserved⟩, circ ++ [⟨name, true, utc, reserved⟩])

theorem get_cron_is_model (circ : List SvcBlk) (utc : Bool) :
    (match getCron gcPrims circ utc with | .ok r => some r | .error _ => none) = getCronM circ utc := by
  unfold getCron getCronM gcPrims cronName
  cases utc <;> simp only [pybool, ↓reduceIte] <;>
    (cases h : List.find? _ circ with
     | none => rfl
     | some b => cases hb : b.isCron <;> simp [hb])

theorem cronName_inj (a b : Bool) : (cronName a == cronName b) = (a == b) := by
  cases a <;> cases b <;> decide

theorem getCronM_result (circ circ' : List SvcBlk) (utc : Bool) (b : SvcBlk)
    (h : getCronM circ utc = some (b, circ')) :
    b.name = cronName utc ∧ b.isCron = true ∧ (circ' = circ ∨ circ' = circ ++ [b]) ∧
      circ'.find? (fun x => x.name == cronName utc) = some b := by
  unfold getCronM at h
  cases hf : circ.find? (fun x => x.name == cronName utc) with
  | some x =>
    simp only [hf] at h
    cases hc : x.isCron with
    | false => simp [hc] at h
    | true =>
      simp only [hc, ↓reduceIte, Option.some.injEq, Prod.mk.injEq] at h
      obtain ⟨rfl, rfl⟩ := h
      have := List.find?_some hf
      exact ⟨by simpa using this, hc, Or.inl rfl, hf⟩
  | none =>
    simp only [hf, Option.some.injEq, Prod.mk.injEq] at h
    obtain ⟨rfl, rfl⟩ := h
    refine ⟨rfl, rfl, Or.inr rfl, ?_⟩
    rw [List.find?_append, hf]
    simp

theorem getCronM_idempotent (circ circ' : List SvcBlk) (utc : Bool) (b : SvcBlk)
    (h : getCronM circ utc = some (b, circ')) : getCronM circ' utc = some (b, circ') := by
  obtain ⟨_, hc, _, hf⟩ := getCronM_result circ circ' utc b h
  unfold getCronM
  simp [hf, hc]

theorem getCronM_other_kind (circ circ' : List SvcBlk) (utc : Bool) (b : SvcBlk)
    (h : getCronM circ utc = some (b, circ')) :
    circ'.find? (fun x => x.name == cronName (!utc)) = circ.find? (fun x => x.name == cronName (!utc)) := by
  obtain ⟨hn, _, hcases, _⟩ := getCronM_result circ circ' utc b h
  rcases hcases with rfl | rfl
  · rfl
  · rw [List.find?_append]
    have : (b.name == cronName (!utc)) = false := by
      rw [hn, cronName_inj]; cases utc <;> rfl
    cases List.find? (fun x => x.name == cronName (!utc)) circ <;> simp [this]

theorem setOf_eq_intSet (l : List Int) : Gen.TrCronCfg.setOf l = intSet l := by
  have hi : ∀ (x : Int) (l : List Int), Gen.TrCronCfg.insertSorted x l = insertInt x l := by
    intro x l
    induction l with
    | nil => rfl
    | cons y ys ih => simp only [Gen.TrCronCfg.insertSorted, insertInt, ih]
  unfold Gen.TrCronCfg.setOf intSet
  induction l with
  | nil => rfl
  | cons x xs ih => simp only [List.foldr_cons, ih, hi]

theorem mem_insertInt (x y : Int) (l : List Int) : y ∈ insertInt x l ↔ y = x ∨ y ∈ l := by
  induction l with
  | nil => simp [insertInt]
  | cons z zs ih =>
    unfold insertInt
    by_cases h1 : x < z
    · simp [h1]
    · by_cases h2 : x = z
      · subst h2; simp [h1]
      · simp only [h1, h2, ↓reduceIte, List.mem_cons, ih]
        exact or_left_comm

theorem mem_intSet (y : Int) (l : List Int) : y ∈ intSet l ↔ y ∈ l := by
  induction l with
  | nil => simp [intSet]
  | cons z zs ih =>
    have : intSet (z :: zs) = insertInt z (intSet zs) := rfl
    rw [this, mem_insertInt, ih]; simp

theorem insertInt_sorted (x : Int) (l : List Int) (h : l.Pairwise (· < ·)) : (insertInt x l).Pairwise (· < ·) := by
  induction l with
  | nil => exact List.pairwise_singleton _ _
  | cons y ys ih =>
    rw [List.pairwise_cons] at h
    unfold insertInt
    split
    · exact List.pairwise_cons.2 ⟨fun a ha => by
        rcases List.mem_cons.1 ha with rfl | ha
        · assumption
        · exact Int.lt_trans ‹x < y› (h.1 a ha), List.pairwise_cons.2 h⟩
    split
    · exact List.pairwise_cons.2 h
    · refine List.pairwise_cons.2 ⟨fun a ha => ?_, ih h.2⟩
      rcases (mem_insertInt x a ys).1 ha with rfl | ha
      · omega
      · exact h.1 a ha

theorem intSet_sorted (l : List Int) : (intSet l).Pairwise (· < ·) := by
  unfold intSet
  induction l with
  | nil => exact List.Pairwise.nil
  | cons x xs ih => exact insertInt_sorted x _ ih

theorem intSet_of_sorted (l : List Int) (h : l.Pairwise (· < ·)) : intSet l = l := by
  induction l with
  | nil => rfl
  | cons x xs ih =>
    rw [List.pairwise_cons] at h
    have : intSet (x :: xs) = insertInt x (intSet xs) := rfl
    rw [this, ih h.2]
    cases xs with
    | nil => rfl
    | cons y r => simp only [insertInt, h.1 y (List.mem_cons_self ..), ↓reduceIte]

theorem normWeekdays_intSet {xs s : List Int} (h : normWeekdays xs = some s) : intSet s = s := by
  unfold normWeekdays at h
  split at h
  · exact intSet_of_sorted s (Option.some.inj h ▸ intSet_sorted _)
  · cases h

theorem normWeekdays_fixed (xs s : List Int) (h : normWeekdays xs = some s) : normWeekdays s = some s := by
  have hi := normWeekdays_intSet h
  unfold normWeekdays at h ⊢
  by_cases hv : xs.all (fun x => decide (0 ≤ x) && decide (x ≤ 7)) = true
  · simp only [hv, ↓reduceIte, Option.some.injEq] at h
    have hmem : ∀ y, y ∈ s → 1 ≤ y ∧ y ≤ 7 := by
      intro y hy
      rw [← h, mem_intSet] at hy
      obtain ⟨x, hx, rfl⟩ := List.mem_map.mp hy
      have := (List.all_eq_true.mp hv) x hx
      simp only [Bool.and_eq_true, decide_eq_true_eq] at this
      by_cases h0 : x = 0
      · simp [h0]
      · simp only [h0, ↓reduceIte]; omega
    have hall : s.all (fun x => decide (0 ≤ x) && decide (x ≤ 7)) = true := by
      apply List.all_eq_true.mpr
      intro y hy
      have := hmem y hy
      simp only [Bool.and_eq_true, decide_eq_true_eq]; omega
    have hmap : (s.map fun x => if x = 0 then 7 else x) = s := by
      have : ∀ y ∈ s, (if y = 0 then (7 : Int) else y) = y := by
        intro y hy
        have := hmem y hy
        have h0 : y ≠ 0 := by omega
        simp [h0]
      rw [List.map_congr_left this]; simp
    simp only [hall, ↓reduceIte, hmap, hi]
  · simp [hv] at h

end Edzed.Cron
