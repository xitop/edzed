/-
Tie by translation for C13: the definitions generated from the CURRENT source of
edzed/blocklib/timeinterval.py (EdzedModel/Gen/TranslatedInterval.lean) are the model's parser,
normaliser and renderer (EdzedModel/Interval.lean) when the primitives are the model's matchers
and library functions (`modelPrims`).  One theorem per translated function, named after it; EdzedProps/C13.lean
restates them as `translated_interval_…`.  Most are equalities; where the model answers `unsupported` (non-ASCII
text, ISO week dates, a zone designator) the statement is `Refines`.  Proofs evaluate the programs by the equations
of their combinators and primitives and never spell generated text, so that they survive harmless rewrites of the
Python source.  Core Lean only.
-/
import EdzedModel.Interval
import EdzedModel.Gen.TranslatedInterval
import EdzedProofs.Interval
import EdzedProofs.IntervalSearch
import EdzedProofs.PyBool

namespace Edzed.IntervalTie
open Edzed.Interval Edzed.Gen.TrIv

def matcher : Re → List Char → Option Match
  | .time => reTime
  | .ymd => reYMD
  | .year => reYear
  | .isoDm => reIsoDM
  | .month => reMonth
  | .day => reDay

/-- `pattern.search`: the leftmost position where the matcher succeeds; `i` = characters skipped so far -/
def findMatch (m : List Char → Option Match) : List Char → Nat → Option MatchObj
  | [], i => (m []).map fun mt => ⟨i, i, mt.groups⟩
  | c :: cs, i =>
    match m (c :: cs) with
    | some mt => some ⟨i, i + min mt.len (c :: cs).length, mt.groups⟩
    | none => findMatch m cs (i + 1)

def fmtHM : List Char := ['%', 'H', ':', '%', 'M']
def fmtHMS : List Char := ['%', 'H', ':', '%', 'M', ':', '%', 'S']
def fmtHMSdot : List Char := ['%', 'H', ':', '%', 'M', ':', '%', 'S', '.', '%', 'f']
def fmtHMScomma : List Char := ['%', 'H', ':', '%', 'M', ':', '%', 'S', ',', '%', 'f']

/-- which of the four `strptime` formats a string can only match (by its punctuation) -/
def fmtOf (s : List Char) : List Char :=
  if s.contains '.' then fmtHMSdot
  else if s.contains ',' then fmtHMScomma
  else if (s.filter (· == ':')).length ≥ 2 then fmtHMS
  else fmtHM

/-- the layout of the model's endpoint tuples: which attribute of the Python object each position holds -/
def attrLayout : Interval.Kind → List String
  | .time => ["hour", "minute", "second", "microsecond"]
  | .date => ["month", "day"]
  | .datetime => ["year", "month", "day", "hour", "minute", "second", "microsecond"]

/-- the model's library functions as primitives; `tzAware` = what `datetime.fromisoformat` does with a string
    that has a zone designator after a well-formed date (returns an aware value / raises) – not modelled -/
def modelPrims (tzAware : Bool) : IvPrims where
  reSearch re s := findMatch (matcher re) s 0
  strip := Interval.strip
  capitalize := Interval.capitalize
  split s sep := splitOn sep s
  contains a s := isInfix a s
  pyInt s := if !s.isEmpty && s.all isDigit then .ok (numOf s : Int) else .err .value
  timeFromIso s :=
    if hasTz (dropT s) then .ok ([], true)
    else match isoHMSF (dropT s) with
      | some e => if validTime e then .ok (e, false) else .err .value
      | none => .err .value
  datetimeFromIso s :=
    match isoDateTime s with
    | .ok e => .ok (e, false)
    | .fail => .err .value
    | .tz => if tzAware then .ok ([], true) else .err .value
    | .week => .unsupported
  strptime fmt s :=
    match strpTime s with
    | some e => if validTime e && fmtOf s == fmt then .ok e else .err .value
    | none => .err .value
  timeCtor l := (intsToNats l).bind fun e => checkEp .time (padZeros 4 e)
  dateCtor y l := if y = (Gen.dummyYear : Int) then (intsToNats l).bind fun e => checkEp .date e else .unsupported
  datetimeCtor l := (intsToNats l).bind fun e => checkEp .datetime (padZeros 7 e)
  getattr k name e :=
    match ((attrLayout k).zip e).lookup name with
    | some v => (v : Int)
    | none => 0
  field name e :=
    if name == "month" then (e.getD 0 0 : Nat) else if name == "day" then (e.getD 1 0 : Nat)
    else if name == "year" then (Gen.dummyYear : Nat) else 0      -- only dates (dummy year) have their fields read
  strEp k e := render k e
  strInt i := natStr i.toNat
  sorted := sortR

@[simp] theorem prims_strip (c : Bool) : (modelPrims c).strip = Interval.strip := rfl

theorem prims_timeCtor (c : Bool) (l : List Int) :
    (modelPrims c).timeCtor l = (intsToNats l).bind fun e => checkEp .time (padZeros 4 e) := rfl

theorem prims_dateCtor (c : Bool) (y : Int) (l : List Int) :
    (modelPrims c).dateCtor y l =
      if y = (Gen.dummyYear : Int) then (intsToNats l).bind fun e => checkEp .date e else .unsupported := rfl

theorem prims_datetimeCtor (c : Bool) (l : List Int) :
    (modelPrims c).datetimeCtor l = (intsToNats l).bind fun e => checkEp .datetime (padZeros 7 e) := rfl

theorem prims_getattr (c : Bool) (k : Interval.Kind) (name : String) (e : Ep) :
    (modelPrims c).getattr k name e =
      match ((attrLayout k).zip e).lookup name with
      | some v => (v : Int)
      | none => 0 := rfl

theorem prims_pyInt (c : Bool) (s : List Char) :
    (modelPrims c).pyInt s = if !s.isEmpty && s.all isDigit then .ok (numOf s : Int) else .err .value := rfl

theorem prims_reSearch (c : Bool) (re : Re) (s : List Char) :
    (modelPrims c).reSearch re s = findMatch (matcher re) s 0 := rfl

theorem prims_contains (c : Bool) (a s : List Char) : (modelPrims c).contains a s = isInfix a s := rfl

theorem prims_split (c : Bool) (s sep : List Char) : (modelPrims c).split s sep = splitOn sep s := rfl

/-- the string with `[start, stop)` removed, as `_match_pattern` computes it: a match at the start, at the end,
    or in the middle (then the two pieces are joined by a blank) -/
def pyRemove (full : List Char) (start stop : Nat) : List Char :=
  if start == 0 then full.drop stop
  else if stop == full.length then full.take start
  else pyJoin [' '] [full.take start, full.drop stop]

theorem pyRemove_eq (pre s : List Char) (n : Nat) :
    pyRemove (pre.reverse ++ s) pre.length (pre.length + min n s.length) = removeMatch pre (s.drop n) := by
  have hdrop : (pre.reverse ++ s).drop (pre.length + min n s.length) = s.drop n := by
    rw [← List.length_reverse, List.drop_length_add_append]
    by_cases h : n ≤ s.length
    · rw [Nat.min_eq_left h]
    · rw [Nat.min_eq_right (by omega), List.drop_length, List.drop_of_length_le (by omega)]
  have hstop : (pre.length + min n s.length == (pre.reverse ++ s).length) = (s.drop n).isEmpty := by
    rw [List.length_append, List.length_reverse, Bool.eq_iff_iff, beq_iff_eq, List.isEmpty_iff, List.drop_eq_nil_iff]
    omega
  unfold pyRemove removeMatch
  rw [hdrop, hstop]
  cases pre with
  | nil => rfl
  | cons x p =>
    rw [List.take_left' List.length_reverse]
    simp only [List.length_cons, Nat.add_one_ne_zero, beq_iff_eq, ↓reduceIte, List.isEmpty_cons,
      Bool.false_eq_true, pyJoin, List.append_assoc, List.singleton_append]

theorem searchGo_findMatch (m : List Char → Option Match) (pre s : List Char) :
    searchGo m pre s = (findMatch m s pre.length).map fun mo =>
      (pyRemove (pre.reverse ++ s) mo.start mo.stop, mo.groups) := by
  induction s generalizing pre with
  | nil =>
    have := pyRemove_eq pre [] 0
    simp only [searchGo, findMatch, Option.map_map]
    exact congrArg (fun r => (m []).map fun mt => (r, mt.groups)) this.symm
  | cons c cs ih =>
    simp only [searchGo, findMatch]
    cases m (c :: cs) with
    | none =>
      have := ih (c :: pre)
      simp only [List.reverse_cons, List.append_assoc, List.singleton_append, List.length_cons] at this
      exact this
    | some mt => exact congrArg (fun r => some (r, mt.groups)) (pyRemove_eq pre (c :: cs) mt.len).symm

theorem search_findMatch (m : List Char → Option Match) (s : List Char) :
    search m s = (findMatch m s 0).map fun mo => (pyRemove s mo.start mo.stop, mo.groups) := by
  have := searchGo_findMatch m [] s
  simpa [search] using this

theorem match_pattern_eq (c : Bool) (s : List Char) (re : Re) (msg : Option (List Char)) :
    match_pattern (modelPrims c) s re msg =
      match search (matcher re) s with
      | some (s', g) => .ok (s', some g)
      | none => if (match msg with | some v => !v.isEmpty | none => false) then .err .value else .ok (s, none) := by
  rw [search_findMatch]
  unfold match_pattern
  rw [prims_reSearch]
  cases findMatch (matcher re) s 0 with
  | none => rfl
  | some mo =>
    simp only [Option.map_some, pyRemove]
    -- both position tests decided: the program may compare either way round and test them in either order (where
    -- both hold, either cut leaves nothing: `List.take_zero`, `List.drop_length`)
    by_cases h0 : mo.start = 0 <;> by_cases h1 : mo.stop = s.length <;>
      simp only [pybool, ↓reduceIte, h0, h1, eq_comm (a := (0 : Nat)), eq_comm (a := s.length), List.take_zero,
        List.drop_length]

/-- the loop of `_name_to_month`, whatever the text of its body -/
theorem name_to_month_loop (cap : List Char) (body : Int × List Char → Res (Option Int))
    (hb : ∀ (j : Nat) (name : List Char), body ((j : Int), name) =
      if decide (j > 0) && cap.isPrefixOf name then .ok (some (j : Int)) else .ok none)
    (l : List (List Char)) (i : Nat) :
    forReturn (enumerate l i) body (fun _ => .err .value) =
      match findMonth cap l i with
      | some j => .ok (j : Int)
      | none => .err .value := by
  induction l generalizing i with
  | nil => rfl
  | cons x xs ih =>
    simp only [enumerate, forReturn, findMonth, hb]
    cases decide (i > 0) && cap.isPrefixOf x with
    | false => exact ih (i + 1)
    | true => rfl

theorem name_to_month_eq (c : Bool) (name : List Char) :
    name_to_month (modelPrims c) name =
      match nameToMonth name with
      | some j => .ok (j : Int)
      | none => .err .value := by
  unfold name_to_month nameToMonth
  refine name_to_month_loop _ _ (fun j mn => ?_) _ 0
  have hpos : ((j : Int) > 0) = (j > 0) := by simp only [gt_iff_lt, Int.natCast_pos]
  have hle : ((j : Int) ≤ 0) = ¬ (j > 0) := by rw [← hpos, gt_iff_lt, Int.not_lt]
  simp only [hpos, hle, modelPrims]
  by_cases h1 : j > 0 <;> by_cases h2 : (capitalize name).isPrefixOf mn = true <;>
    simp only [h1, h2, pybool, ↓reduceIte]

theorem convertSeqOf_eq (c : Bool) (k : Interval.Kind) (l : List Int) :
    convertSeqOf (modelPrims c) k l = convertSeq k l := by
  -- the length test is decided first: the program may write it negated, split in two or with the arms swapped
  cases k
  · by_cases h1 : 1 ≤ l.length <;> by_cases h2 : l.length ≤ 4 <;>
      simp only [convertSeqOf, convert_time_seq, convertSeq, prims_timeCtor, pybool, ↓reduceIte, h1, h2, gt_iff_lt,
        ← Nat.not_le]
  · by_cases h : l.length = 2 <;>
      simp only [convertSeqOf, convert_date_seq, convertSeq, prims_dateCtor, pybool, ↓reduceIte, h,
        eq_comm (a := (2 : Nat))]
  · by_cases h1 : 5 ≤ l.length <;> by_cases h2 : l.length ≤ 7 <;>
      simp only [convertSeqOf, convert_datetime_seq, convertSeq, prims_datetimeCtor, pybool, ↓reduceIte, h1, h2,
        gt_iff_lt, ← Nat.not_le]

/-- none beyond a C int (`cIntLimit`): what is left of the constructor is its range check -/
theorem convertSeqOf_small (c : Bool) (k : Interval.Kind) {e : List Nat}
    (hl : e.length = match k with | .time => 4 | .date => 2 | .datetime => 7) (hs : ∀ v ∈ e, v < 2147483648) :
    convertSeqOf (modelPrims c) k (e.map Int.ofNat) = checkEp k e := by
  have hp : padZeros e.length e = e := by
    unfold padZeros
    rw [Nat.sub_self]
    exact List.append_nil e
  rw [convertSeqOf_eq, convertSeq.eq_def, List.length_map, intsToNats_ofNat e hs]
  cases k <;> rw [hl] at hp <;> simp only [hl, hp, Res.bind_ok, Nat.le_refl, Nat.reduceLeDiff, and_self, ↓reduceIte]

theorem map_lookup_zip : ∀ {names : List String} {e : List Nat}, names.Nodup → names.length = e.length →
    names.map (fun a => match (names.zip e).lookup a with | some v => (v : Int) | none => 0) = e.map Int.ofNat
  | [], [], _, _ => rfl
  | n :: ns, x :: xs, hn, hl => by
    have hn' := List.nodup_cons.1 hn
    rw [List.map_cons, List.map_cons, List.zip_cons_cons, List.lookup_cons_self,
      ← map_lookup_zip hn'.2 (Nat.succ.inj hl)]
    congr 1
    apply List.map_congr_left
    intro a ha
    have : (a == n) = false := beq_eq_false_iff_ne.2 fun h => hn'.1 (h ▸ ha)
    rw [List.lookup_cons, this]

theorem attrLayout_nodup (k : Interval.Kind) : (attrLayout k).Nodup := by
  cases k <;> decide

/-- `_ATTRS` lists the attributes in the order of the model's tuples -/
theorem export_dt_eq (c : Bool) (k : Interval.Kind) {e : Ep} (h : validEp k e = true) :
    export_dt (modelPrims c) k e = e.map Int.ofNat := by
  have hl : (attrLayout k).length = e.length := by
    cases k with
    | time => obtain ⟨hh, m, s, us, rfl, -⟩ := validTime_shape h; rfl
    | date => obtain ⟨mo, d, rfl, -⟩ := validDate_shape h; rfl
    | datetime => obtain ⟨y, mo, d, hh, mi, s, us, rfl, -⟩ := validDateTime_shape h; rfl
  unfold export_dt
  rw [show dtAttrs k = attrLayout k by cases k <;> rfl]
  simp only [prims_getattr]
  exact map_lookup_zip (attrLayout_nodup k) hl

theorem forReturn_any {α β : Type} (p : α → Bool) (b : β) (k : Unit → Res β) (body : α → Res (Option β))
    (hb : ∀ x, body x = if p x then .ok (some b) else .ok none) :
    ∀ l : List α, forReturn l body k = if l.any p then .ok b else k ()
  | [] => rfl
  | x :: xs => by
    rw [forReturn, hb x, List.any_cons]
    cases p x
    · exact forReturn_any p b k body hb xs
    · rfl

theorem fmtOf_mem (t : List Char) {l : List (List Char)} (h1 : fmtHM ∈ l) (h2 : fmtHMS ∈ l) (h3 : fmtHMSdot ∈ l)
    (h4 : fmtHMScomma ∈ l) : fmtOf t ∈ l := by
  unfold fmtOf
  split
  · exact h3
  · split
    · exact h4
    · split
      · exact h2
      · exact h1

/-- `for fmt in …: try: return strptime(s, fmt) … except ValueError: pass`, whatever the text of the body and
    the order of the formats: the one format that the punctuation of `t` admits is in the list -/
theorem strptime_loop (c : Bool) (t : List Char) (l : List (List Char)) (hl : fmtOf t ∈ l)
    (body : List Char → Res (Option Ep))
    (hok : ∀ fmt e, (modelPrims c).strptime fmt t = .ok e → body fmt = .ok (some e))
    (herr : ∀ fmt, (modelPrims c).strptime fmt t = .err .value → body fmt = .ok none) :
    forReturn l body (fun _ => .err .value) = (Res.ofOption (strpTime t)).bind (checkEp .time) := by
  have hp : ∀ fmt, (modelPrims c).strptime fmt t =
      match strpTime t with
      | some e => if validTime e && fmtOf t == fmt then .ok e else .err .value
      | none => .err .value := fun _ => rfl
  cases hs : strpTime t with
  | none =>
    simp only [hs] at hp
    refine (forReturn_any (fun _ => false) [] _ body (fun fmt => herr fmt (hp fmt)) l).trans ?_
    rw [List.any_eq_false.2 fun _ _ => Bool.false_ne_true, if_neg Bool.false_ne_true]
    rfl
  | some e =>
    simp only [hs] at hp
    refine (forReturn_any (fun fmt => validTime e && fmtOf t == fmt) e _ body (fun fmt => ?_) l).trans ?_
    · cases hf : validTime e && fmtOf t == fmt
      · exact herr fmt (by rw [hp, hf]; rfl)
      · exact hok fmt e (by rw [hp, hf]; rfl)
    · cases hv : validTime e
      · rw [List.any_eq_false.2 fun _ _ => by rw [Bool.false_and]; exact Bool.false_ne_true,
          if_neg Bool.false_ne_true]
        simp only [Res.ofOption, Res.bind_ok, checkEp, validEp, hv, Bool.false_eq_true, ↓reduceIte]
      · refine (if_pos (List.any_eq_true.2 ⟨_, hl, beq_self_eq_true _⟩)).trans ?_
        simp only [Res.ofOption, Res.bind_ok, checkEp, validEp, hv, ↓reduceIte]

theorem convert_time_str_eq (c : Bool) (s : List Char) :
    convert_time_str (modelPrims c) s = convertTimeStr s := by
  -- the list of formats is the program's, in its order; that it holds the four is decided on it
  have loop := fun l (hl : fmtHM ∈ l ∧ fmtHMS ∈ l ∧ fmtHMSdot ∈ l ∧ fmtHMScomma ∈ l) body =>
    strptime_loop c (strip s) l (fmtOf_mem _ hl.1 hl.2.1 hl.2.2.1 hl.2.2.2) body
  unfold convert_time_str convertTimeStr convertTimeStripped
  simp only [modelPrims] at loop ⊢
  by_cases ht : hasTz (dropT (strip s)) = true
  · simp only [ht, pybool, ↓reduceIte]
  · simp only [ht, Bool.false_eq_true, ↓reduceIte]
    cases isoHMSF (dropT (strip s)) with
    | none => exact loop _ (by decide) _ (fun fmt e h => by rw [h]) (fun fmt h => by rw [h])
    | some e =>
      by_cases hv : validTime e = true
      · simp only [hv, pybool, ↓reduceIte]
      · simp only [hv, Bool.false_eq_true, ↓reduceIte]
        exact loop _ (by decide) _ (fun fmt e h => by rw [h]) (fun fmt h => by rw [h])

/-- a group `\d{…}` of a pattern: `int()` accepts it; four is the longest (the year), and any bound that keeps the
    number below a C int would do for the constructors -/
def Digits (g : List Char) : Prop := g ≠ [] ∧ g.all isDigit = true ∧ g.length ≤ 4

/-- every match of `m` has groups of the shape `Q` (how many there are, which of them are digits) -/
def Groups (m : List Char → Option Match) (Q : List (List Char) → Prop) : Prop :=
  ∀ t mt, m t = some mt → Q mt.groups

theorem searchGo_groups {m : List Char → Option Match} {Q : List (List Char) → Prop} (hQ : Groups m Q) :
    ∀ (s pre : List Char) {r : List Char} {g : List (List Char)}, searchGo m pre s = some (r, g) → Q g
  | [], pre, r, g, h => by
    obtain ⟨mt, hm, he⟩ := Option.map_eq_some_iff.1 h
    cases he
    exact hQ _ _ hm
  | c :: cs, pre, r, g, h => by
    rw [searchGo] at h
    cases hm : m (c :: cs) with
    | some mt =>
      rw [hm] at h
      cases h
      exact hQ _ _ hm
    | none =>
      rw [hm] at h
      exact searchGo_groups hQ cs (c :: pre) h

theorem take4digits_digits {s y r : List Char} (h : take4digits s = some (y, r)) : Digits y := by
  unfold take4digits at h
  split at h
  · split at h
    · next hd =>
      cases h
      refine ⟨List.cons_ne_nil _ _, ?_, Nat.le_refl 4⟩
      simpa only [List.all_cons, List.all_nil, Bool.and_true, Bool.and_assoc] using hd
    · cases h
  · cases h

theorem take2digits_digits {s y r : List Char} (h : take2digits s = some (y, r)) : Digits y := by
  unfold take2digits at h
  split at h
  · split at h
    · next hd =>
      cases h
      refine ⟨List.cons_ne_nil _ _, ?_, (by decide : 2 ≤ 4)⟩
      simpa only [List.all_cons, List.all_nil, Bool.and_true] using hd
    · cases h
  · cases h

theorem digits12_digits {s y r : List Char} (h : digits12 s = some (y, r)) : Digits y := by
  unfold digits12 at h
  split at h
  · split at h
    · next ha =>
      split at h
      · next hb =>
        cases h
        exact ⟨List.cons_ne_nil _ _, by simp only [List.all_cons, List.all_nil, ha, hb, Bool.and_self], (by decide : 2 ≤ 4)⟩
      · cases h
        exact ⟨List.cons_ne_nil _ _, by simp only [List.all_cons, List.all_nil, ha, Bool.and_self], (by decide : 1 ≤ 4)⟩
    · cases h
  · split at h
    · next ha =>
      cases h
      exact ⟨List.cons_ne_nil _ _, by simp only [List.all_cons, List.all_nil, ha, Bool.and_self], (by decide : 1 ≤ 4)⟩
    · cases h
  · cases h

theorem reYear_groups : Groups reYear fun g => ∃ y, g = [y] ∧ Digits y := by
  intro t mt h
  unfold reYear at h
  split at h
  · next y r hy => cases h; exact ⟨y, rfl, take4digits_digits hy⟩
  · cases h

theorem reIsoDM_groups : Groups reIsoDM fun g => ∃ mo d, g = [mo, d] ∧ Digits mo ∧ Digits d := by
  intro t mt h
  unfold reIsoDM at h
  split at h
  · split at h
    · split at h
      · next mo r' hmo =>
        simp only at h
        split at h
        · next d r'' hd => cases h; exact ⟨mo, d, rfl, take2digits_digits hmo, take2digits_digits hd⟩
        · cases h
      · cases h
    · cases h
  · cases h

theorem reMonth_groups : Groups reMonth fun g => ∃ name, g = [name] := by
  intro t mt h
  unfold reMonth at h
  simp only at h
  split at h
  · cases h; exact ⟨_, rfl⟩
  · cases h

theorem reDay_groups : Groups reDay fun g => ∃ d, g = [d] ∧ Digits d := by
  intro t mt h
  unfold reDay at h
  split at h
  · next d r hd => cases h; exact ⟨d, rfl, digits12_digits hd⟩
  · cases h

theorem reTime_groups : Groups reTime fun g => ∃ x, g = [x] := by
  intro t mt h
  unfold reTime at h
  split at h
  · cases h
  · split at h
    · cases h
    · simp only at h; cases h; exact ⟨_, rfl⟩

/-- a month name of `_RE_YMD` (three or more letters) does not pass for a number: its first letter is no digit -/
theorem takeWhile_alpha_not_digits {r : List Char} (h : (r.takeWhile isAlpha).length ≥ 3) :
    (r.takeWhile isAlpha).all isDigit = false := by
  cases r with
  | nil => cases h
  | cons x xs =>
    rw [List.takeWhile_cons] at h ⊢
    split at h
    · next hx =>
      rw [if_pos hx, List.all_cons]
      have : isDigit x = false := by
        cases hd : isDigit x
        · rfl
        · have := isDigit_bound hd
          simp only [isAlpha, isUpper, isLower, Bool.or_eq_true, Bool.and_eq_true, decide_eq_true_eq] at hx
          omega
      rw [this, Bool.false_and]
    · cases h

theorem reYMD_groups : Groups reYMD fun g =>
    ∃ y mo d, g = [y, mo, d] ∧ Digits y ∧ (mo.all isDigit = true → Digits mo) ∧ Digits d := by
  intro t mt h
  unfold reYMD at h
  split at h
  · next y c r hy =>
    split at h
    · simp only at h
      split at h
      · next mo c' r' hmo =>
        split at h
        · split at h
          · next d r'' hd =>
            cases h
            refine ⟨y, mo, d, rfl, take4digits_digits hy, fun hall => ?_, take2digits_digits hd⟩
            split at hmo
            · next hl =>
              rw [← (Prod.mk.inj (Option.some.inj hmo)).1, takeWhile_alpha_not_digits hl] at hall
              cases hall
            · exact take2digits_digits hmo
          · cases h
        · cases h
      · cases h
    · cases h
  · cases h

theorem Digits.numOf_lt {g : List Char} (h : Digits g) : numOf g < 10000 :=
  calc numOf g < 10 ^ g.length := Edzed.Interval.numOf_lt g (List.all_eq_true.1 h.2.1)
    _ ≤ 10 ^ 4 := Nat.pow_le_pow_right (by decide) h.2.2

theorem pyInt_digits (c : Bool) {g : List Char} (h : Digits g) : (modelPrims c).pyInt g = .ok (numOf g : Int) := by
  rw [prims_pyInt, h.2.1, List.isEmpty_eq_false_iff.2 h.1]
  rfl

theorem pyInt_nondigits (c : Bool) {g : List Char} (h : g.all isDigit = false) :
    (modelPrims c).pyInt g = .err .value := by
  rw [prims_pyInt, h, Bool.and_false]
  rfl

theorem findMonth_lt (cap : List Char) : ∀ (l : List (List Char)) (i j : Nat),
    findMonth cap l i = some j → j < i + l.length
  | [], _, _, h => by simp [findMonth] at h
  | x :: xs, i, j, h => by
    simp only [findMonth] at h
    split at h
    · cases h; simp
    · have := findMonth_lt cap xs (i + 1) j h
      simp only [List.length_cons]; omega

theorem nameToMonth_lt {name : List Char} {j : Nat} (h : nameToMonth name = some j) : j < 13 := by
  have := findMonth_lt _ _ _ _ h
  have hl : Gen.monthNamesC.length = 13 := by decide
  omega

/-! ### `_convert_str`

The program is run one call at a time: a stage lemma replaces the call at the head by what the model says it
returns, with what is known there (the groups of a match, the range of a month), and leaves the rest of the
program, whatever it is, as the continuation `K`; `M` is the model's side. -/

theorem bind_step {α β : Type} {x r : Res α} {K : α → Res β} {M : Res β} (hx : x = r) (h : r.bind K = M) :
    x.bind K = M := by
  rw [hx]; exact h

theorem bind_ok_step {α β : Type} {x : Res α} {a : α} {K : α → Res β} {M : Res β} (hx : x = .ok a) (h : K a = M) :
    x.bind K = M := bind_step hx h

/-- `_match_pattern`, then `K`.  The matcher `m` comes with `hQ`, and `hm` (an `rfl`) ties it to the name of the
    pattern: the hypotheses are then about `search reX s` as the model's functions spell it, which `rw` does not
    find under `matcher .x` -/
theorem pattern_step {β : Type} (c : Bool) {re : Re} {m : List Char → Option Match} {Q : List (List Char) → Prop}
    {s : List Char} {msg : Option (List Char)} {K : List Char × Option (List (List Char)) → Res β} {M : Res β}
    (hQ : Groups m Q) (hm : matcher re = m)
    (absent : search m s = none →
      (if (match msg with | some v => !v.isEmpty | none => false) then .err .value else K (s, none)) = M)
    (found : ∀ s' g, search m s = some (s', g) → Q g → K (s', some g) = M) :
    (match_pattern (modelPrims c) s re msg).bind K = M := by
  rw [match_pattern_eq, hm]
  cases h : search m s with
  | none =>
    rw [← absent h]
    cases msg with
    | none => rfl
    | some v => cases v <;> rfl
  | some r => exact found r.1 r.2 h (searchGo_groups hQ s [] h)

theorem month_step {β : Type} (c : Bool) {name : List Char} {K : Int → Res β} {M : Res β}
    (unknown : nameToMonth name = none → .err .value = M)
    (known : ∀ m, nameToMonth name = some m → m < 13 → K (m : Int) = M) :
    (name_to_month (modelPrims c) name).bind K = M := by
  rw [name_to_month_eq]
  cases h : nameToMonth name with
  | none => exact unknown h
  | some m => exact known m h (nameToMonth_lt h)

theorem int_step {β : Type} (c : Bool) {g : List Char} {K : Int → Res β} {M : Res β} (hg : Digits g)
    (h : K (numOf g : Int) = M) : ((modelPrims c).pyInt g).bind K = M :=
  bind_ok_step (pyInt_digits c hg) h

/-- the end of a branch: nothing but blanks may be left of the string; then the constructor call `r`, which the
    model's side makes through `f` -/
theorem leftover_step {c : Bool} {s : List Char} {f : Ep → Res Ep} {e : Ep} {r : Res Ep} (h : r = f e) :
    (if !((modelPrims c).strip s).isEmpty then .err .value else r) =
      (if (strip s).isEmpty then Res.ok e else .err .value).bind f := by
  rw [prims_strip, h]
  cases (strip s).isEmpty <;> rfl

theorem monthDay_of_isoDM {s s' mo d : List Char} (h1 : search reIsoDM s = some (s', [mo, d])) :
    monthDay s = .ok (s', numOf mo, numOf d) := by
  simp only [monthDay, h1]

theorem monthDay_noMonth {s : List Char} (h1 : search reIsoDM s = none) (h2 : search reMonth s = none) :
    monthDay s = .err .value := by
  simp only [monthDay, h1, h2]

theorem monthDay_badName {s s' name : List Char} (h1 : search reIsoDM s = none)
    (h2 : search reMonth s = some (s', [name])) (h3 : nameToMonth name = none) : monthDay s = .err .value := by
  simp only [monthDay, h1, h2, h3]

theorem monthDay_noDay {s s' name : List Char} {m : Nat} (h1 : search reIsoDM s = none)
    (h2 : search reMonth s = some (s', [name])) (h3 : nameToMonth name = some m) (h4 : search reDay s' = none) :
    monthDay s = .err .value := by
  simp only [monthDay, h1, h2, h3, h4]

/-- `P` searches, names months, reads integers and strips like the model, whatever its other primitives: all that
    `_convert_str` uses of them besides the constructor -/
structure StrPrims (c : Bool) (P : IvPrims) : Prop where
  search : match_pattern P = match_pattern (modelPrims c)
  month : name_to_month P = name_to_month (modelPrims c)
  int : P.pyInt = (modelPrims c).pyInt
  strip : P.strip = (modelPrims c).strip

def withDateCtor (P : IvPrims) (F : Int → List Int → Res Ep) : IvPrims := { P with dateCtor := F }

theorem strPrims_withDateCtor (c : Bool) (F : Int → List Int → Res Ep) :
    StrPrims c (withDateCtor (modelPrims c) F) := ⟨rfl, rfl, rfl, rfl⟩

/-- `_convert_str(string, with_time=False)` whatever `dt.date` is: `--MMDD` or month and day, the leftover check,
    and the constructor on month and day (`K (E mo d)` on the model's side) -/
theorem convert_str_date_of (c : Bool) {P : IvPrims} (hP : StrPrims c P) (E : Nat → Nat → Ep) (K : Ep → Res Ep)
    (hF : ∀ {mo d : Nat}, mo < 10000 → d < 10000 →
      P.dateCtor (Gen.dummyYear : Int) [(mo : Int), (d : Int)] = K (E mo d))
    (s : List Char) :
    convert_str P s false =
      ((monthDay s).bind fun (rest, mo, d) =>
        if (strip rest).isEmpty then Res.ok (E mo d) else .err .value).bind K := by
  rw [convert_str, if_neg Bool.false_ne_true, hP.search, hP.month, hP.int, hP.strip]
  refine pattern_step c reIsoDM_groups rfl (fun h1 => ?_) ?_
  · refine pattern_step c reMonth_groups rfl (fun h2 => by rw [monthDay_noMonth h1 h2]; rfl) ?_
    rintro s3 g h2 ⟨name, rfl⟩
    refine month_step c (fun h3 => by rw [monthDay_badName h1 h2 h3]; rfl) fun m h3 hm => ?_
    refine pattern_step c reDay_groups rfl (fun h4 => by rw [monthDay_noDay h1 h2 h3 h4]; rfl) ?_
    rintro s4 g h4 ⟨d, rfl, hd⟩
    refine int_step c hd ?_
    rw [Interval.monthDay_of_searches h1 h2 h3 h4]
    exact leftover_step (hF (show m < 10000 by omega) hd.numOf_lt)
  · rintro s3 g h1 ⟨mo, d, rfl, hmo, hd⟩
    -- month and day are read in whatever order the program has them
    simp only [List.getD_cons_zero, List.getD_cons_succ, List.isEmpty_cons, Bool.not_false, Bool.false_eq_true,
      ↓reduceIte, pyInt_digits c hmo, pyInt_digits c hd, Res.bind_ok]
    rw [monthDay_of_isoDM h1]
    exact leftover_step (hF hmo.numOf_lt hd.numOf_lt)

theorem convert_str_date_eq (c : Bool) (s : List Char) :
    convert_str (modelPrims c) s false = convertDateCore s :=
  convert_str_date_of c ⟨rfl, rfl, rfl, rfl⟩ (fun mo d => [mo, d]) (checkEp .date)
    (fun hmo hd =>
      convertSeqOf_small c .date (e := [_, _]) rfl (by simp only [List.mem_cons, List.not_mem_nil, or_false]; omega))
    s

theorem datetime_seq_small (c : Bool) {y mo d : Nat} {tm : Ep} (hy : y < 10000) (hmo : mo < 10000)
    (hd : d < 10000) (ht : validTime tm = true) :
    convert_datetime_seq (modelPrims c) ([(y : Int), (mo : Int), (d : Int)] ++ export_dt (modelPrims c) .time tm) =
      checkEp .datetime ([y, mo, d] ++ tm) := by
  rw [export_dt_eq c .time ht]
  obtain ⟨hh, mi, s, us, rfl, h1, h2, h3, h4⟩ := validTime_shape ht
  refine convertSeqOf_small c .datetime (e := [y, mo, d, hh, mi, s, us]) rfl ?_
  simp only [List.forall_mem_cons, List.not_mem_nil, false_imp_iff, implies_true, and_true]
  omega

theorem convert_str_datetime_eq (c : Bool) (s : List Char) :
    convert_str (modelPrims c) s true = convertDateTimeCore s := by
  rw [convert_str, if_pos rfl]
  unfold convertDateTimeCore dateTimeRaw
  refine pattern_step c reTime_groups rfl (fun hT => by rw [hT]; rfl) ?_
  rintro s1 g hT ⟨t, rfl⟩
  -- the model's match has to be reduced here, not only rewritten: `convertTimeStr t` must stand in the goal for
  -- the case split below to reach the model's side
  conv => rhs; simp only [hT]
  refine bind_ok_step rfl (bind_step (convert_time_str_eq c t) ?_)
  cases hc : convertTimeStr t with
  | err e => rfl
  | unsupported => rfl
  | ok tm =>
    have hv := convertTimeStr_valid hc
    refine pattern_step c reYMD_groups rfl (fun hY => ?_) ?_
    · rw [hY]
      refine pattern_step c reYear_groups rfl (fun hYr => by rw [hYr]; rfl) ?_
      rintro s2 g hYr ⟨y, rfl, hy⟩
      rw [hYr]
      refine int_step c hy ?_
      -- what is left of the program is `_convert_str(s2, with_time=False)` with, in place of `dt.date`,
      -- `dt.datetime` on the year, month and day and the fields of the time: in Python the same statements
      have hP := strPrims_withDateCtor c fun _ l =>
        convert_datetime_seq (modelPrims c) ((numOf y : Int) :: l ++ export_dt (modelPrims c) .time tm)
      have := convert_str_date_of c hP (fun mo d => [numOf y, mo, d] ++ tm) (checkEp .datetime)
        (fun hmo hd => datetime_seq_small c hy.numOf_lt hmo hd hv) s2
      -- with the primitives rewritten to the model's, `exact` compares equal text down to the constructor call
      rw [convert_str, if_neg Bool.false_ne_true, hP.search, hP.month, hP.int, hP.strip] at this
      exact this
    · rintro s2 g hY ⟨y, mo, d, rfl, hy, hmod, hd⟩
      rw [hY]
      refine int_step c hy ?_
      by_cases hall : mo.all isDigit = true
      · simp only [List.getD_cons_zero, List.getD_cons_succ, pyInt_digits c (hmod hall), hall, ↓reduceIte]
        refine int_step c hd ?_
        exact leftover_step (datetime_seq_small c hy.numOf_lt (hmod hall).numOf_lt hd.numOf_lt hv)
      · have hall' : mo.all isDigit = false := Bool.eq_false_iff.2 hall
        simp only [List.getD_cons_zero, List.getD_cons_succ, pyInt_nondigits c hall', hall', Bool.false_eq_true,
          ↓reduceIte]
        refine month_step c (fun h3 => by rw [h3]; rfl) fun m h3 hm => ?_
        rw [h3]
        refine int_step c hd ?_
        exact leftover_step
          (datetime_seq_small c hy.numOf_lt (show m < 10000 by omega) hd.numOf_lt hv)

/-- the only exception this computation raises is ValueError.  Needed of the fallback parser where
    `fromisoformat` met a zone designator: the model hands the parser's error on, whatever it is, and the code
    raises ValueError -/
def OnlyValue {α : Type} (r : Res α) : Prop := ∀ e, r = .err e → e = .value

theorem OnlyValue.ok {α : Type} (a : α) : OnlyValue (Res.ok a) := fun _ h => by cases h
theorem OnlyValue.uns {α : Type} : OnlyValue (Res.unsupported : Res α) := fun _ h => by cases h
theorem OnlyValue.errv {α : Type} : OnlyValue (Res.err .value : Res α) := fun _ h => by cases h; rfl
theorem OnlyValue.bind {α β : Type} {x : Res α} {f : α → Res β} (hx : OnlyValue x) (hf : ∀ a, OnlyValue (f a)) :
    OnlyValue (x.bind f) := by
  intro e h
  cases x with
  | ok a => exact hf a e h
  | err e' => simp at h; rw [← h]; exact hx e' rfl
  | unsupported => simp at h

theorem onlyValue_checkEp (k : Interval.Kind) (e : Ep) : OnlyValue (checkEp k e) := by
  unfold checkEp; split
  · exact OnlyValue.ok _
  · exact OnlyValue.errv

theorem onlyValue_ofOption {α : Type} (o : Option α) : OnlyValue (Res.ofOption o) := by
  cases o
  · exact OnlyValue.errv
  · exact OnlyValue.ok _

theorem onlyValue_convertTimeStr (s : List Char) : OnlyValue (convertTimeStr s) := by
  unfold convertTimeStr convertTimeStripped
  split
  · exact OnlyValue.errv
  · split
    · split
      · exact OnlyValue.ok _
      · exact OnlyValue.bind (onlyValue_ofOption _) (fun _ => onlyValue_checkEp _ _)
    · exact OnlyValue.bind (onlyValue_ofOption _) (fun _ => onlyValue_checkEp _ _)

theorem onlyValue_monthDay (s : List Char) : OnlyValue (monthDay s) := by
  unfold monthDay
  repeat' split
  all_goals first | exact OnlyValue.ok _ | exact OnlyValue.errv | exact OnlyValue.uns

theorem onlyValue_dateTimeCore (s : List Char) : OnlyValue (convertDateTimeCore s) := by
  unfold convertDateTimeCore dateTimeRaw
  refine OnlyValue.bind ?_ (fun _ => onlyValue_checkEp _ _)
  split
  · refine OnlyValue.bind (onlyValue_convertTimeStr _) fun tm => OnlyValue.bind ?_ fun a => OnlyValue.bind ?_ fun b => ?_
    all_goals repeat' split
    all_goals first | exact OnlyValue.ok _ | exact OnlyValue.errv | exact OnlyValue.uns | exact onlyValue_monthDay _
  · exact OnlyValue.errv

/-- the model either declares the input outside its domain or the translated code computes the model's result -/
def Refines {α : Type} (m t : Res α) : Prop := m = .unsupported ∨ t = m

theorem Refines.refl {α : Type} (m : Res α) : Refines m m := Or.inr rfl
theorem Refines.of_eq {α : Type} {m t : Res α} (h : t = m) : Refines m t := Or.inr h

theorem Refines.bind {α β : Type} {m t : Res α} {f g : α → Res β} (h : Refines m t)
    (hf : ∀ a, Refines (f a) (g a)) : Refines (m.bind f) (t.bind g) := by
  rcases h with h | h
  · left; rw [h]; rfl
  · rw [h]
    cases m with
    | ok a => exact hf a
    | err e => exact Or.inr rfl
    | unsupported => exact Or.inl rfl

theorem Refines.bind_left {α β : Type} {m t : Res α} (h : Refines m t) (f : α → Res β) :
    Refines (m.bind f) (t.bind f) :=
  h.bind fun _ => Refines.refl _

theorem isInfix_T (s : List Char) : isInfix ['T'] s = s.contains 'T' := by
  induction s with
  | nil => rfl
  | cons x xs ih =>
    simp only [isInfix, List.isPrefixOf, ih, List.contains_cons]
    cases h : ('T' == x) <;> simp [h]

theorem convert_date_str_eq (c : Bool) (s : List Char) :
    convert_date_str (modelPrims c) s = convertDateStr s := by
  simp only [convert_date_str, convertDateStr, prims_strip, convert_str_date_eq]

theorem convert_datetime_str_refines (c : Bool) (s : List Char) :
    Refines (convertDateTimeStr s) (convert_datetime_str (modelPrims c) s) := by
  unfold convert_datetime_str convertDateTimeStr convertDateTimeStripped
  simp only [prims_strip, convert_str_datetime_eq, prims_contains, isInfix_T]
  by_cases h : (strip s).contains 'T' = true
  · simp only [h, ↓reduceIte, modelPrims]
    cases isoDateTime (strip s) with
    | ok e => exact Or.inr rfl
    | fail => exact Or.inr rfl
    | week => exact Or.inl rfl
    | tz =>
      cases hc : convertDateTimeCore (strip s) with
      | ok a => exact Or.inl rfl
      | unsupported => exact Or.inl rfl
      | err e =>
        cases onlyValue_dateTimeCore (strip s) e hc
        cases c <;> exact Or.inr rfl
  · simp only [h, Bool.false_eq_true, ↓reduceIte]
    exact Or.inr rfl

theorem rclosed_eq (k : Interval.Kind) : Gen.TrIv.rclosed k = Interval.rclosed k := by cases k <;> rfl

theorem convertStrOf_refines (c : Bool) (k : Interval.Kind) (s : List Char) :
    Refines (convertStr k s) (convertStrOf (modelPrims c) k s) := by
  unfold convertStr
  by_cases ha : asciiOk s = true
  · simp only [ha, Bool.not_true, Bool.false_eq_true, ↓reduceIte]
    cases k
    · exact Or.inr (convert_time_str_eq c s)
    · exact Or.inr (convert_date_str_eq c s)
    · exact convert_datetime_str_refines c s
  · simp only [ha, Bool.not_false, ↓reduceIte]; exact Or.inl rfl

theorem interval_convert_refines (c : Bool) (k : Interval.Kind) (x : EpIn) :
    Refines (convert k x)
      (interval_convert (modelPrims c) k x (convertStrOf (modelPrims c) k) (convertSeqOf (modelPrims c) k)) := by
  cases x with
  | str s => exact convertStrOf_refines c k s
  | ints l => exact Or.inr (convertSeqOf_eq c k l)
  | bad => exact Or.inr rfl

/-- `firstSplit2` as the loop of `_parse_range` computes it: the test is `len(parts) == 2` -/
theorem firstSplit2_cons (sep : List Char) (rest : List (List Char)) (s : List Char) :
    firstSplit2 (sep :: rest) s =
      if (splitOn sep s).length == 2 then some ((splitOn sep s).getD 0 [], (splitOn sep s).getD 1 [])
      else firstSplit2 rest s := by
  rw [firstSplit2]
  match splitOn sep s with
  | [] => rfl
  | [_] => rfl
  | [_, _] => rfl
  | _ :: _ :: _ :: _ => rfl

theorem pair_refines {α : Type} {m1 t1 m2 t2 : Res Ep} (x : α) (xs : List α) (body : α → Res (Option Range))
    (k : Unit → Res Range)
    (hb : body x = t1.bind fun v1 => t2.bind fun v2 => (Res.ok (some (v1, v2)) : Res (Option Range)))
    (h1 : Refines m1 t1) (h2 : Refines m2 t2) :
    Refines (m1.bind fun x => m2.bind fun y => .ok (x, y)) (forReturn (x :: xs) body k) := by
  have : forReturn (x :: xs) body k = t1.bind fun v1 => t2.bind fun v2 => .ok (v1, v2) := by
    rw [forReturn, hb]
    cases t1 with
    | ok a => cases t2 <;> rfl
    | err e => rfl
    | unsupported => rfl
  rw [this]
  exact Refines.bind h1 fun _ => h2.bind_left _

theorem seps_eq' : Gen.rangeSeparatorsC = Gen.rangeSeparatorsC := rfl

theorem parse_range_refines (c : Bool) (k : Interval.Kind) (r : RangeIn) :
    Refines (parseRange k r) (parse_range (modelPrims c) k r) := by
  cases r with
  | bad => exact Or.inr rfl
  | str s =>
    simp only [parseRange, parseRangeStr, parse_range]
    generalize Gen.rangeSeparatorsC = seps
    induction seps with
    | nil =>
      simp only [firstSplit2, forReturn, rclosed_eq]
      split
      · exact Refines.bind_left (convertStrOf_refines c k s) _
      · exact Refines.refl _
    | cons sep rest ih =>
      rw [firstSplit2_cons]
      -- the test of this round only, whichever way round the program compares
      by_cases h : (splitOn sep s).length = 2
      · rw [beq_iff_eq.2 h, if_pos rfl]
        refine pair_refines _ _ _ _ ?_ (convertStrOf_refines c k _) (convertStrOf_refines c k _)
        simp only [prims_split, beq_iff_eq.2 h, beq_iff_eq.2 h.symm, ↓reduceIte]
      · simp only [forReturn, prims_split, beq_eq_false_iff_ne.2 h, beq_eq_false_iff_ne.2 (Ne.symm h),
          Bool.false_eq_true, ↓reduceIte]
        exact ih
  | seq l =>
    match l with
    | [] =>
      exact Or.inr (by simp only [parseRange, parse_range, List.length_nil, Nat.reduceBEq, pybool, ↓reduceIte])
    | [a] =>
      simp only [parseRange, parse_range, List.length_cons, List.length_nil, Nat.zero_add, Nat.reduceBEq,
        Bool.false_eq_true, ↓reduceIte, beq_self_eq_true, rclosed_eq, List.getD_cons_zero]
      split
      · exact Refines.bind_left (interval_convert_refines c k a) _
      · exact Refines.refl _
    | [a, b] =>
      simp only [parseRange, parse_range, List.length_cons, List.length_nil, Nat.zero_add, Nat.reduceAdd,
        beq_self_eq_true, ↓reduceIte, List.getD_cons_zero, List.getD_cons_succ]
      exact Refines.bind (interval_convert_refines c k a)
        (fun _ => Refines.bind_left (interval_convert_refines c k b) _)
    | _ :: _ :: _ :: _ => exact Or.inr (by simp [parseRange, parse_range])

theorem mapRes_refines {α : Type} (c : Bool) (k : Interval.Kind) (g : α → RangeIn) (l : List α) :
    Refines (parseRanges k (l.map g)) (mapRes (fun a => parse_range (modelPrims c) k (g a)) l) := by
  induction l with
  | nil => exact Or.inr rfl
  | cons r rs ih => exact Refines.bind (parse_range_refines c k (g r)) (fun _ => ih.bind_left _)

theorem interval_init_refines (c : Bool) (k : Interval.Kind) (spec : IvIn) :
    Refines (parseInterval k spec) (interval_init (modelPrims c) k spec) := by
  cases spec with
  | bad => exact Or.inr rfl
  | seq l =>
    simp only [parseInterval, interval_init, Res.bind_ok_id, Res.map_eq_bind]
    have := mapRes_refines c k id l
    rw [List.map_id] at this
    exact this.bind_left _
  | str s =>
    simp only [parseInterval, interval_init, Res.bind_ok_id, Res.map_eq_bind, splitInterval, dropLastBlank]
    rw [prims_contains, prims_split, prims_strip]
    generalize splitOn (if isInfix Gen.delimiterC s = true then Gen.delimiterC else Gen.delimiterLegacyC) s = l
    by_cases ha : asciiOk s = true
    · simp only [ha, Bool.not_true, Bool.false_eq_true, ↓reduceIte]
      cases hl : l.getLast? with
      | none =>
        cases List.getLast?_eq_none_iff.1 hl
        exact (mapRes_refines c k _ _).bind_left _
      | some p =>
        have hne : l.isEmpty = false := by
          cases l with
          | nil => cases hl
          | cons _ _ => rfl
        by_cases hp : (strip p).isEmpty = true <;>
          simp only [hne, hp, Bool.not_false, Bool.not_true, Bool.false_eq_true, ↓reduceIte, Option.getD_some] <;>
          exact (mapRes_refines c k _ _).bind_left _
    · simp only [ha, Bool.not_false, ↓reduceIte]
      exact Or.inl rfl

/-- the wrap-around test decided, the two comparisons up to the order in which the program writes them -/
theorem cmpOpen_eq (lo x hi : Ep) : Gen.Tr.cmpOpen Interval.lt Interval.le lo x hi = Interval.cmpOpen lo x hi := by
  unfold Gen.Tr.cmpOpen Interval.cmpOpen
  cases Interval.lt lo hi <;> simp only [pybool, ↓reduceIte, Bool.or_comm, Bool.and_comm]

theorem cmpClosed_eq (lo x hi : Ep) :
    Gen.Tr.cmpClosed Interval.lt Interval.le lo x hi = Interval.cmpClosed lo x hi := by
  unfold Gen.Tr.cmpClosed Interval.cmpClosed
  cases Interval.le lo hi <;> simp only [pybool, ↓reduceIte, Bool.or_comm, Bool.and_comm]

theorem cmpNoWrap_eq (lo x hi : Ep) :
    Gen.Tr.cmpNoWrap Interval.lt Interval.le lo x hi = Interval.cmpNoWrap lo x hi := by
  simp only [Gen.Tr.cmpNoWrap, Interval.cmpNoWrap, Bool.and_comm]

theorem interval_cmp_eq (k : Interval.Kind) (lo x hi : Ep) : interval_cmp k lo x hi = Interval.cmp k lo x hi := by
  cases k <;>
    simp only [interval_cmp, Gen.TrIv.rclosed, cmpOpenOf, cmpClosedOf, Interval.cmp, cmpOpen_eq, cmpClosed_eq,
      cmpNoWrap_eq, pybool, ↓reduceIte]

theorem interval_contains_eq (k : Interval.Kind) (iv : List Range) (x : Ep) :
    interval_contains k iv x = Interval.contains k iv x := by
  simp only [interval_contains, Interval.contains, interval_cmp_eq]

theorem exportOf_eq (c : Bool) (k : Interval.Kind) {e : Ep} (h : validEp k e = true) :
    exportOf (modelPrims c) k e = e.map Int.ofNat := by
  cases k <;> exact export_dt_eq c _ h

theorem as_list_eq (c : Bool) (k : Interval.Kind) (iv : List Range)
    (hv : ∀ r ∈ iv, validEp k r.1 = true ∧ validEp k r.2 = true) :
    Gen.TrIv.as_list (modelPrims c) k iv = (asList iv).map fun r => r.map fun e => e.map Int.ofNat := by
  simp only [Gen.TrIv.as_list, asList, List.map_map]
  apply List.map_congr_left
  intro r hr
  simp [exportOf_eq c k (hv r hr).1, exportOf_eq c k (hv r hr).2]

theorem mem_setAdd (s : List Ep) (e x : Ep) : x ∈ setAdd s e ↔ x ∈ s ∨ x = e := by
  unfold setAdd
  split
  · next h =>
    have : e ∈ s := by simpa using h
    constructor
    · intro hx; exact Or.inl hx
    · rintro (hx | hx)
      · exact hx
      · rw [hx]; exact this
  · simp

theorem nodup_setAdd (s : List Ep) (e : Ep) (h : s.Nodup) : (setAdd s e).Nodup := by
  unfold setAdd
  split
  · exact h
  · next hc =>
    have : e ∉ s := by simpa using hc
    rw [List.nodup_append]
    refine ⟨h, by simp, ?_⟩
    intro a ha b hb
    simp at hb
    rw [hb]; intro e'; exact this (e' ▸ ha)

theorem fold_endpoints (f : List Ep → Range → List Ep)
    (hn : ∀ acc r, acc.Nodup → (f acc r).Nodup)
    (hm : ∀ acc r x, x ∈ f acc r ↔ (x ∈ acc ∨ x = r.1 ∨ x = r.2)) (iv : List Range) (acc : List Ep)
    (hacc : acc.Nodup) :
    (iv.foldl f acc).Nodup ∧ ∀ x, x ∈ iv.foldl f acc ↔ x ∈ acc ∨ x ∈ rangeEndpoints iv := by
  induction iv generalizing acc with
  | nil => exact ⟨hacc, fun x => (or_iff_left (List.not_mem_nil (a := x))).symm⟩
  | cons r rs ih =>
    obtain ⟨n, m⟩ := ih (f acc r) (hn acc r hacc)
    refine ⟨n, fun x => ?_⟩
    rw [List.foldl_cons, m x, hm]
    simp only [rangeEndpoints, List.flatMap_cons, List.mem_append, List.mem_cons, List.not_mem_nil, or_false]
    exact or_assoc

theorem range_endpoints_eq (c : Bool) (k : Interval.Kind) (iv : List Range) :
    (Gen.TrIv.range_endpoints (modelPrims c) k iv).Nodup ∧
    ∀ x, x ∈ Gen.TrIv.range_endpoints (modelPrims c) k iv ↔ x ∈ rangeEndpoints iv := by
  unfold Gen.TrIv.range_endpoints
  refine And.imp_right (fun m x => (m x).trans (or_iff_right List.not_mem_nil))
    (fold_endpoints _ ?_ ?_ iv [] List.nodup_nil)
  · intro acc r h
    exact nodup_setAdd _ _ (nodup_setAdd _ _ h)
  · intro acc r x
    simp only [mem_setAdd, or_assoc, or_comm, or_left_comm]

theorem pyJoin_eq_joinSp (l : List (List Char)) : pyJoin [' '] l = joinSp l := by
  induction l with
  | nil => rfl
  | cons a rest ih =>
    cases rest with
    | nil => rfl
    | cons b rest' => simp only [pyJoin, joinSp, ih, List.append_assoc, List.singleton_append]

theorem strOf_eq (c : Bool) (k : Interval.Kind) {e : Ep} (h : validEp k e = true) :
    strOf (modelPrims c) k e = render k e := by
  cases k with
  | time => rfl
  | datetime => rfl
  | date =>
    obtain ⟨mo, d, rfl, -⟩ := validDate_shape h
    simp [strOf, date_to_string, modelPrims, render, renderDate]

theorem range_string_eq (c : Bool) (k : Interval.Kind) {a b : Ep} (ha : validEp k a = true)
    (hb : validEp k b = true) : range_string (modelPrims c) k a b = rangeString k (a, b) := by
  have h0 : Gen.rangeSeparatorsC.getD 0 [] = Gen.rangeSeparatorsC.headD [] := rfl
  simp only [range_string, rangeString, rclosed_eq, strOf_eq c k ha, strOf_eq c k hb, h0]
  -- both parts of the test decided, whichever way round and however nested the program has them
  by_cases hab : a = b <;> cases hr : Interval.rclosed k <;>
    simp only [pybool, beq_eq_false_iff_ne, ↓reduceIte, hab, hr, eq_comm (a := b), List.append_assoc,
      List.singleton_append, List.cons_append, List.nil_append]

theorem as_string_eq (c : Bool) (k : Interval.Kind) (iv : List Range)
    (hv : ∀ r ∈ iv, validEp k r.1 = true ∧ validEp k r.2 = true) :
    Gen.TrIv.as_string (modelPrims c) k iv = asString k iv := by
  simp only [Gen.TrIv.as_string, asString, pyJoin_eq_joinSp]
  congr 1
  apply List.map_congr_left
  intro r hr
  exact range_string_eq c k (hv r hr).1 (hv r hr).2

end Edzed.IntervalTie
