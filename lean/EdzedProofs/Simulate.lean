/-
For C01 and C10 (model: EdzedModel/Simulate.lean).  First, for any network and any value type: the invariant
`Inv` of the evaluation loop – a block that disagrees with its inputs is pending – is kept by draining the
queue, by an evaluation and by a change of SBlock outputs, provided the network is well-formed (`WF`).  Then
circuits of library blocks: their network is well-formed (`circuit_wf`; for Compare this is the hysteresis
on its threshold `cmpThr`), and the on_output events of a block only append to the queue, among others every
SBlock they changed (`effects_spec`).
-/
import EdzedModel.Simulate
import EdzedProofs.DataLemmas

namespace Edzed.Sim

variable {V : Type}

theorem upd_same (f : Nat → V) (i : Nat) (v : V) : upd f i v i = v := if_pos rfl

theorem upd_other (f : Nat → V) {i j : Nat} (v : V) (h : j ≠ i) : upd f i v j = f j := if_neg h

/-- wiring is consistent; `fcalc` depends only on the connected inputs and the own output;
    `fcalc` of a block that is not among its own inputs is output-idempotent (up to Python's `==`) -/
structure WF (eq : V → V → Bool) (net : Net V) : Prop where
  wireC : ∀ a b, b ∈ net.succC a ↔ a ∈ net.insC b
  wireS : ∀ i b, b ∈ net.succS i ↔ i ∈ net.insS b
  local_ : ∀ b o o' e e', (∀ j ∈ net.insC b, o j = o' j) → (∀ i ∈ net.insS b, e i = e' i) →
            o b = o' b → net.fcalc b o e = net.fcalc b o' e'
  idem  : ∀ b o e, b ∉ net.insC b →
            eq (net.fcalc b o e) (net.fcalc b (upd o b (net.fcalc b o e)) e) = true

def dirty (eq : V → V → Bool) (net : Net V) (s : St V) (b : Nat) : Prop :=
  eq (s.outC b) (net.fcalc b s.outC s.outS) = false

def pending (net : Net V) (s : St V) (b : Nat) : Prop :=
  s.E b = true ∨ ∃ i ∈ s.Q, b ∈ net.succS i

/-- the invariant of the evaluation loop: every block that disagrees with its inputs is pending -/
def Inv (eq : V → V → Bool) (net : Net V) (s : St V) : Prop :=
  ∀ b, b < net.n → dirty eq net s b → pending net s b

theorem drain_inv (eq : V → V → Bool) (net : Net V) (s : St V) (h : Inv eq net s) :
    Inv eq net (drain net s) := by
  intro b hb hd
  refine .inl ?_
  simp only [drain, Bool.or_eq_true, List.any_eq_true, List.contains_iff_mem]
  exact h b hb hd

theorem fcalc_eq_or_queued {eq : V → V → Bool} {net : Net V} (wf : WF eq net) {outS outS' : Nat → V}
    {Q' : List Nat} (hchg : ∀ i, outS' i ≠ outS i → i ∈ Q') (c : Nat) (o : Nat → V) :
    net.fcalc c o outS' = net.fcalc c o outS ∨ ∃ i ∈ Q', c ∈ net.succS i := by
  by_cases hS : ∃ i ∈ net.insS c, outS' i ≠ outS i
  · obtain ⟨i, hi, hne⟩ := hS
    exact .inr ⟨i, hchg i hne, (wf.wireS i c).mpr hi⟩
  · exact .inl (wf.local_ c _ _ _ _ (fun _ _ => rfl)
      (fun i hi => Classical.byContradiction fun e => hS ⟨i, hi, e⟩) rfl)

theorem evalStep_same {eq : V → V → Bool} {net : Net V} {s : St V} {b : Nat}
    (h : eq (s.outC b) (net.fcalc b s.outC s.outS) = true) (outS' : Nat → V) (Q' : List Nat) :
    evalStep eq net s b outS' Q' = { s with E := fun x => s.E x && x != b, cnt := s.cnt + 1 } :=
  if_pos h

theorem evalStep_changed {eq : V → V → Bool} {net : Net V} {s : St V} {b : Nat}
    (h : eq (s.outC b) (net.fcalc b s.outC s.outS) = false) (outS' : Nat → V) (Q' : List Nat) :
    evalStep eq net s b outS' Q' =
      { outC := upd s.outC b (net.fcalc b s.outC s.outS), outS := outS', Q := Q', cnt := s.cnt + 1,
        E := fun x => (s.E x && x != b) || (net.succC b).contains x } :=
  if_neg (by simp [h])

theorem evalStep_cnt (eq : V → V → Bool) (net : Net V) (s : St V) (b : Nat) (outS' : Nat → V)
    (Q' : List Nat) : (evalStep eq net s b outS' Q').cnt = s.cnt + 1 := by
  cases h : eq (s.outC b) (net.fcalc b s.outC s.outS)
  · rw [evalStep_changed h]
  · rw [evalStep_same h]

theorem eval_inv (eq : V → V → Bool) (net : Net V) (wf : WF eq net) (s : St V) (h : Inv eq net s)
    (b : Nat) (outS' : Nat → V) (Q' : List Nat)
    (hQ : ∀ i ∈ s.Q, i ∈ Q') (hchg : ∀ i, outS' i ≠ s.outS i → i ∈ Q') :
    Inv eq net (evalStep eq net s b outS' Q') := by
  intro c hcn
  cases hv : eq (s.outC b) (net.fcalc b s.outC s.outS)
  · rw [evalStep_changed hv]
    intro (hd : eq (upd s.outC b (net.fcalc b s.outC s.outS) c)
        (net.fcalc c (upd s.outC b (net.fcalc b s.outC s.outS)) outS') = false)
    rcases fcalc_eq_or_queued wf hchg c (upd s.outC b (net.fcalc b s.outC s.outS)) with e1 | hq
    · rw [e1] at hd
      by_cases hbc : b ∈ net.insC c
      · exact .inl (by simp [(wf.wireC b c).mpr hbc])
      · by_cases hcb : c = b
        · -- `b` itself, not among its own inputs: by idempotence its new output agrees
          subst hcb
          rw [upd_same, wf.idem c s.outC s.outS hbc] at hd
          cases hd
        · -- neither `b` nor a successor of `b`: nothing it reads has changed
          have e2 : net.fcalc c (upd s.outC b (net.fcalc b s.outC s.outS)) s.outS
              = net.fcalc c s.outC s.outS :=
            wf.local_ c _ _ _ _ (fun j hj => upd_other _ _ fun e => hbc (e ▸ hj)) (fun _ _ => rfl)
              (upd_other _ _ hcb)
          rw [e2, upd_other _ _ hcb] at hd
          rcases h c hcn hd with h1 | ⟨i, hi, hb⟩
          · exact .inl (by simp [h1, hcb])
          · exact .inr ⟨i, hQ i hi, hb⟩
    · exact .inr hq
  · -- unchanged: outputs as before, so `c` was dirty already and is not `b`
    rw [evalStep_same hv]
    intro (hd : eq (s.outC c) (net.fcalc c s.outC s.outS) = false)
    have hcb : c ≠ b := fun e => by
      rw [e, hv] at hd
      cases hd
    rcases h c hcn hd with h1 | h2
    · exact .inl (by simp [h1, hcb])
    · exact .inr h2

theorem idle_clean (eq : V → V → Bool) (net : Net V) (s : St V) (h : Inv eq net s)
    (hE : ∀ b, b < net.n → s.E b = false) (hQ : s.Q = []) (b : Nat) (hb : b < net.n) :
    eq (s.outC b) (net.fcalc b s.outC s.outS) = true := by
  cases hd : eq (s.outC b) (net.fcalc b s.outC s.outS)
  · rcases h b hb hd with h1 | ⟨i, hi, _⟩
    · rw [hE b hb] at h1; cases h1
    · rw [hQ] at hi; cases hi
  · rfl

theorem env_change_inv (eq : V → V → Bool) (net : Net V) (wf : WF eq net) (s : St V)
    (h : Inv eq net s) (outS' : Nat → V) (Q' : List Nat)
    (hQ : ∀ i ∈ s.Q, i ∈ Q') (hchg : ∀ i, outS' i ≠ s.outS i → i ∈ Q') :
    Inv eq net { s with outS := outS', Q := Q' } := by
  intro c hcn hd
  have hd' : eq (s.outC c) (net.fcalc c s.outC outS') = false := hd
  rcases fcalc_eq_or_queued wf hchg c s.outC with e1 | hq
  · rw [e1] at hd'
    rcases h c hcn hd' with h1 | ⟨i, hi, hb⟩
    · exact .inl h1
    · exact .inr ⟨i, hQ i hi, hb⟩
  · exact .inr hq

theorem lookupNamed_congr (l : List (String × Src)) (k : String) (o o' e e' : Nat → Val)
    (h : ∀ p ∈ l, p.2.val o e = p.2.val o' e') :
    lookupNamed o e l k = lookupNamed o' e' l k := by
  unfold lookupNamed
  cases hf : l.find? (·.1 == k) with
  | none => rfl
  | some p => exact h p (List.mem_of_find?_eq_some hf)

theorem calcBlk_congr (b : CBlk) (own : Val) {o o' e e' : Nat → Val}
    (hc : ∀ j ∈ cIns b, o j = o' j) (hs : ∀ i ∈ sIns b, e i = e' i) :
    calcBlk b own o e = calcBlk b own o' e' := by
  have h : ∀ s ∈ b.allSrcs, s.val o e = s.val o' e' := by
    intro s hm
    cases s with
    | c j => exact hc j (List.mem_filterMap.mpr ⟨_, hm, rfl⟩)
    | s i => exact hs i (List.mem_filterMap.mpr ⟨_, hm, rfl⟩)
    | k v => rfl
  have hpos : b.pos.map (Src.val o e) = b.pos.map (Src.val o' e') :=
    List.map_congr_left fun s hm => h s (List.mem_append_left _ (List.mem_append_left _ hm))
  have hnamed : ∀ k, lookupNamed o e b.named k = lookupNamed o' e' b.named k := fun k =>
    lookupNamed_congr _ _ _ _ _ _ fun p hp =>
      h p.2 (List.mem_append_left _ (List.mem_append_right _ (List.mem_map_of_mem hp)))
  have hgrp : (((b.groups.find? (·.1 == "g")).map (·.2)).getD []).map (Src.val o e)
      = (((b.groups.find? (·.1 == "g")).map (·.2)).getD []).map (Src.val o' e') := by
    cases hf : b.groups.find? (·.1 == "g") with
    | none => rfl
    | some g =>
      exact List.map_congr_left fun s hm => h s (List.mem_append_right _
        (List.mem_flatMap.mpr ⟨g, List.mem_of_find?_eq_some hf, hm⟩))
  unfold calcBlk
  simp only [hpos, hnamed, hgrp]

/-- Compare thresholds are ordered (`Compare.__init__` refuses `high < low`) -/
def CBlk.ok (b : CBlk) : Bool :=
  match b.fn with
  | .compare low high => decide (low ≤ high)
  | _ => true

def Circuit.ok (c : Circuit) : Prop :=
  ∀ b, b < c.cblocks.length → (c.blk b).ok = true ∧ b ∉ cIns (c.blk b)

theorem blk_default_of_ge (c : Circuit) (b : Nat) (h : c.cblocks.length ≤ b) : c.blk b = default := by
  simp [Circuit.blk, List.getD, List.getElem?_eq_none h]

/-- the threshold with which `Compare` compares its input, given its current output `own` (`calcBlk`
    has it inline as `thr`) -/
def cmpThr (low high : Rat) (own : Val) : Rat :=
  if own.isUndef then (low + high) / 2 else if own.truthy then low else high

theorem calcBlk_compare (b : CBlk) (low high : Rat) (hfn : b.fn = .compare low high) (own : Val)
    (o e : Nat → Val) :
    calcBlk b own o e
      = Val.bool (decide (cmpThr low high own ≤ numOf ((b.pos.map (Src.val o e)).headD .undef))) := by
  unfold calcBlk cmpThr
  simp only [hfn]

theorem cmpThr_bounds {low high : Rat} (h : low ≤ high) (own : Val) :
    low ≤ cmpThr low high own ∧ cmpThr low high own ≤ high := by
  have hmid : low ≤ (low + high) / 2 ∧ (low + high) / 2 ≤ high := by grind
  unfold cmpThr
  split
  · exact hmid
  · split
    · exact ⟨Rat.le_refl, h⟩
    · exact ⟨h, Rat.le_refl⟩

theorem compare_hysteresis {low high : Rat} (h : low ≤ high) (own : Val) (x : Rat) :
    (high ≤ x → decide (cmpThr low high own ≤ x) = true) ∧
    (x < low → decide (cmpThr low high own ≤ x) = false) ∧
    (own.isUndef = false → low ≤ x → x < high → decide (cmpThr low high own ≤ x) = own.truthy) ∧
    (own.isUndef = true → decide (cmpThr low high own ≤ x) = decide ((low + high) / 2 ≤ x)) := by
  obtain ⟨hl, hh⟩ := cmpThr_bounds h own
  refine ⟨fun hx => decide_eq_true (Rat.le_trans hh hx),
    fun hx => decide_eq_false fun hle => Rat.not_le.mpr hx (Rat.le_trans hl hle),
    fun hu h1 h2 => ?_, fun hu => ?_⟩
  · unfold cmpThr
    rw [hu]
    cases own.truthy
    · exact decide_eq_false (Rat.not_le.mpr h2)
    · exact decide_eq_true h1
  · unfold cmpThr
    rw [hu]
    rfl

/-- `Compare` is output-idempotent exactly because `low ≤ high`: an output `True` means that the
    input is at least the old threshold, hence at least `low`, the new one; likewise for `False` -/
theorem compare_idem {low high : Rat} (h : low ≤ high) (own : Val) (x : Rat) (d : Bool)
    (hd : d = decide (cmpThr low high own ≤ x)) : decide (cmpThr low high (Val.bool d) ≤ x) = d := by
  obtain ⟨hl, hh⟩ := cmpThr_bounds h own
  unfold cmpThr at hd ⊢
  rw [Val.bool_isUndef, Val.bool_truthy]
  cases d
  · exact decide_eq_false fun hx => of_decide_eq_false hd.symm (Rat.le_trans hh hx)
  · exact decide_eq_true (Rat.le_trans hl (of_decide_eq_true hd.symm))

theorem calcBlk_own_irrel (b : CBlk) (h : ∀ lo hi, b.fn ≠ .compare lo hi) (own own' : Val)
    (o e : Nat → Val) : calcBlk b own o e = calcBlk b own' o e := by
  unfold calcBlk
  cases hfn : b.fn with
  | compare lo hi => exact absurd hfn (h lo hi)
  | func f u => cases f <;> rfl
  | _ => rfl

theorem calcBlk_idem (b : CBlk) (hok : b.ok = true) (own : Val) (o e : Nat → Val) :
    calcBlk b (calcBlk b own o e) o e = calcBlk b own o e := by
  by_cases hc : ∃ lo hi, b.fn = .compare lo hi
  · obtain ⟨low, high, hfn⟩ := hc
    simp only [CBlk.ok, hfn, decide_eq_true_eq] at hok
    rw [calcBlk_compare b low high hfn, calcBlk_compare b low high hfn]
    exact congrArg Val.bool (compare_idem hok own _ _ rfl)
  · exact calcBlk_own_irrel b (fun lo hi h => hc ⟨lo, hi, h⟩) _ _ o e

theorem mem_succC (c : Circuit) (a x : Nat) :
    x ∈ c.net.succC a ↔ x < c.cblocks.length ∧ a ∈ cIns (c.blk x) := by
  simp [Circuit.net, List.mem_filter, List.mem_range]

theorem mem_succS (c : Circuit) (i x : Nat) :
    x ∈ c.net.succS i ↔ x < c.cblocks.length ∧ i ∈ sIns (c.blk x) := by
  simp [Circuit.net, List.mem_filter, List.mem_range]

theorem calcBlk_upd_idem (blk : CBlk) (hok : blk.ok = true) (b : Nat) (hself : b ∉ cIns blk)
    (o e : Nat → Val) :
    calcBlk blk (upd o b (calcBlk blk (o b) o e) b) (upd o b (calcBlk blk (o b) o e)) e
      = calcBlk blk (o b) o e := by
  have hother : ∀ j ∈ cIns blk, upd o b (calcBlk blk (o b) o e) j = o j :=
    fun j hj => upd_other o _ fun h => hself (h ▸ hj)
  rw [upd_same, calcBlk_congr blk _ hother (fun _ _ => rfl), calcBlk_idem _ hok]

/-- a number that is not a block's stands for the default block, a `Not` -/
theorem blk_ok (c : Circuit) (hok : ∀ b, b < c.cblocks.length → (c.blk b).ok = true) (b : Nat) :
    (c.blk b).ok = true := by
  by_cases hb : b < c.cblocks.length
  · exact hok b hb
  · rw [blk_default_of_ge c b (Nat.le_of_not_lt hb)]
    rfl

/-- Needs ordered Compare thresholds only (the hypothesis is what `Burst.OkW c` of EdzedProofs/Burst.lean
    abbreviates): a block may be among its own inputs (`WF.idem` speaks of the others). -/
theorem circuit_wf (c : Circuit) (hok : ∀ b, b < c.cblocks.length → (c.blk b).ok = true) :
    WF Val.pyEq c.net where
  wireC a b := (mem_succC c a b).trans ⟨And.right, fun (h : a ∈ cIns (c.blk b)) =>
    ⟨Nat.lt_of_not_le fun hge => (by rw [blk_default_of_ge c b hge] at h; cases h), h⟩⟩
  wireS i b := (mem_succS c i b).trans ⟨And.right, fun (h : i ∈ sIns (c.blk b)) =>
    ⟨Nat.lt_of_not_le fun hge => (by rw [blk_default_of_ge c b hge] at h; cases h), h⟩⟩
  local_ b o o' e e' hc hs hown :=
    (congrArg (calcBlk (c.blk b) · o e) hown).trans (calcBlk_congr (c.blk b) (o' b) hc hs)
  idem b o e hself :=
    (congrArg (Val.pyEq (calcBlk (c.blk b) (o b) o e))
      (calcBlk_upd_idem (c.blk b) (blk_ok c hok b) b hself o e)).trans (Val.pyEq_refl _)

theorem setOutput_cases (outS : Nat → Val) (Q : List Nat) (i : Nat) (v : Val) :
    setOutput outS Q i v = (outS, Q) ∨ ∃ v', setOutput outS Q i v = (upd outS i v', Q ++ [i]) := by
  unfold setOutput
  split
  · exact .inl rfl
  · exact .inr ⟨v, rfl⟩

theorem deliver_cases (kinds : List SKind) (outS : Nat → Val) (Q : List Nat) (i : Nat) (k : EvKind)
    (value : Val) :
    deliver kinds outS Q i k value = (outS, Q) ∨
    ∃ v, deliver kinds outS Q i k value = (upd outS i v, Q ++ [i]) := by
  unfold deliver
  split
  · exact setOutput_cases ..
  · split
    · exact setOutput_cases ..
    · exact .inl rfl
  · exact setOutput_cases ..
  · exact .inl rfl

theorem deliver_queued (kinds : List SKind) (outS : Nat → Val) (Q : List Nat) (i : Nat) (k : EvKind)
    (value : Val) :
    (∀ j ∈ Q, j ∈ (deliver kinds outS Q i k value).2) ∧
    ∀ j, (deliver kinds outS Q i k value).1 j ≠ outS j → j ∈ (deliver kinds outS Q i k value).2 := by
  rcases deliver_cases kinds outS Q i k value with h | ⟨v, h⟩ <;> rw [h]
  · exact ⟨fun _ hj => hj, fun _ hne => absurd rfl hne⟩
  · refine ⟨fun _ hj => List.mem_append_left _ hj, fun j hne => ?_⟩
    by_cases hj : j = i
    · exact hj ▸ List.mem_append_right _ List.mem_cons_self
    · exact absurd (upd_other _ _ hj) hne

theorem effects_spec (c : Circuit) (b : Nat) (v : Val) (outS : Nat → Val) (Q : List Nat) :
    ∃ L, (effects c b v outS Q).2 = Q ++ L ∧ L.Sublist ((c.blk b).events.map (·.1)) ∧
      ∀ i, (effects c b v outS Q).1 i ≠ outS i → i ∈ L := by
  unfold effects
  generalize (c.blk b).events = evs
  induction evs generalizing outS Q with
  | nil => exact ⟨[], (List.append_nil Q).symm, .slnil, fun _ h => absurd rfl h⟩
  | cons ev evs ih =>
    rw [List.foldl_cons, List.map_cons]
    rcases deliver_cases c.skinds outS Q ev.1 ev.2 v with h | ⟨v', h⟩
    · rw [h]
      obtain ⟨L, hL, hsub, hchg⟩ := ih outS Q
      exact ⟨L, hL, hsub.cons _, hchg⟩
    · rw [h]
      obtain ⟨L, hL, hsub, hchg⟩ := ih (upd outS ev.1 v') (Q ++ [ev.1])
      refine ⟨ev.1 :: L, by rw [hL, List.append_assoc]; rfl, hsub.cons_cons _, fun i hne => ?_⟩
      by_cases hi : i = ev.1
      · exact hi ▸ List.mem_cons_self
      · exact List.mem_cons_of_mem _ (hchg i (by rwa [upd_other _ _ hi]))

end Edzed.Sim
